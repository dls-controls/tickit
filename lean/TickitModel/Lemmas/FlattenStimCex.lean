/-
C09 with external stimuli: counterexamples (checked at build time with `#guard`) showing that each
hypothesis of `nesting_transparent_run_stims` is needed.

Configuration: master {d0, s1, d3}; system s1 {d1, s2, d2}; system s2 {d4, d5}.
d0 periodic (10), d2 periodic (7), d4 periodic (15); d1, d3, d5 never request a callback.
-/
import TickitModel.Core.Flatten
import TickitModel.Lemmas.FlattenStimDefs

namespace Tickit.C09StimCex

def wM : Wiring := Wiring.fromInverse [("d0", []), ("s1", [("in", ("d0", "o"))]), ("d3", [("i", ("s1", "out"))])]
def w1 : Wiring := Wiring.fromInverse [("external", []), ("d1", [("i", ("external", "in"))]),
  ("s2", [("x", ("d1", "o"))]), ("d2", []), ("expose", [("out", ("s2", "y"))])]
def w2 : Wiring := Wiring.fromInverse [("external", []), ("d4", [("i", ("external", "x"))]), ("d5", []),
  ("expose", [("y", ("d4", "o"))])]
def S1 : Static :=
  { levels := [⟨"", wM⟩, ⟨"s1", w1⟩, ⟨"s2", w2⟩]
    systems := ["s1", "s2"]
    parent := [("d0", ""), ("s1", ""), ("d3", ""), ("d1", "s1"), ("s2", "s1"), ("d2", "s1"),
      ("d4", "s2"), ("d5", "s2")] }

def per (outs : Nat → List (Port × V)) (period : Int) (k : Nat) : List DevResp :=
  (List.range k).map (fun i => ⟨outs i, some (period * (i + 1)), false⟩)
def quiet (outs : Nat → List (Port × V)) (k : Nat) : List DevResp :=
  (List.range k).map (fun i => ⟨outs i, none, false⟩)

def orc1 : Oracle :=
  [("d0", per (fun i => [("o", i)]) 10 20), ("d1", quiet (fun i => [("o", 100 + i / 2)]) 20),
   ("d2", per (fun _ => []) 7 20), ("d3", quiet (fun _ => []) 20),
   ("d4", per (fun i => [("o", 40 + i)]) 15 20), ("d5", quiet (fun _ => []) 20)]

/-- tick times of the nested and of the flat run (`none` = the run failed) -/
def times (S : Static) (orc : Oracle) (sp : Speed) (k : Nat) (stims : List Stim) :
    Option (List SimTime) × Option (List SimTime) :=
  let n := 30
  match masterInitial S orc 10 0 0, masterInitial (S.flatten n) orc 1 0 0 with
  | .ok (m, tr), .ok (m', tr') =>
    ((match masterRun S orc 10 sp 200 k m stims [tr] with
      | .ok (_, ticks) => some (ticks.map (·.time)) | .error _ => none),
     (match masterRun (S.flatten n) orc 1 sp 200 k m' stims [tr'] with
      | .ok (_, ticks) => some (ticks.map (·.time)) | .error _ => none))
  | _, _ => (none, none)

def timely (S : Static) (orc : Oracle) (sp : Speed) (k : Nat) (stims : List Stim) : Bool :=
  match masterInitial S orc 10 0 0 with
  | .ok (m, _) => stimsTimely S orc 10 sp 200 k false m stims
  | .error _ => false

-- sanity: interrupts on quiet / periodic devices at any depth, two of them between the callback
-- ticks at 0 and 7 (each served by a tick of its own, at 3 and at 4): same times
#guard times S1 orc1 ⟨1,1⟩ 8 [⟨3, "d5"⟩, ⟨4, "d1"⟩, ⟨8, "d4"⟩, ⟨12, "d3"⟩] ==
  (some [0, 3, 4, 7, 8, 10, 12, 14, 20], some [0, 3, 4, 7, 8, 10, 12, 14, 20])
#guard timely S1 orc1 ⟨1,1⟩ 8 [⟨3, "d5"⟩, ⟨4, "d1"⟩, ⟨8, "d4"⟩, ⟨12, "d3"⟩]

-- (1) a stimulus on a system component: the flat run fails (`s2` is no component there)
#guard times S1 orc1 ⟨1,1⟩ 8 [⟨3, "s2"⟩] ==
  (some [0, 3, 7, 10, 14, 15, 20, 21, 28], none)

-- (2) a device that requests a callback only sometimes: `d2` asks for 7, is interrupted at 3 and
-- then asks for nothing — flat loses the callback at 7, nested (inner entry survives) serves it
def orc2 : Oracle :=
  [("d0", per (fun i => [("o", i)]) 10 20), ("d1", quiet (fun i => [("o", 100 + i / 2)]) 20),
   ("d2", [⟨[], some 7, false⟩, ⟨[], none, false⟩, ⟨[], none, false⟩, ⟨[], none, false⟩]),
   ("d3", quiet (fun _ => []) 20), ("d4", per (fun i => [("o", 40 + i)]) 15 20),
   ("d5", quiet (fun _ => []) 20)]
#guard times S1 orc2 ⟨1,1⟩ 6 [⟨3, "d2"⟩] ==
  (some [0, 3, 7, 10, 15, 20, 30], some [0, 3, 10, 15, 20, 30, 40])
#guard timely S1 orc2 ⟨1,1⟩ 6 [⟨3, "d2"⟩]

/-- times at which device `d` is updated in the nested and in the flat run -/
def updTimes (S : Static) (orc : Oracle) (sp : Speed) (k : Nat) (stims : List Stim) (d : Comp) :
    Option (List SimTime) × Option (List SimTime) :=
  let n := 30
  let upd (m : MasterSt) : List SimTime :=
    (m.sim.obs.filter (fun (o : Obs) => o.comp == d)).map (fun (o : Obs) => o.time)
  match masterInitial S orc 10 0 0, masterInitial (S.flatten n) orc 1 0 0 with
  | .ok (m, tr), .ok (m', tr') =>
    ((match masterRun S orc 10 sp 200 k m stims [tr] with
      | .ok (m2, _) => some (upd m2) | .error _ => none),
     (match masterRun (S.flatten n) orc 1 sp 200 k m' stims [tr'] with
      | .ok (m2, _) => some (upd m2) | .error _ => none))
  | _, _ => (none, none)

-- (3) an untimely stimulus: speed 3, the stimulus on `d5` (inside `s2` inside `s1`) arrives at real
-- time 3, exactly when the tick for simulated time 7 is due (7/3 rounded up); its stamp
-- 0 + 3·3 = 9 exceeds the pending 7.  An interrupt does not displace an EARLIER wakeup of the same
-- component (`schedule_interrupt`: `when = min(existing wakeup, stamp)`), so the master entry 7 of
-- `s1` (callback of `d2`) is KEPT and both runs tick at 7.  Nested and flat differ all the same:
-- nested, the interrupt of `d5` is queued in `s2`/`s1` and is served together with `s1`'s tick at 7
-- (no tick at 9); flat, `d5` is a top-level component with no entry of its own, gets the entry 9,
-- and is updated by an extra tick at 9.  So the hypothesis `stimsTimely` is needed.
#guard times S1 orc1 ⟨3,1⟩ 8 [⟨3, "d5"⟩] ==
  (some [0, 7, 10, 14, 15, 20, 21, 28, 30], some [0, 7, 9, 10, 14, 15, 20, 21, 28])
-- the interrupted device is updated at 7 in the nested run and at 9 in the flat one
#guard updTimes S1 orc1 ⟨3,1⟩ 8 [⟨3, "d5"⟩] "d5" == (some [0, 7], some [0, 9])
#guard timely S1 orc1 ⟨3,1⟩ 8 [⟨3, "d5"⟩] == false
-- one real-time unit earlier the stamp is 6 ≤ 7: timely, and the runs agree
#guard timely S1 orc1 ⟨3,1⟩ 8 [⟨2, "d5"⟩]
#guard (times S1 orc1 ⟨3,1⟩ 8 [⟨2, "d5"⟩]).1 == (times S1 orc1 ⟨3,1⟩ 8 [⟨2, "d5"⟩]).2

end Tickit.C09StimCex
