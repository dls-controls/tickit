/-
`Static.WF` (a structurally valid configuration tree), `SimSt.updates`, and the nesting order
`Static.Below`, `Static.Own` of the whole-simulation model.
-/
import TickitModel.Core.Sim
import TickitModel.Lemmas.DictLemmas

namespace Tickit

structure Static.WF (S : Static) : Prop where
  parent_level : ∀ c p, alookup S.parent c = some p →
    ∃ L, S.level p = some L ∧ c ∈ L.wiring.components ∧ (p = "" ∨ S.isSys p = true)
  /-- the components of a level's wiring are its children and (nested levels) the two mock components -/
  members : ∀ L ∈ S.levels, ∀ c ∈ L.wiring.components,
    alookup S.parent c = some L.name ∨ (L.name ≠ "" ∧ (c = pseudoExternal ∨ c = pseudoExpose))
  sys_level : ∀ c, S.isSys c = true → ∃ L, S.level c = some L ∧ L.name = c
  pseudo_fresh : alookup S.parent pseudoExternal = none ∧ alookup S.parent pseudoExpose = none ∧
    S.isSys pseudoExternal = false ∧ S.isSys pseudoExpose = false
  sys_parent : ∀ c, S.isSys c = true → (alookup S.parent c).isSome
  nesting : ∃ depth : Comp → Nat, ∀ c p, alookup S.parent c = some p → p ≠ "" → depth p < depth c
  /-- holds of every wiring: `Wiring.ups_isSome_iff'` of `Lemmas/RouterTree.lean` -/
  ups_defined : ∀ L ∈ S.levels, ∀ c ∈ L.wiring.components, (L.wiring.ups c).isSome

def Static.isDevice (S : Static) (c : Comp) : Prop :=
  (alookup S.parent c).isSome ∧ S.isSys c = false

def SimSt.updates (st : SimSt) (c : Comp) : Nat := (st.obs.filter (fun o => o.comp == c)).length

theorem Static.level_some {S : Static} {n : Comp} {L : Level} (h : S.level n = some L) :
    L ∈ S.levels ∧ L.name = n := by
  unfold Static.level at h
  refine ⟨List.mem_of_find?_eq_some h, ?_⟩
  have := List.find?_some h
  simpa using this

theorem SimSt.sched_upsert (st : SimSt) (k : Comp) (v : SchedSt) (s : Comp) :
    ({ st with scheds := upsert st.scheds k v } : SimSt).sched s = if k = s then v else st.sched s := by
  unfold SimSt.sched
  exact agetD_upsert _ _ _ _ _

theorem SimSt.sched_empty_firstDone (s : Comp) : (({} : SimSt).sched s).firstDone = false := rfl

/-! `S.Below lvl c`: a chain of parents leads from `c` to `lvl`, and no intermediate element of it is the
master `""`.  `S.Own c x`: `x` is `c` itself or lies below the (non-master) level `c`. -/

inductive Static.Below (S : Static) (lvl : Comp) : Comp → Prop
  | direct {c : Comp} : alookup S.parent c = some lvl → Static.Below S lvl c
  | step {c p : Comp} : alookup S.parent c = some p → p ≠ "" → Static.Below S lvl p →
      Static.Below S lvl c

def Static.Own (S : Static) (c x : Comp) : Prop := x = c ∨ (c ≠ "" ∧ S.Below c x)

theorem Static.Own.refl (S : Static) (c : Comp) : S.Own c c := Or.inl rfl

theorem Static.Own.of_parent {S : Static} {c s x : Comp} (h : S.Own c s) (hs : s ≠ "")
    (hx : alookup S.parent x = some s) : S.Own c x := by
  rcases h with rfl | ⟨hc, hb⟩
  · exact Or.inr ⟨hs, .direct hx⟩
  · exact Or.inr ⟨hc, .step hx hs hb⟩

theorem Static.Below.depth_lt {S : Static} {depth : Comp → Nat}
    (hd : ∀ c p, alookup S.parent c = some p → p ≠ "" → depth p < depth c) {a b : Comp}
    (h : S.Below a b) (ha : a ≠ "") : depth a < depth b := by
  induction h with
  | direct h => exact hd _ _ h ha
  | step h hp _ ih => exact Nat.lt_trans ih (hd _ _ h hp)

theorem Static.Below.irrefl {S : Static} (hS : S.WF) {c : Comp} (hc : c ≠ "") : ¬ S.Below c c := by
  obtain ⟨depth, hd⟩ := hS.nesting
  intro h
  exact Nat.lt_irrefl _ (h.depth_lt hd hc)

theorem Static.Below.exists_child {S : Static} {a b : Comp} (h : S.Below a b) :
    ∃ y, alookup S.parent y = some a := by
  induction h with
  | direct h => exact ⟨_, h⟩
  | step _ _ _ ih => exact ih

theorem Static.Below.isSys {S : Static} (hS : S.WF) {a b : Comp} (h : S.Below a b) :
    a = "" ∨ S.isSys a = true := by
  obtain ⟨y, hy⟩ := h.exists_child
  obtain ⟨_, _, _, h'⟩ := hS.parent_level y a hy
  exact h'

/-- parent chains are unique -/
theorem Static.Below.total {S : Static} {a b x : Comp} (ha : S.Below a x) (hb : S.Below b x) :
    a = b ∨ S.Below a b ∨ S.Below b a := by
  induction ha with
  | direct h =>
    cases hb with
    | direct h' => rw [h] at h'; cases h'; exact Or.inl rfl
    | step h' hp hb' => rw [h] at h'; cases h'; exact Or.inr (Or.inr hb')
  | step h hp ha' ih =>
    cases hb with
    | direct h' => rw [h] at h'; cases h'; exact Or.inr (Or.inl ha')
    | step h' hp' hb' => rw [h] at h'; cases h'; exact ih hb'

theorem Static.Below.trans {S : Static} {a b c : Comp} (hab : S.Below a b) (hb : b ≠ "") (hbc : S.Below b c) :
    S.Below a c := by
  induction hbc with
  | direct h => exact .step h hb hab
  | step h hp _ ih => exact .step h hp ih

theorem Static.Below.lift {S : Static} {lvl c x : Comp} (hc : alookup S.parent c = some lvl)
    (hne : c ≠ "") (h : S.Below c x) : S.Below lvl x :=
  (Static.Below.direct hc).trans hne h

theorem Static.Own.below {S : Static} {lvl c x : Comp} (hc : alookup S.parent c = some lvl)
    (h : S.Own c x) : S.Below lvl x := by
  rcases h with rfl | ⟨hne, h⟩
  · exact .direct hc
  · exact h.lift hc hne

theorem Static.Below.top {S : Static} {lvl x : Comp} (h : S.Below lvl x) :
    ∃ c, alookup S.parent c = some lvl ∧ S.Own c x := by
  induction h with
  | direct h => exact ⟨_, h, Or.inl rfl⟩
  | step h hp _ ih =>
    obtain ⟨c, hc, hown⟩ := ih
    refine ⟨c, hc, Or.inr ?_⟩
    rcases hown with rfl | ⟨hne, hb⟩
    · exact ⟨hp, .direct h⟩
    · exact ⟨hne, .step h hp hb⟩

theorem Static.Own.unique {S : Static} (hS : S.WF) {lvl c1 c2 x : Comp}
    (h1 : alookup S.parent c1 = some lvl) (h2 : alookup S.parent c2 = some lvl)
    (o1 : S.Own c1 x) (o2 : S.Own c2 x) : c1 = c2 := by
  obtain ⟨depth, hd⟩ := hS.nesting
  have key : ∀ a b, alookup S.parent a = some lvl → alookup S.parent b = some lvl → a ≠ "" →
      ¬ S.Below a b := by
    intro a b ha hb hne hab
    cases hab with
    | direct h =>
      rw [hb] at h; cases h
      exact Nat.lt_irrefl _ (hd _ _ ha hne)
    | step h hp hb' =>
      rw [hb] at h; cases h
      exact Nat.lt_irrefl _ (Nat.lt_trans (hb'.depth_lt hd hne) (hd _ _ ha hp))
  rcases o1 with rfl | ⟨n1, b1⟩
  · rcases o2 with rfl | ⟨n2, b2⟩
    · rfl
    · exact absurd b2 (key _ _ h2 h1 n2)
  · rcases o2 with rfl | ⟨n2, b2⟩
    · exact absurd b1 (key _ _ h1 h2 n1)
    · rcases b1.total b2 with h | h | h
      · exact h
      · exact absurd h (key _ _ h1 h2 n1)
      · exact absurd h (key _ _ h2 h1 n2)

theorem Static.Own.trans_below {S : Static} {c p x : Comp} (h : S.Own c p) (hc : c ≠ "")
    (hpx : S.Below p x) (hp : p ≠ "") : S.Own c x := by
  rcases h with rfl | ⟨_, hb⟩
  · exact Or.inr ⟨hc, hpx⟩
  · exact Or.inr ⟨hc, hb.trans hp hpx⟩

theorem Static.Below.parent_cases {S : Static} {c x P : Comp} (h : S.Below c x)
    (hx : alookup S.parent x = some P) : P = c ∨ S.Below c P := by
  cases h with
  | direct h' => exact Or.inl (Option.some.inj (hx.symm.trans h'))
  | step h' _ hb => exact Or.inr (Option.some.inj (hx.symm.trans h') ▸ hb)

theorem Static.Own.parent_cases {S : Static} {c a lvl : Comp} (h : S.Own c a) (ha : alookup S.parent a = some lvl) :
    c = a ∨ S.Own c lvl := by
  rcases h with rfl | ⟨hc, hb⟩
  · exact Or.inl rfl
  · exact Or.inr ((hb.parent_cases ha).imp id (⟨hc, ·⟩))

theorem Static.own_iff_of_top {S : Static} {c c' : Comp} (h : alookup S.parent c = some "") :
    S.Own c' c ↔ c' = c := by
  constructor
  · rintro (h' | ⟨hne, hb⟩)
    · exact h'.symm
    · cases hb with
      | direct h'' => rw [h] at h''; cases h''; exact absurd rfl hne
      | step h'' hpp _ => rw [h] at h''; cases h''; exact absurd rfl hpp
  · rintro rfl; exact .refl S _

theorem Static.own_iff_of_parent {S : Static} {c p c' : Comp} (h : alookup S.parent c = some p)
    (hp : p ≠ "") : S.Own c' c ↔ c' = c ∨ (c' ≠ "" ∧ S.Own c' p) := by
  constructor
  · rintro (h' | ⟨hne, hb⟩)
    · exact Or.inl h'.symm
    · refine Or.inr ⟨hne, ?_⟩
      cases hb with
      | direct h'' => rw [h] at h''; cases h''; exact .refl S _
      | step h'' _ hb' => rw [h] at h''; cases h''; exact Or.inr ⟨hne, hb'⟩
  · rintro (rfl | ⟨_, ho⟩)
    · exact .refl S _
    · exact ho.of_parent hp h

theorem Static.WF.own_of_not_sys {S : Static} (hS : S.WF) {a x : Comp} (hns : S.isSys a = false)
    (h : S.Own a x) : x = a := by
  rcases h with h | ⟨hne, hb⟩
  · exact h
  · rcases hb.isSys hS with h' | h'
    · exact absurd h' hne
    · rw [hns] at h'; cases h'

theorem Static.below_master {S : Static} (hS : S.WF) {c : Comp} (hc : (alookup S.parent c).isSome) :
    S.Below "" c := by
  obtain ⟨depth, hd⟩ := hS.nesting
  have key : ∀ n c, depth c < n → (alookup S.parent c).isSome → S.Below "" c := by
    intro n
    induction n with
    | zero => intro c h; omega
    | succ n ih =>
      intro c hlt hc
      obtain ⟨p, hp⟩ := Option.isSome_iff_exists.1 hc
      by_cases hpe : p = ""
      · subst hpe; exact .direct hp
      · obtain ⟨_, _, _, hsys⟩ := hS.parent_level c p hp
        rcases hsys with h | h
        · exact absurd h hpe
        · have := hd c p hp hpe
          exact .step hp hpe (ih p (by omega) (hS.sys_parent p h))
  exact key _ c (Nat.lt_succ_self _) hc

theorem Static.WF.parent_of_member {S : Static} (hS : S.WF) {L : Level} (hL : L ∈ S.levels) {c : Comp}
    (hc : c ∈ L.wiring.components) (hx : (L.name != "" && c == pseudoExternal) = false)
    (hy : (L.name != "" && c == pseudoExpose) = false) : alookup S.parent c = some L.name := by
  rcases hS.members L hL c hc with h' | ⟨hne, h' | h'⟩
  · exact h'
  · exact absurd hx (by simp [hne, h'])
  · exact absurd hy (by simp [hne, h'])

theorem sim_filter_comp_length (new : List Obs) (d : Comp) :
    (new.filter (fun o => o.comp == d)).length = (new.map Obs.comp).count d := by
  rw [List.count, List.countP_map, List.countP_eq_length_filter]
  rfl

theorem sim_filter_comp_le_one {new : List Obs} (h : (new.map Obs.comp).Nodup) (d : Comp) :
    (new.filter (fun o => o.comp == d)).length ≤ 1 :=
  sim_filter_comp_length new d ▸ List.nodup_iff_count.1 h d

theorem SimSt.updates_of_obs {st st' : SimSt} {new : List Obs} (h : st'.obs = st.obs ++ new)
    (d : Comp) : st'.updates d = st.updates d + (new.filter (fun o => o.comp == d)).length := by
  simp [SimSt.updates, h, List.filter_append]

theorem sim_filter_comp_eq_one {new : List Obs} (h : (new.map Obs.comp).Nodup) {d : Comp}
    (hd : d ∈ new.map Obs.comp) : (new.filter (fun o => o.comp == d)).length = 1 := by
  rw [sim_filter_comp_length, h.count, if_pos hd]

end Tickit
