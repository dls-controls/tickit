/-
Frame lemmas for the message-level model (`Core/MsgFlat.lean`); the inversion of `MsgSt.step`, action
by action; and the per-component `Slot` (where the component's dispatch is in flight), which is the
heart of the simulation relation.
-/
import TickitModel.Core.MsgFlat
import TickitModel.Lemmas.DictLemmas
import TickitModel.Lemmas.ListLemmas

set_option autoImplicit false

namespace Tickit

variable {Val : Type}

@[simp] theorem MsgSt.log_produce (m : MsgSt Val) (T T' : MsgTopic) (μ : BusMsg Val) :
    (m.produce T μ).log T' = if T = T' then m.log T ++ [μ] else m.log T' :=
  agetD_upsert ..

@[simp] theorem MsgSt.cur_produce (m : MsgSt Val) (T T' : MsgTopic) (μ : BusMsg Val) :
    (m.produce T μ).cur T' = m.cur T' := rfl

@[simp] theorem MsgSt.tk_produce (m : MsgSt Val) (T : MsgTopic) (μ : BusMsg Val) :
    (m.produce T μ).tk = m.tk := rfl

@[simp] theorem MsgSt.hist_produce (m : MsgSt Val) (T : MsgTopic) (μ : BusMsg Val) :
    (m.produce T μ).hist = m.hist := rfl

@[simp] theorem MsgSt.started_produce (m : MsgSt Val) (T : MsgTopic) (μ : BusMsg Val) :
    (m.produce T μ).started = m.started := rfl

@[simp] theorem MsgSt.log_advance (m : MsgSt Val) (T T' : MsgTopic) :
    (m.advance T).log T' = m.log T' := rfl

@[simp] theorem MsgSt.cur_advance (m : MsgSt Val) (T T' : MsgTopic) :
    (m.advance T).cur T' = if T = T' then m.cur T + 1 else m.cur T' :=
  agetD_upsert ..

@[simp] theorem MsgSt.tk_advance (m : MsgSt Val) (T : MsgTopic) : (m.advance T).tk = m.tk := rfl

@[simp] theorem MsgSt.hist_advance (m : MsgSt Val) (T : MsgTopic) :
    (m.advance T).hist = m.hist := rfl

@[simp] theorem MsgSt.started_advance (m : MsgSt Val) (T : MsgTopic) :
    (m.advance T).started = m.started := rfl

@[simp] theorem MsgSt.log_record (m : MsgSt Val) (e : MsgEv Val) (T : MsgTopic) :
    (m.record e).log T = m.log T := rfl

@[simp] theorem MsgSt.cur_record (m : MsgSt Val) (e : MsgEv Val) (T : MsgTopic) :
    (m.record e).cur T = m.cur T := rfl

@[simp] theorem MsgSt.tk_record (m : MsgSt Val) (e : MsgEv Val) : (m.record e).tk = m.tk := rfl

@[simp] theorem MsgSt.hist_record (m : MsgSt Val) (e : MsgEv Val) :
    (m.record e).hist = m.hist ++ [e] := rfl

@[simp] theorem MsgSt.started_record (m : MsgSt Val) (e : MsgEv Val) :
    (m.record e).started = m.started := rfl

@[simp] theorem MsgSt.log_setTk (m : MsgSt Val) (tk : Ticker Val) (T : MsgTopic) :
    (m.setTk tk).log T = m.log T := rfl

@[simp] theorem MsgSt.cur_setTk (m : MsgSt Val) (tk : Ticker Val) (T : MsgTopic) :
    (m.setTk tk).cur T = m.cur T := rfl

@[simp] theorem MsgSt.tk_setTk (m : MsgSt Val) (tk : Ticker Val) : (m.setTk tk).tk = some tk := rfl

@[simp] theorem MsgSt.hist_setTk (m : MsgSt Val) (tk : Ticker Val) : (m.setTk tk).hist = m.hist := rfl

@[simp] theorem MsgSt.started_setTk (m : MsgSt Val) (tk : Ticker Val) :
    (m.setTk tk).started = m.started := rfl

@[simp] theorem MsgSt.log_setStarted (m : MsgSt Val) (l : List Comp) (T : MsgTopic) :
    ({ m with started := l } : MsgSt Val).log T = m.log T := rfl

@[simp] theorem MsgSt.cur_setStarted (m : MsgSt Val) (l : List Comp) (T : MsgTopic) :
    ({ m with started := l } : MsgSt Val).cur T = m.cur T := rfl

@[simp] theorem MsgSt.log_noteWakeup (m : MsgSt Val) (c : Comp) (o : Option SimTime) (T : MsgTopic) :
    (m.noteWakeup c o).log T = m.log T := by cases o <;> rfl

@[simp] theorem MsgSt.cur_noteWakeup (m : MsgSt Val) (c : Comp) (o : Option SimTime) (T : MsgTopic) :
    (m.noteWakeup c o).cur T = m.cur T := by cases o <;> rfl

@[simp] theorem MsgSt.tk_noteWakeup (m : MsgSt Val) (c : Comp) (o : Option SimTime) :
    (m.noteWakeup c o).tk = m.tk := by cases o <;> rfl

@[simp] theorem MsgSt.hist_noteWakeup (m : MsgSt Val) (c : Comp) (o : Option SimTime) :
    (m.noteWakeup c o).hist = m.hist := by cases o <;> rfl

@[simp] theorem MsgSt.started_noteWakeup (m : MsgSt Val) (c : Comp) (o : Option SimTime) :
    (m.noteWakeup c o).started = m.started := by cases o <;> rfl

@[simp] theorem MsgSt.trace_noteWakeup (m : MsgSt Val) (c : Comp) (o : Option SimTime) :
    (m.noteWakeup c o).trace = m.trace := by cases o <;> rfl

@[simp] theorem MsgSt.wake_produce (m : MsgSt Val) (T : MsgTopic) (μ : BusMsg Val) :
    (m.produce T μ).wake = m.wake := rfl

@[simp] theorem MsgSt.wake_advance (m : MsgSt Val) (T : MsgTopic) : (m.advance T).wake = m.wake := rfl

@[simp] theorem MsgSt.wake_record (m : MsgSt Val) (e : MsgEv Val) : (m.record e).wake = m.wake := rfl

@[simp] theorem MsgSt.wake_setTk (m : MsgSt Val) (tk : Ticker Val) : (m.setTk tk).wake = m.wake := rfl

@[simp] theorem MsgSt.wake_send (m : MsgSt Val) (d : Dispatch Val) : (m.send d).wake = m.wake := rfl

@[simp] theorem MsgSt.log_send (m : MsgSt Val) (d : Dispatch Val) (T : MsgTopic) :
    (m.send d).log T = if d.topic = T then m.log d.topic ++ [.disp d] else m.log T :=
  MsgSt.log_produce ..

@[simp] theorem MsgSt.cur_send (m : MsgSt Val) (d : Dispatch Val) (T : MsgTopic) :
    (m.send d).cur T = m.cur T := rfl

@[simp] theorem MsgSt.tk_send (m : MsgSt Val) (d : Dispatch Val) : (m.send d).tk = m.tk := rfl

@[simp] theorem MsgSt.started_send (m : MsgSt Val) (d : Dispatch Val) :
    (m.send d).started = m.started := rfl

@[simp] theorem MsgSt.hist_send (m : MsgSt Val) (d : Dispatch Val) :
    (m.send d).hist = m.hist ++ [.dispatch d] := rfl

@[simp] theorem MsgSt.sendAll_nil (m : MsgSt Val) : m.sendAll [] = m := rfl

@[simp] theorem MsgSt.sendAll_cons (m : MsgSt Val) (d : Dispatch Val) (ds : List (Dispatch Val)) :
    m.sendAll (d :: ds) = (m.send d).sendAll ds := rfl

theorem MsgSt.sendAll_eq (m : MsgSt Val) (ds : List (Dispatch Val)) :
    m.sendAll ds =
      { m with logs := (m.sendAll ds).logs, hist := m.hist ++ ds.map MsgEv.dispatch } := by
  induction ds generalizing m with
  | nil => rw [List.map_nil, List.append_nil]; rfl
  | cons d ds ih => rw [MsgSt.sendAll_cons, ih (m.send d), MsgSt.hist_send, List.append_assoc]; rfl

@[simp] theorem MsgSt.cur_sendAll (m : MsgSt Val) (ds : List (Dispatch Val)) (T : MsgTopic) :
    (m.sendAll ds).cur T = m.cur T := by rw [MsgSt.sendAll_eq]; rfl

@[simp] theorem MsgSt.tk_sendAll (m : MsgSt Val) (ds : List (Dispatch Val)) :
    (m.sendAll ds).tk = m.tk := by rw [MsgSt.sendAll_eq]

@[simp] theorem MsgSt.started_sendAll (m : MsgSt Val) (ds : List (Dispatch Val)) :
    (m.sendAll ds).started = m.started := by rw [MsgSt.sendAll_eq]

@[simp] theorem MsgSt.hist_sendAll (m : MsgSt Val) (ds : List (Dispatch Val)) :
    (m.sendAll ds).hist = m.hist ++ ds.map MsgEv.dispatch := by rw [MsgSt.sendAll_eq]

@[simp] theorem MsgSt.wake_sendAll (m : MsgSt Val) (ds : List (Dispatch Val)) :
    (m.sendAll ds).wake = m.wake := by rw [MsgSt.sendAll_eq]

theorem MsgSt.log_sendAll (m : MsgSt Val) (ds : List (Dispatch Val)) (T : MsgTopic) :
    (m.sendAll ds).log T = m.log T ++ (ds.filter (fun d => d.topic = T)).map BusMsg.disp := by
  induction ds generalizing m with
  | nil => simp
  | cons d ds ih =>
    rw [MsgSt.sendAll_cons, ih, MsgSt.log_send]
    by_cases h : d.topic = T
    · subst h; simp
    · simp [h]

@[simp] theorem MsgSt.trace_record (m : MsgSt Val) (e : MsgEv Val) :
    (m.record e).trace = m.trace ++ (e.toEv).toList := by
  simp only [MsgSt.trace, MsgSt.hist_record, List.filterMap_append]
  cases h : e.toEv <;> simp [List.filterMap, h]

@[simp] theorem MsgSt.trace_produce (m : MsgSt Val) (T : MsgTopic) (μ : BusMsg Val) :
    (m.produce T μ).trace = m.trace := rfl

@[simp] theorem MsgSt.trace_advance (m : MsgSt Val) (T : MsgTopic) :
    (m.advance T).trace = m.trace := rfl

@[simp] theorem MsgSt.trace_setTk (m : MsgSt Val) (tk : Ticker Val) :
    (m.setTk tk).trace = m.trace := rfl

@[simp] theorem MsgSt.trace_setStarted (m : MsgSt Val) (l : List Comp) :
    ({ m with started := l } : MsgSt Val).trace = m.trace := rfl

theorem filterMap_toEv_map_dispatch (ds : List (Dispatch Val)) :
    (ds.map MsgEv.dispatch).filterMap MsgEv.toEv = ds.map Ev.dispatch := by
  induction ds with
  | nil => rfl
  | cons d ds ih => simp [MsgEv.toEv, ih]

@[simp] theorem MsgSt.trace_sendAll (m : MsgSt Val) (ds : List (Dispatch Val)) :
    (m.sendAll ds).trace = m.trace ++ ds.map Ev.dispatch := by
  simp only [MsgSt.trace, MsgSt.hist_sendAll, List.filterMap_append, filterMap_toEv_map_dispatch]

theorem Dispatch.topic_ne {d : Dispatch Val} {c : Comp} (h : d.comp ≠ c) :
    d.topic ≠ .inT c ∧ d.topic ≠ .outT c := by
  cases d <;> simp_all [Dispatch.topic, Dispatch.comp]

theorem MsgSt.next_eq_none {m : MsgSt Val} {T : MsgTopic} (h : m.cur T = (m.log T).length) :
    m.next T = none := by
  simp [MsgSt.next, h]

theorem MsgSt.cur_lt_of_next {m : MsgSt Val} {T : MsgTopic} {μ : BusMsg Val}
    (h : m.next T = some μ) : m.cur T < (m.log T).length :=
  (List.getElem?_eq_some_iff.1 h).1

theorem MsgSt.Idle.next_eq_none {m : MsgSt Val} (h : m.Idle) (T : MsgTopic) : m.next T = none :=
  MsgSt.next_eq_none (h.2.2 T)

theorem MsgSt.Idle.trace_eq_nil {m : MsgSt Val} (h : m.Idle) : m.trace = [] := by
  simp [MsgSt.trace, h.2.1]

theorem MsgSt.absorb_eq_ok {w : Wiring} {m m' : MsgSt Val} {tk : Ticker Val} {c src : Comp}
    {t' : SimTime} {ch : List (Port × Val)} {ca : Option SimTime}
    (h : m.absorb w tk c src t' ch ca = .ok m') :
    ∃ r, tk.propagate w src t' ch = .ok r ∧
      m' = ((((m.advance (.outT c)).record (.answer src ch)).setTk r.1).sendAll r.2).noteWakeup
        src ca := by
  obtain ⟨r, hr, hm⟩ := Except.map_eq_ok_iff.1 h
  exact ⟨r, hr, hm.symm⟩

theorem MsgSt.absorb_eq_error {w : Wiring} {m : MsgSt Val} {tk : Ticker Val} {c src : Comp}
    {t' : SimTime} {ch : List (Port × Val)} {ca : Option SimTime} {e : TickErr} :
    m.absorb w tk c src t' ch ca = .error e ↔ tk.propagate w src t' ch = .error e := by
  unfold MsgSt.absorb
  cases tk.propagate w src t' ch <;> simp [Except.map]

theorem MsgSt.step_startSched_eq {w : Wiring} {rx : MsgReact Val} {t : SimTime} {roots : List Comp}
    {m : MsgSt Val} (htk : m.tk = none) :
    m.step w rx t roots .startSched =
      some ((Ticker.call w t roots).map (fun r => (m.setTk r.1).sendAll r.2)) := by
  simp only [MsgSt.step, htk]

theorem MsgSt.step_startSched_ok {w : Wiring} {rx : MsgReact Val} {t : SimTime} {roots : List Comp}
    {m m' : MsgSt Val} (h : m.step w rx t roots .startSched = some (.ok m')) :
    m.tk = none ∧ ∃ r, (Ticker.call w t roots : Except TickErr _) = .ok r ∧
      m' = (m.setTk r.1).sendAll r.2 := by
  cases htk : m.tk with
  | some tk => simp [MsgSt.step, htk] at h
  | none =>
    rw [MsgSt.step_startSched_eq htk] at h
    obtain ⟨r, hr, hm⟩ := Except.map_eq_ok_iff.1 (Option.some.inj h)
    exact ⟨rfl, r, hr, hm.symm⟩

theorem MsgSt.step_startComp_ok {w : Wiring} {rx : MsgReact Val} {t : SimTime} {roots : List Comp}
    {m m' : MsgSt Val} {c : Comp} (h : m.step w rx t roots (.startComp c) = some (.ok m')) :
    c ∉ m.started ∧ m' = { m with started := c :: m.started } := by
  simp only [MsgSt.step] at h
  split at h
  · cases h
  · cases h; exact ⟨‹_›, rfl⟩

theorem MsgSt.step_deliverIn_cases {w : Wiring} {rx : MsgReact Val} {t : SimTime}
    {roots : List Comp} {m : MsgSt Val} {c : Comp} {r : Except TickErr (MsgSt Val)}
    (h : m.step w rx t roots (.deliverIn c) = some r) :
    c ∈ m.started ∧ ∃ μ, m.next (.inT c) = some μ ∧ (r = .ok (m.advance (.inT c)) ∨
      ∃ c0 t' ins, μ = .disp (.input c0 t' ins) ∧ r = .ok (((m.advance (.inT c)).produce (.outT c)
        (.output c t' (rx c t' ins).1 (rx c t' ins).2)).record (.react c t' ins))) := by
  simp only [MsgSt.step] at h
  split at h
  · refine ⟨‹_›, ?_⟩
    split at h
    · cases h
    · cases h; exact ⟨_, ‹_›, Or.inr ⟨_, _, _, rfl, rfl⟩⟩
    · cases h; exact ⟨_, ‹_›, Or.inl rfl⟩
  · cases h

theorem MsgSt.step_deliverIn_input {w : Wiring} {rx : MsgReact Val} {t : SimTime}
    {roots : List Comp} {m : MsgSt Val} {c c0 : Comp} {t' : SimTime} {ins : List (Port × Val)}
    (hc : c ∈ m.started) (hμ : m.next (.inT c) = some (.disp (.input c0 t' ins))) :
    m.step w rx t roots (.deliverIn c) = some (.ok
      (((m.advance (.inT c)).produce (.outT c)
        (.output c t' (rx c t' ins).1 (rx c t' ins).2)).record (.react c t' ins))) := by
  simp only [MsgSt.step, if_pos hc, hμ]

theorem MsgSt.step_deliverOut_cases {w : Wiring} {rx : MsgReact Val} {t : SimTime}
    {roots : List Comp} {m : MsgSt Val} {c : Comp} {r : Except TickErr (MsgSt Val)}
    (h : m.step w rx t roots (.deliverOut c) = some r) :
    ∃ tk μ, m.tk = some tk ∧ m.next (.outT c) = some μ ∧
      ((∃ src t' ch ca, r = m.absorb w tk c src t' ch ca) ∨ r = .ok (m.advance (.outT c))) := by
  simp only [MsgSt.step] at h
  split at h
  · cases h
  · rename_i tk htk
    split at h
    · cases h
    · cases h; exact ⟨tk, _, htk, ‹_›, Or.inl ⟨_, _, _, _, rfl⟩⟩
    · cases h; exact ⟨tk, _, htk, ‹_›, Or.inl ⟨_, _, _, _, rfl⟩⟩
    · cases h; exact ⟨tk, _, htk, ‹_›, Or.inr rfl⟩

theorem MsgSt.step_deliverOut_ok {w : Wiring} {rx : MsgReact Val} {t : SimTime} {roots : List Comp}
    {m m' : MsgSt Val} {c : Comp} (h : m.step w rx t roots (.deliverOut c) = some (.ok m')) :
    ∃ tk μ, m.tk = some tk ∧ m.next (.outT c) = some μ ∧
      ((∃ src ch ca, ∃ r : Ticker Val × List (Dispatch Val), m' = ((((m.advance (.outT c)).record
          (.answer src ch)).setTk r.1).sendAll r.2).noteWakeup src ca) ∨ m' = m.advance (.outT c)) := by
  obtain ⟨tk, μ, htk, hμ, ⟨src, t', ch, ca, hr⟩ | hr⟩ := MsgSt.step_deliverOut_cases h
  · obtain ⟨r, _, rfl⟩ := MsgSt.absorb_eq_ok hr.symm
    exact ⟨tk, μ, htk, hμ, Or.inl ⟨src, ch, ca, r, rfl⟩⟩
  · cases hr
    exact ⟨tk, μ, htk, hμ, Or.inr rfl⟩

def answerMsg (rx : MsgReact Val) : Dispatch Val → BusMsg Val
  | .input c t ins => .output c t (rx c t ins).1 (rx c t ins).2
  | .skip c t => .disp (.skip c t)

def Dispatch.callAt (rx : MsgReact Val) : Dispatch Val → Option SimTime
  | .input c t ins => (rx c t ins).2
  | .skip _ _ => none

/-- `rx` made the answer; the `rx'` of the step is arbitrary, since a delivery to the scheduler
consults no reaction function (`MsgSt.step_rx_irrel`). -/
theorem MsgSt.step_deliverOut_answer {w : Wiring} {rx rx' : MsgReact Val} {t : SimTime}
    {roots : List Comp} {m : MsgSt Val} {tk : Ticker Val} {c : Comp} {d : Dispatch Val}
    (htk : m.tk = some tk) (hμ : m.next (.outT c) = some (answerMsg rx d)) :
    m.step w rx' t roots (.deliverOut c) =
      some (m.absorb w tk c d.comp d.time (answerOf (rx.at d.time) d) (d.callAt rx)) := by
  cases d <;> simp only [MsgSt.step, htk, hμ, answerMsg] <;> rfl

theorem MsgSt.step_rx_irrel {w : Wiring} (rx rx' : MsgReact Val) {t : SimTime} {roots : List Comp}
    (m : MsgSt Val) {a : MsgAct} (ha : ∀ c, a ≠ .deliverIn c) :
    m.step w rx t roots a = m.step w rx' t roots a := by
  cases a with
  | startSched => rfl
  | startComp c => rfl
  | deliverIn c => exact absurd rfl (ha c)
  | deliverOut c => rfl

theorem MsgSt.step_deliverIn_congr {w : Wiring} {rx rx' : MsgReact Val} {t : SimTime}
    {roots : List Comp} (m : MsgSt Val) {c : Comp} (h : rx c = rx' c) :
    m.step w rx t roots (.deliverIn c) = m.step w rx' t roots (.deliverIn c) := by
  simp only [MsgSt.step, h]

/-- where component `c` stands (the simulation relation, per component); at most one message of `c`
is in flight. -/
inductive Slot (rx : MsgReact Val) (m : MsgSt Val) (c : Comp) : Option (Dispatch Val) → Prop
  | idle : m.cur (.inT c) = (m.log (.inT c)).length → m.cur (.outT c) = (m.log (.outT c)).length →
      Slot rx m c none
  | inputWaiting (t : SimTime) (ins : List (Port × Val)) :
      m.cur (.inT c) + 1 = (m.log (.inT c)).length →
      m.next (.inT c) = some (.disp (.input c t ins)) →
      m.cur (.outT c) = (m.log (.outT c)).length → Slot rx m c (some (.input c t ins))
  | outputWaiting (t : SimTime) (ins : List (Port × Val)) :
      m.cur (.inT c) = (m.log (.inT c)).length →
      (m.log (.inT c)).getLast? = some (.disp (.input c t ins)) →
      m.cur (.outT c) + 1 = (m.log (.outT c)).length →
      m.next (.outT c) = some (.output c t (rx c t ins).1 (rx c t ins).2) →
      Slot rx m c (some (.input c t ins))
  | skipWaiting (t : SimTime) :
      m.cur (.inT c) = (m.log (.inT c)).length →
      m.cur (.outT c) + 1 = (m.log (.outT c)).length →
      m.next (.outT c) = some (.disp (.skip c t)) → Slot rx m c (some (.skip c t))

theorem Slot.congr {rx : MsgReact Val} {m m' : MsgSt Val} {c : Comp} {o : Option (Dispatch Val)}
    (h : Slot rx m c o)
    (h1 : m'.log (.inT c) = m.log (.inT c)) (h2 : m'.log (.outT c) = m.log (.outT c))
    (h3 : m'.cur (.inT c) = m.cur (.inT c)) (h4 : m'.cur (.outT c) = m.cur (.outT c)) :
    Slot rx m' c o := by
  have hi : m'.next (.inT c) = m.next (.inT c) := by rw [MsgSt.next, h1, h3]; rfl
  have ho : m'.next (.outT c) = m.next (.outT c) := by rw [MsgSt.next, h2, h4]; rfl
  cases h with
  | idle a b => exact .idle (by rw [h3, h1, a]) (by rw [h4, h2, b])
  | inputWaiting t ins a b d =>
    exact .inputWaiting t ins (by rw [h3, h1, a]) (by rw [hi, b]) (by rw [h4, h2, d])
  | outputWaiting t ins a b d e =>
    exact .outputWaiting t ins (by rw [h3, h1, a]) (by rw [h1, b]) (by rw [h4, h2, d])
      (by rw [ho, e])
  | skipWaiting t a b d =>
    exact .skipWaiting t (by rw [h3, h1, a]) (by rw [h4, h2, b]) (by rw [ho, d])

theorem Slot.comp_eq {rx : MsgReact Val} {m : MsgSt Val} {c : Comp} {d : Dispatch Val}
    (h : Slot rx m c (some d)) : d.comp = c := by
  cases h <;> rfl

theorem Slot.inflight_eq {rx : MsgReact Val} {m : MsgSt Val} {c : Comp} {o : Option (Dispatch Val)}
    (h : Slot rx m c o) : m.inflight c = o := by
  cases h with
  | idle a b => simp [MsgSt.inflight, MsgSt.next_eq_none a, MsgSt.next_eq_none b]
  | inputWaiting t ins a b d => simp [MsgSt.inflight, b]
  | outputWaiting t ins a b d e => simp [MsgSt.inflight, MsgSt.next_eq_none a, e, b]
  | skipWaiting t a b d => simp [MsgSt.inflight, MsgSt.next_eq_none a, d]

theorem Slot.of_next_in {rx : MsgReact Val} {m : MsgSt Val} {c : Comp} {o : Option (Dispatch Val)}
    (h : Slot rx m c o) {μ : BusMsg Val} (hμ : m.next (.inT c) = some μ) :
    ∃ t ins, μ = .disp (.input c t ins) ∧ o = some (.input c t ins) ∧
      m.cur (.inT c) + 1 = (m.log (.inT c)).length ∧
      m.cur (.outT c) = (m.log (.outT c)).length := by
  have hlt := MsgSt.cur_lt_of_next hμ
  cases h with
  | inputWaiting t ins a b d => exact ⟨t, ins, Option.some.inj (hμ.symm.trans b), rfl, a, d⟩
  | idle a | outputWaiting _ _ a | skipWaiting _ a => exact absurd a (Nat.ne_of_lt hlt)

theorem Slot.of_next_out {rx : MsgReact Val} {m : MsgSt Val} {c : Comp} {o : Option (Dispatch Val)}
    (h : Slot rx m c o) {μ : BusMsg Val} (hμ : m.next (.outT c) = some μ) :
    ∃ d, o = some d ∧ μ = answerMsg rx d ∧ m.cur (.inT c) = (m.log (.inT c)).length ∧
      m.cur (.outT c) + 1 = (m.log (.outT c)).length := by
  have hlt := MsgSt.cur_lt_of_next hμ
  cases h with
  | idle _ b | inputWaiting _ _ _ _ b => exact absurd b (Nat.ne_of_lt hlt)
  | outputWaiting t ins a b d e => exact ⟨_, rfl, Option.some.inj (hμ.symm.trans e), a, d⟩
  | skipWaiting t a b d => exact ⟨_, rfl, Option.some.inj (hμ.symm.trans d), a, b⟩

theorem Slot.send_other {rx : MsgReact Val} {m : MsgSt Val} {c : Comp} {o : Option (Dispatch Val)}
    {d : Dispatch Val} (h : Slot rx m c o) (hne : d.comp ≠ c) : Slot rx (m.send d) c o :=
  h.congr (by rw [MsgSt.log_send, if_neg (Dispatch.topic_ne hne).1])
    (by rw [MsgSt.log_send, if_neg (Dispatch.topic_ne hne).2]) rfl rfl

theorem Slot.send_self {rx : MsgReact Val} {m : MsgSt Val} {d : Dispatch Val}
    (h : Slot rx m d.comp none) : Slot rx (m.send d) d.comp (some d) := by
  cases h with
  | idle a b =>
    cases d with
    | input c t ins =>
      simp only [Dispatch.comp] at a b ⊢
      exact .inputWaiting t ins (by simp [Dispatch.topic, a])
        (by simp [MsgSt.next, Dispatch.topic, a]) (by simp [Dispatch.topic, b])
    | skip c t =>
      simp only [Dispatch.comp] at a b ⊢
      exact .skipWaiting t (by simp [Dispatch.topic, a]) (by simp [Dispatch.topic, b])
        (by simp [MsgSt.next, Dispatch.topic, b])

/-- the pending dispatches `P` (of the atomic model) are the messages in flight. -/
def SlotRel (rx : MsgReact Val) (m : MsgSt Val) (P : List (Dispatch Val)) : Prop :=
  ∀ c, ∃ o, Slot rx m c o ∧ ∀ d, (d ∈ P ∧ d.comp = c) ↔ o = some d

theorem SlotRel.congr {rx : MsgReact Val} {m m' : MsgSt Val} {P : List (Dispatch Val)}
    (h : SlotRel rx m P) (h1 : ∀ T, m'.log T = m.log T) (h2 : ∀ T, m'.cur T = m.cur T) :
    SlotRel rx m' P := by
  intro c
  obtain ⟨o, ho, hp⟩ := h c
  exact ⟨o, ho.congr (h1 _) (h1 _) (h2 _) (h2 _), hp⟩

theorem SlotRel.send {rx : MsgReact Val} {m : MsgSt Val} {P : List (Dispatch Val)}
    {d : Dispatch Val} (h : SlotRel rx m P) (hd : ∀ d' ∈ P, d'.comp ≠ d.comp) :
    SlotRel rx (m.send d) (P ++ [d]) := by
  intro c
  obtain ⟨o, ho, hp⟩ := h c
  by_cases hc : d.comp = c
  · subst hc
    have hnone : o = none := by
      cases o with
      | none => rfl
      | some d0 => exact absurd ((hp d0).2 rfl).2 (hd d0 ((hp d0).2 rfl).1)
    subst hnone
    refine ⟨some d, ho.send_self, fun d' => ?_⟩
    simp only [List.mem_append, List.mem_singleton, Option.some.injEq]
    constructor
    · rintro ⟨hm | rfl, hc'⟩
      · exact absurd hc' (hd d' hm)
      · rfl
    · rintro rfl; exact ⟨Or.inr rfl, rfl⟩
  · refine ⟨o, ho.send_other hc, fun d' => ?_⟩
    rw [← hp d', List.mem_append, List.mem_singleton]
    constructor
    · rintro ⟨hm | rfl, hc'⟩
      · exact ⟨hm, hc'⟩
      · exact absurd hc' hc
    · rintro ⟨hm, hc'⟩; exact ⟨Or.inl hm, hc'⟩

theorem SlotRel.sendAll {rx : MsgReact Val} (ds : List (Dispatch Val)) :
    ∀ {m : MsgSt Val} {P : List (Dispatch Val)}, SlotRel rx m P →
      ((P ++ ds).map Dispatch.comp).Nodup → SlotRel rx (m.sendAll ds) (P ++ ds) := by
  induction ds with
  | nil => intro m P h _; simpa using h
  | cons d ds ih =>
    intro m P h hn
    rw [List.append_cons] at hn ⊢
    refine ih (h.send fun d' hd' heq => ?_) hn
    rw [List.map_append, List.map_append] at hn
    exact (List.nodup_append.1 (List.nodup_append.1 hn).1).2.2 _ (List.mem_map_of_mem hd') _
      (List.mem_singleton.2 rfl) heq

theorem SlotRel.deliverIn {rx : MsgReact Val} {m : MsgSt Val} {P : List (Dispatch Val)}
    (h : SlotRel rx m P) {c : Comp} {μ : BusMsg Val} (hμ : m.next (.inT c) = some μ) :
    ∃ t ins, μ = .disp (.input c t ins) ∧ Dispatch.input c t ins ∈ P ∧
      SlotRel rx (((m.advance (.inT c)).produce (.outT c)
        (.output c t (rx c t ins).1 (rx c t ins).2)).record (.react c t ins)) P := by
  obtain ⟨o, ho, hp⟩ := h c
  obtain ⟨t, ins, rfl, rfl, a, b⟩ := ho.of_next_in hμ
  refine ⟨t, ins, rfl, ((hp _).2 rfl).1, fun c' => ?_⟩
  by_cases hc : c' = c
  · subst hc
    refine ⟨_, .outputWaiting t ins (by simp [a]) ?_ (by simp [b]) (by simp [MsgSt.next, b]), hp⟩
    -- the `Input` just consumed was the last message of `in c`
    rw [MsgSt.log_record, MsgSt.log_produce, if_neg (by simp), MsgSt.log_advance,
      List.getLast?_eq_getElem?, ← a]
    exact hμ
  · obtain ⟨o', ho', hp'⟩ := h c'
    have hne : c ≠ c' := Ne.symm hc
    exact ⟨o', ho'.congr (by simp) (by simp [hne]) (by simp [hne]) (by simp), hp'⟩

theorem SlotRel.deliverOut {rx : MsgReact Val} {m : MsgSt Val} {P : List (Dispatch Val)}
    (h : SlotRel rx m P) (hn : (P.map Dispatch.comp).Nodup) {c : Comp} {μ : BusMsg Val}
    (hμ : m.next (.outT c) = some μ) :
    ∃ d i, P[i]? = some d ∧ d.comp = c ∧ μ = answerMsg rx d ∧
      SlotRel rx (m.advance (.outT c)) (P.eraseIdx i) := by
  obtain ⟨o, ho, hp⟩ := h c
  obtain ⟨d, rfl, hμd, a, b⟩ := ho.of_next_out hμ
  obtain ⟨hdP, hdc⟩ := (hp d).2 rfl
  obtain ⟨i, hi⟩ := List.getElem?_of_mem hdP
  have hmem := fun d' => mem_eraseIdx_iff_of_nodup_map (x := d') hn hi
  refine ⟨d, i, hi, hdc, hμd, fun c' => ?_⟩
  by_cases hc : c' = c
  · subst hc
    refine ⟨none, .idle (by simpa using a) (by simp [b]), fun d' => ?_⟩
    rw [hmem, hdc]
    exact ⟨fun h => absurd h.2 h.1.2, fun h => nomatch h⟩
  · obtain ⟨o', ho', hp'⟩ := h c'
    refine ⟨o', ho'.congr rfl rfl (by simp) (by simp [Ne.symm hc]), fun d' => ?_⟩
    rw [← hp' d', hmem, hdc]
    exact ⟨fun h => ⟨h.1.1, h.2⟩, fun h => ⟨⟨h.1, h.2 ▸ hc⟩, h.2⟩⟩

end Tickit
