/-
Two-level dicts (`dict[k][k'] = v` on a defaultdict of dicts): reading a cell (`get2`), writing one
(`set2`), and folds of overriding writes (`Spec2`).
-/
import TickitModel.Lemmas.DictLemmas

namespace Tickit

/-- `InvWiring.WF` is this at the types of an inverse wiring (`InvWiring.wf_iff_wf2`). -/
def WF2 {κ κ' β : Type} (m : List (κ × List (κ' × β))) : Prop := DictWF m ∧ ∀ e ∈ m, DictWF e.2

theorem WF2_nil {κ κ' β : Type} : WF2 ([] : List (κ × List (κ' × β))) := ⟨DictWF_nil, fun _ h => nomatch h⟩

section Two
variable {κ κ' β : Type} [DecidableEq κ] [DecidableEq κ']

def get2 (m : List (κ × List (κ' × β))) (k : κ) (k' : κ') : Option β := alookup (agetD m k []) k'

def set2 (m : List (κ × List (κ' × β))) (k : κ) (k' : κ') (v : β) : List (κ × List (κ' × β)) :=
  upsert m k (upsert (agetD m k []) k' v)

@[simp] theorem get2_nil (k : κ) (k' : κ') : get2 ([] : List (κ × List (κ' × β))) k k' = none := rfl

theorem get2_eq_some_iff {m : List (κ × List (κ' × β))} {k : κ} {k' : κ'} {v : β} :
    get2 m k k' = some v ↔ ∃ inner, alookup m k = some inner ∧ alookup inner k' = some v := by
  unfold get2 agetD
  cases h : alookup m k <;> simp

@[simp] theorem get2_set2 (m : List (κ × List (κ' × β))) (k : κ) (k' : κ') (v : β) (x : κ) (x' : κ') :
    get2 (set2 m k k' v) x x' = if k = x ∧ k' = x' then some v else get2 m x x' := by
  unfold get2 set2
  rw [agetD_upsert]
  by_cases h : k = x
  · rw [if_pos h, alookup_upsert]
    simp [h]
  · simp [h]

@[simp] theorem get2_atouch (m : List (κ × List (κ' × β))) (c : κ) (x : κ) (x' : κ') :
    get2 (atouch m c []) x x' = get2 m x x' := by
  unfold get2
  rw [agetD_atouch]

theorem akeys_set2 (m : List (κ × List (κ' × β))) (k : κ) (k' : κ') (v : β) :
    akeys (set2 m k k' v) = sinsert (akeys m) k := akeys_upsert _ _ _

theorem mem_akeys_set2 {m : List (κ × List (κ' × β))} {k : κ} {k' : κ'} {v : β} {x : κ} :
    x ∈ akeys (set2 m k k' v) ↔ x ∈ akeys m ∨ x = k := mem_akeys_upsert.trans or_comm

omit [DecidableEq κ'] in
theorem DictWF_agetD {m : List (κ × List (κ' × β))} (h : ∀ e ∈ m, DictWF e.2) (k : κ) :
    DictWF (agetD m k []) := by
  rcases agetD_mem_or (m := m) (k := k) (d := []) with h' | h'
  · rw [h']; exact DictWF_nil
  · exact h _ h'

theorem WF2_set2 {m : List (κ × List (κ' × β))} (h : WF2 m) (k : κ) (k' : κ') (v : β) :
    WF2 (set2 m k k' v) := by
  refine ⟨UniqueKeys.upsert h.1 _ _, ?_⟩
  intro e he
  rcases mem_upsert he with rfl | he
  · exact UniqueKeys.upsert (DictWF_agetD h.2 k) _ _
  · exact h.2 e he

omit [DecidableEq κ'] in
theorem WF2_atouch {m : List (κ × List (κ' × β))} (h : WF2 m) (c : κ) : WF2 (atouch m c []) := by
  refine ⟨DictWF_atouch h.1 _ _, ?_⟩
  intro e he
  rcases mem_atouch he with rfl | he
  · exact DictWF_nil
  · exact h.2 e he

/-- `F` overwrites the cells described by `W` and leaves the others. -/
def Spec2 (F : List (κ × List (κ' × β)) → List (κ × List (κ' × β))) (W : κ → κ' → β → Prop) : Prop :=
  ∀ m k k' v, get2 (F m) k k' = some v ↔ W k k' v ∨ ((∀ v', ¬ W k k' v') ∧ get2 m k k' = some v)

theorem Spec2_foldl {α : Type} (f : List (κ × List (κ' × β)) → α → List (κ × List (κ' × β)))
    (W : α → κ → κ' → β → Prop) (l : List α)
    (hs : ∀ x ∈ l, Spec2 (fun m => f m x) (W x))
    (hf : ∀ x ∈ l, ∀ y ∈ l, ∀ k k' v v', W x k k' v → W y k k' v' → v = v') :
    Spec2 (fun m => l.foldl f m) (fun k k' v => ∃ x ∈ l, W x k k' v) := by
  induction l with
  | nil => intro m k k' v; simp
  | cons x l ih =>
    have ih' := ih (fun y hy => hs y (List.mem_cons_of_mem _ hy))
      (fun y hy z hz => hf y (List.mem_cons_of_mem _ hy) z (List.mem_cons_of_mem _ hz))
    intro m k k' v
    simp only [List.foldl_cons, List.mem_cons, exists_eq_or_imp]
    rw [ih' (f m x) k k' v, hs x List.mem_cons_self m k k' v]
    by_cases hex : ∃ v', ∃ z ∈ l, W z k k' v'
    · -- the cell is written again later, with the value that `x` writes to it, if any
      obtain ⟨v', z, hz, hw'⟩ := hex
      have hx : W x k k' v → ∃ y ∈ l, W y k k' v := fun hw =>
        ⟨z, hz, hf x List.mem_cons_self z (List.mem_cons_of_mem _ hz) k k' v v' hw hw' ▸ hw'⟩
      have h1 : ¬ ∀ v', ¬ ∃ y ∈ l, W y k k' v' := fun h => h v' ⟨z, hz, hw'⟩
      have h2 : ¬ ∀ v', ¬ (W x k k' v' ∨ ∃ y ∈ l, W y k k' v') := fun h => h v' (Or.inr ⟨z, hz, hw'⟩)
      simp only [h1, h2, false_and, or_false]
      exact ⟨Or.inr, fun h => h.elim hx id⟩
    · have h1 : ∀ v', ¬ ∃ y ∈ l, W y k k' v' := fun v' h => hex ⟨v', h⟩
      simp only [h1, or_false, false_or, not_false_eq_true, implies_true, true_and]

theorem get2_foldl_set2 (cells : List (κ × κ')) (v : β) (m : List (κ × List (κ' × β))) (k : κ) (k' : κ') :
    get2 (cells.foldl (fun m (c : κ × κ') => set2 m c.1 c.2 v) m) k k' =
      if (k, k') ∈ cells then some v else get2 m k k' := by
  induction cells generalizing m with
  | nil => simp
  | cons c cells ih =>
    rw [List.foldl_cons, ih, get2_set2]
    by_cases h : (k, k') ∈ cells
    · simp [h]
    · simp [h, Prod.ext_iff, eq_comm]

theorem Spec2_foldl_set2 (cells : List (κ × κ')) (v : β) :
    Spec2 (fun m => cells.foldl (fun m (c : κ × κ') => set2 m c.1 c.2 v) m)
      (fun k k' v' => (k, k') ∈ cells ∧ v' = v) := by
  intro m k k' v'
  rw [get2_foldl_set2]
  by_cases h : (k, k') ∈ cells
  · simp [h, eq_comm]
  · simp [h]

def NoEmpty2 (m : List (κ × List (κ' × β))) : Prop := ∀ k inner, alookup m k = some inner → inner ≠ []

theorem NoEmpty2_set2 {m : List (κ × List (κ' × β))} (h : NoEmpty2 m) (k : κ) (k' : κ') (v : β) :
    NoEmpty2 (set2 m k k' v) := by
  intro x inner hx
  unfold set2 at hx
  rw [alookup_upsert] at hx
  by_cases hk : k = x
  · simp only [hk, if_true, Option.some.injEq] at hx
    subst hx
    exact upsert_ne_nil _ _ _
  · simp only [hk, if_false] at hx
    exact h x inner hx

end Two

end Tickit
