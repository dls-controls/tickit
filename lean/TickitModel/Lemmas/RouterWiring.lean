/-
The router model (`Core/Router`): the well-formedness predicates of the two wiring representations
(`Wiring.WF`, `InvWiring.WF`, `Wiring.OneSource`), the simp set of the router proofs, the two
conversions `Wiring.fromInverse` / `InvWiring.fromWiring`, and `Wiring.route`.

Primes, here and in the other lemma files: `Wiring.route_exact'` is the form in which lemma files
use the property theorem `route_exact` of `Props/` (no lemma file imports a property file); where
the two differ the primed one is the stronger.  A property theorem that lemma files would use
unchanged stands in the lemma file itself.
-/
import TickitModel.Core.Router
import TickitModel.Lemmas.DictTwoLevel

namespace Tickit

-- global: every file downstream of this one has these as simp lemmas, a file that imports
-- `DictLemmas` alone has not
attribute [simp] mem_sinsert mem_sunion DictWF_nil alookup_cons alookup_upsert agetD_atouch

/-- a `Wiring` as Python holds it: dict of dicts of sets. -/
def Wiring.WF (w : Wiring) : Prop :=
  DictWF w ∧ ∀ e ∈ w, DictWF e.2 ∧ ∀ pe ∈ e.2, pe.2.Nodup

def InvWiring.WF (iw : InvWiring) : Prop :=
  DictWF iw ∧ ∀ e ∈ iw, DictWF e.2

def Wiring.OneSource (w : Wiring) : Prop :=
  ∀ a p a' p' b q, w.Conn a p b q → w.Conn a' p' b q → a = a' ∧ p = p'

/-- `wiring[a][p]` read with defaults (no mutation). -/
def Wiring.get (w : Wiring) (a : Comp) (p : Port) : List CPort := (get2 w a p).getD []

theorem Wiring.conn_iff_get {w : Wiring} {a : Comp} {p : Port} {b : Comp} {q : Port} :
    w.Conn a p b q ↔ (b, q) ∈ w.get a p := by
  unfold Wiring.get
  constructor
  · rintro ⟨ports, ins, h1, h2, hm⟩
    rw [get2_eq_some_iff.2 ⟨ports, h1, h2⟩]
    exact hm
  · intro hm
    cases h : get2 w a p with
    | none => rw [h] at hm; exact absurd hm List.not_mem_nil
    | some ins =>
      obtain ⟨ports, h1, h2⟩ := get2_eq_some_iff.1 h
      exact ⟨ports, ins, h1, h2, by rwa [h] at hm⟩

theorem InvWiring.conn_iff_get2 {iw : InvWiring} {a : Comp} {p : Port} {b : Comp} {q : Port} :
    iw.Conn a p b q ↔ get2 iw b q = some (a, p) := by
  rw [get2_eq_some_iff]
  rfl

theorem Wiring.mem_akeys_of_conn {w : Wiring} {a : Comp} {p : Port} {b : Comp} {q : Port}
    (h : w.Conn a p b q) : a ∈ akeys w := by
  obtain ⟨ports, _, h1, _⟩ := h
  exact mem_akeys_of_alookup_eq_some h1

theorem InvWiring.mem_akeys_of_conn {iw : InvWiring} {a : Comp} {p : Port} {b : Comp} {q : Port}
    (h : iw.Conn a p b q) : b ∈ akeys iw := by
  obtain ⟨ports, h1, _⟩ := h
  exact mem_akeys_of_alookup_eq_some h1

/-- `Conn` read off the entries of `l` by membership instead of by lookup, so that it makes sense
for a list of entries that is no dict; on a well-formed wiring it is `Conn` (`writes_iff_conn`).
Named after its use: `ap` is what `fromWiring` writes into cell `(b, q)` for the entries `l`. -/
def Wiring.Writes (l : Wiring) (b : Comp) (q : Port) (ap : CPort) : Prop :=
  ∃ ent ∈ l, ∃ pe ∈ ent.2, (b, q) ∈ pe.2 ∧ ap = (ent.1, pe.1)

theorem Wiring.writes_iff_conn {w : Wiring} (h : w.WF) {a : Comp} {p : Port} {b : Comp} {q : Port} :
    w.Writes b q (a, p) ↔ w.Conn a p b q := by
  constructor
  · rintro ⟨⟨a', ports⟩, hent, ⟨p', ins⟩, hpe, hm, heq⟩
    simp only [Prod.mk.injEq] at heq
    obtain ⟨rfl, rfl⟩ := heq
    exact ⟨ports, ins, alookup_eq_some_of_mem h.1 hent, alookup_eq_some_of_mem (h.2 _ hent).1 hpe, hm⟩
  · rintro ⟨ports, ins, h1, h2, hm⟩
    exact ⟨(a, ports), mem_of_alookup_eq_some h1, (p, ins), mem_of_alookup_eq_some h2, hm, rfl⟩

theorem Wiring.exists_target_iff_conn {w : Wiring} (h : w.WF) (c : Comp) :
    (∃ ent ∈ w, ∃ pe ∈ ent.2, ∃ bq ∈ pe.2, c = bq.1) ↔ ∃ a p q, w.Conn a p c q := by
  constructor
  · rintro ⟨ent, hent, pe, hpe, ⟨b, q⟩, hbq, rfl⟩
    exact ⟨ent.1, pe.1, q, (Wiring.writes_iff_conn h).1 ⟨ent, hent, pe, hpe, hbq, rfl⟩⟩
  · rintro ⟨a, p, q, hc⟩
    obtain ⟨ent, hent, pe, hpe, hm, _⟩ := (Wiring.writes_iff_conn h).2 hc
    exact ⟨ent, hent, pe, hpe, (c, q), hm, rfl⟩

theorem InvWiring.conn_iff_mem {iw : InvWiring} (h : iw.WF) {a : Comp} {p : Port} {b : Comp} {q : Port} :
    iw.Conn a p b q ↔ ∃ ent ∈ iw, ∃ pe ∈ ent.2, pe.2.1 = a ∧ pe.2.2 = p ∧ (b, q) = (ent.1, pe.1) := by
  constructor
  · rintro ⟨ports, h1, h2⟩
    exact ⟨(b, ports), mem_of_alookup_eq_some h1, (q, (a, p)), mem_of_alookup_eq_some h2, rfl, rfl, rfl⟩
  · rintro ⟨⟨b', ports⟩, hent, ⟨q', a', p'⟩, hpe, h1, h2, heq⟩
    simp only [Prod.mk.injEq] at heq
    obtain ⟨rfl, rfl⟩ := heq
    simp only at h1 h2
    subst h1 h2
    exact ⟨ports, alookup_eq_some_of_mem h.1 hent, alookup_eq_some_of_mem (h.2 _ hent) hpe⟩

theorem Wiring.add_eq (w : Wiring) (a : Comp) (p : Port) (bq : CPort) :
    w.add a p bq = set2 w a p (sinsert (w.get a p) bq) := rfl

theorem Wiring.mem_get_add {w : Wiring} {a : Comp} {p : Port} {bq : CPort} {a' : Comp} {p' : Port}
    {x : CPort} :
    x ∈ (w.add a p bq).get a' p' ↔ x ∈ w.get a' p' ∨ (a = a' ∧ p = p' ∧ x = bq) := by
  rw [Wiring.add_eq]
  unfold Wiring.get
  rw [get2_set2]
  by_cases h : a = a' ∧ p = p'
  · obtain ⟨rfl, rfl⟩ := h
    simp
  · simp only [h, if_false]
    constructor
    · exact Or.inl
    · rintro (h' | ⟨h1, h2, _⟩)
      · exact h'
      · exact absurd ⟨h1, h2⟩ h

theorem Wiring.get_touch (w : Wiring) (c : Comp) (a : Comp) (p : Port) :
    (w.touch c).get a p = w.get a p := by
  unfold Wiring.get Wiring.touch
  rw [get2_atouch]

theorem Wiring.WF.nodup_get {w : Wiring} (h : w.WF) (a : Comp) (p : Port) : (w.get a p).Nodup := by
  unfold Wiring.get
  cases hg : get2 w a p with
  | none => simp
  | some ins =>
    obtain ⟨ports, h1, h2⟩ := get2_eq_some_iff.1 hg
    exact (h.2 _ (mem_of_alookup_eq_some h1)).2 _ (mem_of_alookup_eq_some h2)

theorem Wiring.WF.wf2 {w : Wiring} (h : w.WF) : WF2 w := ⟨h.1, fun e he => (h.2 e he).1⟩

theorem Wiring.WF_add {w : Wiring} (h : w.WF) (a : Comp) (p : Port) (bq : CPort) :
    (w.add a p bq).WF := by
  rw [Wiring.add_eq]
  refine ⟨(WF2_set2 h.wf2 _ _ _).1, ?_⟩
  intro e he
  refine ⟨(WF2_set2 h.wf2 _ _ _).2 e he, ?_⟩
  intro pe hpe
  rcases mem_upsert he with rfl | he
  · rcases mem_upsert hpe with rfl | hpe
    · exact nodup_sinsert (h.nodup_get a p)
    · rcases agetD_mem_or (m := w) (k := a) (d := []) with h' | h'
      · rw [h'] at hpe
        simp at hpe
      · exact (h.2 _ h').2 pe hpe
  · exact (h.2 e he).2 pe hpe

theorem Wiring.WF_touch {w : Wiring} (h : w.WF) (c : Comp) : (w.touch c).WF := by
  refine ⟨DictWF_atouch h.1 _ _, ?_⟩
  intro e he
  rcases mem_atouch he with rfl | he
  · exact ⟨DictWF_nil, by simp⟩
  · exact h.2 e he

/-- C16: connections are preserved by inverse → wiring. -/
theorem conn_fromInverse (iw : InvWiring) (h : iw.WF) (a : Comp) (p : Port) (b : Comp) (q : Port) :
    (Wiring.fromInverse iw).Conn a p b q ↔ iw.Conn a p b q := by
  rw [Wiring.conn_iff_get, InvWiring.conn_iff_mem h]
  refine foldl_prop_iff_of_not (fun w : Wiring => (b, q) ∈ w.get a p) _ _ iw (fun ent _ w => ?_)
    (List.not_mem_nil (a := (b, q)))
  rw [← Wiring.get_touch w ent.1]
  refine foldl_prop_iff (fun w : Wiring => (b, q) ∈ w.get a p) _ _ ent.2 (fun pe _ w => ?_)
    (w.touch ent.1)
  exact Wiring.mem_get_add

theorem Wiring.mem_akeys_fromInverse (iw : InvWiring) (c : Comp) :
    c ∈ akeys (Wiring.fromInverse iw) ↔ ∃ ent ∈ iw, (c = ent.1 ∨ ∃ pe ∈ ent.2, c = pe.2.1) := by
  refine foldl_prop_iff_of_not (fun w : Wiring => c ∈ akeys w) _ _ iw (fun ent _ w => ?_)
    (List.not_mem_nil (a := c))
  -- fold `c ∈ akeys w ∨ c = ent.1` into the keys of the touched map `w.touch ent.1`
  -- (`atouch w ent.1 []` by definition), which is where the inner fold starts
  rw [← or_assoc, ← mem_akeys_atouch (d := [])]
  refine foldl_prop_iff (fun w : Wiring => c ∈ akeys w) _ _ ent.2 (fun pe _ w => ?_) (w.touch ent.1)
  exact mem_akeys_upsert.trans or_comm

/-- C16: unconnected components are preserved, sources become known components. -/
theorem keys_fromInverse (iw : InvWiring) (h : iw.WF) (c : Comp) :
    c ∈ akeys (Wiring.fromInverse iw) ↔ c ∈ akeys iw ∨ ∃ p b q, iw.Conn c p b q := by
  rw [Wiring.mem_akeys_fromInverse, exists_mem_key_or]
  refine or_congr_right ⟨?_, ?_⟩
  · rintro ⟨ent, hent, pe, hpe, rfl⟩
    exact ⟨pe.2.2, ent.1, pe.1, (InvWiring.conn_iff_mem h).2 ⟨ent, hent, pe, hpe, rfl, rfl, rfl⟩⟩
  · rintro ⟨p, b, q, hc⟩
    obtain ⟨ent, hent, pe, hpe, h1, _⟩ := (InvWiring.conn_iff_mem h).1 hc
    exact ⟨ent, hent, pe, hpe, h1.symm⟩

theorem Wiring.wf_fromInverse' (iw : InvWiring) : (Wiring.fromInverse iw).WF := by
  unfold Wiring.fromInverse
  refine foldl_inv Wiring.WF _ iw ?_ [] ⟨DictWF_nil, fun _ h => nomatch h⟩
  intro ent _ w hw
  exact foldl_inv Wiring.WF _ ent.2 (fun pe _ w hw => Wiring.WF_add hw _ _ _) _ (Wiring.WF_touch hw _)

theorem Wiring.oneSource_fromInverse (iw : InvWiring) (h : iw.WF) : (Wiring.fromInverse iw).OneSource := by
  intro a p a' p' b q h1 h2
  rw [conn_fromInverse iw h, InvWiring.conn_iff_get2] at h1 h2
  rw [h1] at h2
  simpa using h2

theorem InvWiring.set_eq (iw : InvWiring) (b : Comp) (q : Port) (ap : CPort) :
    iw.set b q ap = set2 iw b q ap := rfl

theorem InvWiring.wf_iff_wf2 {iw : InvWiring} : iw.WF ↔ WF2 iw := Iff.rfl

def InvWiring.stepEnt (iw : InvWiring) (ent : Comp × List (Port × List CPort)) : InvWiring :=
  ent.2.foldl (fun iw (pe : Port × List CPort) =>
    pe.2.foldl (fun iw (bq : CPort) => iw.set bq.1 bq.2 (ent.1, pe.1)) iw) (iw.touch ent.1)

theorem InvWiring.fromWiring_eq (w : Wiring) : InvWiring.fromWiring w = w.foldl InvWiring.stepEnt [] := rfl

theorem InvWiring.spec_stepEnt (ent : Comp × List (Port × List CPort))
    (hf : ∀ b q v v', (∃ pe ∈ ent.2, (b, q) ∈ pe.2 ∧ v = (ent.1, pe.1)) →
      (∃ pe ∈ ent.2, (b, q) ∈ pe.2 ∧ v' = (ent.1, pe.1)) → v = v') :
    Spec2 (fun iw => InvWiring.stepEnt iw ent)
      (fun b q v => ∃ pe ∈ ent.2, (b, q) ∈ pe.2 ∧ v = (ent.1, pe.1)) := by
  have inner := Spec2_foldl (κ := Comp) (κ' := Port) (β := CPort)
    (fun iw (pe : Port × List CPort) =>
      pe.2.foldl (fun iw (bq : CPort) => set2 iw bq.1 bq.2 (ent.1, pe.1)) iw)
    (fun pe b q v => (b, q) ∈ pe.2 ∧ v = (ent.1, pe.1)) ent.2
    (fun pe _ => Spec2_foldl_set2 pe.2 (ent.1, pe.1)) ?_
  · intro m b q v
    have := inner (atouch m ent.1 []) b q v
    rw [get2_atouch] at this
    exact this
  · intro pe hpe pe' hpe' b q v v' ⟨hm, hv⟩ ⟨hm', hv'⟩
    exact hf b q v v' ⟨pe, hpe, hm, hv⟩ ⟨pe', hpe', hm', hv'⟩

/-- C16: connections are preserved by wiring → inverse, given one source per input port. -/
theorem conn_fromWiring (w : Wiring) (h : w.WF) (h1 : w.OneSource) (a : Comp) (p : Port) (b : Comp) (q : Port) :
    (InvWiring.fromWiring w).Conn a p b q ↔ w.Conn a p b q := by
  have hf : ∀ b q v v', w.Writes b q v → w.Writes b q v' → v = v' := by
    rintro b q ⟨a, p⟩ ⟨a', p'⟩ hw hw'
    rw [Wiring.writes_iff_conn h] at hw hw'
    obtain ⟨rfl, rfl⟩ := h1 _ _ _ _ _ _ hw hw'
    rfl
  have spec : Spec2 (fun iw => w.foldl InvWiring.stepEnt iw) w.Writes :=
    Spec2_foldl InvWiring.stepEnt (fun ent b q v => ∃ pe ∈ ent.2, (b, q) ∈ pe.2 ∧ v = (ent.1, pe.1)) w
      (fun ent hent => InvWiring.spec_stepEnt ent fun b q v v' hw hw' =>
        hf b q v v' ⟨_, hent, hw⟩ ⟨_, hent, hw'⟩)
      (fun ent hent ent' hent' b q v v' hw hw' => hf b q v v' ⟨ent, hent, hw⟩ ⟨ent', hent', hw'⟩)
  rw [InvWiring.conn_iff_get2, InvWiring.fromWiring_eq, spec [] b q (a, p), Wiring.writes_iff_conn h]
  simp

theorem InvWiring.mem_akeys_fromWiring (w : Wiring) (c : Comp) :
    c ∈ akeys (InvWiring.fromWiring w) ↔
      ∃ ent ∈ w, (c = ent.1 ∨ ∃ pe ∈ ent.2, ∃ bq ∈ pe.2, c = bq.1) := by
  refine foldl_prop_iff_of_not (fun iw : InvWiring => c ∈ akeys iw) _ _ w (fun ent _ iw => ?_)
    (List.not_mem_nil (a := c))
  -- as in `Wiring.mem_akeys_fromInverse`: the inner fold starts at `iw.touch ent.1`
  rw [← or_assoc, ← mem_akeys_atouch (d := [])]
  refine foldl_prop_iff (fun iw : InvWiring => c ∈ akeys iw) _ _ ent.2 (fun pe _ iw => ?_)
    (iw.touch ent.1)
  refine foldl_prop_iff (fun iw : InvWiring => c ∈ akeys iw) _ _ pe.2 (fun bq _ iw => ?_) iw
  exact mem_akeys_set2

theorem keys_fromWiring (w : Wiring) (h : w.WF) (c : Comp) :
    c ∈ akeys (InvWiring.fromWiring w) ↔ c ∈ akeys w ∨ ∃ a p q, w.Conn a p c q := by
  rw [InvWiring.mem_akeys_fromWiring, exists_mem_key_or, Wiring.exists_target_iff_conn h]

theorem InvWiring.wf_fromWiring' (w : Wiring) : (InvWiring.fromWiring w).WF := by
  unfold InvWiring.fromWiring
  refine foldl_inv (σ := InvWiring) WF2 _ w ?_ [] WF2_nil
  intro ent _ iw hiw
  refine foldl_inv (σ := InvWiring) WF2 _ ent.2 ?_ _ (WF2_atouch hiw _)
  intro pe _ iw hiw
  exact foldl_inv (σ := InvWiring) WF2 _ pe.2 (fun bq _ iw hiw => WF2_set2 hiw _ _ _) _ hiw

theorem Wiring.route_eq {Val : Type} (w : Wiring) (src : Comp) (ch : List (Port × Val)) :
    w.route src ch = ch.foldl (fun r (pv : Port × Val) =>
      (w.get src pv.1).foldl (fun r (bq : CPort) => set2 r bq.1 bq.2 pv.2) r) [] := rfl

theorem Wiring.route_exact' {Val : Type} (w : Wiring) (h1 : w.OneSource) (a : Comp)
    (ch : List (Port × Val)) (hch : DictWF ch) (b : Comp) (q : Port) (v : Val) :
    (∃ m, alookup (w.route a ch) b = some m ∧ alookup m q = some v) ↔
      ∃ p, alookup ch p = some v ∧ w.Conn a p b q := by
  -- the routing result is a fold of overriding writes; two writes to one cell carry one value,
  -- since the cell has one source port and `ch` one value for it
  have spec := Spec2_foldl (κ := Comp) (κ' := Port) (β := Val)
    (fun r (pv : Port × Val) => (w.get a pv.1).foldl (fun r (bq : CPort) => set2 r bq.1 bq.2 pv.2) r)
    (fun pv b q v => (b, q) ∈ w.get a pv.1 ∧ v = pv.2) ch
    (fun pv _ => Spec2_foldl_set2 (w.get a pv.1) pv.2) ?_
  · rw [← get2_eq_some_iff, Wiring.route_eq, spec [] b q v]
    simp only [get2_nil, reduceCtorEq, and_false, or_false]
    constructor
    · rintro ⟨⟨p, v'⟩, hpv, hm, rfl⟩
      exact ⟨p, alookup_eq_some_of_mem hch hpv, Wiring.conn_iff_get.2 hm⟩
    · rintro ⟨p, hp, hc⟩
      exact ⟨(p, v), mem_of_alookup_eq_some hp, Wiring.conn_iff_get.1 hc, rfl⟩
  · rintro ⟨p, v0⟩ hpv ⟨p', v0'⟩ hpv' b q v v' ⟨hm, rfl⟩ ⟨hm', rfl⟩
    simp only at hm hm' ⊢
    rw [← Wiring.conn_iff_get] at hm hm'
    obtain ⟨_, rfl⟩ := h1 _ _ _ _ _ _ hm hm'
    have e1 := alookup_eq_some_of_mem hch hpv
    have e2 := alookup_eq_some_of_mem hch hpv'
    rw [e1] at e2
    exact Option.some.inj e2

theorem Wiring.route_noEmpty {Val : Type} (w : Wiring) (src : Comp) (ch : List (Port × Val)) :
    NoEmpty2 (w.route src ch) := by
  rw [Wiring.route_eq]
  refine foldl_inv NoEmpty2 _ ch ?_ [] (by intro k inner h; simp at h)
  intro pv _ r hr
  exact foldl_inv NoEmpty2 _ _ (fun bq _ r hr => NoEmpty2_set2 hr _ _ _) r hr

theorem Wiring.route_wf2 {Val : Type} (w : Wiring) (src : Comp) (ch : List (Port × Val)) :
    WF2 (w.route src ch) := by
  rw [Wiring.route_eq]
  refine foldl_inv WF2 _ ch ?_ [] WF2_nil
  intro pv _ r hr
  exact foldl_inv WF2 _ _ (fun bq _ r hr => WF2_set2 hr _ _ _) r hr

end Tickit
