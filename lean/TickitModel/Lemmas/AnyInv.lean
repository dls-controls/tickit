/-
Any-order nested tick: the invariant of the loop of ONE level under arbitrary answer
orders, with a ghost trace of the level's ticker and a ghost record of every answer given so far.

The footprint of answering a child `c` of level `L` is `Foot S L c` (`Lemmas/AnyFrame.lean`: `c` and
everything below it) plus the wakeup entry of `c` in the level's own scheduler state; the mock
components `external` / `expose` have an empty footprint.  The invariant says that every answer was
computed from a state that agrees with the tick's start state `st0` on its footprint, that the
current state agrees with the answer's result on that footprint, and that everything outside all
footprints is untouched.

The three loop invariants `Inv1` (`Lemmas/AnyFrame.lean`), `Inv2` (here), `Inv3`
(`Lemmas/AnyOrder.lean`) are not a tower.  `Inv3` extends `Inv2`.  `Inv2` shares nothing with
`Inv1`, which serves the proof of `LevelPost1` only; but `Inv2.step` needs `LevelPost1` of the inner
ticks (`hin`: an answer that is a nested tick changes its own footprint only, `AnsP.frame_foot`).
That is why `Lemmas/AnyFrame.lean` comes first, and why every user of `LevelP.fin_inv2` passes
`tickLevelAny_post1` for `hin`.
-/
import TickitModel.Lemmas.AnyFrame

namespace Tickit

/-- ghost record of one answer; `post` is the state before the level's `add_wakeup` -/
structure AnsRec where
  d : Dispatch V
  pre : SimSt
  post : SimSt
  ch : List (Port × V)
  ca : Option SimTime

def outOf (L : Level) (recs : List AnsRec) : List (Port × V) :=
  recs.foldl (fun o r => (exposeIns L r.d).getD o) []

theorem outOf_append_one (L : Level) (recs : List AnsRec) (r : AnsRec) :
    outOf L (recs ++ [r]) = (exposeIns L r.d).getD (outOf L recs) := by
  simp [outOf, List.foldl_append]

theorem outOf_cases (L : Level) (recs : List AnsRec) :
    (outOf L recs = [] ∧ ∀ r ∈ recs, exposeIns L r.d = none) ∨
      ∃ r ∈ recs, exposeIns L r.d = some (outOf L recs) := by
  suffices key : ∀ (o : List (Port × V)),
      (recs.foldl (fun o r => (exposeIns L r.d).getD o) o = o ∧ ∀ r ∈ recs, exposeIns L r.d = none) ∨
        ∃ r ∈ recs, exposeIns L r.d = some (recs.foldl (fun o r => (exposeIns L r.d).getD o) o) from
    key []
  induction recs with
  | nil => intro o; exact Or.inl ⟨rfl, by simp⟩
  | cons r recs ih =>
    intro o
    rw [List.foldl_cons]
    rcases ih ((exposeIns L r.d).getD o) with ⟨h1, h2⟩ | ⟨r', hr', h'⟩
    · cases he : exposeIns L r.d with
      | none =>
        left
        rw [he] at h1
        refine ⟨h1, ?_⟩
        intro r'' hr''
        rcases List.mem_cons.1 hr'' with rfl | h
        · exact he
        · exact h2 r'' h
      | some ins =>
        right
        refine ⟨r, by simp, ?_⟩
        rw [he] at h1
        rw [h1]
        exact he
    · exact Or.inr ⟨r', List.mem_cons_of_mem _ hr', h'⟩

/-- The first five fields are what `TickSys.Run.inv`, `TickSys.Run.trPre` and `Det.run_insInv` give
for a tick whose answers are dicts; they are spelt out, and kept by `PreInv.propagate`,
`TrPre.propagate`, `Det.InsInv.propagate` in `Inv2.step`, because `Lemmas/AnyDet.lean` and
`Lemmas/AnyLive.lean` read them one by one. -/
structure Inv2 (S : Static) (orc : Oracle) (inner : LevelRel) (L : Level) (inCh : List (Port × V))
    (t : SimTime) (roots : List Comp) (st0 : SimSt) (ls : LoopSt) (tr : List (Ev V))
    (recs : List AnsRec) : Prop where
  pre : PreInv L.wiring t roots ls.tk.toUpdate ls.pending tr
  time : ls.tk.time = t
  troots : ls.tk.roots = roots
  eq : TrPre L.wiring t roots ls.tk.inputs tr
  ins : Det.InsInv ls.tk.inputs tr
  recs_tr : ∀ a ch, Ev.answer a ch ∈ tr ↔ ∃ r ∈ recs, r.d.comp = a ∧ r.ch = ch
  recs_ok : ∀ r ∈ recs, Ev.dispatch r.d ∈ tr ∧
    AnsP S orc inner L inCh r.pre r.d (r.post, r.ch, r.ca) ∧
    (∀ x, Foot S L r.d.comp x → r.pre.loc x = st0.loc x) ∧
    (∀ x, Foot S L r.d.comp x → ls.st.loc x = r.post.loc x) ∧
    alookup (ls.st.sched L.name).wake r.d.comp =
      r.ca.orElse (fun _ => alookup (st0.sched L.name).wake r.d.comp)
  untouched : ∀ x, x ≠ L.name → (∀ r ∈ recs, ¬ Foot S L r.d.comp x) → ls.st.loc x = st0.loc x
  own : (ls.st.loc L.name).dev = (st0.loc L.name).dev ∧ (ls.st.loc L.name).cnt = (st0.loc L.name).cnt ∧
    (ls.st.loc L.name).ob = (st0.loc L.name).ob ∧
    (ls.st.sched L.name).interrupts = (st0.sched L.name).interrupts ∧
    (ls.st.sched L.name).firstDone = (st0.sched L.name).firstDone
  own_unique : UniqueKeys (st0.sched L.name).wake → UniqueKeys (ls.st.sched L.name).wake
  wake_other : ∀ a, (∀ r ∈ recs, r.d.comp ≠ a) →
    alookup (ls.st.sched L.name).wake a = alookup (st0.sched L.name).wake a
  outch : ls.outCh = outOf L recs

section

variable {S : Static} {orc : Oracle} {inner : LevelRel}

theorem sysPre_eqOn (hS : S.Valid) {L : Level} {c : Comp} (hpar : alookup S.parent c = some L.name)
    {σ1 σ2 : SimSt} (hσ : ∀ x, Foot S L c x → (σ1.loc x).Equiv (σ2.loc x)) (t : SimTime) :
    (σ1.sched c).Equiv (σ2.sched c) ∧ EqOn (AtOrBelow S c) (sysPre σ1 c t) (sysPre σ2 c t) := by
  have hfoot : ∀ x, AtOrBelow S c x → Foot S L c x := fun x hx => hx.foot hS hpar
  have hc := hσ c (hfoot c (Or.inl rfl))
  refine ⟨hc.sch, fun x hx => ?_⟩
  by_cases hxc : x = c
  · subst hxc
    rw [loc_sysPre_self, loc_sysPre_self]
    exact ⟨hc.ins, hc.outs, hc.cnt, sysPreSched_equiv hc.sch t, hc.ob⟩
  · rw [loc_sysPre_ne _ _ _ hxc, loc_sysPre_ne _ _ _ hxc]
    exact hσ x (hfoot x hx)

theorem Inv2.init {L : Level} {inCh : List (Port × V)} {t : SimTime} {roots : List Comp}
    {st : SimSt} {tk : Ticker V} {ds : List (Dispatch V)}
    (hcall : (Ticker.call L.wiring t roots : Except TickErr (Ticker V × List (Dispatch V))) = .ok (tk, ds)) :
    Inv2 S orc inner L inCh t roots st ⟨tk, ds, [], st⟩ (ds.map Ev.dispatch) [] := by
  obtain ⟨hpre, _, htime, hroots, _⟩ := PreInv.call hcall
  exact
    { pre := hpre
      time := htime
      troots := hroots
      eq := TrPre.call hcall
      ins := Det.InsInv.call hcall
      recs_tr := by simp
      recs_ok := fun _ h => nomatch h
      untouched := fun _ _ _ => rfl
      own := ⟨rfl, rfl, rfl, rfl, rfl⟩
      own_unique := fun h => h
      wake_other := fun _ _ => rfl
      outch := rfl }

theorem Inv2.pending {L : Level} {inCh : List (Port × V)} {t : SimTime} {roots : List Comp}
    {st0 : SimSt} {ls : LoopSt} {tr : List (Ev V)} {recs : List AnsRec}
    (inv : Inv2 S orc inner L inCh t roots st0 ls tr recs) {d : Dispatch V} (hd : d ∈ ls.pending) :
    Ev.dispatch d ∈ tr ∧ d.comp ∈ L.wiring.components ∧ Det.InsNodup d ∧
      ∀ r ∈ recs, r.d.comp ≠ d.comp := by
  have hdtr := inv.pre.pend_trace d hd
  refine ⟨hdtr, (Wiring.ups_isSome_iff' L.wiring d.comp).1 (inv.eq.ups d hdtr), inv.ins.2 _ hdtr,
    fun r hr he => ?_⟩
  exact inv.pre.not_answered hd r.ch (he ▸ (inv.recs_tr r.d.comp r.ch).2 ⟨r, hr, rfl, rfl⟩)

theorem Inv2.rec_dispatch {L : Level} {inCh : List (Port × V)} {t : SimTime}
    {roots : List Comp} {st0 : SimSt} {ls : LoopSt} {tr : List (Ev V)} {recs : List AnsRec}
    (inv : Inv2 S orc inner L inCh t roots st0 ls tr recs) {r : AnsRec} (hr : r ∈ recs) :
    dispatchOf tr r.d.comp = some r.d :=
  dispatchOf_eq_of_mem (inv.pre.count _).1 (inv.recs_ok r hr).1

theorem Inv2.rec_of_answer {L : Level} {inCh : List (Port × V)} {t : SimTime}
    {roots : List Comp} {st0 : SimSt} {ls : LoopSt} {tr : List (Ev V)} {recs : List AnsRec}
    (inv : Inv2 S orc inner L inCh t roots st0 ls tr recs) {a : Comp} {ch : List (Port × V)}
    (h : Ev.answer a ch ∈ tr) :
    ∃ r ∈ recs, r.d.comp = a ∧ r.ch = ch ∧ dispatchOf tr a = some r.d := by
  obtain ⟨r, hr, h1, h2⟩ := (inv.recs_tr a ch).1 h
  exact ⟨r, hr, h1, h2, h1 ▸ inv.rec_dispatch hr⟩

theorem Inv2.rec_of_dispatched {L : Level} {inCh : List (Port × V)} {t : SimTime}
    {roots : List Comp} {st0 : SimSt} {ls : LoopSt} {tr : List (Ev V)} {recs : List AnsRec}
    (inv : Inv2 S orc inner L inCh t roots st0 ls tr recs) (hf : ls.tk.toUpdate = []) {c : Comp}
    {d : Dispatch V} (hd : dispatchOf tr c = some d) : ∃ r ∈ recs, r.d = d := by
  have hext : c ∈ extent L.wiring roots := by
    obtain ⟨hm, rfl⟩ := dispatchOf_eq_some hd
    exact (inv.pre.disp_ext d hm).1
  obtain ⟨ch, hch⟩ := (inv.pre.resolved c hext).1 (by rw [hf]; rfl)
  obtain ⟨r, hr, _, _, hdo⟩ := inv.rec_of_answer hch
  rw [hd] at hdo
  exact ⟨r, hr, (Option.some.inj hdo).symm⟩

theorem Inv2.step (hS : S.Valid)
    (hin : ∀ c t ro i s r, inner c t ro i s r → LevelPost1 S c s r)
    {L : Level} (hL : L ∈ S.levels) {inCh : List (Port × V)} (hinCh : (akeys inCh).Nodup)
    {t : SimTime} {roots : List Comp} {st0 : SimSt} {ls : LoopSt} {tr : List (Ev V)}
    {recs : List AnsRec} (inv : Inv2 S orc inner L inCh t roots st0 ls tr recs)
    {i : Nat} {d : Dispatch V} (hd : ls.pending[i]? = some d)
    {st' : SimSt} {ch : List (Port × V)} {ca : Option SimTime}
    (ha : AnsP S orc inner L inCh ls.st d (st', ch, ca))
    {tk' : Ticker V} {ds : List (Dispatch V)}
    (hprop : ls.tk.propagate L.wiring d.comp d.time ch = .ok (tk', ds)) :
    Inv2 S orc inner L inCh t roots st0
      ⟨tk', ls.pending.eraseIdx i ++ ds, (exposeIns L d).getD ls.outCh, anyWake st' L.name d.comp ca⟩
      (tr ++ [Ev.answer d.comp ch] ++ ds.map Ev.dispatch) (recs ++ [⟨d, ls.st, st', ch, ca⟩]) := by
  have hw := hS.routerOK hL
  have hdm : d ∈ ls.pending := List.mem_of_getElem? hd
  obtain ⟨hdtr, hdc, _, hrne⟩ := inv.pending hdm
  obtain ⟨hpre, _, htk, hroots⟩ := inv.pre.propagate inv.time hd hprop
  have hdisj : ∀ r ∈ recs, ∀ x, Foot S L r.d.comp x → ¬ Foot S L d.comp x :=
    fun r hr x h1 h2 => hrne r hr (Foot.unique hS h1 h2)
  -- outside the level's own key the new state is `st'`, which differs from the old one on the
  -- footprint of `d.comp` only; under the level's own key the wakeup entry of `d.comp` is set
  have hout : ∀ x, x ≠ L.name → (anyWake st' L.name d.comp ca).loc x = st'.loc x :=
    fun x hx => loc_anyWake_ne _ _ _ _ hx
  have hframe : ∀ x, ¬ Foot S L d.comp x → st'.loc x = ls.st.loc x :=
    fun x hx => ha.frame_foot hS hin hL hdc hx
  have hown : (anyWake st' L.name d.comp ca).loc L.name =
      { ls.st.loc L.name with sch := wakeUpd (ls.st.sched L.name) d.comp ca } := by
    rw [loc_anyWake_self, hframe _ (fun h => Foot.ne_level hS h rfl)]
    exact congrArg (fun s => { ls.st.loc L.name with sch := wakeUpd s d.comp ca })
      (congrArg SLoc.sch (hframe _ (fun h => Foot.ne_level hS h rfl)))
  have hnewL : (anyWake st' L.name d.comp ca).sched L.name = wakeUpd (ls.st.sched L.name) d.comp ca :=
    congrArg SLoc.sch hown
  have hnew : ∀ r, r ∈ recs ++ [(⟨d, ls.st, st', ch, ca⟩ : AnsRec)] → r ∈ recs ∨ r = ⟨d, ls.st, st', ch, ca⟩ :=
    fun r hr => (List.mem_append.1 hr).imp_right List.mem_singleton.1
  obtain ⟨o1, o2, o3, o4, o5⟩ := inv.own
  exact
    { pre := hpre
      time := htk
      troots := hroots.trans inv.troots
      eq := inv.eq.propagate hw inv.pre inv.time inv.troots hdm (ha.nodup hin hinCh) hprop
      ins := inv.ins.propagate hw hprop
      recs_tr := by
        intro a c'
        simp only [List.mem_append, List.mem_singleton, List.mem_map, reduceCtorEq, and_false,
          exists_false, or_false, Ev.answer.injEq]
        constructor
        · rintro (h | ⟨rfl, rfl⟩)
          · obtain ⟨r, hr, h1, h2⟩ := (inv.recs_tr a c').1 h
            exact ⟨r, Or.inl hr, h1, h2⟩
          · exact ⟨_, Or.inr rfl, rfl, rfl⟩
        · rintro ⟨r, hr | rfl, h1, h2⟩
          · exact Or.inl ((inv.recs_tr a c').2 ⟨r, hr, h1, h2⟩)
          · exact Or.inr ⟨h1.symm, h2.symm⟩
      recs_ok := by
        intro r hr
        rcases hnew r hr with hr | rfl
        · obtain ⟨h1, h2, h3, h4, h5⟩ := inv.recs_ok r hr
          refine ⟨List.mem_append_left _ (List.mem_append_left _ h1), h2, h3, fun x hx =>
            (hout x (Foot.ne_level hS hx)).trans ((hframe x (hdisj r hr x hx)).trans (h4 x hx)), ?_⟩
          show alookup ((anyWake st' L.name d.comp ca).sched L.name).wake r.d.comp = _
          rw [hnewL, wakeUpd_lookup, if_neg (hrne r hr)]
          exact h5
        · refine ⟨List.mem_append_left _ (List.mem_append_left _ hdtr), ha, fun x hx =>
            inv.untouched x (Foot.ne_level hS hx) (fun r hr h => hdisj r hr x h hx),
            fun x hx => hout x (Foot.ne_level hS hx), ?_⟩
          show alookup ((anyWake st' L.name d.comp ca).sched L.name).wake d.comp = _
          rw [hnewL, wakeUpd_lookup, if_pos rfl, inv.wake_other d.comp hrne]
      untouched := fun x hx hno =>
        (hout x hx).trans ((hframe x (hno _ (List.mem_append_right _ (.head _)))).trans
          (inv.untouched x hx (fun r hr => hno r (List.mem_append_left _ hr))))
      own := ⟨(congrArg SLoc.dev hown).trans o1, (congrArg SLoc.cnt hown).trans o2,
        (congrArg SLoc.ob hown).trans o3,
        (congrArg SchedSt.interrupts hnewL).trans ((wakeUpd_rest _ _ _).1.trans o4),
        (congrArg SchedSt.firstDone hnewL).trans ((wakeUpd_rest _ _ _).2.trans o5)⟩
      own_unique := fun h => hnewL ▸ wakeUpd_unique (inv.own_unique h) _ _
      wake_other := by
        intro a hno
        have had : a ≠ d.comp := fun h => hno _ (List.mem_append_right _ (.head _)) h.symm
        show alookup ((anyWake st' L.name d.comp ca).sched L.name).wake a = _
        rw [hnewL, wakeUpd_lookup, if_neg had]
        exact inv.wake_other a (fun r hr => hno r (List.mem_append_left _ hr))
      outch := by rw [outOf_append_one, ← inv.outch] }

/-- the one door through which `Lemmas/AnyDet.lean`, `Lemmas/AnyLive.lean` and
`Props/C01NestedAny.lean` read a complete execution of a level: its final loop state has `Inv2` -/
theorem LevelP.fin_inv2 (hS : S.Valid)
    (hin : ∀ c t ro i s r, inner c t ro i s r → LevelPost1 S c s r)
    {lvl : Comp} {t : SimTime} {roots : List Comp} {inCh : List (Port × V)}
    (hinCh : (akeys inCh).Nodup) {st : SimSt} {r : SimSt × List (Port × V)}
    (h : LevelP S orc inner lvl t roots inCh st r) :
    ∃ L ls tr recs, S.level lvl = some L ∧ L ∈ S.levels ∧ L.name = lvl ∧
      Inv2 S orc inner L inCh t roots st ls tr recs ∧ ls.tk.toUpdate = [] ∧
      r = (ls.st, ls.outCh) := by
  obtain ⟨L, tk, ds, hLv, hcall, hl⟩ := h
  obtain ⟨hL, hname⟩ := Static.level_some hLv
  obtain ⟨ls, ⟨tr, recs, inv⟩, _, hf, hr⟩ :=
    hl.invariant (I := fun ls => ∃ tr recs, Inv2 S orc inner L inCh t roots st ls tr recs)
      (fun ⟨_, _, inv⟩ h1 h2 h3 => ⟨_, _, inv.step hS hin hL hinCh h1 h2 h3⟩)
      ⟨_, _, Inv2.init hcall⟩
  exact ⟨L, ls, tr, recs, hLv, hL, hname, inv, hf, hr⟩

end

end Tickit
