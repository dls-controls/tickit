/-
Lemmas for the resource-annotated master run loop (`Core/MasterLoopRes.lean`): erasure to the
flag protocol, the inductive resource invariant, the growth of the pre-repair variant.
-/
import TickitModel.Core.MasterLoopRes
import TickitModel.Lemmas.MasterLoopLemmas

namespace Tickit

/-- the states reached are written out field by field (`choose`, `loseCurrent`, `loseNew`,
`serveFirst` unfolded), so that `ResBase.step` compares the counters branch by branch. -/
inductive MResSt.Step (cancelLoser : Bool) (s : MResSt) : MResAct → MResSt → Prop
  | add (c : Comp) (t : SimTime) : s.st.pc ≠ .dead →
      Step cancelLoser s (.loop (.addWakeup c t)) (s.addWakeup c t)
  | interrupt (c : Comp) (t : SimTime) : s.st.pc ≠ .dead →
      Step cancelLoser s (.interrupt c t) { s.addWakeup c t with irq := sinsert s.irq c }
  | observe : s.st.pc.isRacing = true → s.st.flag = true →
      Step cancelLoser s (.loop .newTaskRuns)
        { s with st := { s.st with flagTaskDone := true }
                 raceNew := if s.st.flagTaskDone then s.raceNew else s.raceNew - 1 }
  | expire (cs : List Comp) (w : SimTime) : s.st.pc = .sleeping cs w →
      Step cancelLoser s (.loop .sleepExpires)
        { s with st := { s.st with pc := .sleptNotResumed cs w }
                 raceCur := s.raceCur - 1, raceTimer := s.raceTimer - 1 }
  | idle : s.st.pc = .top → s.st.wake = [] →
      Step cancelLoser s (.loop .step) { s with st := { s.st with flag := false, pc := .waiting } }
  | choose (cs : List Comp) (w : SimTime) : s.st.pc = .top →
      firstWakeups s.st.wake = (cs, some w) →
      Step cancelLoser s (.loop .step)
        { s with st := { s.st with flag := false, flagTaskDone := false, pc := .sleeping cs w }
                 raceNew := s.raceNew + 1, raceCur := s.raceCur + 1
                 raceTimer := s.raceTimer + 1 }
  | woken : s.st.pc = .waiting → s.st.flag = true →
      Step cancelLoser s (.loop .step) { s with st := { s.st with pc := .top } }
  | preempted (cs : List Comp) (w : SimTime) : s.st.pc = .sleeping cs w →
      s.st.flagTaskDone = true →
      Step cancelLoser s (.loop .step)
        { s with st := { s.st with pc := .top }
                 raceCur := s.raceCur - 1, raceTimer := s.raceTimer - 1
                 orphanCur := s.orphanCur + (if cancelLoser then 0 else 1)
                 orphanTimer := s.orphanTimer + (if cancelLoser then 0 else 1) }
  | both (cs : List Comp) (w : SimTime) : s.st.pc = .sleptNotResumed cs w →
      s.st.flagTaskDone = true →
      Step cancelLoser s (.loop .step) { s with st := { s.st with pc := .top } }
  | serve (cs cs' : List Comp) (w w' : SimTime) : s.st.pc = .sleptNotResumed cs w →
      s.st.flagTaskDone = false → firstWakeups s.st.wake = (cs', some w') →
      Step cancelLoser s (.loop .step)
        { s with st := { s.st with wake := delWakeups s.st.wake cs', pc := .ticking cs' w' }
                 raceNew := s.raceNew - 1
                 orphanNew := s.orphanNew + (if cancelLoser || s.st.flag then 0 else 1)
                 irq := s.irq.filter (fun c => c ∉ cs') }
  | serveDead (cs cs' : List Comp) (w : SimTime) : s.st.pc = .sleptNotResumed cs w →
      s.st.flagTaskDone = false → firstWakeups s.st.wake = (cs', none) →
      Step cancelLoser s (.loop .step)
        { s with st := { s.st with pc := .dead }
                 raceNew := s.raceNew - 1
                 orphanNew := s.orphanNew + (if cancelLoser || s.st.flag then 0 else 1) }
  | done (cs : List Comp) (w : SimTime) : s.st.pc = .ticking cs w →
      Step cancelLoser s (.loop .step) { s with st := { s.st with pc := .top } }
  | orphan : 0 < s.orphanCur →
      Step cancelLoser s .orphanSleepExpires
        { s with orphanCur := s.orphanCur - 1, orphanTimer := s.orphanTimer - 1 }

theorem MResSt.loseCurrent_eq (c : Bool) (s : MResSt) : s.loseCurrent c =
    { s with raceCur := s.raceCur - 1, raceTimer := s.raceTimer - 1
             orphanCur := s.orphanCur + (if c then 0 else 1)
             orphanTimer := s.orphanTimer + (if c then 0 else 1) } := by
  cases c <;> rfl

theorem MResSt.loseNew_eq (c : Bool) (s : MResSt) : s.loseNew c =
    { s with raceNew := s.raceNew - 1
             orphanNew := s.orphanNew + (if c || s.st.flag then 0 else 1) } := by
  unfold MResSt.loseNew
  cases c || s.st.flag <;> rfl

theorem MResSt.Step.of_step {cancelLoser : Bool} {s s' : MResSt} {a : MResAct}
    (hs : s.step cancelLoser a = some s') : MResSt.Step cancelLoser s a s' := by
  cases a with
  | orphanSleepExpires =>
    obtain ⟨h0, hs⟩ := Option.ite_none_right_eq_some.mp hs
    cases hs; exact .orphan h0
  | interrupt c t =>
    obtain ⟨hd, hs⟩ := Option.ite_none_left_eq_some.mp hs
    cases hs; exact .interrupt c t hd
  | loop a =>
    cases a with
    | addWakeup c t =>
      obtain ⟨hd, hs⟩ := Option.ite_none_left_eq_some.mp hs
      cases hs; exact .add c t hd
    | newTaskRuns =>
      obtain ⟨hc, hs⟩ := Option.ite_none_right_eq_some.mp hs
      cases hs
      rw [Bool.and_eq_true] at hc
      exact .observe hc.1 hc.2
    | sleepExpires =>
      cases hpc : s.st.pc <;> simp only [MResSt.step, hpc] at hs <;> cases hs
      exact .expire _ _ hpc
    | step =>
      cases hpc : s.st.pc <;> simp only [MResSt.step, hpc] at hs
      · by_cases hw : s.st.wake = []
        · rw [if_pos hw] at hs; cases hs; exact .idle hpc hw
        · rw [if_neg hw] at hs
          cases hs
          obtain ⟨cs, w, hf⟩ := firstWakeups_some_of_ne_nil _ hw
          have := MResSt.Step.choose (cancelLoser := cancelLoser) cs w hpc hf
          simpa only [MResSt.choose, MLoopSt.choose, hf] using this
      · obtain ⟨hf, hs⟩ := Option.ite_none_right_eq_some.mp hs
        cases hs; exact .woken hpc hf
      · obtain ⟨hd, hs⟩ := Option.ite_none_right_eq_some.mp hs
        cases hs
        rw [MResSt.loseCurrent_eq]
        exact .preempted _ _ hpc hd
      · rename_i cs w
        cases hd : s.st.flagTaskDone
        · rw [if_neg (Bool.eq_false_iff.mp hd)] at hs
          cases hs
          rw [MResSt.loseNew_eq]
          cases hf : firstWakeups s.st.wake with
          | mk cs' o =>
            cases o with
            | some w' =>
              have := MResSt.Step.serve (cancelLoser := cancelLoser) cs cs' w w' hpc hd hf
              simpa only [MResSt.serveFirst, MLoopSt.serveFirst, hf] using this
            | none =>
              have := MResSt.Step.serveDead (cancelLoser := cancelLoser) cs cs' w hpc hd hf
              simpa only [MResSt.serveFirst, MLoopSt.serveFirst, hf] using this
        · rw [if_pos hd] at hs; cases hs; exact .both _ _ hpc hd
      · cases hs; exact .done _ _ hpc
      · cases hs

theorem MResSt.run_eq_runOpt (cancelLoser : Bool) (s : MResSt) (acts : List MResAct) :
    s.run cancelLoser acts = runOpt (MResSt.step cancelLoser) s acts :=
  eq_runOpt_of_rec (fun _ => rfl)
    (fun s a _ => by rw [MResSt.run]; cases s.step cancelLoser a <;> rfl) s acts

theorem MResSt.run_append (c : Bool) (s : MResSt) (l1 l2 : List MResAct) :
    s.run c (l1 ++ l2) = (s.run c l1).run c l2 := by
  simp only [MResSt.run_eq_runOpt, runOpt_append]

theorem MResSt.choose_st (s : MResSt) : s.choose.st = s.st.choose := by
  unfold MResSt.choose
  split <;> rfl

theorem MResSt.serveFirst_st (s : MResSt) : s.serveFirst.st = s.st.serveFirst := by
  unfold MResSt.serveFirst
  split <;> rfl

theorem MResSt.step_erase (cancelLoser : Bool) (s : MResSt) (a : MResAct) (b : MLoopAct)
    (h : a.erase = some b) : (s.step cancelLoser a).map (·.st) = s.st.step true b := by
  cases a with
  | orphanSleepExpires => cases h
  | interrupt c t =>
    cases h
    exact (apply_ite (Option.map _) _ _ _).trans rfl
  | loop a =>
    cases h
    cases b with
    | addWakeup c t => exact (apply_ite (Option.map _) _ _ _).trans rfl
    | newTaskRuns => exact (apply_ite (Option.map _) _ _ _).trans rfl
    | sleepExpires =>
      cases hpc : s.st.pc <;> simp only [MResSt.step, MLoopSt.step, hpc] <;> rfl
    | step =>
      cases hpc : s.st.pc <;> simp only [MResSt.step, MLoopSt.step, hpc, if_true]
      · rw [apply_ite (Option.map _), Option.map_some, Option.map_some, MResSt.choose_st]
      · exact (apply_ite (Option.map _) _ _ _).trans rfl
      · rw [apply_ite (Option.map _), Option.map_some, MResSt.loseCurrent_eq]; rfl
      · rw [apply_ite (Option.map _), Option.map_some, Option.map_some, MResSt.serveFirst_st,
          MResSt.loseNew_eq]
      · rfl
      · rfl

theorem MResSt.step_erase_none {cancelLoser : Bool} {s s' : MResSt} {a : MResAct}
    (h : a.erase = none) (hs : s.step cancelLoser a = some s') : s'.st = s.st := by
  cases a with
  | orphanSleepExpires =>
    obtain ⟨-, hs⟩ := Option.ite_none_right_eq_some.mp hs
    cases hs
    rfl
  | interrupt | loop => cases h

/-- whatever `MLoopSt.step true` keeps lifts along `st` (`StepOpt.inv`). -/
theorem MResSt.step_st {cancelLoser : Bool} {s s' : MResSt} {a : MResAct}
    (hs : s.step cancelLoser a = some s') : StepOpt (MLoopSt.step true) s.st a.erase s'.st :=
  StepOpt.of_erase (f := (·.st)) (MResSt.step_erase cancelLoser) MResSt.step_erase_none hs

theorem MResSt.run_erase (cancelLoser : Bool) (s : MResSt) (acts : List MResAct) :
    (s.run cancelLoser acts).st = s.st.run true (acts.filterMap MResAct.erase) := by
  rw [MResSt.run_eq_runOpt, MLoopSt.run_eq_runOpt]
  exact runOpt_filterMap (MResSt.step_erase cancelLoser) MResSt.step_erase_none s acts

/-- the sleep of the race is still running -/
def MLoopPc.curLive : MLoopPc → Nat
  | .sleeping _ _ => 1
  | _ => 0

/-- the waiter of the race has not finished -/
def MLoopSt.newLive (st : MLoopSt) : Nat := if st.pc.isRacing && !st.flagTaskDone then 1 else 0

/-- the part of the invariant that holds with and without cancellation of the loser. -/
structure ResBase (s : MResSt) : Prop where
  loop : LoopBase s.st
  cur : s.raceCur = s.st.pc.curLive
  timer : s.raceTimer = s.st.pc.curLive
  new : s.raceNew = s.st.newLive
  keysAdded : ∀ c ∈ s.st.wake.map (·.1), c ∈ s.everAdded
  addedNodup : s.everAdded.Nodup
  irqKeys : ∀ c ∈ s.irq, c ∈ s.st.wake.map (·.1)
  irqNodup : s.irq.Nodup

theorem ResBase.init : ResBase {} :=
  ⟨LoopBase.init, rfl, rfl, rfl, (fun _ h => nomatch h), List.nodup_nil, (fun _ h => nomatch h),
    List.nodup_nil⟩

theorem ResBase.addWakeup {s : MResSt} (h : ResBase s) (hl : LoopBase (s.addWakeup c t).st) :
    ResBase (s.addWakeup c t) := by
  refine ⟨hl, h.cur, h.timer, h.new, ?_, nodup_sinsert h.addedNodup, ?_, h.irqNodup⟩
  · intro x hx
    refine mem_sinsert.mpr ?_
    exact (mem_akeys_upsert.mp hx).symm.imp_left (h.keysAdded x)
  · intro x hx
    exact mem_akeys_upsert.mpr (Or.inr (h.irqKeys x hx))

theorem ResBase.step {cancelLoser : Bool} {s s' : MResSt} {a : MResAct} (h : ResBase s)
    (hs : s.step cancelLoser a = some s') : ResBase s' := by
  have hl : LoopBase s'.st := (MResSt.step_st hs).inv LoopBase.step h.loop
  -- the counters of the race are functions of the control state: put these in for them, and
  -- in every branch both sides of `cur`, `timer`, `new` compute to the same number
  obtain ⟨⟨wake, flag, pc, done⟩, rn, rc, rt, on, oc, ot, irq, ea⟩ := s
  obtain ⟨hc, ht, hn⟩ := And.intro h.cur (And.intro h.timer h.new)
  dsimp only at hc ht hn
  subst hc ht hn
  have ha := fun c t hl => h.addWakeup (c := c) (t := t) hl
  obtain ⟨hloop, -, -, -, hka, han, hik, hin⟩ := h
  have hu := hloop.uniq
  have hstep := MResSt.Step.of_step hs
  clear hs hloop
  cases hstep with
  | add c t => exact ha c t hl
  | interrupt c t =>
    have hb := ha c t hl
    refine ⟨hl, rfl, rfl, rfl, hb.keysAdded, hb.addedNodup, ?_, nodup_sinsert hin⟩
    intro x hx
    rcases mem_sinsert.mp hx with hx | rfl
    · exact hb.irqKeys x hx
    · exact mem_akeys_upsert.mpr (Or.inl rfl)
  | observe hr =>
    cases hr' : pc.isRacing
    · cases hr.symm.trans hr'
    · refine ⟨hl, rfl, rfl, ?_, hka, han, hik, hin⟩
      simp only [MLoopSt.newLive, hr']
      cases done <;> rfl
  | expire _ _ hpc | idle hpc | choose _ _ hpc | woken hpc | done _ _ hpc =>
    cases hpc
    exact ⟨hl, rfl, rfl, rfl, hka, han, hik, hin⟩
  | preempted _ _ hpc hd | both _ _ hpc hd | serveDead _ _ _ hpc hd =>
    cases hpc; cases hd
    exact ⟨hl, rfl, rfl, rfl, hka, han, hik, hin⟩
  | orphan => exact ⟨hl, rfl, rfl, rfl, hka, han, hik, hin⟩
  | serve cs cs' w w' hpc hd hf =>
    cases hpc; cases hd
    refine ⟨hl, rfl, rfl, rfl, ?_, han, ?_, List.Nodup.sublist List.filter_sublist hin⟩
    · intro x hx
      exact hka x ((mem_akeys_delWakeups_iff _ hu cs' x).mp hx).1
    · intro x hx
      rw [List.mem_filter] at hx
      exact (mem_akeys_delWakeups_iff _ hu cs' x).mpr ⟨hik x hx.1, of_decide_eq_true hx.2⟩

theorem ResBase.run {cancelLoser : Bool} {s : MResSt} (h : ResBase s) (acts : List MResAct) :
    ResBase (s.run cancelLoser acts) :=
  MResSt.run_eq_runOpt .. ▸ runOpt_induction ResBase.step h acts

theorem MLoopPc.curLive_le (p : MLoopPc) : p.curLive ≤ 1 := by
  cases p <;> first | exact Nat.le_refl 1 | exact Nat.zero_le 1

theorem MLoopSt.newLive_le (st : MLoopSt) : st.newLive ≤ 1 := by
  unfold MLoopSt.newLive
  split <;> decide

theorem MLoopPc.curLive_of_not_racing {p : MLoopPc} (h : p.isRacing = false) : p.curLive = 0 := by
  cases p <;> first | rfl | cases h

theorem MLoopSt.newLive_of_not_racing {st : MLoopSt} (h : st.pc.isRacing = false) :
    st.newLive = 0 := by
  rw [MLoopSt.newLive, h]
  rfl

theorem ResBase.wake_le {s : MResSt} (h : ResBase s) : s.st.wake.length ≤ s.everAdded.length := by
  have := List.Nodup.length_le_of_subset h.loop.uniq (fun x hx => h.keysAdded x hx)
  rwa [List.length_map] at this

theorem ResBase.irq_le {s : MResSt} (h : ResBase s) : s.irq.length ≤ s.st.wake.length := by
  have := List.Nodup.length_le_of_subset h.irqNodup (fun x hx => h.irqKeys x hx)
  rwa [List.length_map] at this

theorem MResSt.step_orphans_true {s s' : MResSt} {a : MResAct} (hs : s.step true a = some s') :
    s'.orphanNew ≤ s.orphanNew ∧ s'.orphanCur ≤ s.orphanCur ∧ s'.orphanTimer ≤ s.orphanTimer := by
  cases MResSt.Step.of_step hs with
  | add | interrupt => exact ⟨Nat.zero_le _, Nat.le_refl _, Nat.le_refl _⟩
  | orphan => exact ⟨Nat.le_refl _, Nat.sub_le _ _, Nat.sub_le _ _⟩
  | _ => exact ⟨Nat.le_refl _, Nat.le_refl _, Nat.le_refl _⟩

theorem MResSt.run_orphans_true (s : MResSt) (acts : List MResAct) :
    (s.run true acts).orphanNew ≤ s.orphanNew ∧ (s.run true acts).orphanCur ≤ s.orphanCur ∧
    (s.run true acts).orphanTimer ≤ s.orphanTimer :=
  MResSt.run_eq_runOpt .. ▸ runOpt_induction
    (P := fun u => u.orphanNew ≤ s.orphanNew ∧ u.orphanCur ≤ s.orphanCur ∧
      u.orphanTimer ≤ s.orphanTimer)
    (fun h hs =>
      have h' := MResSt.step_orphans_true hs
      ⟨Nat.le_trans h'.1 h.1, Nat.le_trans h'.2.1 h.2.1, Nat.le_trans h'.2.2 h.2.2⟩)
    ⟨Nat.le_refl _, Nat.le_refl _, Nat.le_refl _⟩ acts

theorem MResSt.step_everAdded {cancelLoser : Bool} {s s' : MResSt} {a : MResAct}
    (hs : s.step cancelLoser a = some s') :
    ∀ x ∈ s'.everAdded, x ∈ s.everAdded ∨ x ∈ addedComps [a] := by
  cases MResSt.Step.of_step hs with
  | add c t | interrupt c t =>
    intro x hx
    exact (mem_sinsert.mp hx).imp_right fun h => mem_sinsert.mpr (Or.inr h)
  | _ => exact fun x hx => Or.inl hx

theorem addedComps_cons (a : MResAct) (as : List MResAct) (x : Comp) :
    x ∈ addedComps (a :: as) ↔ x ∈ addedComps [a] ∨ x ∈ addedComps as := by
  cases a with
  | orphanSleepExpires => simp [addedComps]
  | interrupt c t => simp [addedComps, mem_sinsert, or_comm]
  | loop a => cases a <;> simp [addedComps, mem_sinsert, or_comm]

theorem addedComps_nodup (acts : List MResAct) : (addedComps acts).Nodup := by
  induction acts with
  | nil => exact List.nodup_nil
  | cons a as ih =>
    cases a with
    | orphanSleepExpires => exact ih
    | interrupt c t => exact nodup_sinsert ih
    | loop a => cases a <;> first | exact nodup_sinsert ih | exact ih

theorem MResSt.run_everAdded (cancelLoser : Bool) (s : MResSt) (acts : List MResAct) :
    ∀ x ∈ (s.run cancelLoser acts).everAdded, x ∈ s.everAdded ∨ x ∈ addedComps acts := by
  induction acts generalizing s with
  | nil => intro x hx; exact Or.inl hx
  | cons a as ih =>
    intro x hx
    simp only [MResSt.run] at hx
    rw [addedComps_cons]
    split at hx
    · rename_i s' hs
      rcases ih s' x hx with h | h
      · exact (MResSt.step_everAdded hs x h).imp_right Or.inl
      · exact Or.inr (Or.inr h)
    · exact (ih s x hx).imp_right Or.inr

/-! ### without cancellation: every pre-emption of a far sleep abandons a task and a timer -/

/-- at the top of `_do_tick`, the callback of `far` the only wakeup, no race in progress. -/
def MResSt.FarOnly (far : Comp) (T : SimTime) (s : MResSt) : Prop :=
  s.st.pc = .top ∧ s.st.wake = [(far, T)] ∧ s.raceNew = 0 ∧ s.raceCur = 0 ∧ s.raceTimer = 0

theorem preemptRound_run {far dev : Comp} {T t : SimTime} (hne : far ≠ dev) (hlt : t < T)
    {s : MResSt} (h : s.FarOnly far T) :
    (s.run false (preemptRound dev t)).FarOnly far T ∧
    (s.run false (preemptRound dev t)).orphanCur = s.orphanCur + 1 ∧
    (s.run false (preemptRound dev t)).orphanTimer = s.orphanTimer + 1 := by
  obtain ⟨hpc, hw, h1, h2, h3⟩ := h
  -- run the eight actions symbolically (the states are told in the docstring of `preemptRound`);
  -- `hfs`, `hadd`, `hfp`, `hdel` are the table computations on the way
  have hfs : firstWakeups [(far, T)] = ([far], some T) := by simp [firstWakeups, minTime]
  have hfp : firstWakeups [(far, T), (dev, t)] = ([dev], some t) := by
    have h1 : ¬ T ≤ t := Int.not_le.mpr hlt
    have h2 : ¬ T = t := fun h => by subst h; exact Int.lt_irrefl _ hlt
    simp [firstWakeups, minTime, h1, h2]
  have hadd : addWakeup [(far, T)] dev t = [(far, T), (dev, t)] := by simp [addWakeup, upsert, hne]
  have hdel : delWakeups [(far, T), (dev, t)] [dev] = [(far, T)] := by
    simp [delWakeups, aerase, hne]
  simp [MResSt.FarOnly, preemptRound, MResSt.run, MResSt.step, hpc, hw, MResSt.choose,
    MLoopSt.choose, hfs, hfp, hadd, hdel,
    MResSt.addWakeup, MLoopPc.isRacing, MResSt.loseCurrent, MResSt.loseNew, MResSt.serveFirst,
    MLoopSt.serveFirst, h1, h2, h3]

theorem preemptRounds_run {far dev : Comp} {T t : SimTime} (hne : far ≠ dev) (hlt : t < T)
    (n : Nat) {s : MResSt} (h : s.FarOnly far T) :
    (s.run false (List.replicate n (preemptRound dev t)).flatten).FarOnly far T ∧
    (s.run false (List.replicate n (preemptRound dev t)).flatten).orphanCur = s.orphanCur + n ∧
    (s.run false (List.replicate n (preemptRound dev t)).flatten).orphanTimer
      = s.orphanTimer + n := by
  induction n generalizing s with
  | zero => exact ⟨h, rfl, rfl⟩
  | succ n ih =>
    obtain ⟨hf, hc, ht⟩ := preemptRound_run (dev := dev) (t := t) hne hlt h
    obtain ⟨hf', hc', ht'⟩ := ih hf
    rw [List.replicate_succ, List.flatten_cons, MResSt.run_append]
    refine ⟨hf', ?_, ?_⟩
    · rw [hc', hc, Nat.add_assoc, Nat.add_comm 1]
    · rw [ht', ht, Nat.add_assoc, Nat.add_comm 1]

theorem preemptHistory_run (far dev : Comp) (T t : SimTime) (hne : far ≠ dev) (hlt : t < T)
    (n : Nat) :
    (({} : MResSt).run false (preemptHistory far dev T t n)).orphanCur = n ∧
    (({} : MResSt).run false (preemptHistory far dev T t n)).orphanTimer = n ∧
    (({} : MResSt).run false (preemptHistory far dev T t n)).st.pc = .top := by
  have h0 : ({} : MResSt).run false (preemptHistory far dev T t n) =
      (({} : MResSt).addWakeup far T).run false (List.replicate n (preemptRound dev t)).flatten := by
    simp [preemptHistory, MResSt.run, MResSt.step]
  rw [h0]
  obtain ⟨hf, hc, ht⟩ := preemptRounds_run (dev := dev) (t := t) hne hlt n
    (s := ({} : MResSt).addWakeup far T) ⟨rfl, rfl, rfl, rfl, rfl⟩
  exact ⟨hc.trans (Nat.zero_add n), ht.trans (Nat.zero_add n), hf.1⟩

end Tickit
