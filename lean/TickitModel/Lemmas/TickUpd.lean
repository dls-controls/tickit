/-
The tick equations in UPDATE form.  What a complete tick does is given by one function
`U : Comp → Option (List (Port × Val))`: `U c = some ins` — `c` is updated with the input changes
`ins`; `U c = none` — `c` is left alone (it is outside the extent, or it was skipped: both have the
same effect and satisfy the same equation).  `UpdEqs` says that `U` solves the equations
"updated iff root or fed; the changes are what the updated sources feed"; on an acyclic wiring the
solution is unique on every set of components closed under sources (`UpdEqs.unique_on`; for the
dispatches of two traces `sameDispatch_on`), whatever the wiring and the roots are elsewhere:
schedule independence (C02, C08) is the case of all components, noninterference (C10) the case of a
part no wire connects to the rest.  `Det.InsInv` at the head (the changes of every `Input` have
distinct ports) is the `Nodup` that `UpdEqs.upd` asks for.
-/
import TickitModel.Core.Flat
import TickitModel.Lemmas.TickEqLemmas
import TickitModel.Lemmas.TickerResLemmas

namespace Tickit.Det

open Tickit

variable {Val : Type}

def InsNodup : Dispatch Val → Prop
  | .input _ _ ins => (akeys ins).Nodup
  | .skip _ _ => True

def InsInv (inputs : List (Comp × List (Port × Val))) (tr : List (Ev Val)) : Prop :=
  (∀ c, (akeys (agetD inputs c [])).Nodup) ∧ ∀ d, Ev.dispatch d ∈ tr → InsNodup d

theorem insNodup_decide {tk : Ticker Val} (h : ∀ c, (akeys (agetD tk.inputs c [])).Nodup)
    (c : Comp) : InsNodup (tk.decide c) := by
  rcases tk.decide_cases c with ⟨h1, _⟩ | ⟨h1, _⟩
  · rw [h1]; exact h c
  · rw [h1]; trivial

section
-- `InsInv.schedule` and `InsInv.answer` assume a `DecidableEq Val` that nothing in them uses; a
-- caller without one supplies it by `classical`.
variable [DecidableEq Val]

theorem InsInv.schedule {w : Wiring} {tk : Ticker Val} {tr : List (Ev Val)}
    {l : List (Comp × Bool)} {ds : List (Dispatch Val)} (h : InsInv tk.inputs tr)
    (hs : Ticker.scheduleLoop w tk l = .ok ds) : InsInv tk.inputs (tr ++ ds.map Ev.dispatch) := by
  obtain ⟨hspec, _⟩ := scheduleLoop_spec hs
  refine ⟨h.1, fun d hd => ?_⟩
  rcases List.mem_append.1 hd with hd | hd
  · exact h.2 d hd
  · obtain ⟨d', hd', he⟩ := List.mem_map.1 hd
    cases he
    rw [hspec] at hd'
    obtain ⟨e, _, rfl⟩ := List.mem_map.1 hd'
    exact insNodup_decide h.1 e.1

theorem InsInv.answer {w : Wiring} (hw : RouterOK w) {inputs : List (Comp × List (Port × Val))}
    {tr : List (Ev Val)} (h : InsInv inputs tr) (src : Comp) (chs : List (Port × Val)) :
    InsInv (addInputs inputs (w.route src chs)) (tr ++ [Ev.answer src chs]) := by
  refine ⟨fun c => ?_, fun d hd => ?_⟩
  · rw [agetD_addInputs _ (hw.route_wf src chs).1]
    exact nodup_akeys_aupdate (h.1 c) _
  · rcases List.mem_append.1 hd with hd | hd
    · exact h.2 d hd
    · cases List.mem_singleton.1 hd

end

theorem InsInv.call {w : Wiring} {t : SimTime} {roots : List Comp} {tk : Ticker Val}
    {ds : List (Dispatch Val)} (hc : Ticker.call w t roots = .ok (tk, ds)) :
    InsInv tk.inputs (ds.map Ev.dispatch) := by
  obtain ⟨ds', hs, hr⟩ := Ticker.call_eq_ok_iff.1 hc
  cases hr
  classical
  exact InsInv.schedule (tk := (Ticker.startTick w t roots : Ticker Val)) (tr := [])
    ⟨fun _ => List.nodup_nil, fun _ hd => nomatch hd⟩ hs

theorem InsInv.propagate {w : Wiring} (hw : RouterOK w) {tk tk' : Ticker Val} {tr : List (Ev Val)}
    {src : Comp} {t : SimTime} {ch : List (Port × Val)} {ds : List (Dispatch Val)}
    (h : InsInv tk.inputs tr) (hp : tk.propagate w src t ch = .ok (tk', ds)) :
    InsInv tk'.inputs (tr ++ [Ev.answer src ch] ++ ds.map Ev.dispatch) := by
  obtain ⟨_, _, ds', hs, hr⟩ := Ticker.propagate_eq_ok_iff.1 hp
  cases hr
  classical
  exact InsInv.schedule (tk := tk.afterAnswer w src ch) (h.answer hw src ch) hs

theorem run_insInv {w : Wiring} (hw : RouterOK w) {P : Dispatch Val → List (Port × Val) → Prop}
    {t : SimTime} {roots : List Comp} {s : TickSys Val} (hs : s.Run w P t roots) :
    InsInv s.tk.inputs s.trace := by
  induction hs with
  | call hc => exact InsInv.call hc
  | answer _ _ _ hp ih => exact ih.propagate hw hp

end Tickit.Det

namespace Tickit

variable {Val : Type}

abbrev Upd (Val : Type) := Comp → Option (List (Port × Val))

def updOf (tr : List (Ev Val)) : Upd Val := fun c =>
  match dispatchOf tr c with
  | some (.input _ _ ins) => some ins
  | _ => none

def FedU (w : Wiring) (react : React Val) (U : Upd Val) (c : Comp) (q : Port) (v : Val) : Prop :=
  ∃ a p ins, w.Conn a p c q ∧ U a = some ins ∧ alookup (react a ins) p = some v

/-- changes are compared as mappings (`UpdEq`), so `upd` also asks that the ports of `ins` are distinct. -/
structure UpdEqs (w : Wiring) (react : React Val) (roots : List Comp) (U : Upd Val) : Prop where
  upd : ∀ c ins, U c = some ins → (akeys ins).Nodup ∧ (c ∈ roots ∨ ∃ q v, FedU w react U c q v) ∧
    ∀ q v, alookup ins q = some v ↔ FedU w react U c q v
  idle : ∀ c, U c = none → c ∉ roots ∧ ∀ q v, ¬ FedU w react U c q v

def UpdEq (o1 o2 : Option (List (Port × Val))) : Prop :=
  match o1, o2 with
  | some i1, some i2 => MapEq i1 i2
  | none, none => True
  | _, _ => False

theorem updOf_eq_some {tr : List (Ev Val)} {c : Comp} {ins : List (Port × Val)}
    (h : updOf tr c = some ins) : ∃ t, dispatchOf tr c = some (.input c t ins) := by
  unfold updOf at h
  split at h
  · next c' t ins' hd =>
    cases h
    cases ((dispatchOf_eq_some hd).2 : c' = c)
    exact ⟨t, hd⟩
  · cases h

theorem updOf_eq_none {tr : List (Ev Val)} {c : Comp} (h : updOf tr c = none) :
    dispatchOf tr c = none ∨ ∃ t, dispatchOf tr c = some (.skip c t) := by
  unfold updOf at h
  split at h
  · cases h
  · next hno =>
    cases hd : dispatchOf tr c with
    | none => exact Or.inl rfl
    | some d =>
      cases d with
      | input c' t ins => exact absurd hd (hno c' t ins)
      | skip c' t =>
        cases ((dispatchOf_eq_some hd).2 : c' = c)
        exact Or.inr ⟨t, rfl⟩

theorem fed_iff_fedU {w : Wiring} {react : React Val} {tr : List (Ev Val)} {c : Comp} {q : Port}
    {v : Val} : Fed w react tr c q v ↔ FedU w react (updOf tr) c q v := by
  constructor
  · rintro ⟨a, p, d, hc, hd, hv⟩
    cases d with
    | skip a' t => cases hv
    | input a' t ins =>
      cases ((dispatchOf_eq_some hd).2 : a' = a)
      have hd' : dispatchOf tr a' = some (.input a' t ins) := hd
      exact ⟨a', p, ins, hc, by unfold updOf; rw [hd'], hv⟩
  · rintro ⟨a, p, ins, hc, hU, hv⟩
    obtain ⟨t, hd⟩ := updOf_eq_some hU
    exact ⟨a, p, _, hc, hd, hv⟩

theorem UpdEqs.of_complete {w : Wiring} (hw : RouterOK w) {react : React Val} (hr : ReactWF react)
    {t : SimTime} {roots : List Comp} {s : TickSys Val} (hs : s.Reachable w react t roots)
    (hf : s.tk.toUpdate = []) : UpdEqs w react roots (updOf s.trace) := by
  have hnone := dispatchOf_eq_none_iff_of_complete hs hf
  refine ⟨fun c ins hU => ?_, fun c hU => ?_⟩
  · obtain ⟨t', hd⟩ := updOf_eq_some hU
    obtain ⟨_, _, ⟨ins', he, hroot, hfed⟩ | ⟨he, _⟩⟩ := dispatch_spec hw hr hs hd
    · cases he
      exact ⟨(Det.run_insInv hw hs.run).2 _ (dispatchOf_eq_some hd).1,
        hroot.imp_right fun ⟨q, v, h⟩ => ⟨q, v, fed_iff_fedU.1 h⟩,
        fun q v => (hfed q v).trans fed_iff_fedU⟩
    · cases he
  · rcases updOf_eq_none hU with hd | ⟨t', hd⟩
    · have hce := (hnone c).1 hd
      refine ⟨fun h => hce (mem_extent_of_mem_roots h), fun q v hfed => ?_⟩
      obtain ⟨a, p, ins, hc, hUa, _⟩ := hfed
      obtain ⟨ta, hda⟩ := updOf_eq_some hUa
      exact hce (extent_closed (dispatch_spec hw hr hs hda).1 ⟨p, q, hc⟩)
    · obtain ⟨_, _, ⟨ins', he, _⟩ | ⟨_, hnr, hno⟩⟩ := dispatch_spec hw hr hs hd
      · cases he
      · exact ⟨hnr, fun q v h => hno q v (fed_iff_fedU.2 h)⟩

theorem updOf_ext {w : Wiring} {react : React Val} {t : SimTime} {roots : List Comp}
    {s : TickSys Val} (hs : s.Reachable w react t roots) {c : Comp} {ins : List (Port × Val)}
    (hU : updOf s.trace c = some ins) : c ∈ extent w roots := by
  obtain ⟨t', hd⟩ := updOf_eq_some hU
  exact (hs.inv.pre.disp_ext _ (dispatchOf_eq_some hd).1).1

theorem UpdEqs.unique_on {w w' : Wiring} {A : Comp → Prop} {rank : Comp → Nat}
    (hrank : ∀ a p c q, A c → w'.Conn a p c q → rank a < rank c)
    (hconn : ∀ a p c q, A c → (w.Conn a p c q ↔ w'.Conn a p c q))
    (hsrc : ∀ a p c q, A c → w'.Conn a p c q → A a) {react react' : React Val}
    (hreact : ∀ a i1 i2, A a → (akeys i1).Nodup → (akeys i2).Nodup → MapEq i1 i2 →
      react a i1 = react' a i2)
    {roots roots' : List Comp} (hroots : ∀ c, A c → (c ∈ roots ↔ c ∈ roots'))
    {U U' : Upd Val} (h : UpdEqs w react roots U) (h' : UpdEqs w' react' roots' U') (c : Comp)
    (hc : A c) : UpdEq (U c) (U' c) := by
  suffices key : ∀ n c, A c → rank c < n → UpdEq (U c) (U' c) from key _ c hc (Nat.lt_succ_self _)
  intro n
  induction n with
  | zero => exact fun c _ hc => absurd hc (Nat.not_lt_zero _)
  | succ n ih =>
    intro c hAc hc
    -- the sources of `c` are in `A` and of lower rank: they are updated alike and react alike
    have hfed : ∀ q v, FedU w react U c q v ↔ FedU w' react' U' c q v := by
      intro q v
      constructor
      · rintro ⟨a, p, ins, hcn, hU, hv⟩
        have hcn' := (hconn a p c q hAc).1 hcn
        have hAa := hsrc a p c q hAc hcn'
        have := ih a hAa (Nat.lt_of_lt_of_le (hrank a p c q hAc hcn') (Nat.le_of_lt_succ hc))
        rw [hU] at this
        cases hU' : U' a with
        | none => rw [hU'] at this; exact this.elim
        | some ins' =>
          rw [hU'] at this
          exact ⟨a, p, ins', hcn', hU',
            hreact a ins ins' hAa (h.upd a ins hU).1 (h'.upd a ins' hU').1 this ▸ hv⟩
      · rintro ⟨a, p, ins', hcn', hU', hv⟩
        have hAa := hsrc a p c q hAc hcn'
        have := ih a hAa (Nat.lt_of_lt_of_le (hrank a p c q hAc hcn') (Nat.le_of_lt_succ hc))
        rw [hU'] at this
        cases hU : U a with
        | none => rw [hU] at this; exact this.elim
        | some ins =>
          rw [hU] at this
          exact ⟨a, p, ins, (hconn a p c q hAc).2 hcn', hU,
            (hreact a ins ins' hAa (h.upd a ins hU).1 (h'.upd a ins' hU').1 this).symm ▸ hv⟩
    cases hU : U c with
    | none =>
      obtain ⟨hnr, hno⟩ := h.idle c hU
      cases hU' : U' c with
      | none => trivial
      | some ins' =>
        rcases (h'.upd c ins' hU').2.1 with hr | ⟨q, v, hf⟩
        · exact hnr ((hroots c hAc).2 hr)
        · exact hno q v ((hfed q v).2 hf)
    | some ins =>
      obtain ⟨_, hroot, hins⟩ := h.upd c ins hU
      cases hU' : U' c with
      | none =>
        obtain ⟨hnr', hno'⟩ := h'.idle c hU'
        rcases hroot with hr | ⟨q, v, hf⟩
        · exact hnr' ((hroots c hAc).1 hr)
        · exact hno' q v ((hfed q v).1 hf)
      | some ins' =>
        exact fun q => Option.ext fun v =>
          (hins q v).trans ((hfed q v).trans ((h'.upd c ins' hU').2.2 q v).symm)

theorem Wiring.Acyclic.rank_conn {w : Wiring} (hw : RouterOK w) (h : w.Acyclic) :
    ∃ rank : Comp → Nat, ∀ a p c q, w.Conn a p c q → rank a < rank c := by
  obtain ⟨rank, hrank⟩ := h
  refine ⟨rank, fun a p c q hc => ?_⟩
  obtain ⟨us, hus⟩ := Option.isSome_iff_exists.1 (Wiring.ups_isSome_of_conn hc)
  exact hrank c us a hus ((hw.ups_edge c us hus a).2 ⟨p, q, hc⟩)

theorem sameDispatch_of_updEq {tr1 tr2 : List (Ev Val)} {c : Comp} {t : SimTime}
    (hnone : dispatchOf tr1 c = none ↔ dispatchOf tr2 c = none)
    (ht1 : ∀ d, dispatchOf tr1 c = some d → d.time = t)
    (ht2 : ∀ d, dispatchOf tr2 c = some d → d.time = t)
    (h : UpdEq (updOf tr1 c) (updOf tr2 c)) :
    SameDispatch (dispatchOf tr1 c) (dispatchOf tr2 c) := by
  unfold updOf at h
  cases h1 : dispatchOf tr1 c with
  | none => rw [hnone.1 h1]; trivial
  | some d1 =>
    cases h2 : dispatchOf tr2 c with
    | none => exact nomatch h1.symm.trans (hnone.2 h2)
    | some d2 =>
      have hc1 : d1.comp = c := (dispatchOf_eq_some h1).2
      have hc2 : d2.comp = c := (dispatchOf_eq_some h2).2
      have e1 := ht1 d1 h1
      have e2 := ht2 d2 h2
      rw [h1, h2] at h
      cases d1 <;> cases d2
      · exact ⟨hc1.trans hc2.symm, e1.trans e2.symm, h⟩
      · exact h.elim
      · exact h.elim
      · exact ⟨hc1.trans hc2.symm, e1.trans e2.symm⟩

theorem dispatch_time {w : Wiring} {react : React Val} {t : SimTime} {roots : List Comp}
    {s : TickSys Val} (hs : s.Reachable w react t roots) {c : Comp} (d : Dispatch Val)
    (hd : dispatchOf s.trace c = some d) : d.time = t :=
  (hs.inv.pre.disp_ext d (dispatchOf_eq_some hd).1).2

/-- reactions depend on the input changes as a mapping, for changes that are dicts -/
def Det.ReactExtN (react : React Val) : Prop :=
  ∀ c i1 i2, (akeys i1).Nodup → (akeys i2).Nodup → MapEq i1 i2 → react c i1 = react c i2

theorem ReactExt.extN {react : React Val} (h : ReactExt react) : Det.ReactExtN react :=
  fun c i1 i2 _ _ hi => h c i1 i2 hi

/-- `UpdEqs.unique_on` read off the traces of two complete runs of a tick. -/
theorem sameDispatch_on {w w' : Wiring} (hw : RouterOK w) (hw' : RouterOK w') (hacyc : w'.Acyclic)
    {A : Comp → Prop} (hconn : ∀ a p c q, A c → (w.Conn a p c q ↔ w'.Conn a p c q))
    (hsrc : ∀ a p c q, A c → w'.Conn a p c q → A a) {react : React Val} (hr : ReactWF react)
    (hext : Det.ReactExtN react) {t : SimTime} {roots roots' : List Comp}
    (hroots : ∀ c, A c → (c ∈ roots ↔ c ∈ roots'))
    (hextent : ∀ c, A c → (c ∈ extent w roots ↔ c ∈ extent w' roots'))
    {s s' : TickSys Val} (h : s.Reachable w react t roots) (h' : s'.Reachable w' react t roots')
    (hf : s.tk.toUpdate = []) (hf' : s'.tk.toUpdate = []) (c : Comp) (hc : A c) :
    SameDispatch (dispatchOf s.trace c) (dispatchOf s'.trace c) := by
  obtain ⟨rank, hrank⟩ := hacyc.rank_conn hw'
  refine sameDispatch_of_updEq ?_ (fun d => dispatch_time h d) (fun d => dispatch_time h' d) ?_
  · rw [dispatchOf_eq_none_iff_of_complete h hf, dispatchOf_eq_none_iff_of_complete h' hf',
      hextent c hc]
  · exact UpdEqs.unique_on (fun a p c q _ => hrank a p c q) hconn hsrc
      (fun a i1 i2 _ => hext a i1 i2) hroots (UpdEqs.of_complete hw hr h hf)
      (UpdEqs.of_complete hw' hr h' hf') c hc

end Tickit
