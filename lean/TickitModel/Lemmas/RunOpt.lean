/-
Histories of a transition system given by a partial step function: `runOpt step s acts` takes the
actions of `acts` one after the other and ignores those that are not enabled.  Every `run` of the
statement-level protocol models (`MSt.run`, `NSt.run`, `MLoopSt.run`, ...) is this fold over the
model's `step`: the model files state their `run` by the same recursion without importing this
file, and `X.run_eq_runOpt` (in the model's lemma file) is the bridge by which everything here
applies to it.  Two such systems are related step by step through `StepOpt` (an enabled step of
one is a step of the other by its share of the action, or leaves it alone) and history by history
through `runOpt_filterMap`.
-/

namespace Tickit

variable {σ α : Type} {step : σ → α → Option σ}

def runOpt (step : σ → α → Option σ) (s : σ) : List α → σ
  | [] => s
  | a :: as => match step s a with
    | some s' => runOpt step s' as
    | none => runOpt step s as

theorem runOpt_cons (s : σ) (a : α) (as : List α) :
    runOpt step s (a :: as) = runOpt step ((step s a).getD s) as := by
  rw [runOpt]
  cases step s a <;> rfl

theorem eq_runOpt_of_rec {run : σ → List α → σ} (hnil : ∀ s, run s [] = s)
    (hcons : ∀ s a as, run s (a :: as) = run ((step s a).getD s) as) (s : σ) (acts : List α) :
    run s acts = runOpt step s acts := by
  induction acts generalizing s with
  | nil => exact hnil s
  | cons a as ih => rw [hcons, runOpt_cons, ih]

theorem runOpt_cons_some {s s' : σ} {a : α} (h : step s a = some s') (as : List α) :
    runOpt step s (a :: as) = runOpt step s' as := by
  rw [runOpt_cons, h]
  rfl

theorem runOpt_append (s : σ) (pre post : List α) :
    runOpt step s (pre ++ post) = runOpt step (runOpt step s pre) post := by
  induction pre generalizing s with
  | nil => rfl
  | cons a as ih => rw [List.cons_append, runOpt_cons, runOpt_cons, ih]

theorem runOpt_induction {P : σ → Prop} (hstep : ∀ {s s' a}, P s → step s a = some s' → P s')
    {s : σ} (h : P s) (acts : List α) : P (runOpt step s acts) := by
  induction acts generalizing s with
  | nil => exact h
  | cons a as ih =>
    rw [runOpt_cons]
    cases hs : step s a with
    | none => exact ih h
    | some s' => exact ih (hstep h hs)

theorem runOpt_filterMap {τ β : Type} {step' : τ → β → Option τ} {f : σ → τ} {e : α → Option β}
    (hvis : ∀ s a b, e a = some b → (step s a).map f = step' (f s) b)
    (hinv : ∀ {s s' a}, e a = none → step s a = some s' → f s' = f s) (s : σ) (acts : List α) :
    f (runOpt step s acts) = runOpt step' (f s) (acts.filterMap e) := by
  induction acts generalizing s with
  | nil => rfl
  | cons a as ih =>
    rw [runOpt_cons, ih]
    cases he : e a with
    | none =>
      rw [List.filterMap_cons_none he]
      cases hs : step s a with
      | none => rfl
      | some s' => exact congrArg (runOpt step' · _) (hinv he hs)
    | some b =>
      rw [List.filterMap_cons_some he, runOpt_cons, ← hvis s a b he]
      cases step s a <;> rfl

def StepOpt (step : σ → α → Option σ) (t : σ) (b : Option α) (t' : σ) : Prop :=
  match b with
  | some b => step t b = some t'
  | none => t' = t

theorem StepOpt.inv {P : σ → Prop} {t t' : σ} {b : Option α} (h : StepOpt step t b t')
    (hstep : ∀ {t t' b}, P t → step t b = some t' → P t') (hP : P t) : P t' := by
  cases b with
  | none => exact h ▸ hP
  | some b => exact hstep hP h

theorem StepOpt.keeps {P : σ → Prop} {bad : α} {t t' : σ} {b : Option α}
    (h : StepOpt step t b t') (hstep : ∀ {t t' b}, P t → step t b = some t' → b ≠ bad → P t')
    (hP : P t) (hb : b ≠ some bad) : P t' := by
  cases b with
  | none => exact h ▸ hP
  | some b => exact hstep hP h fun hbad => hb (congrArg some hbad)

theorem StepOpt.of_erase {τ β : Type} {step' : τ → β → Option τ} {f : σ → τ} {e : α → Option β}
    (hvis : ∀ s a b, e a = some b → (step s a).map f = step' (f s) b)
    (hinv : ∀ {s s' a}, e a = none → step s a = some s' → f s' = f s) {s s' : σ} {a : α}
    (hs : step s a = some s') : StepOpt step' (f s) (e a) (f s') := by
  cases he : e a with
  | none => exact hinv he hs
  | some b => exact (hvis s a b he).symm.trans (congrArg (Option.map f) hs)

end Tickit
