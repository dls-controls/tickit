/-
The master scheduler's bookkeeping (`MSt`, `Core/Master.lean`): the invariant `MInv` (nothing owed
is forgotten, no pending interrupt is displaced) and the step facts it rests on.  `IsRoot`, the
roots of a running tick, is shared with the nested scheduler's model (`NestedIntLemmas`); it is the
notion that `MInv.owed`, `NInv.owed`, `TSt.InnerRoot` and `TSt.SysRoot` spell out.
-/
import TickitModel.Core.Master
import TickitModel.Lemmas.Wakeups
import TickitModel.Lemmas.RunOpt

namespace Tickit

/-- `c` is a root of the running tick whose update has not begun yet; `t` is the `ticking` field
of the master or of a nested scheduler (`none` = no tick running). -/
def IsRoot (t : Option (List Comp)) (c : Comp) : Prop := ∃ rem, t = some rem ∧ c ∈ rem

theorem isRoot_some {rem : List Comp} {c : Comp} : IsRoot (some rem) c ↔ c ∈ rem :=
  ⟨fun ⟨_, h, hc⟩ => Option.some.inj h ▸ hc, fun h => ⟨_, rfl, h⟩⟩

theorem IsRoot.mem {t : Option (List Comp)} {rem : List Comp} {c : Comp} (h : IsRoot t c)
    (ht : t = some rem) : c ∈ rem :=
  isRoot_some.mp (ht ▸ h)

theorem IsRoot.ne_none {t : Option (List Comp)} {c : Comp} (h : IsRoot t c) : t ≠ none := by
  obtain ⟨_, ht, _⟩ := h
  exact ht ▸ nofun

structure MInv (s : MSt) : Prop where
  wakeU : UniqueKeys s.wake
  pendU : UniqueKeys s.pend
  pend_wake : ∀ c i, alookup s.pend c = some i → ∃ w, alookup s.wake c = some w ∧ w ≤ i
  owed : ∀ c ∈ s.owed, (∃ rem, s.ticking = some rem ∧ c ∈ rem) ∨ (∃ i, alookup s.pend c = some i)

theorem MSt.addWakeup_eq (s : MSt) (c : Comp) (w : SimTime) :
    s.addWakeup c w = upsert s.wake c
      (match alookup s.pend c with
        | some i => if i < w then i else w
        | none => w) := by
  unfold MSt.addWakeup
  cases alookup s.pend c <;> rfl

theorem MSt.addWakeup_unique (s : MSt) (h : UniqueKeys s.wake) (c : Comp) (w : SimTime) :
    UniqueKeys (s.addWakeup c w) := by
  rw [MSt.addWakeup_eq]
  exact h.upsert _ _

theorem MSt.addWakeup_lookup_ne (s : MSt) (c c' : Comp) (w : SimTime) (h : c' ≠ c) :
    alookup (s.addWakeup c w) c' = alookup s.wake c' := by
  rw [MSt.addWakeup_eq, alookup_upsert, if_neg h.symm]

theorem MSt.addWakeup_lookup_self (s : MSt) (c : Comp) (w : SimTime) :
    ∃ w', alookup (s.addWakeup c w) c = some w' := by
  exact ⟨_, by rw [MSt.addWakeup_eq, alookup_upsert, if_pos rfl]⟩

theorem MSt.addWakeup_lookup_self_pend (s : MSt) (c : Comp) (w i : SimTime)
    (h : alookup s.pend c = some i) :
    alookup (s.addWakeup c w) c = some (if i < w then i else w) := by
  rw [MSt.addWakeup_eq, alookup_upsert, if_pos rfl, h]

/-- for the component written nothing needs to be known beforehand: `add_wakeup` writes at most
its stamp. -/
theorem MSt.pend_wake_addWakeup (s : MSt) (c : Comp) (w : SimTime)
    (h : ∀ c' i, c' ≠ c → alookup s.pend c' = some i →
      ∃ w', alookup s.wake c' = some w' ∧ w' ≤ i) :
    ∀ c' i, alookup s.pend c' = some i →
      ∃ w', alookup (s.addWakeup c w) c' = some w' ∧ w' ≤ i := by
  intro c' i hp
  by_cases hc : c' = c
  · subst hc
    exact ⟨_, s.addWakeup_lookup_self_pend c' w i hp, (earlier_le i w).1⟩
  · rw [s.addWakeup_lookup_ne c c' w hc]
    exact h c' i hc hp

/-- the time recorded for an interrupt of `c`: the stamp, unless `c` already has an EARLIER wakeup
(a callback that is due but not served yet). -/
def MSt.intWhen (s : MSt) (c : Comp) (stamp : SimTime) : SimTime :=
  match alookup s.wake c with
  | some w => if w < stamp then w else stamp
  | none => stamp

/-- the bookkeeping model writes what the master loop writes; the bounds on the time written are
those of `TimeMono.stimWhen`. -/
theorem MSt.intWhen_eq_stimWhen (s : MSt) (c : Comp) (stamp : SimTime) :
    s.intWhen c stamp = TimeMono.stimWhen s.wake c stamp := rfl

theorem MSt.intWhen_none (s : MSt) (c : Comp) (stamp : SimTime) (h : alookup s.wake c = none) :
    s.intWhen c stamp = stamp := by
  unfold MSt.intWhen; rw [h]

theorem MSt.intWhen_some (s : MSt) (c : Comp) (w stamp : SimTime) (h : alookup s.wake c = some w) :
    s.intWhen c stamp = if w < stamp then w else stamp := by
  unfold MSt.intWhen; rw [h]

theorem MSt.intWhen_of_le (s : MSt) (c : Comp) (w stamp : SimTime) (h : alookup s.wake c = some w)
    (hle : w ≤ stamp) : s.intWhen c stamp = w := by
  rw [s.intWhen_some c w stamp h, earlier_eq_left hle]

theorem MSt.intWhen_of_ge (s : MSt) (c : Comp) (w stamp : SimTime) (h : alookup s.wake c = some w)
    (hle : stamp ≤ w) : s.intWhen c stamp = stamp := by
  rw [s.intWhen_some c w stamp h, earlier_eq_right hle]

theorem MSt.intWhen_le_wake (s : MSt) (c : Comp) (w stamp : SimTime) (h : alookup s.wake c = some w) :
    s.intWhen c stamp ≤ w :=
  s.intWhen_eq_stimWhen c stamp ▸ TimeMono.stimWhen_le_old s.wake c stamp w h

/-- first half of `schedule_interrupt(c)`: `when` is entered in `_pending_interrupts` unless
`c` has an entry there. -/
def MSt.setPending (s : MSt) (c : Comp) (when : SimTime) : MSt :=
  { s with pend := if (alookup s.pend c).isSome then s.pend else upsert s.pend c when }

/-- `schedule_interrupt(c)` once the time to record is known; second half: `add_wakeup(c, when)`. -/
def MSt.interruptAt (s : MSt) (c : Comp) (when : SimTime) : MSt :=
  { s.setPending c when with
    wake := (s.setPending c when).addWakeup c when, owed := sinsert s.owed c }

/-- the `.interrupt` branch of `MSt.step` is `some (s.interruptAt c (s.intWhen c stamp))` by
unfolding its two `let`s: `intWhen`, `setPending`, `interruptAt` repeat the text of that branch and
have to be kept in step with it (a change there shows up here as a bare defeq error). -/
theorem MSt.eq_interruptAt {s s' : MSt} {c : Comp} {stamp : SimTime}
    (hs : s.step (.interrupt c stamp) = some s') : s' = s.interruptAt c (s.intWhen c stamp) :=
  (Option.some.inj hs).symm

theorem MSt.interruptAt_pend (s : MSt) (c c' : Comp) (when : SimTime) :
    alookup (s.interruptAt c when).pend c' =
      if c' = c then some ((alookup s.pend c).getD when) else alookup s.pend c' :=
  alookup_setdefault s.pend c c' when

theorem MSt.interruptAt_wake (s : MSt) (c : Comp) (when : SimTime) :
    alookup (s.interruptAt c when).wake c = some
      (if (alookup s.pend c).getD when < when then (alookup s.pend c).getD when else when) :=
  (s.setPending c when).addWakeup_lookup_self_pend c when _
    ((s.interruptAt_pend c c when).trans (if_pos rfl))

inductive MSt.Step (s : MSt) : MAct → MSt → Prop
  | interrupt (c : Comp) (stamp : SimTime) :
      Step s (.interrupt c stamp) (s.interruptAt c (s.intWhen c stamp))
  | answer (c : Comp) (w : SimTime) :
      Step s (.output c (some w)) { s with wake := s.addWakeup c w }
  | silent (c : Comp) : Step s (.output c none) s
  | startTick (cs : List Comp) (m : SimTime) : s.ticking = none →
      firstWakeups s.wake = (cs, some m) → Step s .startTick
        { s with wake := delWakeups s.wake cs, pend := delWakeups s.pend cs,
                 tickerTime := m, ticking := some cs }
  | beginUpdate (c : Comp) (rem : List Comp) : s.ticking = some rem → Step s (.beginUpdate c)
      { s with ticking := some (rem.filter (· != c)), owed := s.owed.filter (· != c) }
  | endTick : s.ticking = some [] → Step s .endTick { s with ticking := none }

theorem MSt.Step.of_step {s s' : MSt} {a : MAct} (hs : s.step a = some s') : MSt.Step s a s' := by
  cases a with
  | interrupt c stamp => cases hs; exact .interrupt c stamp
  | output c callAt =>
    cases callAt <;> cases hs
    · exact .silent c
    · exact .answer c _
  | startTick =>
    simp only [MSt.step] at hs
    split at hs <;> cases hs
    exact .startTick _ _ ‹_› ‹_›
  | beginUpdate c =>
    cases ht : s.ticking <;> simp only [MSt.step, ht] at hs <;> cases hs
    exact .beginUpdate c _ ht
  | endTick =>
    rcases ht : s.ticking with _ | _ | _ <;> simp only [MSt.step, ht] at hs <;> cases hs
    exact .endTick ht

theorem MSt.run_eq_runOpt (s : MSt) (acts : List MAct) : s.run acts = runOpt MSt.step s acts :=
  eq_runOpt_of_rec (fun _ => rfl) (fun s a _ => by rw [MSt.run]; cases s.step a <;> rfl) s acts

theorem MSt.run_cons (s : MSt) (a : MAct) (as : List MAct) :
    s.run (a :: as) = MSt.run ((s.step a).getD s) as := by
  simp only [MSt.run_eq_runOpt, runOpt_cons]

theorem MSt.run_append (s : MSt) (pre post : List MAct) :
    s.run (pre ++ post) = (s.run pre).run post := by
  simp only [MSt.run_eq_runOpt, runOpt_append]

/-- the tick cannot end while it has an unbegun root, and no new one starts. -/
theorem MSt.root_step {s s' : MSt} {a : MAct} {c : Comp} (hr : IsRoot s.ticking c)
    (hs : s.step a = some s') (ha : a ≠ .beginUpdate c) : IsRoot s'.ticking c := by
  cases MSt.Step.of_step hs with
  | interrupt | answer | silent => exact hr
  | startTick cs m ht => exact absurd ht hr.ne_none
  | beginUpdate c' rem ht =>
    exact isRoot_some.mpr (mem_filter_ne (hr.mem ht) fun h => ha (congrArg _ h.symm))
  | endTick ht => exact absurd (hr.mem ht) List.not_mem_nil

theorem MSt.owed_step {s s' : MSt} {a : MAct} {c : Comp} (hc : c ∈ s.owed)
    (hs : s.step a = some s') (ha : a ≠ .beginUpdate c) : c ∈ s'.owed := by
  cases MSt.Step.of_step hs with
  | interrupt => exact mem_sinsert.mpr (Or.inl hc)
  | answer | silent | startTick | endTick => exact hc
  | beginUpdate c' => exact mem_filter_ne hc fun h => ha (congrArg _ h.symm)

theorem MSt.idle_step {s s' : MSt} {a : MAct} (hs : s.step a = some s') (h : s'.ticking = none) :
    s.ticking = none ∨ a = .endTick := by
  cases MSt.Step.of_step hs with
  | interrupt | answer | silent => exact Or.inl h
  | startTick | beginUpdate => cases h
  | endTick => exact Or.inr rfl

theorem MInv.init : MInv {} :=
  ⟨List.nodup_nil, List.nodup_nil, (fun _ _ h => nomatch h), (fun _ h => nomatch h)⟩

theorem MInv.interruptAt {s : MSt} (h : MInv s) (c : Comp) (when : SimTime) :
    MInv (s.interruptAt c when) := by
  refine ⟨(s.setPending c when).addWakeup_unique h.wakeU c when, ?_, ?_, ?_⟩
  · show UniqueKeys (if _ then _ else _)
    split
    · exact h.pendU
    · exact h.pendU.upsert _ _
  · refine (s.setPending c when).pend_wake_addWakeup c when fun c' i hc' hp => h.pend_wake c' i ?_
    exact ((s.interruptAt_pend c c' when).trans (if_neg hc')).symm.trans hp
  · intro c' hc'
    by_cases hcc : c' = c
    · exact Or.inr ⟨_, (s.interruptAt_pend c c' when).trans (if_pos hcc)⟩
    · rcases mem_sinsert.mp hc' with hc' | rfl
      · refine (h.owed c' hc').imp_right fun ⟨i, hi⟩ => ⟨i, ?_⟩
        rw [s.interruptAt_pend c c' when, if_neg hcc, hi]
      · exact absurd rfl hcc

theorem MInv.interrupt {s : MSt} (h : MInv s) (c : Comp) (stamp : SimTime) (s' : MSt)
    (hs : s.step (.interrupt c stamp) = some s') : MInv s' := by
  rw [MSt.eq_interruptAt hs]
  exact h.interruptAt c _

theorem MInv.output {s : MSt} (h : MInv s) (c : Comp) (callAt : Option SimTime) (s' : MSt)
    (hs : s.step (.output c callAt) = some s') : MInv s' := by
  cases MSt.Step.of_step hs with
  | silent => exact h
  | answer _ w =>
    exact ⟨MSt.addWakeup_unique _ h.wakeU _ _, h.pendU,
      MSt.pend_wake_addWakeup s c w (fun c' i _ hp => h.pend_wake c' i hp), h.owed⟩

theorem MInv.startTick {s : MSt} (h : MInv s) (s' : MSt)
    (hs : s.step .startTick = some s') : MInv s' := by
  cases MSt.Step.of_step hs with | startTick cs m ht hf => ?_
  refine ⟨delWakeups_unique _ h.wakeU _, delWakeups_unique _ h.pendU _, fun c i hp => ?_,
    fun c hc => ?_⟩
  · -- a stamp that stays is covered by a wakeup that stays
    have hp' : alookup (delWakeups s.pend cs) c = some i := hp
    rw [delWakeups_lookup _ h.pendU] at hp'
    show ∃ w, alookup (delWakeups s.wake cs) c = some w ∧ w ≤ i
    rw [delWakeups_lookup _ h.wakeU]
    by_cases hc : c ∈ cs
    · rw [if_pos hc] at hp'
      cases hp'
    · rw [if_neg hc] at hp' ⊢
      exact h.pend_wake c i hp'
  · by_cases hcs : c ∈ cs
    · exact Or.inl ⟨cs, rfl, hcs⟩
    · refine Or.inr (Exists.imp (fun i hi => ?_)
        ((h.owed c hc).resolve_left fun hr => IsRoot.ne_none hr ht))
      show alookup (delWakeups s.pend cs) c = some i
      rw [delWakeups_lookup _ h.pendU, if_neg hcs, hi]

theorem MInv.owed_cases {s : MSt} (h : MInv s) {c : Comp} (hc : c ∈ s.owed) :
    IsRoot s.ticking c ∨
      ∃ i w, alookup s.pend c = some i ∧ alookup s.wake c = some w ∧ w ≤ i :=
  (h.owed c hc).imp_right fun ⟨i, hi⟩ =>
    let ⟨w, hw, hwi⟩ := h.pend_wake c i hi
    ⟨i, w, hi, hw, hwi⟩

theorem MInv.next_tick {s : MSt} (h : MInv s) {c : Comp} (hidle : s.ticking = none)
    (hc : c ∈ s.owed) :
    ∃ cs m i w, firstWakeups s.wake = (cs, some m) ∧ alookup s.pend c = some i ∧
      alookup s.wake c = some w ∧ m ≤ w ∧ w ≤ i := by
  obtain ⟨i, w, hi, hw, hwi⟩ := (h.owed_cases hc).resolve_left fun hr => hr.ne_none hidle
  obtain ⟨cs, m, hf⟩ := firstWakeups_some_of_ne_nil s.wake fun h0 => nomatch h0 ▸ hw
  exact ⟨cs, m, i, w, hf, hi, hw, (firstWakeups_spec s.wake h.wakeU cs m hf).2.1 c w hw, hwi⟩

theorem MInv.step {s s' : MSt} {a : MAct} (h : MInv s) (hs : s.step a = some s') : MInv s' := by
  cases a with
  | interrupt c stamp => exact h.interrupt c stamp s' hs
  | output c callAt => exact h.output c callAt s' hs
  | startTick => exact h.startTick s' hs
  | beginUpdate c =>
    cases MSt.Step.of_step hs with | beginUpdate _ rem ht => ?_
    refine ⟨h.wakeU, h.pendU, h.pend_wake, fun c' hc' => ?_⟩
    obtain ⟨hc, hne⟩ := List.mem_filter.mp hc'
    exact (h.owed c' hc).imp_left fun hr =>
      isRoot_some.mpr (mem_filter_ne (IsRoot.mem hr ht) (bne_iff_ne.mp hne))
  | endTick =>
    cases MSt.Step.of_step hs with | endTick ht => ?_
    exact ⟨h.wakeU, h.pendU, h.pend_wake, fun c hc =>
      (h.owed c hc).imp_left fun hr => absurd (IsRoot.mem hr ht) List.not_mem_nil⟩

theorem MInv.run {s : MSt} (h : MInv s) (acts : List MAct) : MInv (s.run acts) :=
  MSt.run_eq_runOpt .. ▸ runOpt_induction MInv.step h acts

end Tickit
