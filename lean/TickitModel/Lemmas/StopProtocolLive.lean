/-
Termination of the stop protocol (`Core/StopProtocol.lean`, `stopOnce = false`).  Once a failure was
reported, no step increases the measure `StopSt.measure` and every step of the scheduler or the bus
strictly decreases it; a state without any such step enabled is one in which the run call has
returned.  (Without a report the measure is not monotone: `SLoopPc.cost` charges only the places
the loop can be in while a report is in flight, `StopInv.pc_of_reports`, so `woken` and
`sleepExpires`, from a place that costs 0, would raise it.)  Fair schedules exist: the greedy
execution (scheduler / bus steps until none is enabled) followed by wakeups for ever is weakly fair,
so the hypothesis of `fair_run_returns` (Props/C11Stop.lean) is satisfiable everywhere.
Against this the seeded variant (`stopOnce = true`): the state reached by `stopOnceHistory`, and
the fact that a run loop waiting for a wakeup with the flag clear is moved by nothing but a new
wakeup (in both variants: `_do_tick` does not look at `error` while it waits).
-/
import TickitModel.Lemmas.StopProtocolInv

namespace Tickit

variable {cfg : StopCfg} {s s' : StopSt}

theorem StopSt.step_reports_ne_nil (a : StopAct) (hs : s.step cfg a = some s')
    (h : s.reports ≠ []) : s'.reports ≠ [] := by
  cases StopStep.of_step hs with
  | fail => exact List.append_ne_nil_of_left_ne_nil h _
  | returnEarly | startFanout | setError | release | produce =>
    exact fun hx => h ((List.set_eq_nil_iff _ _).mp hx)
  | _ => exact h

/-- the invariant and "a report is in flight" as ONE predicate of the state: the form
`StopSt.exec_closed` and `StopSt.sched_closed` take. -/
theorem StopInv.step_reported (hcfg : cfg.stopOnce = false) {a : StopAct}
    (h : StopInv cfg s ∧ s.reports ≠ []) (hs : s.step cfg a = some s') :
    StopInv cfg s' ∧ s'.reports ≠ [] :=
  ⟨h.1.step hcfg a hs, StopSt.step_reports_ne_nil a hs h.2⟩

theorem stop_filter_fail_lt (c : Comp) (f : List Comp) (l : List Comp) (hc : c ∈ l) (hf : c ∉ f) :
    (l.filter (· ∉ f ++ [c])).length < (l.filter (· ∉ f)).length := by
  have : l.filter (· ∉ f ++ [c]) = (l.filter (· ∉ f)).filter (· ≠ c) := by
    rw [List.filter_filter]
    exact List.filter_congr fun x _ => by simp [and_comm]
  rw [this]
  exact List.length_filter_lt_length_iff_exists.mpr
    ⟨c, List.mem_filter.mpr ⟨hc, decide_eq_true hf⟩, by simp⟩

theorem StopSt.measure_set_report {i : Nat} {r r' : StopReport} (hi : s.reports[i]? = some r)
    {e f st : Bool} {l ss : List Comp}
    (hlt : r'.cost cfg.comps.length + l.length < r.cost cfg.comps.length + s.inbox.length) :
    StopSt.measure cfg { s with error := e, finished := f, stopping := st,
                                reports := s.reports.set i r', inbox := l, stopSent := ss }
      < s.measure cfg := by
  have := sum_map_set (StopReport.cost cfg.comps.length) s.reports i r r' hi
  simp only [StopSt.measure, StopSt.unfailed]
  omega

/-- a failure costs less than it frees: one component fewer can still fail, and that pays for the
new handler. -/
theorem StopSt.measure_fail {c : Comp} (hc : c ∈ s.toUpdate) (hf : c ∉ s.failed) :
    StopSt.measure cfg { s with failed := s.failed ++ [c], reports := s.reports ++ [⟨c, .start⟩] }
      < s.measure cfg := by
  have := Nat.mul_le_mul_right (2 * cfg.comps.length + 4)
    (Nat.succ_le_of_lt (stop_filter_fail_lt c s.failed s.toUpdate hc hf))
  rw [Nat.succ_mul] at this
  simp only [StopSt.measure, StopSt.unfailed, List.map_append, List.sum_append, List.map_cons,
    List.map_nil, List.sum_cons, List.sum_nil, StopReport.cost, HPc.cost]
  omega

theorem StopInv.measure_step (h : StopInv cfg s) (hne : s.reports ≠ []) (a : StopAct)
    (hs : s.step cfg a = some s') :
    s'.measure cfg ≤ s.measure cfg ∧ (a.isSys = true → s'.measure cfg < s.measure cfg) := by
  have sys : ∀ {a : StopAct} {s' : StopSt}, s'.measure cfg < s.measure cfg →
      s'.measure cfg ≤ s.measure cfg ∧ (a.isSys = true → s'.measure cfg < s.measure cfg) :=
    fun hlt => ⟨Nat.le_of_lt hlt, fun _ => hlt⟩
  cases StopStep.of_step hs with
  | wakeup => exact ⟨Nat.le_refl _, nofun⟩
  | sleepExpires hpc | woken hpc =>
    -- with a report in flight the loop is neither sleeping nor waiting
    rcases h.pc_of_reports hne with hp | hp | hp <;> simp [hp] at hpc
  | pause hpc he => exact nomatch hpc.symm.trans (h.inTick hne he).1
  | exit hpc | tickDone hpc =>
    refine sys ?_
    simp only [StopSt.measure, StopSt.unfailed, hpc, SLoopPc.cost]
    omega
  | @answer c =>
    refine ⟨?_, nofun⟩
    -- an answer shrinks `toUpdate`, so it does not enlarge the set of components that may still fail
    have := Nat.mul_le_mul_right (2 * cfg.comps.length + 4)
      ((List.filter_sublist (l := s.toUpdate) (p := (· ≠ c))).filter (· ∉ s.failed)).length_le
    simp only [StopSt.measure, StopSt.unfailed]
    omega
  | fail hc hf => exact ⟨Nat.le_of_lt (StopSt.measure_fail hc hf), nofun⟩
  | returnEarly hi hpc | startFanout hi hpc | setError hi hpc | release hi hpc =>
    refine sys (StopSt.measure_set_report hi ?_)
    simp only [StopReport.cost, hpc, HPc.cost, List.length_nil]
    omega
  | produce hi hc =>
    refine sys (StopSt.measure_set_report hi ?_)
    have := List.length_pos_of_mem hc
    simp only [StopReport.cost, HPc.cost, List.length_erase_of_mem hc, List.length_append,
      List.length_singleton]
    omega
  | deliver hc =>
    refine sys ?_
    have := List.length_pos_of_mem hc
    simp only [StopSt.measure, StopSt.unfailed, List.length_erase_of_mem hc]
    omega

def StopSt.quiescent (cfg : StopCfg) (s : StopSt) : Prop :=
  ∀ a : StopAct, a.isSys = true → s.step cfg a = none

theorem StopSt.quiescent_done (hq : s.quiescent cfg) :
    (∀ r ∈ s.reports, r.pc = .done) ∧ s.inbox = [] := by
  refine ⟨fun r hr => ?_, ?_⟩
  · obtain ⟨i, hi⟩ := List.getElem?_of_mem hr
    have h1 : s.handlerStep cfg i = none := hq (.handler i) rfl
    obtain ⟨src, pc⟩ := r
    unfold StopSt.handlerStep at h1
    rw [hi] at h1
    cases pc with
    | start => dsimp only at h1; split at h1 <;> cases h1
    | fanout p =>
      cases p with
      | nil => cases h1
      | cons c p =>
        have h2 : s.produceStep i c = none := hq (.produceStop i c) rfl
        unfold StopSt.produceStep at h2
        rw [hi] at h2
        exact nomatch (if_pos List.mem_cons_self).symm.trans h2
    | afterSuper => cases h1
    | done => rfl
  · cases hl : s.inbox with
    | nil => rfl
    | cons c l =>
      have h2 : s.step cfg (.deliverStop c) = none := hq (.deliverStop c) rfl
      exact nomatch (if_pos (hl ▸ List.mem_cons_self)).symm.trans h2

theorem StopSt.quiescent_of_done (hl : s.loopStep = none) (hd : ∀ r ∈ s.reports, r.pc = .done)
    (hin : s.inbox = []) : s.quiescent cfg := by
  intro a ha
  cases hs : s.step cfg a with
  | none => rfl
  | some s' =>
    cases StopStep.of_step hs with
    | exit | pause | woken | tickDone => exact nomatch hl.symm.trans hs
    | returnEarly hi hpc | startFanout hi hpc | setError hi hpc | release hi hpc =>
      exact nomatch hpc.symm.trans (hd _ (List.mem_of_getElem? hi))
    | produce hi => exact nomatch hd _ (List.mem_of_getElem? hi)
    | deliver hc => exact nomatch hin ▸ hc
    | _ => cases ha

/-- no deadlock short of the goal. -/
theorem StopInv.quiescent_returned (h : StopInv cfg s) (hne : s.reports ≠ [])
    (hq : s.quiescent cfg) : s.runReturned cfg := by
  obtain ⟨hdone, hin⟩ := StopSt.quiescent_done hq
  obtain ⟨r, hr⟩ := List.exists_mem_of_ne_nil _ hne
  have he : s.error = true := h.errOfAfter r hr (Or.inr (hdone r hr))
  refine ⟨?_, fun c hc => (h.sentTracked c (h.sentOfErr he c hc)).resolve_left (hin ▸ nofun)⟩
  have hl := hq .loop rfl
  simp only [StopSt.step, StopSt.loopStep] at hl
  rcases h.pc_of_reports hne with hp | hp | hp
  · -- inside the tick: a returned handler has released it
    have hfin : s.finished = true :=
      Classical.byContradiction fun hf => h.doneRel hp (Bool.eq_false_iff.mpr hf) r hr (hdone r hr)
    simp [hp, hfin] at hl
  · simp [hp, he] at hl
  · exact hp

theorem StopSt.runReturned_step (a : StopAct) (hs : s.step cfg a = some s')
    (h : s.runReturned cfg) : s'.runReturned cfg := by
  obtain ⟨hp, hst⟩ := h
  cases StopStep.of_step hs with
  | sleepExpires hpc | exit hpc | pause hpc | tickDone hpc => exact nomatch hpc.symm.trans hp
  | woken hpc => simp [hp] at hpc
  | deliver => exact ⟨hp, fun d hd => List.mem_cons_of_mem _ (hst d hd)⟩
  | _ => exact ⟨hp, hst⟩

def stopCountSys (as : List StopAct) : Nat := (as.filter StopAct.isSys).length

/-- every scheduler / bus step of an execution pays one unit of the measure: the step bounds of
`Props/C11Stop.lean` (`sys_steps_bounded`, `first_failure_bound`, …) are this inequality -/
theorem StopInv.exec_measure (hcfg : cfg.stopOnce = false) (as : List StopAct)
    (h : StopInv cfg s) (hne : s.reports ≠ []) (hs : s.exec cfg as = some s') :
    stopCountSys as + s'.measure cfg ≤ s.measure cfg := by
  induction as generalizing s with
  | nil => cases hs; exact Nat.le_of_eq (Nat.zero_add _)
  | cons a as ih =>
    obtain ⟨s1, h1, hs⟩ := StopSt.exec_cons_eq_some.mp hs
    have ⟨h', hne'⟩ := StopInv.step_reported hcfg ⟨h, hne⟩ h1
    have ih := ih h' hne' hs
    have hm := h.measure_step hne a h1
    unfold stopCountSys at ih ⊢
    cases ha : a.isSys with
    | true =>
      have := hm.2 ha
      rw [List.filter_cons_of_pos ha, List.length_cons]
      omega
    | false =>
      have := hm.1
      rw [List.filter_cons_of_neg (ha ▸ nofun)]
      omega

theorem StopInv.exec (hcfg : cfg.stopOnce = false) (h : StopInv cfg s) (hne : s.reports ≠ [])
    (as : List StopAct) (hs : s.exec cfg as = some s') : StopInv cfg s' ∧ s'.reports ≠ [] :=
  StopSt.exec_closed (A := fun _ => True) (fun _ => StopInv.step_reported hcfg) (fun _ _ => trivial)
    ⟨h, hne⟩ hs

theorem StopInv.sched (hcfg : cfg.stopOnce = false) (h : StopInv cfg s) (hne : s.reports ≠ [])
    (σ : Nat → StopAct) (n : Nat) :
    StopInv cfg (s.sched cfg σ n) ∧ (s.sched cfg σ n).reports ≠ [] :=
  StopSt.sched_closed (A := fun _ => True) (fun _ => StopInv.step_reported hcfg) (fun _ => trivial)
    (Nat.zero_le n) ⟨h, hne⟩

theorem StopInv.sched_measure_mono (hcfg : cfg.stopOnce = false) (h : StopInv cfg s)
    (hne : s.reports ≠ []) (σ : Nat → StopAct) {n m : Nat} (hnm : n ≤ m) :
    (s.sched cfg σ m).measure cfg ≤ (s.sched cfg σ n).measure cfg :=
  (StopSt.sched_closed (A := fun _ => True)
    (P := fun t => (StopInv cfg t ∧ t.reports ≠ []) ∧ t.measure cfg ≤ (s.sched cfg σ n).measure cfg)
    (fun _ ht hs => ⟨StopInv.step_reported hcfg ht.1 hs,
      Nat.le_trans (ht.1.1.measure_step ht.1.2 _ hs).1 ht.2⟩)
    (fun _ => trivial) hnm ⟨StopInv.sched hcfg h hne σ n, Nat.le_refl _⟩).2

theorem StopSt.runReturned_sched (σ : Nat → StopAct) {n m : Nat} (hnm : n ≤ m)
    (h : (s.sched cfg σ n).runReturned cfg) : (s.sched cfg σ m).runReturned cfg :=
  StopSt.sched_closed (A := fun _ => True) (fun _ h hs => StopSt.runReturned_step _ hs h)
    (fun _ => trivial) hnm h

/-- weak fairness towards the scheduler and the bus. -/
def StopSt.fair (cfg : StopCfg) (s : StopSt) (σ : Nat → StopAct) : Prop :=
  ∀ n, ¬ (s.sched cfg σ n).quiescent cfg →
    ∃ m, n ≤ m ∧ (σ m).isSys = true ∧ ((s.sched cfg σ m).step cfg (σ m)).isSome = true

theorem StopInv.fair_returns (hcfg : cfg.stopOnce = false) (h : StopInv cfg s)
    (hne : s.reports ≠ []) (σ : Nat → StopAct) (hfair : s.fair cfg σ) (n : Nat) :
    ∃ m, n ≤ m ∧ (s.sched cfg σ m).runReturned cfg := by
  generalize hk : (s.sched cfg σ n).measure cfg = k
  induction k using Nat.strongRecOn generalizing n with
  | ind k ih =>
    by_cases hq : (s.sched cfg σ n).quiescent cfg
    · have ⟨i1, i2⟩ := StopInv.sched hcfg h hne σ n
      exact ⟨n, Nat.le_refl _, i1.quiescent_returned i2 hq⟩
    · obtain ⟨m, hnm, hsys, hen⟩ := hfair n hq
      have ⟨i1, i2⟩ := StopInv.sched hcfg h hne σ m
      obtain ⟨s1, hs1⟩ := Option.isSome_iff_exists.mp hen
      have hlt := Nat.lt_of_lt_of_le ((i1.measure_step i2 _ hs1).2 hsys)
        (StopInv.sched_measure_mono hcfg h hne σ hnm)
      obtain ⟨m', hm', hret⟩ := ih _ (hk ▸ hlt) (m + 1) (by rw [StopSt.sched_succ, hs1]; rfl)
      exact ⟨m', by omega, hret⟩

theorem stop_exists_sys_of_not_quiescent (hq : ¬ s.quiescent cfg) :
    ∃ a s1, a.isSys = true ∧ s.step cfg a = some s1 := by
  apply Classical.byContradiction
  intro hno
  apply hq
  intro a ha
  cases hst : s.step cfg a with
  | none => rfl
  | some s1 => exact absurd ⟨a, s1, ha, hst⟩ hno

/-- the greedy execution. -/
theorem StopInv.exists_exec_quiescent (hcfg : cfg.stopOnce = false) (h : StopInv cfg s)
    (hne : s.reports ≠ []) :
    ∃ as s', as.length ≤ s.measure cfg ∧ (∀ a ∈ as, a.isSys = true) ∧ s.exec cfg as = some s' ∧
      s'.quiescent cfg ∧ s'.runReturned cfg := by
  generalize hk : s.measure cfg = k
  induction k using Nat.strongRecOn generalizing s with
  | ind k ih =>
    by_cases hq : s.quiescent cfg
    · exact ⟨[], s, Nat.zero_le _, nofun, rfl, hq, h.quiescent_returned hne hq⟩
    · obtain ⟨a, s1, ha, hs1⟩ := stop_exists_sys_of_not_quiescent hq
      have hlt := (h.measure_step hne a hs1).2 ha
      have ⟨h1, hne1⟩ := StopInv.step_reported hcfg ⟨h, hne⟩ hs1
      obtain ⟨as, s', hl, hsys, he, hq', hr⟩ := ih _ (hk ▸ hlt) h1 hne1 rfl
      exact ⟨a :: as, s', Nat.succ_le_of_lt (Nat.lt_of_le_of_lt hl (hk ▸ hlt)),
        List.forall_mem_cons.mpr ⟨ha, hsys⟩,
        StopSt.exec_cons_eq_some.mpr ⟨s1, hs1, he⟩, hq', hr⟩

def stopSchedOf (as : List StopAct) : Nat → StopAct := fun n => as.getD n .wakeup

theorem StopSt.sched_shift (σ : Nat → StopAct) :
    ∀ n, s.sched cfg σ (n + 1) = (((s.step cfg (σ 0)).getD s).sched cfg (fun k => σ (k + 1)) n)
  | 0 => rfl
  | n + 1 => by
    rw [StopSt.sched_succ, StopSt.sched_shift σ n, StopSt.sched_succ]

theorem StopSt.sched_wakeups_quiescent (hq : s.quiescent cfg) (hp : s.pc = .exited) (n : Nat) :
    (s.sched cfg (stopSchedOf []) n).quiescent cfg :=
  (StopSt.sched_closed (A := (· = .wakeup)) (P := fun t => t.quiescent cfg ∧ t.pc = .exited)
    (fun ha ht hs => by
      -- neither the handlers nor the bus look at the wakeups, and the loop is out
      subst ha; cases hs
      have ⟨hd, hin⟩ := StopSt.quiescent_done ht.1
      exact ⟨StopSt.quiescent_of_done (by simp [StopSt.loopStep, ht.2]) hd hin, ht.2⟩)
    (fun _ => rfl) (Nat.zero_le n) ⟨hq, hp⟩).1

theorem StopSt.fair_of_step {s1 : StopSt} {σ : Nat → StopAct} (h0 : (σ 0).isSys = true)
    (h1 : s.step cfg (σ 0) = some s1) (hf : s1.fair cfg fun k => σ (k + 1)) : s.fair cfg σ := by
  have hsh : ∀ m, s.sched cfg σ (m + 1) = s1.sched cfg (fun k => σ (k + 1)) m := fun m => by
    rw [StopSt.sched_shift, h1]; rfl
  intro n hn
  cases n with
  | zero => exact ⟨0, Nat.le_refl _, h0, Option.isSome_iff_exists.mpr ⟨s1, h1⟩⟩
  | succ n =>
    rw [hsh] at hn
    obtain ⟨m, hnm, hm1, hm2⟩ := hf n hn
    exact ⟨m + 1, Nat.succ_le_succ hnm, hm1, by rw [hsh]; exact hm2⟩

theorem StopSt.fair_of_exec (as : List StopAct) (hsys : ∀ a ∈ as, a.isSys = true)
    (hs : s.exec cfg as = some s') (hq : s'.quiescent cfg) (hp : s'.pc = .exited) :
    s.fair cfg (stopSchedOf as) := by
  induction as generalizing s with
  | nil =>
    cases hs
    exact fun n hn => absurd (StopSt.sched_wakeups_quiescent hq hp n) hn
  | cons a as ih =>
    obtain ⟨s1, h1, hs⟩ := StopSt.exec_cons_eq_some.mp hs
    exact StopSt.fair_of_step (σ := stopSchedOf (a :: as)) (hsys a (List.mem_cons_self ..)) h1
      (ih (fun b hb => hsys b (List.mem_cons_of_mem _ hb)) hs)

/-- the state after `stopOnceHistory` in the variant: everything the fail-stop property asks
for has happened (`error` set, every handler returned, every component stopped) - except that
the run loop is waiting for a wakeup. -/
def stopOnceBad : StopSt :=
  { pc := .waiting, error := true, finished := true, stopping := true, hasWakeups := false,
    newWakeup := false, toUpdate := ["a", "b"], failed := ["a", "b"],
    reports := [⟨"a", .done⟩, ⟨"b", .done⟩], inbox := [], stopSent := ["a", "b", "w"],
    stopped := ["w", "b", "a"] }

theorem stopOnce_exec_bad :
    (StopSt.init (stopOnceCfg true)).exec (stopOnceCfg true) stopOnceHistory = some stopOnceBad := by
  decide +kernel

theorem stopOnceBad_dead (a : StopAct) (h : a ≠ .wakeup) :
    stopOnceBad.step (stopOnceCfg true) a = none := by
  have hq : stopOnceBad.quiescent (stopOnceCfg true) :=
    StopSt.quiescent_of_done rfl (by decide +kernel) rfl
  cases hs : stopOnceBad.step (stopOnceCfg true) a with
  | none => rfl
  | some s' =>
    cases StopStep.of_step hs with
    | wakeup => exact absurd rfl h
    | sleepExpires hpc => cases hpc
    -- `hc : c ∈ toUpdate`, `hf : c ∉ failed`: in `stopOnceBad` both fields are the list `["a", "b"]`
    | answer hc hf | fail hc hf => exact absurd hc hf
    | _ => exact nomatch (hq _ rfl).symm.trans hs

/-- the run loop is suspended in `await self.new_wakeup.wait()` and the flag is clear. -/
def StopSt.parked (s : StopSt) : Prop := s.pc = .waiting ∧ s.newWakeup = false

theorem StopSt.parked_step (a : StopAct) (ha : a ≠ .wakeup)
    (hs : s.step cfg a = some s') (h : s.parked) : s'.parked := by
  obtain ⟨hp, hw⟩ := h
  cases StopStep.of_step hs with
  | wakeup => exact absurd rfl ha
  | sleepExpires hpc | exit hpc | pause hpc | tickDone hpc => exact nomatch hpc.symm.trans hp
  | woken _ hw' => exact nomatch hw'.symm.trans hw
  | _ => exact ⟨hp, hw⟩

theorem StopSt.parked_forever (hp : s.parked) :
    (∀ as s', StopAct.wakeup ∉ as → s.exec cfg as = some s' →
      s'.pc = .waiting ∧ ¬ s'.runReturned cfg) ∧
    (∀ σ : Nat → StopAct, (∀ n, σ n ≠ .wakeup) → ∀ n,
      (s.sched cfg σ n).pc = .waiting ∧ ¬ (s.sched cfg σ n).runReturned cfg) :=
  have waits : ∀ {t : StopSt}, t.parked → t.pc = .waiting ∧ ¬ t.runReturned cfg :=
    fun ht => ⟨ht.1, fun hr => nomatch hr.1.symm.trans ht.1⟩
  ⟨fun _ _ hw hs => waits (StopSt.exec_closed (fun ha h hs => StopSt.parked_step _ ha hs h)
      (fun _ ha e => hw (e ▸ ha)) hp hs),
    fun _ hσ n => waits (StopSt.sched_closed (fun ha h hs => StopSt.parked_step _ ha hs h) hσ
      (Nat.zero_le n) hp)⟩

/-- in ANY system with two distinct components the variant can park its run loop while a
shut-down is in progress. -/
theorem stopOnce_parks (cfg : StopCfg) (hcfg : cfg.stopOnce = true) (a b : Comp)
    (ha : a ∈ cfg.comps) (hb : b ∈ cfg.comps) (hab : a ≠ b) :
    (StopSt.init cfg).exec cfg (stopOncePrefix a b) = some (stopOnceParked cfg a b) := by
  have hba : ¬ b = a := fun e => hab e.symm
  simp [stopOncePrefix, StopSt.exec, StopSt.step, StopSt.init, StopSt.handlerStep,
    StopSt.loopStep, ha, hb, hba, hcfg, stopOnceParked]

end Tickit
