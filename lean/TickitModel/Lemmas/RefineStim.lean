/-
Refinement: a whole run WITH EXTERNAL STIMULI (initial tick, callback ticks, interrupts
raised between ticks) of the whole-simulation model on a flat configuration is a `FlatRunI` of
`Core/FlatInt.lean`.  The induction is over `Pacing.Run`; the run without stimuli (`sim_flatRun`, a
`FlatRun`) is the case of a script without interrupts.  The tick branch is `Refine.tickLevel_flat`.  In
the stimulus branch the interrupting component is a child of the master, the configuration being flat,
so `raiseInterrupt` returns the component itself and leaves the state alone (`raiseInterrupt_top`); the
wakeup written by `stimStep` is literally `intWake wake c stamp` (`intWake_eq_stimWhen`), so the
relation `Refine.R` is preserved (`R_stimStep`); the stamp is `≥ tickerTime` = the time of the last tick
(`interruptStamp_ge`, invariant `lastReal ≤ now`), which is `StampsTimely`.
-/
import TickitModel.Lemmas.FlatRunILemmas
import TickitModel.Lemmas.PacingLemmas
import TickitModel.Lemmas.RefineLoop

namespace Tickit

def FAct.interruptOf : FAct → Option (Comp × SimTime)
  | .tick => none
  | .interrupt c stamp => some (c, stamp)

/-- `(k, c, stamp)`: the interrupt of `c` stamped `stamp` comes when `k` ticks have happened.  The second
argument is the number of ticks that have happened before the script starts (`1`, the initial tick, for
the script of a whole `FlatRunI`). -/
def interruptsAt : List FAct → Nat → List (Nat × Comp × SimTime)
  | [], _ => []
  | .tick :: rest, k => interruptsAt rest (k + 1)
  | .interrupt c stamp :: rest, k => (k, c, stamp) :: interruptsAt rest k

theorem interruptsAt_forget (sc : List FAct) (k : Nat) :
    sc.filterMap FAct.interruptOf = (interruptsAt sc k).map (·.2) := by
  induction sc generalizing k with
  | nil => rfl
  | cons a sc ih =>
    cases a with
    | tick => simp only [List.filterMap_cons, FAct.interruptOf, interruptsAt]; exact ih _
    | interrupt c stamp =>
      simp only [List.filterMap_cons, FAct.interruptOf, interruptsAt, List.map_cons]
      rw [ih k]

theorem interruptsAt_append (sc1 sc2 : List FAct) (k : Nat) :
    interruptsAt (sc1 ++ sc2) k =
      interruptsAt sc1 k ++ interruptsAt sc2 (k + sc1.count FAct.tick) := by
  induction sc1 generalizing k with
  | nil => simp [interruptsAt]
  | cons a sc1 ih =>
    cases a with
    | tick =>
      simp only [List.cons_append, interruptsAt, List.count_cons_self]
      rw [ih (k + 1)]
      congr 2
      omega
    | interrupt c stamp =>
      have hne : (FAct.interrupt c stamp == FAct.tick) = false := by
        simp
      simp only [List.cons_append, interruptsAt, List.count_cons, hne, Bool.false_eq_true,
        if_false, Nat.add_zero]
      rw [ih k]

theorem interruptsAt_ge (sc : List FAct) (k0 : Nat) :
    ∀ e ∈ interruptsAt sc k0, k0 ≤ e.1 := by
  induction sc generalizing k0 with
  | nil => intro e he; cases he
  | cons a sc ih =>
    cases a with
    | tick =>
      intro e he
      have := ih (k0 + 1) e he
      omega
    | interrupt c stamp =>
      intro e he
      simp only [interruptsAt, List.mem_cons] at he
      rcases he with rfl | he
      · exact Nat.le_refl _
      · exact ih k0 e he

namespace RefineStim

open Tickit Refine Pacing TimeMono

theorem intWake_eq_stimWhen (wake : Wakeups) (c : Comp) (stamp : SimTime) :
    intWake wake c stamp = addWakeup wake c (stimWhen wake c stamp) := rfl

theorem R_stimStep {S : Static} (fuel : Nat) (sp : Speed) {m : MasterSt} {fl : FlatSt V}
    (hR : R m.sim fl) {st : Stim} (hpar : alookup S.parent st.comp = some "") :
    R (stimStep S fuel sp m st).sim
      { fl with wake := intWake fl.wake st.comp (stampOf sp m st) } := by
  unfold stimStep
  simp only [raiseInterrupt_top S fuel m.sim hpar]
  refine ⟨hR.comps, ?_, hR.obs⟩
  show intWake fl.wake st.comp (stampOf sp m st) = _
  rw [SimSt.sched_upsert, if_pos rfl, hR.wake]
  rfl

structure Inv (L : Level) (t0 : SimTime) (m : MasterSt) (acc : List TickRec) (devs : DevSeq V)
    (sc : List FAct) (n : Nat) (fl : FlatSt V) (times : List SimTime) : Prop where
  run : FlatRunI L.wiring devs t0 sc n fl times
  ext : ∀ k, DevExt (devs k)
  rel : R m.sim fl
  len : acc.length = n + 1
  times_eq : times = (acc.map (·.time)).reverse
  last : times.head? = some m.tickerTime
  real : m.lastReal ≤ m.now
  timely : StampsTimely sc times

theorem _root_.Tickit.Refine.R.delWake {sim : SimSt} {fl : FlatSt V} (h : R sim fl) (cs : List Comp) :
    R (sim.delWake cs) { fl with wake := delWakeups fl.wake cs } :=
  ⟨h.comps, (congrArg (delWakeups · cs) h.wake).trans (sim.delWake_sched_master cs).symm, h.obs⟩

/-- a handled stimulus as an entry of `interruptsAt` (the statements below and those of
`Props/C03NestedInt.lean` write this function out) -/
def evKey (sp : Speed) (ev : StimEv) : Nat × Comp × SimTime := (ev.k, ev.st.comp, ev.stamp sp)

theorem run_flatI {S : Static} (hsys : S.systems = []) {L : Level} (hL : S.level "" = some L)
    {orc : Oracle} {fuel : Nat} {sp : Speed} {t0 : SimTime} {m : MasterSt} {stims : List Stim}
    {acc : List TickRec} {m2 : MasterSt} {ticks : List TickRec} {log : List StimEv}
    (hrun : Run S orc fuel sp m stims acc m2 ticks log) :
    ∀ (devs : DevSeq V) (sc : List FAct) (n : Nat) (fl : FlatSt V) (times : List SimTime),
      Inv L t0 m acc devs sc n fl times → (∀ k, ∃ σ, devs k = devOf orc σ) →
      (∀ st ∈ stims, st.comp ∈ L.wiring.components ∧ alookup S.parent st.comp = some "") →
      ∃ (devs' : DevSeq V) (sc2 : List FAct) (fl' : FlatSt V) (times' : List SimTime),
        Inv L t0 m2 ticks devs' (sc ++ sc2) (ticks.length - 1) fl' times' ∧
        (∀ k, ∃ σ, devs' k = devOf orc σ) ∧
        interruptsAt sc2 acc.length = log.map (fun ev => (ev.k, ev.st.comp, ev.stamp sp)) := by
  induction hrun with
  | stop m stims acc =>
    intro devs sc n fl times hinv hdevs _
    refine ⟨devs, [], fl, times, ?_, hdevs, rfl⟩
    rw [List.append_nil, hinv.len]
    exact hinv
  | @stim m stims acc st rest m2 ticks log hsel _ ih =>
    intro devs sc n fl times hinv hdevs hst
    obtain rfl := stimSel_mem hsel
    obtain ⟨hc, hpar⟩ := hst st (by simp)
    -- the clock of `stimStep`: `now` moves to the stimulus if that is later, `lastReal` stays
    have hnow : m.lastReal ≤ (if st.real < m.now then m.now else st.real) :=
      Int.le_trans hinv.real (le_stimNow _ _)
    have hinv' : Inv L t0 (stimStep S fuel sp m st) acc devs
        (sc ++ [.interrupt st.comp (stampOf sp m st)]) n
        { fl with wake := intWake fl.wake st.comp (stampOf sp m st) } times := by
      refine ⟨.interrupt hinv.run hc, hinv.ext, R_stimStep fuel sp hinv.rel hpar, hinv.len,
        hinv.times_eq, hinv.last, hnow, ?_⟩
      rw [FlatInt.stampsTimely_snoc_interrupt]
      refine ⟨fun tl htl => ?_, hinv.timely⟩
      rw [hinv.last] at htl
      cases htl
      exact interruptStamp_ge _ _ _ _ hnow
    obtain ⟨devs', sc2, fl', times', hinv2, hdevs2, hlog⟩ := ih devs _ n _ times hinv' hdevs
      (fun s hs => hst s (List.mem_cons_of_mem _ hs))
    refine ⟨devs', .interrupt st.comp (stampOf sp m st) :: sc2, fl', times', ?_, hdevs2, ?_⟩
    · rw [List.append_cons]
      exact hinv2
    · simp only [interruptsAt, List.map_cons, hlog]
      rfl
  | @tick m stims acc comps w sim2 out m2 ticks log hsel hfw htick _ ih =>
    intro devs sc n fl times hinv hdevs hst
    obtain ⟨fl2, hrun2, hR2⟩ := tickLevel_flat hsys hL (hinv.rel.delWake comps) htick
    let devs' : DevSeq V := fun k => if k = n + 1 then devOf orc (m.sim.delWake comps) else devs k
    have hfw' : firstWakeups fl.wake = (comps, some w) := by rw [hinv.rel.wake]; exact hfw
    have hrun' : FlatRunI L.wiring devs' t0 (sc ++ [.tick]) (n + 1) fl2 (w :: times) := by
      refine .tick (FlatInt.flatRunI_congr hinv.run (fun k hk => ?_)) hfw' ?_
      · simp only [devs']
        rw [if_neg (by omega)]
      · simp only [devs', if_true]
        exact hrun2
    have hdevs' : ∀ k, ∃ σ, devs' k = devOf orc σ := by
      intro k
      simp only [devs']
      split
      · exact ⟨_, rfl⟩
      · exact hdevs k
    have hinv' : Inv L t0
        { sim := sim2, tickerTime := w, lastReal := dueReal m sp w, now := dueReal m sp w }
        (acc ++ [⟨w, dueReal m sp w, comps⟩]) devs' (sc ++ [.tick]) (n + 1) fl2 (w :: times) := by
      refine ⟨hrun', fun k => (hdevs' k).elim fun σ e => e ▸ devOf_ext orc σ, hR2, by simp [hinv.len],
        by simp [hinv.times_eq], rfl, Int.le_refl _, ?_⟩
      rw [FlatInt.stampsTimely_snoc_tick]
      exact hinv.timely
    obtain ⟨devs2, sc2, fl', times', hinv2, hdevs2, hlog⟩ :=
      ih devs' _ (n + 1) fl2 (w :: times) hinv' hdevs' hst
    refine ⟨devs2, .tick :: sc2, fl', times', ?_, hdevs2, ?_⟩
    · rw [List.append_cons]
      exact hinv2
    · simp only [interruptsAt]
      rw [← hlog]
      simp

theorem sim_flatRunI {S : Static} (hsys : S.systems = []) {L : Level} (hL : S.level "" = some L)
    {orc : Oracle} {fuel : Nat} {t0 : SimTime} {now : Int} {sp : Speed} {steps nTicks : Nat}
    {stims : List Stim}
    (hst : ∀ st ∈ stims, st.comp ∈ L.wiring.components ∧ alookup S.parent st.comp = some "")
    {m m2 : MasterSt} {tr : TickRec} {ticks : List TickRec}
    (h : masterInitial S orc fuel t0 now = .ok (m, tr))
    (h2 : masterRun S orc fuel sp steps nTicks m stims [tr] = .ok (m2, ticks)) :
    ∃ (devs : DevSeq V) (sc : List FAct) (fl : FlatSt V) (times : List SimTime),
      Inv L t0 m2 ticks devs sc (ticks.length - 1) fl times ∧ (∀ k, ∃ σ, devs k = devOf orc σ) ∧
      interruptsAt sc 1 = (runLog S orc fuel sp steps nTicks m stims 1).map
        (fun ev => (ev.k, ev.st.comp, ev.stamp sp)) := by
  obtain ⟨L', out, hL', ht⟩ := masterInitial_tick h
  rw [hL] at hL'; cases hL'
  obtain ⟨fl, hrun, hR⟩ := tickLevel_flat hsys hL R.empty ht
  obtain ⟨c1, c2, c3, htr, _⟩ := masterInitial_clock h
  have hinv : Inv L t0 m [tr] (fun _ => devOf orc {}) [] 0 fl [t0] :=
    ⟨.initial hrun, fun _ => devOf_ext orc {}, hR, rfl, by simp [htr], by simp [c1], by omega,
      FlatInt.stampsTimely_nil _⟩
  obtain ⟨devs, sc, fl', times, hinv', hdevs, hlog⟩ :=
    run_flatI hsys hL (t0 := t0) (masterRun_runLog S orc fuel sp steps nTicks m stims [tr] m2 ticks h2)
      _ [] 0 fl [t0] hinv (fun _ => ⟨{}, rfl⟩) hst
  rw [List.nil_append] at hinv'
  exact ⟨devs, sc, fl', times, hinv', hdevs, hlog⟩

theorem tick_of_interruptsAt_nil {sc : List FAct} {k : Nat} (h : interruptsAt sc k = []) :
    ∀ a ∈ sc, a = .tick := by
  intro a ha
  cases a with
  | tick => rfl
  | interrupt c stamp =>
    have : (c, stamp) ∈ sc.filterMap FAct.interruptOf := List.mem_filterMap.2 ⟨_, ha, rfl⟩
    rw [interruptsAt_forget sc k, h] at this
    cases this

theorem sim_flatRun {S : Static} (hsys : S.systems = []) {L : Level} (hL : S.level "" = some L)
    {orc : Oracle} {fuel : Nat} {t0 : SimTime} {now : Int} {sp : Speed} {steps nTicks : Nat}
    {m m2 : MasterSt} {tr : TickRec} {ticks : List TickRec}
    (h : masterInitial S orc fuel t0 now = .ok (m, tr))
    (h2 : masterRun S orc fuel sp steps nTicks m [] [tr] = .ok (m2, ticks)) :
    ∃ (devs : DevSeq V) (fl : FlatSt V) (times : List SimTime),
      FlatRun L.wiring devs t0 (ticks.length - 1) fl times ∧ R m2.sim fl ∧
      times = (ticks.map (·.time)).reverse ∧ (∀ k, DevExt (devs k)) ∧
      ∀ k, ∃ σ, devs k = devOf orc σ := by
  obtain ⟨devs, sc, fl, times, hinv, hdevs, hlog⟩ := sim_flatRunI hsys hL (stims := []) (fun _ h => nomatch h) h h2
  obtain ⟨rest, hrest⟩ := (masterRun_runLog S orc fuel sp steps nTicks m [] [tr] m2 ticks h2).log_stims
  have hnil : runLog S orc fuel sp steps nTicks m [] 1 = [] :=
    List.map_eq_nil_iff.1 (List.append_eq_nil_iff.1 hrest.symm).1
  rw [hnil] at hlog
  exact ⟨devs, fl, times, (FlatInt.to_flatRun hinv.run (tick_of_interruptsAt_nil hlog)).1, hinv.rel,
    hinv.times_eq, hinv.ext, hdevs⟩

end RefineStim
end Tickit
