/-
Two post-conditions of one tick of one scheduler level of the nested whole-simulation model, each
proved once for a level whose inner ticks have it (`Hereditary`), whatever the order of answers, hence
of `tickLevel` and of `TickLevelAny`: what the tick does to the observations and the `firstDone`
marks (`LevelPost`, by the loop invariant `LoopInv` of `LoopP`), and its frame (`FrameL`): it touches
only the device states, update counts and schedulers of what lies at or below the level.  `anyWake` and
`sysPre` replace ONE scheduler state by a function of it (`wakeUpd`, `sysPreSched`): what the new
scheduler state holds is stated of these two functions, for any scheduler state, since the proofs apply
it to the scheduler state of an earlier state of the loop.
-/
import TickitModel.Lemmas.SimLemmas
import TickitModel.Lemmas.OneLevel
import TickitModel.Lemmas.TickerResLemmas
import TickitModel.Lemmas.Wakeups

namespace Tickit

/-- `add_wakeup` on one scheduler state -/
def wakeUpd (sc : SchedSt) (c : Comp) (ca : Option SimTime) : SchedSt :=
  match ca with
  | some w => { sc with wake := addWakeup sc.wake c w }
  | none => sc

def sysPreSched (sc : SchedSt) (t : SimTime) : SchedSt :=
  { wake := delWakeups sc.wake (nestedDue sc.wake t), interrupts := [], firstDone := true }

theorem anyWake_eq (st : SimSt) (lvl c : Comp) (ca : Option SimTime) :
    anyWake st lvl c ca = { st with scheds := upsert st.scheds lvl (wakeUpd (st.sched lvl) c ca) } := by
  cases ca <;> rfl

theorem sysPre_eq (st : SimSt) (c : Comp) (t : SimTime) :
    sysPre st c t = { st with scheds := upsert st.scheds c (sysPreSched (st.sched c) t) } := rfl

theorem anyWake_sched_own (st : SimSt) (lvl c : Comp) (ca : Option SimTime) :
    (anyWake st lvl c ca).sched lvl = wakeUpd (st.sched lvl) c ca := by
  rw [anyWake_eq, SimSt.sched_upsert, if_pos rfl]

theorem anyWake_sched_ne (st : SimSt) {lvl s : Comp} (c : Comp) (ca : Option SimTime) (h : lvl ≠ s) :
    (anyWake st lvl c ca).sched s = st.sched s := by
  rw [anyWake_eq, SimSt.sched_upsert, if_neg h]

theorem sysPre_sched_self (st : SimSt) (c : Comp) (t : SimTime) :
    (sysPre st c t).sched c = sysPreSched (st.sched c) t := by
  rw [sysPre_eq, SimSt.sched_upsert, if_pos rfl]

theorem sysPre_sched_ne (st : SimSt) {c s : Comp} (t : SimTime) (h : c ≠ s) :
    (sysPre st c t).sched s = st.sched s := by
  rw [sysPre_eq, SimSt.sched_upsert, if_neg h]

theorem wakeUpd_rest (sc : SchedSt) (c : Comp) (ca : Option SimTime) :
    (wakeUpd sc c ca).interrupts = sc.interrupts ∧ (wakeUpd sc c ca).firstDone = sc.firstDone := by
  cases ca <;> exact ⟨rfl, rfl⟩

theorem wakeUpd_lookup (sc : SchedSt) (c : Comp) (ca : Option SimTime) (a : Comp) :
    alookup (wakeUpd sc c ca).wake a =
      if a = c then ca.orElse (fun _ => alookup sc.wake a) else alookup sc.wake a := by
  cases ca with
  | none => simp [wakeUpd]
  | some w =>
    simp only [wakeUpd, addWakeup_lookup]
    split <;> simp

theorem wakeUpd_unique {sc : SchedSt} (h : UniqueKeys sc.wake) (c : Comp) (ca : Option SimTime) :
    UniqueKeys (wakeUpd sc c ca).wake := by
  cases ca with
  | none => exact h
  | some w => exact addWakeup_unique _ h _ _

theorem anyWake_firstDone (st : SimSt) (lvl c : Comp) (ca : Option SimTime) (s : Comp) :
    ((anyWake st lvl c ca).sched s).firstDone = (st.sched s).firstDone := by
  by_cases h : lvl = s
  · subst h
    rw [anyWake_sched_own, (wakeUpd_rest _ _ _).2]
  · rw [anyWake_sched_ne _ _ _ h]

theorem anyWake_obs (st : SimSt) (lvl c : Comp) (callAt : Option SimTime) :
    (anyWake st lvl c callAt).obs = st.obs := rfl

theorem anyWake_devs (st : SimSt) (lvl c : Comp) (callAt : Option SimTime) :
    (anyWake st lvl c callAt).devs = st.devs := rfl

theorem anyWake_count (st : SimSt) (lvl c : Comp) (callAt : Option SimTime) :
    (anyWake st lvl c callAt).count = st.count := rfl

theorem mem_sysRoots_of_initial {S : Static} {st : SimSt} {c : Comp} (t : SimTime) {Lc : Level}
    (hfd : (st.sched c).firstDone = false) (hLc : S.level c = some Lc) {x : Comp}
    (hx : x ∈ Lc.wiring.components) : x ∈ sysRoots S st c t := by
  rw [sysRoots, mem_sunion, hfd, hLc]
  exact Or.inr hx

theorem sysRoots_of_level {S : Static} {c : Comp} {Lc : Level} (hLc : S.level c = some Lc) (st : SimSt)
    (t : SimTime) : sysRoots S st c t =
      sunion (sunion (sunion (st.sched c).interrupts (nestedDue (st.sched c).wake t)) [pseudoExternal])
        (if (st.sched c).firstDone then [] else Lc.wiring.components) := by
  simp only [sysRoots, hLc]

theorem external_mem_sysRoots (S : Static) (st : SimSt) (c : Comp) (t : SimTime) :
    pseudoExternal ∈ sysRoots S st c t := by
  simp [sysRoots, mem_sunion]

def RootsOK (S : Static) (lvl : Comp) (roots : List Comp) : Prop :=
  ∃ L, S.level lvl = some L ∧ ∀ x ∈ roots, x ∈ L.wiring.components

theorem tickLevel_ok_roots {S : Static} {orc : Oracle} {fuel : Nat} {lvl : Comp} {t : SimTime}
    {roots : List Comp} {inCh : List (Port × V)} {st : SimSt} {r : SimSt × List (Port × V)}
    (h : tickLevel S orc fuel lvl t roots inCh st = .ok r) : RootsOK S lvl roots := by
  obtain ⟨_, L, _, _, _, hL, hcall, _⟩ := tickLevel_eq_ok h
  exact ⟨L, hL, Ticker.call_roots_mem hcall⟩

theorem LevelP.rootsOK {S : Static} {orc : Oracle} {inner : LevelRel} {lvl : Comp} {t : SimTime}
    {roots : List Comp} {inCh : List (Port × V)} {st : SimSt} {r : SimSt × List (Port × V)}
    (h : LevelP S orc inner lvl t roots inCh st r) : RootsOK S lvl roots :=
  let ⟨L, _, _, hL, hcall, _⟩ := h
  ⟨L, hL, Ticker.call_roots_mem hcall⟩

/-- a system component whose inner tick succeeds is not the master: `external` is a root of the
inner tick, hence a component of that level, and only nested levels have it.  (`S.WF` alone does not
exclude `S.isSys "" = true`; `Static.Valid.sys_ne_master` has it from the configuration.) -/
theorem Static.WF.sys_ne_master_of_roots {S : Static} (hS : S.WF) {c : Comp} {t : SimTime} {st : SimSt}
    (hr : RootsOK S c (sysRoots S st c t)) : c ≠ "" := by
  obtain ⟨Lc, hLc, hroots⟩ := hr
  obtain ⟨hLc1, hLc2⟩ := Static.level_some hLc
  rcases hS.members Lc hLc1 _ (hroots _ (external_mem_sysRoots S st c t)) with h' | ⟨hne, _⟩
  · rw [hS.pseudo_fresh.1] at h'; cases h'
  · rwa [hLc2] at hne

def LevelPost (S : Static) (lvl : Comp) (t : SimTime) (roots : List Comp) (st st' : SimSt) : Prop :=
  ∃ new : List Obs, st'.obs = st.obs ++ new ∧ (new.map Obs.comp).Nodup ∧
    (∀ o ∈ new, o.time = t ∧ S.isDevice o.comp ∧ S.Below lvl o.comp) ∧
    (∀ s, ¬ S.Below lvl s → (st'.sched s).firstDone = (st.sched s).firstDone) ∧
    ((∀ L, S.level lvl = some L → ∀ c ∈ L.wiring.components, c ∈ roots) →
     (∀ s, S.Below lvl s → S.isSys s = true → (st.sched s).firstDone = false) →
       (∀ x, S.Below lvl x → S.isDevice x → x ∈ new.map Obs.comp) ∧
       (∀ s, S.Below lvl s → S.isSys s = true → (st'.sched s).firstDone = true))

def AnsPost (S : Static) (lvl : Comp) (d : Dispatch V) (st st' : SimSt) : Prop :=
  ∃ new : List Obs, st'.obs = st.obs ++ new ∧ (new.map Obs.comp).Nodup ∧
    (∀ o ∈ new, o.time = d.time ∧ S.isDevice o.comp ∧ alookup S.parent d.comp = some lvl ∧
      S.Own d.comp o.comp) ∧
    (∀ s, (st'.sched s).firstDone ≠ (st.sched s).firstDone →
      alookup S.parent d.comp = some lvl ∧ S.Own d.comp s) ∧
    ((∃ ins, d = .input d.comp d.time ins) → alookup S.parent d.comp = some lvl →
      (∀ s, S.Own d.comp s → S.isSys s = true → (st.sched s).firstDone = false) →
        (∀ x, S.Own d.comp x → S.isDevice x → x ∈ new.map Obs.comp) ∧
        (∀ s, S.Own d.comp s → S.isSys s = true → (st'.sched s).firstDone = true))

theorem AnsPost.refl {S : Static} {lvl : Comp} {d : Dispatch V} (st : SimSt)
    (hno : (∃ ins, d = .input d.comp d.time ins) → alookup S.parent d.comp = some lvl → False) :
    AnsPost S lvl d st st :=
  ⟨[], by simp, by simp, by simp, fun s h => absurd rfl h, fun h1 h2 => (hno h1 h2).elim⟩

/-- `LevelPost` as a relation on ticks, with `RootsOK` (which the answer of a system needs of its
inner tick under `S.WF` alone) -/
def LevelPostRel (S : Static) : LevelRel := fun lvl t roots _ st r =>
  RootsOK S lvl roots ∧ LevelPost S lvl t roots st r.1

theorem AnsP.spec {S : Static} (hS : S.WF) {orc : Oracle} {inner : LevelRel}
    (hin : ∀ c t ro i s r, inner c t ro i s r → LevelPostRel S c t ro i s r)
    {L : Level} (hL : L ∈ S.levels) {inCh : List (Port × V)} {st : SimSt}
    {d : Dispatch V} (hc : d.comp ∈ L.wiring.components)
    {res : SimSt × List (Port × V) × Option SimTime} (a : AnsP S orc inner L inCh st d res) :
    AnsPost S L.name d st res.1 := by
  cases a with
  | skip => exact AnsPost.refl _ (by rintro ⟨ins, h⟩; cases h)
  | @external c t ins hx =>
    refine AnsPost.refl _ (fun _ hp => ?_)
    simp only [Bool.and_eq_true, beq_iff_eq] at hx
    simp only [Dispatch.comp, hx.2, hS.pseudo_fresh.1] at hp
    cases hp
  | @expose c t ins _ hy =>
    refine AnsPost.refl _ (fun _ hp => ?_)
    simp only [Bool.and_eq_true, beq_iff_eq] at hy
    simp only [Dispatch.comp, hy.2, hS.pseudo_fresh.2.1] at hp
    cases hp
  | @sys c t ins st2 outCh hx hy hsys h4 =>
    -- a system component: the post-condition of its inner tick, with `c` itself added
    obtain ⟨hro, new, hobs, hnd, hown, hframe, hdone⟩ := hin _ _ _ _ _ _ h4
    have hpar := hS.parent_of_member (c := c) hL hc hx hy
    have hcne : c ≠ "" := hS.sys_ne_master_of_roots hro
    have hirr : ¬ S.Below c c := Static.Below.irrefl hS hcne
    refine ⟨new, hobs, hnd, ?_, ?_, ?_⟩
    · intro o ho
      obtain ⟨h1, h2, h3⟩ := hown o ho
      exact ⟨h1, h2, hpar, Or.inr ⟨hcne, h3⟩⟩
    · intro s hs
      refine ⟨hpar, ?_⟩
      by_cases hsc : s = c
      · exact Or.inl hsc
      · by_cases hb : S.Below c s
        · exact Or.inr ⟨hcne, hb⟩
        · exact absurd (by rw [hframe s hb, sysPre_sched_ne _ _ (Ne.symm hsc)]) hs
    · intro _ _ hfd
      obtain ⟨hd1, hd2⟩ := hdone
        (fun L' hL' x hx =>
          mem_sysRoots_of_initial t (hfd c (Static.Own.refl S c) hsys) hL' hx)
        (fun s hb hs => by
          have hcs : c ≠ s := fun h => hirr (h ▸ hb)
          rw [sysPre_sched_ne _ _ hcs]
          exact hfd s (Or.inr ⟨hcne, hb⟩) hs)
      refine ⟨?_, ?_⟩
      · rintro x (rfl | ⟨_, hb⟩) hx
        · exact absurd hsys (by simp [hx.2])
        · exact hd1 x hb hx
      · rintro s (rfl | ⟨_, hb⟩) hs
        · rw [hframe _ hirr, sysPre_sched_self]
          rfl
        · exact hd2 s hb hs
  | @dev c t ins resp hx hy hsys _ _ =>
    -- a device: one observation, nothing below it
    have hpar := hS.parent_of_member (c := c) hL hc hx hy
    have hdev : S.isDevice c := ⟨by rw [hpar]; rfl, hsys⟩
    have hnb : ∀ x, S.Own c x → x = c := fun _ => hS.own_of_not_sys hsys
    refine ⟨[⟨c, t, _⟩], rfl, by simp, ?_, fun s hs => absurd rfl hs, fun _ _ _ => ?_⟩
    · intro o ho
      rw [List.mem_singleton.1 ho]
      exact ⟨rfl, hdev, hpar, Static.Own.refl S c⟩
    · refine ⟨fun x hx _ => by simp [hnb x hx], fun s hs hss => ?_⟩
      rw [hnb s hs, hsys] at hss
      cases hss

/-- `st0` is the state in which the tick of this level began, `trace` the ghost trace of the
level's ticker and `new` the observations made so far in this tick. -/
structure LoopInv (S : Static) (L : Level) (t : SimTime) (roots : List Comp) (st0 : SimSt)
    (ls : LoopSt) (trace : List (Ev V)) (new : List Obs) : Prop where
  pre : PreInv L.wiring t roots ls.tk.toUpdate ls.pending trace
  time : ls.tk.time = t
  troots : ls.tk.roots = roots
  pend_comp : ∀ d ∈ ls.pending, d.comp ∈ L.wiring.components
  pend_input : ∀ d ∈ ls.pending, d.comp ∈ roots → ∃ ins, d = .input d.comp t ins
  obs_eq : ls.st.obs = st0.obs ++ new
  obs_nodup : (new.map Obs.comp).Nodup
  /-- every observation belongs to an answered child of the level -/
  obs_own : ∀ o ∈ new, o.time = t ∧ S.isDevice o.comp ∧
    ∃ c, alookup S.parent c = some L.name ∧ alookup ls.tk.toUpdate c = none ∧ S.Own c o.comp
  changed : ∀ s, (ls.st.sched s).firstDone ≠ (st0.sched s).firstDone →
    ∃ c, alookup S.parent c = some L.name ∧ alookup ls.tk.toUpdate c = none ∧ S.Own c s
  /-- in an initial tick, everything that belongs to an answered child is done -/
  done : (∀ c ∈ L.wiring.components, c ∈ roots) →
    (∀ s, S.Below L.name s → S.isSys s = true → (st0.sched s).firstDone = false) →
    ∀ c ∈ extent L.wiring roots, alookup ls.tk.toUpdate c = none →
      alookup S.parent c = some L.name →
      (∀ x, S.Own c x → S.isDevice x → x ∈ new.map Obs.comp) ∧
      (∀ s, S.Own c s → S.isSys s = true → (ls.st.sched s).firstDone = true)

theorem LoopInv.step {S : Static} (hS : S.WF) {orc : Oracle} {inner : LevelRel}
    (hin : ∀ c t ro i s r, inner c t ro i s r → LevelPostRel S c t ro i s r)
    {L : Level} (hL : L ∈ S.levels) {t : SimTime} {roots : List Comp} {st0 : SimSt}
    {inCh : List (Port × V)} {ls : LoopSt} {trace : List (Ev V)} {new : List Obs}
    (inv : LoopInv S L t roots st0 ls trace new)
    {i : Nat} {d : Dispatch V} (hd0 : ls.pending[i]? = some d)
    {st' : SimSt} {changes : List (Port × V)} {callAt : Option SimTime}
    (ha : AnsP S orc inner L inCh ls.st d (st', changes, callAt))
    {tk' : Ticker V} {ds : List (Dispatch V)}
    (hprop : ls.tk.propagate L.wiring d.comp d.time changes = .ok (tk', ds)) :
    ∃ trace' new', LoopInv S L t roots st0
      ⟨tk', ls.pending.eraseIdx i ++ ds, (exposeIns L d).getD ls.outCh,
        anyWake st' L.name d.comp callAt⟩ trace' new' := by
  have htime := (Ticker.propagate_eq_ok hprop).2.1
  have hdm : d ∈ ls.pending := List.mem_of_getElem? hd0
  have hsub : ∀ d' ∈ ls.pending.eraseIdx i, d' ∈ ls.pending := fun _ => List.mem_of_mem_eraseIdx
  have h0 : alookup ls.tk.toUpdate d.comp = some true := (inv.pre.pend_flag _).1 ⟨d, hdm, rfl⟩
  have hdt : d.time = t := htime.trans inv.time
  obtain ⟨hpre, _, htk, hroots⟩ := inv.pre.propagate inv.time hd0 hprop
  have hnone := Ticker.propagate_resolved inv.pre.nodup hprop
  -- a resolved child of the level and an unresolved one own nothing in common
  have hfresh : ∀ {c c' x}, alookup S.parent c = some L.name → alookup S.parent c' = some L.name →
      alookup ls.tk.toUpdate c = none → alookup ls.tk.toUpdate c' ≠ none → S.Own c x →
      ¬ S.Own c' x := by
    intro c c' x hc hc' hcn hcn' ho ho'
    exact hcn' (Static.Own.unique hS hc hc' ho ho' ▸ hcn)
  have hd0' : alookup ls.tk.toUpdate d.comp ≠ none := by rw [h0]; exact nofun
  obtain ⟨new1, hobs1, hnd1, hown1, hch1, hdone1⟩ :=
    ha.spec hS hin hL (inv.pend_comp d hdm)
  refine ⟨trace ++ [Ev.answer d.comp changes] ++ ds.map Ev.dispatch, new ++ new1, ?_⟩
  exact
    { pre := hpre
      time := htk
      troots := hroots.trans inv.troots
      pend_comp := fun d' hd' => (List.mem_append.1 hd').elim (fun h => inv.pend_comp d' (hsub d' h))
        (fun h => (Ticker.propagate_mem hprop h).1)
      pend_input := by
        intro d' hd' hr
        rcases List.mem_append.1 hd' with hd' | hd'
        · exact inv.pend_input d' (hsub d' hd') hr
        · exact inv.time ▸ (Ticker.propagate_mem hprop hd').2 (inv.troots ▸ hr)
      obs_eq := by
        show st'.obs = _
        rw [hobs1, inv.obs_eq, List.append_assoc]
      obs_nodup := by
        rw [List.map_append, List.nodup_append]
        refine ⟨inv.obs_nodup, hnd1, ?_⟩
        intro a ha b hb hab
        subst hab
        obtain ⟨o, ho, rfl⟩ := List.mem_map.1 ha
        obtain ⟨o1, ho1, he⟩ := List.mem_map.1 hb
        obtain ⟨_, _, c, hc, hcn, hown⟩ := inv.obs_own o ho
        obtain ⟨_, _, hpar, hown'⟩ := hown1 o1 ho1
        exact hfresh hc hpar hcn hd0' hown (he ▸ hown')
      obs_own := by
        intro o ho
        rcases List.mem_append.1 ho with ho | ho
        · obtain ⟨h1, h2, c, hc, hcn, hown⟩ := inv.obs_own o ho
          exact ⟨h1, h2, c, hc, (hnone c).2 (Or.inr hcn), hown⟩
        · obtain ⟨h1, h2, hpar, hown⟩ := hown1 o ho
          exact ⟨h1.trans hdt, h2, d.comp, hpar, (hnone _).2 (Or.inl rfl), hown⟩
      changed := by
        intro s hs
        rw [anyWake_firstDone] at hs
        by_cases h1 : (st'.sched s).firstDone = (ls.st.sched s).firstDone
        · obtain ⟨c, hc, hcn, hown⟩ := inv.changed s (h1 ▸ hs)
          exact ⟨c, hc, (hnone c).2 (Or.inr hcn), hown⟩
        · obtain ⟨hpar, hown⟩ := hch1 s h1
          exact ⟨d.comp, hpar, (hnone _).2 (Or.inl rfl), hown⟩
      done := by
        intro hall hfd c hce hcn hcp
        rcases (hnone c).1 hcn with rfl | hcn'
        · -- `d.comp` itself: nothing it owns was touched before, so its answer does it all
          have hinp : ∃ ins, d = .input d.comp d.time ins :=
            hdt ▸ inv.pend_input d hdm (hall _ (inv.pend_comp d hdm))
          obtain ⟨r1, r2⟩ := hdone1 hinp hcp fun s hso hss =>
            (Decidable.byContradiction fun hne' =>
              let ⟨_, hc', hcn', hown'⟩ := inv.changed s hne'
              hfresh hc' hcp hcn' hd0' hown' hso).trans (hfd s (hso.below hcp) hss)
          exact ⟨fun x hx hxd => List.map_append ▸ List.mem_append_right _ (r1 x hx hxd),
            fun s hs hss => (anyWake_firstDone ..).trans (r2 s hs hss)⟩
        · -- a child resolved earlier: this answer touches nothing it owns
          obtain ⟨r1, r2⟩ := inv.done hall hfd c hce hcn' hcp
          refine ⟨fun x hx hxd => List.map_append ▸ List.mem_append_left _ (r1 x hx hxd),
            fun s hs hss => ?_⟩
          rw [anyWake_firstDone, ← r2 s hs hss]
          exact Decidable.byContradiction fun hne' =>
            hfresh hcp (hch1 s hne').1 hcn' hd0' hs (hch1 s hne').2 }

theorem LoopInv.finish {S : Static} (hS : S.WF) {L : Level} {lvl : Comp} (hLv : S.level lvl = some L)
    {t : SimTime} {roots : List Comp} {st0 : SimSt} {ls : LoopSt} {trace : List (Ev V)}
    {new : List Obs} (inv : LoopInv S L t roots st0 ls trace new) (htu : ls.tk.toUpdate = []) :
    LevelPost S lvl t roots st0 ls.st := by
  obtain ⟨hL, hname⟩ := Static.level_some hLv
  subst hname
  refine ⟨new, inv.obs_eq, inv.obs_nodup, ?_, ?_, ?_⟩
  · intro o ho
    obtain ⟨h1, h2, c, hc, _, hown⟩ := inv.obs_own o ho
    exact ⟨h1, h2, hown.below hc⟩
  · intro s hnb
    apply Classical.byContradiction
    intro hne
    obtain ⟨c, hc, _, hown⟩ := inv.changed s hne
    exact hnb (hown.below hc)
  · intro hall hfd
    have key : ∀ x, S.Below L.name x → ∃ c, S.Own c x ∧ c ∈ extent L.wiring roots ∧
        alookup ls.tk.toUpdate c = none ∧ alookup S.parent c = some L.name := by
      intro x hx
      obtain ⟨c, hc, hown⟩ := hx.top
      obtain ⟨L', hL', hcm, _⟩ := hS.parent_level c L.name hc
      rw [hLv] at hL'; cases hL'
      exact ⟨c, hown, mem_extent_of_mem_roots (hall L hLv c hcm), by rw [htu]; rfl, hc⟩
    refine ⟨fun x hx hxd => ?_, fun s hs hss => ?_⟩
    · obtain ⟨c, hown, hce, hcn, hc⟩ := key x hx
      exact (inv.done (hall L hLv) hfd c hce hcn hc).1 x hown hxd
    · obtain ⟨c, hown, hce, hcn, hc⟩ := key s hs
      exact (inv.done (hall L hLv) hfd c hce hcn hc).2 s hown hss

theorem LoopInv.start {S : Static} {L : Level} {t : SimTime} {roots : List Comp} {tk : Ticker V}
    {ds : List (Dispatch V)} (hcall : Ticker.call L.wiring t roots = .ok (tk, ds)) (st : SimSt) :
    LoopInv S L t roots st ⟨tk, ds, [], st⟩ (ds.map Ev.dispatch) [] := by
  obtain ⟨hpre, _, htime, hroots, _⟩ := PreInv.call hcall
  exact
    { pre := hpre
      time := htime
      troots := hroots
      pend_comp := fun d hd => (Ticker.call_mem hcall hd).1
      pend_input := fun d hd => (Ticker.call_mem hcall hd).2
      obs_eq := by simp
      obs_nodup := by simp
      obs_own := by simp
      changed := fun s hs => absurd rfl hs
      done := fun _ _ c hce hcn _ => absurd hce ((Ticker.call_resolved hcall c).1 hcn) }

theorem levelPost_hereditary {S : Static} (hS : S.WF) (orc : Oracle) :
    Hereditary S orc (LevelPostRel S) := by
  intro inner hin lvl t roots inCh st r hl
  refine ⟨hl.rootsOK, ?_⟩
  obtain ⟨L, tk, ds, hLv, hcall, hl⟩ := hl
  obtain ⟨ls', ⟨_, _, inv⟩, _, he, rfl⟩ := hl.invariant
    (I := fun ls => ∃ trace new, LoopInv S L t roots st ls trace new)
    (fun ⟨_, _, inv⟩ hd ha hprop => inv.step hS hin (Static.level_some hLv).1 hd ha hprop)
    ⟨_, _, LoopInv.start hcall st⟩
  exact inv.finish hS hLv he

theorem tickLevel_post {S : Static} (hS : S.WF) (orc : Oracle)
    (fuel : Nat) (lvl : Comp) (t : SimTime) (roots : List Comp) (inCh : List (Port × V))
    (st st' : SimSt) (out : List (Port × V))
    (h : tickLevel S orc fuel lvl t roots inCh st = .ok (st', out)) : LevelPost S lvl t roots st st' :=
  ((levelPost_hereditary hS orc).tickLevel _ _ _ _ _ _ _ h).2

theorem tickLevelAny_post {S : Static} (hS : S.WF) {orc : Oracle} {lvl : Comp} {t : SimTime}
    {roots : List Comp} {inCh : List (Port × V)} {st : SimSt} {r : SimSt × List (Port × V)}
    (h : TickLevelAny S orc lvl t roots inCh st r) : LevelPost S lvl t roots st r.1 :=
  ((levelPost_hereditary hS orc).tickLevelAny h).2

structure FrameL (S : Static) (lvl : Comp) (st st' : SimSt) : Prop where
  devs : ∀ x, ¬ S.Below lvl x → agetD st'.devs x {} = agetD st.devs x {}
  count : ∀ x, ¬ S.Below lvl x → agetD st'.count x 0 = agetD st.count x 0
  sched : ∀ s, s ≠ lvl → ¬ S.Below lvl s → st'.sched s = st.sched s
  sched_dev : ∀ s, s ≠ lvl → S.isSys s = false → st'.sched s = st.sched s

theorem FrameL.refl (S : Static) (lvl : Comp) (st : SimSt) : FrameL S lvl st st :=
  ⟨fun _ _ => rfl, fun _ _ => rfl, fun _ _ _ => rfl, fun _ _ _ => rfl⟩

theorem FrameL.trans {S : Static} {lvl : Comp} {st st' st'' : SimSt} (h : FrameL S lvl st st')
    (h' : FrameL S lvl st' st'') : FrameL S lvl st st'' :=
  ⟨fun x hx => (h'.devs x hx).trans (h.devs x hx), fun x hx => (h'.count x hx).trans (h.count x hx),
    fun s h1 h2 => (h'.sched s h1 h2).trans (h.sched s h1 h2),
    fun s h1 h2 => (h'.sched_dev s h1 h2).trans (h.sched_dev s h1 h2)⟩

structure FrameA (S : Static) (c : Comp) (st st' : SimSt) : Prop where
  devs : ∀ x, ¬ S.Own c x → agetD st'.devs x {} = agetD st.devs x {}
  count : ∀ x, ¬ S.Own c x → agetD st'.count x 0 = agetD st.count x 0
  sched : ∀ s, ¬ S.Own c s → st'.sched s = st.sched s
  sched_dev : ∀ s, S.isSys s = false → st'.sched s = st.sched s

theorem FrameA.refl (S : Static) (c : Comp) (st : SimSt) : FrameA S c st st :=
  ⟨fun _ _ => rfl, fun _ _ => rfl, fun _ _ => rfl, fun _ _ => rfl⟩

/-- `RootsOK`: see `LevelPostRel` -/
def FrameRel (S : Static) : LevelRel := fun lvl _ roots _ st r => RootsOK S lvl roots ∧ FrameL S lvl st r.1

theorem devAfter_devs_ne (st : SimSt) {c x : Comp} (h : c ≠ x) (t : SimTime) (ins : List (Port × V))
    (resp : DevResp) : agetD (devAfter st c t ins resp).1.devs x {} = agetD st.devs x {} :=
  (agetD_upsert _ _ _ _ _).trans (if_neg h)

theorem devAfter_count_ne (st : SimSt) {c x : Comp} (h : c ≠ x) (t : SimTime) (ins : List (Port × V))
    (resp : DevResp) : agetD (devAfter st c t ins resp).1.count x 0 = agetD st.count x 0 :=
  (agetD_upsert _ _ _ _ _).trans (if_neg h)

theorem devAfter_devs_self (st : SimSt) (c : Comp) (t : SimTime) (ins : List (Port × V))
    (resp : DevResp) : agetD (devAfter st c t ins resp).1.devs c {} =
      ⟨(agetD st.devs c {}).merge ins, normDict resp.outs⟩ :=
  (agetD_upsert _ _ _ _ _).trans (if_pos rfl)

theorem devAfter_count_self (st : SimSt) (c : Comp) (t : SimTime) (ins : List (Port × V))
    (resp : DevResp) : agetD (devAfter st c t ins resp).1.count c 0 = agetD st.count c 0 + 1 :=
  (agetD_upsert _ _ _ _ _).trans (if_pos rfl)

theorem devAfter_changes (st : SimSt) (c : Comp) (t : SimTime) (ins : List (Port × V)) (resp : DevResp) :
    (devAfter st c t ins resp).2 = outChanges (agetD st.devs c {}).lastOutputs (normDict resp.outs) := rfl

theorem devAfter_obs (st : SimSt) (c : Comp) (t : SimTime) (ins : List (Port × V)) (resp : DevResp) :
    (devAfter st c t ins resp).1.obs = st.obs ++ [⟨c, t, (agetD st.devs c {}).merge ins⟩] := rfl

theorem devAfter_sched (st : SimSt) (c : Comp) (t : SimTime) (ins : List (Port × V)) (resp : DevResp)
    (s : Comp) : (devAfter st c t ins resp).1.sched s = st.sched s := rfl

theorem AnsP.frameA {S : Static} (hS : S.WF) {orc : Oracle} {inner : LevelRel}
    (hin : ∀ c t ro i s r, inner c t ro i s r → FrameRel S c t ro i s r)
    {L : Level} {inCh : List (Port × V)} {st : SimSt} {d : Dispatch V}
    {res : SimSt × List (Port × V) × Option SimTime} (a : AnsP S orc inner L inCh st d res) :
    FrameA S d.comp st res.1 := by
  cases a with
  | skip => exact FrameA.refl _ _ _
  | external _ => exact FrameA.refl _ _ _
  | expose _ _ => exact FrameA.refl _ _ _
  | @sys c t ins st2 outCh _ _ hsysc h4 =>
    obtain ⟨hro, hf⟩ := hin _ _ _ _ _ _ h4
    have hcne : c ≠ "" := hS.sys_ne_master_of_roots hro
    have hnb : ∀ x, ¬ S.Own c x → ¬ S.Below c x := fun x hx hb => hx (Or.inr ⟨hcne, hb⟩)
    refine ⟨fun x hx => hf.devs x (hnb x hx), fun x hx => hf.count x (hnb x hx), ?_, ?_⟩
    · intro s hs
      have hsc : s ≠ c := fun h' => hs (Or.inl h')
      exact (hf.sched s hsc (hnb s hs)).trans (sysPre_sched_ne _ _ (Ne.symm hsc))
    · intro s hs
      have hsc : s ≠ c := by
        intro h'; rw [h', hsysc] at hs; cases hs
      exact (hf.sched_dev s hsc hs).trans (sysPre_sched_ne _ _ (Ne.symm hsc))
  | @dev c t ins resp _ _ _ _ _ =>
    exact ⟨fun x hx => devAfter_devs_ne st (fun h' => hx (Or.inl h'.symm)) t ins resp,
      fun x hx => devAfter_count_ne st (fun h' => hx (Or.inl h'.symm)) t ins resp, fun s _ => rfl, fun s _ => rfl⟩

theorem AnsP.of_not_child {S : Static} (hS : S.WF) {orc : Oracle} {inner : LevelRel} {L : Level}
    (hL : L ∈ S.levels) {inCh : List (Port × V)} {st : SimSt} {d : Dispatch V}
    (hdc : d.comp ∈ L.wiring.components) (hnp : alookup S.parent d.comp ≠ some L.name) {st' : SimSt}
    {ch : List (Port × V)} {ca : Option SimTime}
    (h : AnsP S orc inner L inCh st d (st', ch, ca)) : st' = st ∧ ca = none := by
  cases h with
  | skip => exact ⟨rfl, rfl⟩
  | external => exact ⟨rfl, rfl⟩
  | expose => exact ⟨rfl, rfl⟩
  | sys h1 h2 => exact absurd (hS.parent_of_member hL hdc h1 h2) hnp
  | dev h1 h2 => exact absurd (hS.parent_of_member hL hdc h1 h2) hnp

theorem AnsP.child_or_same {S : Static} (hS : S.WF) {orc : Oracle} {inner : LevelRel} {L : Level}
    (hL : L ∈ S.levels) {inCh : List (Port × V)} {st : SimSt} {d : Dispatch V}
    (hc : d.comp ∈ L.wiring.components) {res : SimSt × List (Port × V) × Option SimTime}
    (a : AnsP S orc inner L inCh st d res) : alookup S.parent d.comp = some L.name ∨ res.1 = st :=
  Classical.or_iff_not_imp_left.2 fun hnp => (a.of_not_child hS hL hc hnp).1

/-- what belongs to a child of the level lies below the level (`Static.Own.below`) -/
theorem FrameL.answer {S : Static} {L : Level} {st0 st st' : SimSt} {c : Comp}
    (hf : FrameL S L.name st0 st) (hfa : FrameA S c st st')
    (hown : alookup S.parent c = some L.name ∨ st' = st) (ca : Option SimTime) :
    FrameL S L.name st0 (anyWake st' L.name c ca) := by
  have hout : ∀ x, ¬ S.Below L.name x → ¬ S.Own c x ∨ st' = st := fun x hx =>
    hown.imp (fun hpar ho => hx (ho.below hpar)) id
  refine hf.trans ⟨fun x hx => ?_, fun x hx => ?_, fun s h1 h2 => ?_, fun s h1 h2 => ?_⟩
  · show agetD st'.devs x {} = _
    rcases hout x hx with ho | he
    · exact hfa.devs x ho
    · rw [he]
  · show agetD st'.count x 0 = _
    rcases hout x hx with ho | he
    · exact hfa.count x ho
    · rw [he]
  · rw [anyWake_sched_ne _ _ _ (Ne.symm h1)]
    rcases hout s h2 with ho | he
    · exact hfa.sched s ho
    · rw [he]
  · rw [anyWake_sched_ne _ _ _ (Ne.symm h1)]
    exact hfa.sched_dev s h2

theorem frame_hereditary {S : Static} (hS : S.WF) (orc : Oracle) : Hereditary S orc (FrameRel S) := by
  intro inner hin lvl t roots inCh st r hl
  refine ⟨hl.rootsOK, ?_⟩
  obtain ⟨L, tk, ds, hLv, hcall, hl⟩ := hl
  obtain ⟨hL, rfl⟩ := Static.level_some hLv
  obtain ⟨ls', ⟨_, hf⟩, _, _, rfl⟩ := hl.invariant
    (I := fun ls => (∀ d ∈ ls.pending, d.comp ∈ L.wiring.components) ∧ FrameL S L.name st ls.st)
    (fun {ls _ d _ _ _ _ _} ⟨hpc, hf⟩ hd ha hprop => by
      have hdc : d.comp ∈ L.wiring.components := hpc d (List.mem_of_getElem? hd)
      refine ⟨fun d' hd' => ?_, hf.answer (ha.frameA hS hin) (ha.child_or_same hS hL hdc) _⟩
      rcases List.mem_append.1 hd' with hd' | hd'
      · exact hpc d' (List.mem_of_mem_eraseIdx hd')
      · exact (Ticker.propagate_mem hprop hd').1)
    ⟨fun d hd => (Ticker.call_mem hcall hd).1, FrameL.refl _ _ _⟩
  exact hf

theorem tickLevel_frame {S : Static} (hS : S.WF) (orc : Oracle)
    (fuel : Nat) (lvl : Comp) (t : SimTime) (roots : List Comp) (inCh : List (Port × V))
    (st st' : SimSt) (out : List (Port × V))
    (h : tickLevel S orc fuel lvl t roots inCh st = .ok (st', out)) : FrameL S lvl st st' :=
  ((frame_hereditary hS orc).tickLevel _ _ _ _ _ _ _ h).2

theorem tickLevelAny_frame {S : Static} (hS : S.WF) {orc : Oracle} {lvl : Comp} {t : SimTime}
    {roots : List Comp} {inCh : List (Port × V)} {st : SimSt} {r : SimSt × List (Port × V)}
    (h : TickLevelAny S orc lvl t roots inCh st r) : FrameL S lvl st r.1 :=
  ((frame_hereditary hS orc).tickLevelAny h).2

theorem AnsP.own {S : Static} (hS : S.WF) {orc : Oracle} {fuel : Nat} {L : Level}
    (hL : L ∈ S.levels) {inCh : List (Port × V)} {st : SimSt} {d : Dispatch V}
    (hdc : d.comp ∈ L.wiring.components) {st' : SimSt} {ch : List (Port × V)}
    {ca : Option SimTime} (ha : AnsP S orc (fifoRel S orc fuel) L inCh st d (st', ch, ca)) :
    (∃ newA, st'.obs = st.obs ++ newA ∧
      ∀ o ∈ newA, alookup S.parent d.comp = some L.name ∧ S.Own d.comp o.comp) ∧
      FrameA S d.comp st st' := by
  obtain ⟨newA, hobsA, _, hownA, _, _⟩ := (ha.mono fun _ _ _ _ _ _ h =>
    (levelPost_hereditary hS orc).tickLevel fuel _ _ _ _ _ _ h).spec hS (fun _ _ _ _ _ _ h => h) hL hdc
  exact ⟨⟨newA, hobsA, fun o ho => (hownA o ho).2.2⟩, (ha.mono fun _ _ _ _ _ _ h =>
    (frame_hereditary hS orc).tickLevel fuel _ _ _ _ _ _ h).frameA hS fun _ _ _ _ _ _ h => h⟩

end Tickit
