/-
The router facts the ticker relies on (`RouterOK`) hold of every well-formed wiring with one source
per input port.
-/
import TickitModel.Lemmas.RouterTree
import TickitModel.Lemmas.TickEqLemmas

namespace Tickit

theorem routerOK_of_wf (w : Wiring) (h : w.WF) (h1 : w.OneSource) : RouterOK w where
  oneSource := h1
  route_exact := fun a ch hch b q v => Wiring.route_exact' w h1 a ch hch b q v
  route_wf := fun a ch =>
    ⟨(Wiring.route_wf2 w a ch).1, fun e he =>
      ⟨(Wiring.route_wf2 w a ch).2 e he,
        Wiring.route_noEmpty w a ch e.1 e.2 (alookup_eq_some_of_mem (Wiring.route_wf2 w a ch).1 he)⟩⟩
  ups_edge := fun _ _ hu a => Wiring.mem_ups_iff' h hu a

end Tickit
