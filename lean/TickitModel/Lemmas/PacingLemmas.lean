/-
For C12 at run level (`Props/C12Run.lean`): pacing of the whole-simulation master loop `masterRun`
against real time.  `Run` is the branches of `masterRun` as an inductive relation, with the log of the
stimuli it handles (`masterRun_runLog`); what is proved of a `Run` comes from the run with costs
(namespace `Pacing` at the end of `Lemmas/CostRun.lean`).  `Link`: how the real time of a tick record
follows from the previous record (`dueReal`).  `Reached`: a wakeup whose time has come in real time.
`RefineStim.stampOf`: the stamp of a handled stimulus as a function of master state and stimulus
(`StimEv.stamp` without the position in the log), for the refinement and for C09.
-/
import TickitModel.Lemmas.MiscArith
import TickitModel.Lemmas.OneLevel
import TickitModel.Lemmas.MasterRun

namespace Tickit
namespace Pacing

open TimeMono

/-- a stimulus handled by the master loop in master state `m`; `k` is the number of tick records written
so far (so the next tick record, if any, is `ticks[k]`, and `ticks[k-1]` is the last tick before the
stimulus). -/
structure StimEv where
  m : MasterSt
  st : Stim
  k : Nat

/-- `masterRun`: `now` -/
def StimEv.now (ev : StimEv) : Int := if ev.st.real < ev.m.now then ev.m.now else ev.st.real

theorem StimEv.le_now (ev : StimEv) : ev.m.now ≤ ev.now :=
  le_stimNow _ _

theorem StimEv.real_le_now (ev : StimEv) : ev.st.real ≤ ev.now := by
  unfold StimEv.now
  split <;> omega

theorem StimEv.now_eq_max (ev : StimEv) : ev.now = max ev.st.real ev.m.now := by
  unfold StimEv.now
  split
  · exact (Int.max_eq_right (Int.le_of_lt ‹_›)).symm
  · exact (Int.max_eq_left (Int.not_lt.1 ‹_›)).symm

/-- `masterRun`: `stamp` -/
def StimEv.stamp (sp : Speed) (ev : StimEv) : SimTime :=
  interruptStamp ev.m.tickerTime ev.now ev.m.lastReal sp

/-- `masterRun`: `top`, the component itself or the outermost system component containing it -/
def StimEv.top (S : Static) (fuel : Nat) (ev : StimEv) : Comp :=
  (raiseInterrupt S fuel ev.st.comp ev.m.sim).2

/-- `masterRun`: `when` -/
def StimEv.when (S : Static) (fuel : Nat) (sp : Speed) (ev : StimEv) : SimTime :=
  stimWhen (ev.m.sim.sched "").wake (ev.top S fuel) (ev.stamp sp)

/-- `Run S orc fuel sp m stims acc m2 ticks log`: started in master state `m` with pending stimuli
`stims` and tick records `acc`, the master loop stops in `m2` with tick records `ticks`, having
handled the stimuli recorded in `log` (in this order).  `stop` stands for every way the loop returns (a
counter used up, or no wakeup left): the counters are left out, `Run` does not say when the loop stops. -/
inductive Run (S : Static) (orc : Oracle) (fuel : Nat) (sp : Speed) :
    MasterSt → List Stim → List TickRec → MasterSt → List TickRec → List StimEv → Prop
  | stop (m : MasterSt) (stims : List Stim) (acc : List TickRec) :
      Run S orc fuel sp m stims acc m acc []
  | stim {m : MasterSt} {stims : List Stim} {acc : List TickRec} {st : Stim} {rest : List Stim}
      {m2 : MasterSt} {ticks : List TickRec} {log : List StimEv}
      (hsel : stimSel m sp (firstWakeups (m.sim.sched "").wake).2 stims = some (st, rest))
      (hrun : Run S orc fuel sp (stimStep S fuel sp m st) rest acc m2 ticks log) :
      Run S orc fuel sp m stims acc m2 ticks (⟨m, st, acc.length⟩ :: log)
  | tick {m : MasterSt} {stims : List Stim} {acc : List TickRec} {comps : List Comp} {w : SimTime}
      {sim2 : SimSt} {out : List (Port × V)}
      {m2 : MasterSt} {ticks : List TickRec} {log : List StimEv}
      (hsel : stimSel m sp (firstWakeups (m.sim.sched "").wake).2 stims = none)
      (hfw : firstWakeups (m.sim.sched "").wake = (comps, some w))
      (htick : tickLevel S orc fuel "" w comps [] (delMaster m.sim comps) = .ok (sim2, out))
      (hrun : Run S orc fuel sp
        { sim := sim2, tickerTime := w, lastReal := dueReal m sp w, now := dueReal m sp w } stims
        (acc ++ [⟨w, dueReal m sp w, comps⟩]) m2 ticks log) :
      Run S orc fuel sp m stims acc m2 ticks log

def runLog (S : Static) (orc : Oracle) (fuel : Nat) (sp : Speed) :
    Nat → Nat → MasterSt → List Stim → Nat → List StimEv
  | 0, _, _, _, _ => []
  | steps + 1, nTicks, m, stims, k =>
    match nTicks with
    | 0 => []
    | nTicks + 1 =>
      match stimSel m sp (firstWakeups (m.sim.sched "").wake).2 stims with
      | some (st, rest) =>
        ⟨m, st, k⟩ :: runLog S orc fuel sp steps (nTicks + 1) (stimStep S fuel sp m st) rest k
      | none =>
        match firstWakeups (m.sim.sched "").wake with
        | (comps, some w) =>
          match tickLevel S orc fuel "" w comps [] (delMaster m.sim comps) with
          | .error _ => []
          | .ok (sim2, _) =>
            runLog S orc fuel sp steps nTicks
              { sim := sim2, tickerTime := w, lastReal := dueReal m sp w, now := dueReal m sp w }
              stims (k + 1)
        | (_, none) => []

section
variable {S : Static} {orc : Oracle} {fuel : Nat} {sp : Speed} {steps nTicks : Nat} {m : MasterSt}
  {stims : List Stim} {k : Nat}

theorem runLog_stop (h : steps = 0 ∨ nTicks = 0) :
    runLog S orc fuel sp steps nTicks m stims k = [] := by
  rcases h with rfl | rfl
  · rw [runLog]
  · cases steps <;> rw [runLog]

theorem runLog_stim {st : Stim} {rest : List Stim}
    (hs : stimSel m sp (firstWakeups (m.sim.sched "").wake).2 stims = some (st, rest)) :
    runLog S orc fuel sp (steps + 1) (nTicks + 1) m stims k =
      ⟨m, st, k⟩ :: runLog S orc fuel sp steps (nTicks + 1) (stimStep S fuel sp m st) rest k := by
  rw [runLog, hs]

theorem runLog_tick {comps : List Comp} {w : SimTime} {sim2 : SimSt} {out : List (Port × V)}
    (hs : stimSel m sp (firstWakeups (m.sim.sched "").wake).2 stims = none)
    (hfw : firstWakeups (m.sim.sched "").wake = (comps, some w))
    (ht : tickLevel S orc fuel "" w comps [] (delMaster m.sim comps) = .ok (sim2, out)) :
    runLog S orc fuel sp (steps + 1) (nTicks + 1) m stims k =
      runLog S orc fuel sp steps nTicks
        { sim := sim2, tickerTime := w, lastReal := dueReal m sp w, now := dueReal m sp w } stims
        (k + 1) := by
  rw [runLog, hs, hfw]
  simp only [] -- reduces the `match (comps, some w) with …`
  rw [ht]

theorem runLog_idle (hs : stimSel m sp (firstWakeups (m.sim.sched "").wake).2 stims = none)
    (hn : (firstWakeups (m.sim.sched "").wake).2 = none) :
    runLog S orc fuel sp (steps + 1) (nTicks + 1) m stims k = [] := by
  rw [runLog, hs]
  cases hfw : firstWakeups (m.sim.sched "").wake with
  | mk comps whenT => rw [hfw] at hn; cases hn; rfl

end

theorem masterRun_runLog (S : Static) (orc : Oracle) (fuel : Nat) (sp : Speed) :
    ∀ (steps nTicks : Nat) (m : MasterSt) (stims : List Stim) (acc : List TickRec)
      (m2 : MasterSt) (ticks : List TickRec),
      masterRun S orc fuel sp steps nTicks m stims acc = .ok (m2, ticks) →
      Run S orc fuel sp m stims acc m2 ticks (runLog S orc fuel sp steps nTicks m stims acc.length) :=
  fun steps nTicks m stims acc m2 ticks =>
    masterRun_elim (P := fun steps nTicks m stims acc r =>
        Run S orc fuel sp m stims acc r.1 r.2 (runLog S orc fuel sp steps nTicks m stims acc.length))
      (fun _ _ m stims acc h => by rw [runLog_stop h]; exact .stop m stims acc)
      (fun _ _ _ _ _ _ _ _ hs ih => by rw [runLog_stim hs]; exact .stim hs ih)
      (fun _ _ _ _ _ _ _ _ _ _ hs hfw ht ih => by
        rw [runLog_tick hs hfw ht]
        rw [List.length_append] at ih
        exact .tick hs hfw ht ih)
      (fun _ _ m stims acc hs hn => by rw [runLog_idle hs hn]; exact .stop m stims acc)
      steps nTicks m stims acc (m2, ticks)

theorem Run.log_stims {S : Static} {orc : Oracle} {fuel : Nat} {sp : Speed} {m : MasterSt}
    {stims : List Stim} {acc : List TickRec} {m2 : MasterSt} {ticks : List TickRec}
    {log : List StimEv} (h : Run S orc fuel sp m stims acc m2 ticks log) :
    ∃ rest, stims = log.map (·.st) ++ rest := by
  induction h with
  | stop m stims acc => exact ⟨stims, by simp⟩
  | stim hsel _ ih =>
    obtain ⟨r, hr⟩ := ih
    exact ⟨r, by rw [stimSel_mem hsel, hr]; simp⟩
  | tick _ _ _ _ ih => exact ih

def Consec (R : TickRec → TickRec → Prop) (l : List TickRec) : Prop :=
  ∀ (i : Nat) (a b : TickRec), l[i]? = some a → l[i + 1]? = some b → R a b

theorem consec_mono {R R' : TickRec → TickRec → Prop} {l : List TickRec}
    (h : Consec R l) (hi : ∀ (i : Nat) a b, l[i]? = some a → l[i + 1]? = some b → R a b → R' a b) :
    Consec R' l :=
  fun i a b ha hb => hi i a b ha hb (h i a b ha hb)

theorem pairwise_consec (l : List TickRec) (h : (l.map (·.time)).Pairwise (· ≤ ·)) :
    Consec (fun a b => a.time ≤ b.time) l := by
  intro i a b ha hb
  obtain ⟨h1, rfl⟩ := List.getElem?_eq_some_iff.1 ha
  obtain ⟨h2, rfl⟩ := List.getElem?_eq_some_iff.1 hb
  have := (List.pairwise_iff_getElem.1 h) i (i + 1) (by simpa using h1) (by simpa using h2)
    (by omega)
  simpa using this

/-- record `b` follows record `a`: the tick for `b.time` was started at
`dueReal ⟨a.time, a.real, N⟩ sp b.time`, where `N ≥ a.real` is the real time reached meanwhile
(stimuli move it forward); with callbacks only (`cb`) nothing happens in between: `N = a.real`. -/
def Link (sp : Speed) (cb : Prop) (a b : TickRec) : Prop :=
  ∃ N : Int, a.real ≤ N ∧ (cb → N = a.real) ∧
    b.real = dueReal { tickerTime := a.time, lastReal := a.real, now := N } sp b.time

theorem Link.never_early {sp : Speed} {cb : Prop} {a b : TickRec} (hs : 0 < sp.num)
    (h : Link sp cb a b) :
    a.real ≤ b.real ∧ (b.time - a.time) * sp.den ≤ (b.real - a.real) * sp.num := by
  obtain ⟨N, h1, _, h3⟩ := h
  have := Tickit.never_early { tickerTime := a.time, lastReal := a.real, now := N } sp hs b.time
  rw [← h3] at this
  exact ⟨Int.le_trans h1 this.1, this.2⟩

theorem stimStep_lookup (S : Static) (fuel : Nat) (sp : Speed) (ev : StimEv) (c : Comp) :
    alookup ((stimStep S fuel sp ev.m ev.st).sim.sched "").wake c =
      if ev.top S fuel = c then some (ev.when S fuel sp) else alookup (ev.m.sim.sched "").wake c := by
  rw [stimStep_wake]
  exact alookup_upsert _ _ _ _

theorem stimStep_wakeup (S : Static) (fuel : Nat) (sp : Speed) (ev : StimEv) {top : Comp}
    {e : SimTime} (he : alookup (ev.m.sim.sched "").wake top = some e) :
    ∃ e', alookup ((stimStep S fuel sp ev.m ev.st).sim.sched "").wake top = some e' ∧ e' ≤ e ∧
      (ev.top S fuel = top → e' = ev.when S fuel sp) := by
  rw [stimStep_lookup]
  split
  · rename_i htop
    subst htop
    exact ⟨_, rfl, stimWhen_le_old _ _ _ _ he, fun _ => rfl⟩
  · rename_i htop
    exact ⟨e, he, Int.le_refl _, fun h => absurd h htop⟩

theorem stimSel_due {m : MasterSt} {s : Speed} {w : SimTime} {stims : List Stim}
    {st : Stim} {rest : List Stim} (h : stimSel m s (some w) stims = some (st, rest)) :
    st.real ≤ dueReal m s w := by
  cases stims with
  | nil => simp [stimSel] at h
  | cons st0 rest0 =>
    simp only [stimSel, Option.map_some] at h
    split at h
    · rename_i hle
      simp only [Option.some.injEq, Prod.mk.injEq] at h
      rw [← h.1]; exact hle
    · cases h

def Reached (sp : Speed) (m : MasterSt) (top : Comp) (bound : SimTime) : Prop :=
  ∃ e, alookup (m.sim.sched "").wake top = some e ∧ e ≤ bound ∧
    (e - m.tickerTime) * sp.den ≤ (m.now - m.lastReal) * sp.num

theorem Reached.first {sp : Speed} {m : MasterSt} {top : Comp} {bound : SimTime}
    (h : Reached sp m top bound) {comps : List Comp} {w : SimTime}
    (hfw : firstWakeups (m.sim.sched "").wake = (comps, some w)) :
    dueReal m sp w = m.now ∧ w ≤ bound ∧ (w = bound → top ∈ comps) := by
  obtain ⟨e, he, heb, hes⟩ := h
  have hmem := mem_of_alookup_eq_some he
  have hwe : w ≤ e := ((firstWakeups_snd_eq_some_iff _ w).mp (by rw [hfw])).2 _ hmem
  refine ⟨dueReal_now_of_reached m sp w e hwe hes, Int.le_trans hwe heb, fun hwb => ?_⟩
  have hew : e = w := Int.le_antisymm (hwb ▸ heb) hwe
  exact (mem_firstWakeups_iff hfw top).mpr (hew ▸ hmem)

theorem Reached.sel {sp : Speed} {m : MasterSt} {top : Comp} {bound : SimTime}
    (h : Reached sp m top bound) {stims : List Stim} {st : Stim} {rest : List Stim}
    (hsel : stimSel m sp (firstWakeups (m.sim.sched "").wake).2 stims = some (st, rest)) :
    st.real ≤ m.now := by
  obtain ⟨e, he, _, hes⟩ := h
  obtain ⟨w, hw, hwe⟩ := firstWakeups_some_of_mem _ (top, e) (mem_of_alookup_eq_some he)
  rw [hw] at hsel
  rw [← dueReal_now_of_reached m sp w e hwe hes]
  exact stimSel_due hsel

/-- the wakeup of `top` is kept, or lowered by the interrupt -/
theorem Reached.stimStep {sp : Speed} {m : MasterSt} {top : Comp} {bound : SimTime}
    (h : Reached sp m top bound) (S : Static) (fuel : Nat) (st : Stim) (hst : st.real ≤ m.now) :
    Reached sp (stimStep S fuel sp m st) top bound := by
  obtain ⟨e, he, heb, hes⟩ := h
  obtain ⟨e', he', hle, _⟩ := stimStep_wakeup S fuel sp ⟨m, st, 0⟩ he
  refine ⟨e', he', Int.le_trans hle heb, ?_⟩
  show (e' - m.tickerTime) * sp.den ≤ ((if st.real < m.now then m.now else st.real) - m.lastReal) * sp.num
  rw [stimNow_eq hst]
  exact Int.le_trans
    (Int.mul_le_mul_of_nonneg_right (Int.sub_le_sub_right hle _) (Int.natCast_nonneg _)) hes

theorem reached_stimStep (S : Static) (fuel : Nat) {sp : Speed} (hd : 0 < sp.den) (m : MasterSt)
    (st : Stim) (hLN : m.lastReal ≤ m.now) :
    Reached sp (stimStep S fuel sp m st) (raiseInterrupt S fuel st.comp m.sim).2
      (stimWhen (m.sim.sched "").wake (raiseInterrupt S fuel st.comp m.sim).2
        (interruptStamp m.tickerTime (if st.real < m.now then m.now else st.real) m.lastReal sp)) := by
  refine ⟨_, (stimStep_lookup S fuel sp ⟨m, st, 0⟩ _).trans (if_pos rfl), Int.le_refl _, Int.le_trans
    (Int.mul_le_mul_of_nonneg_right (Int.sub_le_sub_right (stimWhen_le_stamp _ _ _) _)
      (Int.natCast_nonneg _)) ?_⟩
  exact (stamp_law m.tickerTime _ m.lastReal sp hd (Int.le_trans hLN (le_stimNow _ _))).1

end Pacing

namespace RefineStim

open Pacing

/-- `stampOf` has the namespace of `Lemmas/RefineStim.lean` and stands here because both the refinement (that
file) and C09 (`Lemmas/FlattenStimRun.lean`, which does not import the refinement) need it, and this
file is below both. -/
def stampOf (sp : Speed) (m : MasterSt) (st : Stim) : SimTime :=
  interruptStamp m.tickerTime (if st.real < m.now then m.now else st.real) m.lastReal sp

theorem stampOf_eq (sp : Speed) (m : MasterSt) (st : Stim) (k : Nat) :
    stampOf sp m st = (⟨m, st, k⟩ : StimEv).stamp sp := rfl

theorem stampOf_congr {m m' : MasterSt} (h : m.SameClock m') (sp : Speed) (st : Stim) :
    stampOf sp m st = stampOf sp m' st := by
  obtain ⟨h1, h2, h3⟩ := h
  simp [stampOf, h1, h2, h3]

end RefineStim
end Tickit
