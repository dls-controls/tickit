/-
History invariants of the message-level model of a tick: the log of `in c` is exactly what the
scheduler dispatched to `c`; what `c` has handled is exactly the consumed part of that log; a
component that has not started has consumed nothing; every reaction follows its own dispatch.  And
the scheduler's `wakeups` dict during the tick: the entry of a component changes exactly when the
scheduler consumes that component's `Output`, to the `call_at` the component put into it (if any).
-/
import TickitModel.Lemmas.MsgFlatSim
import TickitModel.Lemmas.TickEqLemmas
import TickitModel.Lemmas.Wakeups
import TickitModel.Lemmas.ListLemmas

set_option autoImplicit false

namespace Tickit

variable {Val : Type}

def inputsTo (c : Comp) (tr : List (Ev Val)) : List (BusMsg Val) :=
  tr.filterMap (fun e => match e with
    | .dispatch d => if d.topic = .inT c then some (.disp d) else none
    | .answer _ _ => none)

def reactMsgs (c : Comp) (h : List (MsgEv Val)) : List (BusMsg Val) :=
  (reactsOf c h).map (fun p => BusMsg.disp (.input c p.1 p.2))

@[simp] theorem inputsTo_nil (c : Comp) : inputsTo c ([] : List (Ev Val)) = [] := rfl

theorem inputsTo_append (c : Comp) (a b : List (Ev Val)) :
    inputsTo c (a ++ b) = inputsTo c a ++ inputsTo c b := by
  simp [inputsTo]

@[simp] theorem inputsTo_answer (c a : Comp) (ch : List (Port × Val)) :
    inputsTo c [Ev.answer a ch] = [] := rfl

theorem inputsTo_map_dispatch (c : Comp) (ds : List (Dispatch Val)) :
    inputsTo c (ds.map Ev.dispatch) = (ds.filter (fun d => d.topic = .inT c)).map BusMsg.disp := by
  induction ds with
  | nil => rfl
  | cons d ds ih =>
    simp only [inputsTo] at ih ⊢
    by_cases h : d.topic = .inT c <;> simp [h, ih]

@[simp] theorem reactsOf_nil (c : Comp) : reactsOf c ([] : List (MsgEv Val)) = [] := rfl

theorem reactsOf_append (c : Comp) (a b : List (MsgEv Val)) :
    reactsOf c (a ++ b) = reactsOf c a ++ reactsOf c b :=
  List.filterMap_append

@[simp] theorem reactsOf_dispatch (c : Comp) (d : Dispatch Val) :
    reactsOf c [MsgEv.dispatch d] = [] := rfl

@[simp] theorem reactsOf_answer (c a : Comp) (ch : List (Port × Val)) :
    reactsOf c [MsgEv.answer a ch] = [] := rfl

theorem reactsOf_react (c c' : Comp) (t : SimTime) (ins : List (Port × Val)) :
    reactsOf c [MsgEv.react c' t ins] = if c' = c then [(t, ins)] else [] := by
  by_cases h : c' = c <;>
    simp only [reactsOf, List.filterMap_cons, List.filterMap_nil, h, ↓reduceIte]

def MsgEv.isReact : MsgEv Val → Bool
  | .react _ _ _ => true
  | _ => false

theorem isReact_map_dispatch (ds : List (Dispatch Val)) :
    ∀ e ∈ ds.map MsgEv.dispatch, e.isReact = false := by
  intro e he
  obtain ⟨d, _, rfl⟩ := List.mem_map.1 he
  rfl

theorem reactsOf_eq_nil {c : Comp} {ext : List (MsgEv Val)} (h : ∀ e ∈ ext, e.isReact = false) :
    reactsOf c ext = [] := by
  refine List.filterMap_eq_nil_iff.2 fun e he => ?_
  cases e with
  | react c' t ins => exact Bool.noConfusion (h _ he)
  | dispatch d => rfl
  | answer a ch => rfl

theorem reactsOf_map_dispatch (c : Comp) (ds : List (Dispatch Val)) :
    reactsOf c (ds.map MsgEv.dispatch) = [] :=
  reactsOf_eq_nil (isReact_map_dispatch ds)

@[simp] theorem reactMsgs_nil (c : Comp) : reactMsgs c ([] : List (MsgEv Val)) = [] := rfl

theorem reactMsgs_append (c : Comp) (a b : List (MsgEv Val)) :
    reactMsgs c (a ++ b) = reactMsgs c a ++ reactMsgs c b := by
  rw [reactMsgs, reactsOf_append, List.map_append]; rfl

theorem reactMsgs_react (c c' : Comp) (t : SimTime) (ins : List (Port × Val)) :
    reactMsgs c [MsgEv.react c' t ins] = if c' = c then [.disp (.input c t ins)] else [] := by
  by_cases h : c' = c <;>
    simp only [reactMsgs, reactsOf_react, h, ↓reduceIte, List.map_cons, List.map_nil]

theorem MsgEv.eq_of_toEv {x : MsgEv Val} {e : Ev Val} (h : x.toEv = some e) :
    x = match (generalizing := false) e with
      | .dispatch d => .dispatch d
      | .answer c ch => .answer c ch := by
  cases x <;> cases h <;> rfl

theorem mem_hist_of_mem_trace {m : MsgSt Val} {d : Dispatch Val} (h : Ev.dispatch d ∈ m.trace) :
    MsgEv.dispatch d ∈ m.hist := by
  obtain ⟨x, hx, he⟩ := List.mem_filterMap.1 h
  have hxd : x = .dispatch d := MsgEv.eq_of_toEv he
  exact hxd ▸ hx

theorem mem_trace_of_mem_hist {m : MsgSt Val} {d : Dispatch Val} (h : MsgEv.dispatch d ∈ m.hist) :
    Ev.dispatch d ∈ m.trace := by
  simp only [MsgSt.trace, List.mem_filterMap]
  exact ⟨_, h, rfl⟩

def ReactAfter (h : List (MsgEv Val)) : Prop :=
  ∀ pre c t ins post, h = pre ++ MsgEv.react c t ins :: post →
    MsgEv.dispatch (.input c t ins) ∈ pre

theorem ReactAfter.append {h ext : List (MsgEv Val)} (hh : ReactAfter h)
    (hext : ∀ e ∈ ext, e.isReact = false) : ReactAfter (h ++ ext) := by
  intro pre c t ins post heq
  rcases append_eq_append_cons heq with ⟨post', h1, _⟩ | ⟨pre', _, h2⟩
  · exact hh _ _ _ _ _ h1
  · have hm : MsgEv.react c t ins ∈ ext := by rw [h2]; simp
    have := hext _ hm
    simp [MsgEv.isReact] at this

theorem ReactAfter.append_react {h : List (MsgEv Val)} (hh : ReactAfter h) {c : Comp} {t : SimTime}
    {ins : List (Port × Val)} (hd : MsgEv.dispatch (.input c t ins) ∈ h) :
    ReactAfter (h ++ [MsgEv.react c t ins]) := by
  intro pre c' t' ins' post heq
  rcases append_eq_append_cons heq with ⟨post', h1, _⟩ | ⟨pre', h1, h2⟩
  · exact hh _ _ _ _ _ h1
  · cases pre' with
    | nil =>
      simp only [List.nil_append, List.cons.injEq, MsgEv.react.injEq] at h2
      obtain ⟨⟨rfl, rfl, rfl⟩, _⟩ := h2
      rw [h1]; simpa using hd
    | cons x xs =>
      simp only [List.cons_append, List.cons.injEq] at h2
      have := congrArg List.length h2.2
      simp at this

structure MsgInv (m0 m : MsgSt Val) : Prop where
  inLog : ∀ c, m.log (.inT c) = m0.log (.inT c) ++ inputsTo c m.trace
  handled : ∀ c, (m.log (.inT c)).take (m.cur (.inT c)) = m0.log (.inT c) ++ reactMsgs c m.hist
  curLe : ∀ c, m.cur (.inT c) ≤ (m.log (.inT c)).length
  notStarted : ∀ c, c ∉ m.started → m.cur (.inT c) = m0.cur (.inT c)
  startedMono : ∀ c, c ∈ m0.started → c ∈ m.started
  reactAfter : ReactAfter m.hist
  reactStarted : ∀ c t ins, MsgEv.react c t ins ∈ m.hist → c ∈ m.started

theorem MsgInv.init {m0 : MsgSt Val} (h0 : m0.Idle) : MsgInv m0 m0 := by
  obtain ⟨_, hh, hc⟩ := h0
  refine ⟨fun c => by simp [MsgSt.trace, hh], fun c => by simp [hc, hh], fun c => by simp [hc],
    fun _ _ => rfl, fun _ h => h, ?_, ?_⟩
  · intro pre c t ins post heq
    rw [hh] at heq
    simp at heq
  · intro c t ins hm
    rw [hh] at hm
    simp at hm

theorem MsgInv.extend {m0 m m' : MsgSt Val} (h : MsgInv m0 m) (ext : List (MsgEv Val))
    (hext : ∀ e ∈ ext, e.isReact = false) (hh : m'.hist = m.hist ++ ext)
    (hl : ∀ c, m'.log (.inT c) = m.log (.inT c) ++ inputsTo c (ext.filterMap MsgEv.toEv))
    (hc : ∀ c, m'.cur (.inT c) = m.cur (.inT c)) (hs : ∀ c, c ∈ m.started → c ∈ m'.started) :
    MsgInv m0 m' := by
  have htr : m'.trace = m.trace ++ ext.filterMap MsgEv.toEv := by
    rw [MsgSt.trace, hh, List.filterMap_append]; rfl
  refine ⟨fun c => ?_, fun c => ?_, fun c => ?_, fun c hn => ?_,
    fun c hm => hs c (h.startedMono c hm), ?_, fun c t ins hm => ?_⟩
  · rw [hl, htr, inputsTo_append, h.inLog, List.append_assoc]
  · have hnil : reactMsgs c ext = [] := by rw [reactMsgs, reactsOf_eq_nil hext]; rfl
    rw [hl, hc, List.take_append_of_le_length (h.curLe c), h.handled, hh, reactMsgs_append, hnil,
      List.append_nil]
  · rw [hl, hc, List.length_append]
    exact Nat.le_add_right_of_le (h.curLe c)
  · rw [hc]
    exact h.notStarted c (fun hx => hn (hs c hx))
  · rw [hh]
    exact h.reactAfter.append hext
  · rw [hh] at hm
    rcases List.mem_append.1 hm with hm | hm
    · exact hs c (h.reactStarted c t ins hm)
    · exact Bool.noConfusion (hext _ hm)

theorem MsgInv.react {m0 m m' : MsgSt Val} (h : MsgInv m0 m) {c : Comp} {t : SimTime}
    {ins : List (Port × Val)} (hμ : m.next (.inT c) = some (.disp (.input c t ins)))
    (hd : MsgEv.dispatch (.input c t ins) ∈ m.hist) (hst : c ∈ m.started)
    (hh : m'.hist = m.hist ++ [.react c t ins]) (hl : ∀ c', m'.log (.inT c') = m.log (.inT c'))
    (hc : m'.cur (.inT c) = m.cur (.inT c) + 1)
    (hc' : ∀ c', c' ≠ c → m'.cur (.inT c') = m.cur (.inT c')) (hs : m'.started = m.started) :
    MsgInv m0 m' := by
  have htr : m'.trace = m.trace := by
    rw [MsgSt.trace, hh, List.filterMap_append]; exact List.append_nil _
  refine ⟨fun c' => by rw [hl, htr]; exact h.inLog c', fun c' => ?_, fun c' => ?_, fun c' hn => ?_,
    fun c' hm => hs ▸ h.startedMono c' hm, hh ▸ h.reactAfter.append_react hd,
    fun c' t' ins' hm => ?_⟩
  · rw [hl, hh, reactMsgs_append, reactMsgs_react]
    by_cases hcc : c' = c
    · subst hcc
      have hget : (m.log (.inT c'))[m.cur (.inT c')]? = some (.disp (.input c' t ins)) := hμ
      rw [hc, List.take_add_one, h.handled, hget, if_pos rfl, List.append_assoc]; rfl
    · rw [hc' c' hcc, h.handled, if_neg (Ne.symm hcc), List.append_nil]
  · rw [hl]
    by_cases hcc : c' = c
    · subst hcc; rw [hc]; exact MsgSt.cur_lt_of_next hμ
    · rw [hc' c' hcc]; exact h.curLe c'
  · rw [hc' c' (fun he => hn (hs ▸ he ▸ hst))]
    exact h.notStarted c' (hs ▸ hn)
  · rw [hh] at hm
    rcases List.mem_append.1 hm with hm | hm
    · exact hs ▸ h.reactStarted c' t' ins' hm
    · cases List.mem_singleton.1 hm; exact hs ▸ hst

theorem MsgInv.frame {m0 m m' : MsgSt Val} (h : MsgInv m0 m) (hh : m'.hist = m.hist)
    (hl : ∀ c, m'.log (.inT c) = m.log (.inT c)) (hc : ∀ c, m'.cur (.inT c) = m.cur (.inT c))
    (hs : ∀ c, c ∈ m.started → c ∈ m'.started) : MsgInv m0 m' :=
  h.extend [] (fun _ he => nomatch he) (hh.trans (List.append_nil _).symm)
    (fun c => (hl c).trans (List.append_nil _).symm) hc hs

theorem MsgSt.Reach.inv {w : Wiring} {rx : MsgReact Val} {t : SimTime} {roots : List Comp}
    {m0 m : MsgSt Val} (h0 : m0.Idle) (h : MsgSt.Reach w rx t roots m0 m) : MsgInv m0 m := by
  refine h.induct h0 (MsgInv.init h0) ?_ ?_ ?_
  · intro m c _ ih
    exact ih.frame rfl (fun _ => rfl) (fun _ => rfl) (fun c' hc' => List.mem_cons_of_mem _ hc')
  · intro m r _ _ ih
    refine ih.extend _ (isReact_map_dispatch r.2) (MsgSt.hist_sendAll _ _) (fun c => ?_)
      (fun c => MsgSt.cur_sendAll _ _ _) (fun c hc => (MsgSt.started_sendAll _ _).symm ▸ hc)
    rw [MsgSt.log_sendAll, filterMap_toEv_map_dispatch, inputsTo_map_dispatch]; rfl
  · intro m m' s s' a hr hs hmove _ ih
    cases hmove with
    | comp c hc =>
      exact ih.frame rfl (fun _ => rfl) (fun _ => rfl) (fun c' hc' => List.mem_cons_of_mem _ hc')
    | react c t' ins hc hμ hP =>
      have hd : MsgEv.dispatch (.input c t' ins) ∈ m.hist :=
        mem_hist_of_mem_trace (hs.trace ▸ hr.inv.pre.pend_trace _ hP)
      refine ih.react hμ hd hc rfl (fun c' => ?_) ?_ (fun c' hcc => ?_) rfl
      · simp only [MsgSt.log_record, MsgSt.log_produce, MsgSt.log_advance, reduceCtorEq, ↓reduceIte]
      · simp only [MsgSt.cur_record, MsgSt.cur_produce, MsgSt.cur_advance, ↓reduceIte]
      · simp only [MsgSt.cur_record, MsgSt.cur_produce, MsgSt.cur_advance, MsgTopic.inT.injEq,
          Ne.symm hcc, ↓reduceIte]
    | answer i d r hi hdt hμ hprop =>
      refine ih.extend (.answer d.comp (answerOf (rx.at t) d) :: r.2.map .dispatch)
        (List.forall_mem_cons.2 ⟨rfl, isReact_map_dispatch r.2⟩) ?_ (fun c' => ?_) (fun c' => ?_)
        (fun c' hc' => ?_)
      · rw [MsgSt.hist_noteWakeup, MsgSt.hist_sendAll, List.append_cons]; rfl
      · rw [MsgSt.log_noteWakeup, MsgSt.log_sendAll, ← inputsTo_map_dispatch,
          ← filterMap_toEv_map_dispatch]; rfl
      · rw [MsgSt.cur_noteWakeup, MsgSt.cur_sendAll]
        simp only [MsgSt.cur_setTk, MsgSt.cur_record, MsgSt.cur_advance, reduceCtorEq, ↓reduceIte]
      · rw [MsgSt.started_noteWakeup, MsgSt.started_sendAll]; exact hc'

def wkOf (rx : MsgReact Val) (w0 : Option SimTime) : Option (Dispatch Val) → Option SimTime
  | some (.input c t ins) =>
    match (rx c t ins).2 with
    | some x => some x
    | none => w0
  | _ => w0

theorem wkOf_some (rx : MsgReact Val) (w0 : Option SimTime) (d : Dispatch Val) :
    wkOf rx w0 (some d) = match d.callAt rx with | some x => some x | none => w0 := by
  cases d <;> rfl

theorem alookup_wake_noteWakeup (m : MsgSt Val) (c c' : Comp) (ca : Option SimTime) :
    alookup (m.noteWakeup c ca).wake c' =
      if c' = c then (match ca with | some x => some x | none => alookup m.wake c')
      else alookup m.wake c' := by
  cases ca with
  | none => simp [MsgSt.noteWakeup]
  | some x => simp only [MsgSt.noteWakeup]; rw [addWakeup_lookup]

structure WakeInv (rx : MsgReact Val) (m0 m : MsgSt Val) : Prop where
  untouched : ∀ c, (∀ ch, Ev.answer c ch ∉ m.trace) → alookup m.wake c = alookup m0.wake c
  answered : ∀ c ch, Ev.answer c ch ∈ m.trace →
    alookup m.wake c = wkOf rx (alookup m0.wake c) (dispatchOf m.trace c)
  unique : UniqueKeys m0.wake → UniqueKeys m.wake

theorem UniqueKeys_noteWakeup {m : MsgSt Val} (h : UniqueKeys m.wake) (c : Comp)
    (ca : Option SimTime) : UniqueKeys (m.noteWakeup c ca).wake := by
  cases ca with
  | none => exact h
  | some x => exact addWakeup_unique _ h c x

theorem WakeInv.congr {rx : MsgReact Val} {m0 m m' : MsgSt Val} (h : WakeInv rx m0 m)
    (hw : m'.wake = m.wake) (ht : m'.trace = m.trace) : WakeInv rx m0 m' :=
  ⟨fun c hc => by rw [hw]; exact h.untouched c (ht ▸ hc),
   fun c ch hc => by rw [hw, ht]; exact h.answered c ch (ht ▸ hc),
   fun hu => hw ▸ h.unique hu⟩

theorem MsgSt.Reach.wakeInv {w : Wiring} {rx : MsgReact Val} {t : SimTime} {roots : List Comp}
    {m0 m : MsgSt Val} (h0 : m0.Idle) (h : MsgSt.Reach w rx t roots m0 m) : WakeInv rx m0 m := by
  refine h.induct h0 ⟨fun _ _ => rfl, fun c ch hc => by simp [h0.trace_eq_nil] at hc,
    fun hu => hu⟩ ?_ ?_ ?_
  · intro m c _ ih
    exact ih.congr rfl rfl
  · intro m r hI _ ih
    have htr := hI.trace_eq_nil
    refine ⟨fun c _ => ?_, fun c ch hc => ?_, fun hu => by simpa using ih.unique hu⟩
    · simpa using ih.untouched c (by simp [htr])
    · simp [htr] at hc
  · intro m m' s s' a hr hs hmove _ ih
    cases hmove with
    | comp c hc => exact ih.congr rfl rfl
    | react c t' ins hc hμ hP => exact ih.congr rfl (by simp [MsgEv.toEv])
    | answer i d r hi hdt hμ hprop =>
      have hpre := hr.inv.pre
      have hdP := List.mem_of_getElem? hi
      -- from here on only `m'.trace` (`htr'`) and `m'.wake` (`hwk`, `huq`) of the new state are used
      generalize answerOf (rx.at t) d = ch
      generalize hm' : MsgSt.noteWakeup _ d.comp (d.callAt rx) = m'
      have htr' : m'.trace = m.trace ++ ([Ev.answer d.comp ch] ++ r.2.map Ev.dispatch) := by
        rw [← hm']; simp [MsgEv.toEv]
      have hwk : ∀ c', alookup m'.wake c' = if c' = d.comp then
          (match d.callAt rx with | some x => some x | none => alookup m.wake c')
          else alookup m.wake c' := fun c' => by
        rw [← hm', alookup_wake_noteWakeup, MsgSt.wake_sendAll]; rfl
      have huq : UniqueKeys m.wake → UniqueKeys m'.wake := fun hu =>
        hm' ▸ UniqueKeys_noteWakeup (by simpa using hu) _ _
      have hnoans : ∀ ch', Ev.answer d.comp ch' ∉ m.trace :=
        fun ch' hm => hpre.not_answered hdP ch' (hs.trace ▸ hm)
      have hdisp : dispatchOf m.trace d.comp = some d := by
        rw [hs.trace]
        exact dispatchOf_eq_of_mem (hpre.count d.comp).1 (hpre.pend_trace d hdP)
      refine ⟨fun c' hc' => ?_, fun c' ch' hc' => ?_, fun hu => huq (ih.unique hu)⟩
      · have hne : c' ≠ d.comp := by
          rintro rfl
          exact hc' ch (by rw [htr']; simp)
        rw [hwk, if_neg hne]
        exact ih.untouched c' fun ch'' hm =>
          hc' ch'' (by rw [htr']; exact List.mem_append_left _ hm)
      · rw [htr'] at hc' ⊢
        rw [hwk]
        by_cases hcs : c' = d.comp
        · subst hcs
          rw [if_pos rfl, dispatchOf_append_of_some hdisp, ih.untouched _ hnoans, wkOf_some]
        · rw [if_neg hcs]
          have hin : Ev.answer c' ch' ∈ m.trace := by
            simp only [List.mem_append, List.mem_cons, Ev.answer.injEq, List.mem_map,
              List.not_mem_nil, or_false] at hc'
            rcases hc' with h | ⟨h, _⟩ | ⟨_, _, h⟩
            · exact h
            · exact absurd h hcs
            · cases h
          obtain ⟨d', hd'⟩ := PreInv.answer_dispatched (hs.trace ▸ hpre) hin
          rw [dispatchOf_append_of_some hd', ← hd']
          exact ih.answered c' ch' hin

/-- in a complete tick every component that was dispatched to has answered. -/
theorem WakeInv.of_complete {w : Wiring} {rx : MsgReact Val} {t : SimTime} {roots : List Comp}
    {m0 m : MsgSt Val} {s : TickSys Val} (hw : WakeInv rx m0 m) (hs : MsgSim rx m s)
    (hr : s.Reachable w (rx.at t) t roots) (hnil : s.tk.toUpdate = []) (c : Comp) :
    alookup m.wake c = wkOf rx (alookup m0.wake c) (dispatchOf m.trace c) := by
  have hpre := hr.inv.pre
  cases hd : dispatchOf m.trace c with
  | none =>
    refine hw.untouched c fun ch hm => ?_
    obtain ⟨d, hd'⟩ := (hs.trace ▸ hpre).answer_dispatched hm
    rw [hd] at hd'; cases hd'
  | some d =>
    rw [hs.trace] at hd
    obtain ⟨hmem, hdc⟩ := dispatchOf_eq_some hd
    obtain ⟨ch, hch⟩ := (hpre.resolved c (hdc ▸ (hpre.disp_ext d hmem).1)).1 (by rw [hnil]; rfl)
    rw [hw.answered c ch (hs.trace ▸ hch), hs.trace, hd]

end Tickit
