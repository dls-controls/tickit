/-
One tick of one ticker whose answers are ARBITRARY: the answer of a system component is the result
of an inner tick, so it is no function (`React`) of the dispatch; that it is one up to the order of
keys is what the any-order determinism proves, and is a hypothesis here.  What a complete trace
(`TraceFin`) says about the dispatches is read off the invariants `PreInv`, `TrPre` by
`trace_dispatch_spec` (`Lemmas/TickEqLemmas.lean`).
`sameDispatch_part`: the tick equations have one solution relative to "the answers of the same
component to equivalent dispatches are equal as mappings".  It is the uniqueness of
`UpdEqs.unique_on` (`Lemmas/TickUpd.lean`) once more, by the same induction along the wiring: `UpdEqs`
is stated for a reaction function, which these answers are not, and for complete ticks, while the
second trace here may be that of a tick in progress (`Lemmas/AnyLive.lean` needs that) and is given
by the invariants themselves.
-/
import TickitModel.Lemmas.TickEqLemmas
import TickitModel.Lemmas.TickerResLemmas

namespace Tickit

variable {Val : Type}

structure TraceFin (w : Wiring) (t : SimTime) (roots : List Comp) (tr : List (Ev Val)) : Prop where
  count : ∀ c, (tr.filter (Ev.isDispatchOf c)).length ≤ 1 ∧
    (tr.filter (Ev.isAnswerOf c)).length ≤ (tr.filter (Ev.isDispatchOf c)).length
  none_iff : ∀ c, dispatchOf tr c = none ↔ c ∉ extent w roots
  ups : ∀ d, Ev.dispatch d ∈ tr → ∃ us, w.ups d.comp = some us
  /-- `DispatchSpec t roots (Changed w tr c) c d` (`Lemmas/TickEqLemmas.lean`), written out -/
  spec : ∀ c d, dispatchOf tr c = some d →
    (∃ ins, d = .input c t ins ∧ (c ∈ roots ∨ ∃ q v, Changed w tr c q v) ∧
        ∀ q v, alookup ins q = some v ↔ Changed w tr c q v) ∨
      (d = .skip c t ∧ c ∉ roots ∧ ∀ q v, ¬ Changed w tr c q v)
  answered : ∀ c, c ∈ extent w roots → ∃ ch, Ev.answer c ch ∈ tr
  ans_disp : ∀ a ch, Ev.answer a ch ∈ tr → ∃ d, dispatchOf tr a = some d

theorem TraceFin.of_inv {w : Wiring} (hw : RouterOK w) {t : SimTime} {roots : List Comp}
    {pending : List (Dispatch Val)} {inputs : List (Comp × List (Port × Val))} {tr : List (Ev Val)}
    (hp : PreInv w t roots [] pending tr) (he : TrPre w t roots inputs tr) :
    TraceFin w t roots tr :=
  { count := hp.count
    none_iff := hp.dispatchOf_eq_none_iff
    ups := fun d hd => Option.isSome_iff_exists.1 (he.ups d hd)
    spec := fun _ _ hd => trace_dispatch_spec hw hp he hd
    answered := fun c hc => (hp.resolved c hc).1 rfl
    ans_disp := fun _ _ h => hp.answer_dispatched h }

theorem TraceFin.answer_unique {w : Wiring} {t : SimTime} {roots : List Comp} {tr : List (Ev Val)}
    (h : TraceFin w t roots tr) {a : Comp} {ch ch' : List (Port × Val)}
    (h1 : Ev.answer a ch ∈ tr) (h2 : Ev.answer a ch' ∈ tr) : ch = ch' :=
  Tickit.answer_unique (Nat.le_trans (h.count a).2 (h.count a).1) h1 h2

theorem TraceFin.in_extent {w : Wiring} {t : SimTime} {roots : List Comp} {tr : List (Ev Val)}
    (h : TraceFin w t roots tr) {c : Comp} {d : Dispatch Val} (hd : dispatchOf tr c = some d) :
    c ∈ extent w roots :=
  Classical.byContradiction fun hn => by rw [(h.none_iff c).2 hn] at hd; cases hd

theorem TraceFin.dispatched {w : Wiring} {t : SimTime} {roots : List Comp} {tr : List (Ev Val)}
    (h : TraceFin w t roots tr) {c : Comp} (hc : c ∈ extent w roots) : ∃ d, dispatchOf tr c = some d :=
  Option.ne_none_iff_exists'.1 fun hn => (h.none_iff c).1 hn hc

/-- induction along the wiring: the dispatch of `c` is computed from the answers of its upstreams,
which received equivalent dispatches. -/
theorem sameDispatch_part {w : Wiring} (hw : RouterOK w) (hacyc : w.Acyclic) {t : SimTime}
    {roots roots' : List Comp} (hroots : ∀ c, c ∈ roots ↔ c ∈ roots') {tr1 tr2 : List (Ev Val)}
    (h1 : TraceFin w t roots tr1) {tu : List (Comp × Bool)} {pending : List (Dispatch Val)}
    {inputs : List (Comp × List (Port × Val))} (hp : PreInv w t roots' tu pending tr2)
    (hq : TrPre w t roots' inputs tr2)
    (hans : ∀ a d1 d2 ch1 ch2, dispatchOf tr1 a = some d1 → dispatchOf tr2 a = some d2 →
      Dispatch.Equiv d1 d2 → Ev.answer a ch1 ∈ tr1 → Ev.answer a ch2 ∈ tr2 →
      ∀ p, alookup ch1 p = alookup ch2 p)
    (c : Comp) (d2 : Dispatch Val) (hd2 : dispatchOf tr2 c = some d2) :
    ∃ d1, dispatchOf tr1 c = some d1 ∧ Dispatch.Equiv d1 d2 := by
  obtain ⟨rank, hrank⟩ := hacyc
  suffices key : ∀ n c, rank c < n → ∀ d2, dispatchOf tr2 c = some d2 →
      ∃ d1, dispatchOf tr1 c = some d1 ∧ Dispatch.Equiv d1 d2 from
    key _ c (Nat.lt_succ_self _) d2 hd2
  intro n
  induction n with
  | zero => intro c hc; omega
  | succ n ih =>
    intro c hc d2 hd2
    obtain ⟨hm2, hdc⟩ := dispatchOf_eq_some hd2
    obtain ⟨d1, h1c⟩ := h1.dispatched ((extent_congr w hroots c).2 (hdc ▸ (hp.disp_ext d2 hm2).1))
    refine ⟨d1, h1c, ?_⟩
    obtain ⟨us, hus⟩ := Option.isSome_iff_exists.1 (hq.ups d2 hm2)
    rw [hdc] at hus
    obtain ⟨pre, post, htr⟩ := List.append_of_mem hm2
    have hup : ∀ a p q, w.Conn a p c q → a ∈ us ∧ rank a < n := by
      intro a p q hconn
      have hau := (hw.ups_edge c us hus a).2 ⟨p, q, hconn⟩
      have := hrank c us a hus hau
      exact ⟨hau, by omega⟩
    -- the sources of `c` answered equally
    have hch : ∀ q v, Changed w tr1 c q v ↔ Changed w tr2 c q v := by
      intro q v
      constructor
      · rintro ⟨a, chs, p, hm, hconn, hv⟩
        obtain ⟨hau, hlt⟩ := hup a p q hconn
        obtain ⟨da1, hda1⟩ := h1.ans_disp a chs hm
        obtain ⟨ch2, hch2'⟩ := hp.order pre d2 post htr us (hdc ▸ hus) a hau
          ((extent_congr w hroots a).1 (h1.in_extent hda1))
        have hch2 : Ev.answer a ch2 ∈ tr2 := htr ▸ List.mem_append_left _ hch2'
        obtain ⟨da2, hda2⟩ := hp.answer_dispatched hch2
        obtain ⟨da1', hda1', he⟩ := ih a hlt da2 hda2
        rw [hda1] at hda1'
        cases hda1'
        exact ⟨a, ch2, p, hch2, hconn, hans a da1 da2 chs ch2 hda1 hda2 he hm hch2 p ▸ hv⟩
      · rintro ⟨a, chs, p, hm, hconn, hv⟩
        obtain ⟨da2, hda2⟩ := hp.answer_dispatched hm
        obtain ⟨da1, hda1, he⟩ := ih a (hup a p q hconn).2 da2 hda2
        obtain ⟨ch1, hch1⟩ := h1.answered a (h1.in_extent hda1)
        exact ⟨a, ch1, p, hch1, hconn, (hans a da1 da2 ch1 chs hda1 hda2 he hch1 hm p).symm ▸ hv⟩
    exact DispatchSpec.equiv (R := Changed w tr1 c) (h1.spec c d1 h1c) (trace_dispatch_spec hw hp hq hd2)
      (hroots c) hch

/-- with the scheduling of the second trace over as well (`toUpdate = []`) a component without a
dispatch in one trace has none in the other, which makes `sameDispatch_part` `SameDispatch` at
every component -/
theorem sameDispatch_traces {w : Wiring} (hw : RouterOK w) (hacyc : w.Acyclic) {t : SimTime}
    {roots roots' : List Comp} (hroots : ∀ c, c ∈ roots ↔ c ∈ roots') {tr1 tr2 : List (Ev Val)}
    (h1 : TraceFin w t roots tr1) {pending : List (Dispatch Val)}
    {inputs : List (Comp × List (Port × Val))} (hp : PreInv w t roots' [] pending tr2)
    (hq : TrPre w t roots' inputs tr2)
    (hans : ∀ a d1 d2 ch1 ch2, dispatchOf tr1 a = some d1 → dispatchOf tr2 a = some d2 →
      Dispatch.Equiv d1 d2 → Ev.answer a ch1 ∈ tr1 → Ev.answer a ch2 ∈ tr2 →
      ∀ p, alookup ch1 p = alookup ch2 p)
    (c : Comp) : SameDispatch (dispatchOf tr1 c) (dispatchOf tr2 c) := by
  cases h2c : dispatchOf tr2 c with
  | none =>
    have hce := (hp.dispatchOf_eq_none_iff c).1 h2c
    rw [(h1.none_iff c).2 (fun h => hce ((extent_congr w hroots c).1 h))]
    trivial
  | some d2 =>
    obtain ⟨d1, h1c, he⟩ := sameDispatch_part hw hacyc hroots h1 hp hq hans c d2 h2c
    rw [h1c]
    exact he

end Tickit
