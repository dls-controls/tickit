/-
Any-order nested tick (C01 through nesting).  At most once: in every execution of a tick, whatever
the answer orders at whatever depth, every device is updated at most once, at the tick's time
(`LevelPost.once`, a reading of `LevelPost`, which `tickLevelAny_post` gives for every execution).

The order: `ObsOrdered S new` says that in the list `new` of observations whatever feeds an updated
component (`S.Feeds`, `Lemmas/StaticValid.lean`: at the scheduler level where the paths from the root
to `x` and to `y` separate, the component `x` belongs to is wired, directly or through other
components of that level, into the component `y` belongs to) was updated before it.  This file has
the vocabulary only; `Lemmas/InterOrder.lean` uses it to prove the order for interleaved executions
(`tickInter_ordered`), of which `tickLevelAny_ordered`, there, is the atomic case.  `Inv3` at the end
is the same argument for ONE level whose inner ticks are atomic, as an invariant on the answer
records.
-/
import TickitModel.Lemmas.ListLemmas
import TickitModel.Lemmas.SimLoop
import TickitModel.Lemmas.AnyInv

namespace Tickit

/-- C01 through nesting, at most once (with `tickLevelAny_post`: in every any-order execution) -/
theorem LevelPost.once {S : Static} {lvl : Comp} {t : SimTime} {roots : List Comp} {st st' : SimSt}
    (h : LevelPost S lvl t roots st st') (x : Comp) :
    st'.obsOf x = st.obsOf x ∨ ∃ m, st'.obsOf x = st.obsOf x ++ [(t, m)] := by
  obtain ⟨new, hobs, hnd, hown, _, _⟩ := h
  rw [SimSt.obsOf_append hobs x]
  have hle := sim_filter_comp_le_one hnd x
  cases hf : new.filter (fun o => o.comp == x) with
  | nil => exact Or.inl (List.append_nil _)
  | cons o l =>
    cases l with
    | nil =>
      have ho : o ∈ new := (List.mem_filter.1 (hf ▸ List.mem_singleton_self o)).1
      exact Or.inr ⟨o.inputs, by rw [List.map_singleton, (hown o ho).1]⟩
    | cons _ _ => rw [hf] at hle; exact absurd hle (by simp)

def ObsOrdered (S : Static) (new : List Obs) : Prop :=
  ∀ pre oy post, new = pre ++ oy :: post → ∀ ox ∈ new, S.Feeds ox.comp oy.comp → ox ∈ pre

section

variable {S : Static}

/-- a `Feeds` pair below two different children of a level: the level where the two separate is
this one, so the children are joined by a path of its wires -/
theorem feeds_sep (hS : S.Valid) {L : Level} (hL : L ∈ S.levels) {ci cj x y : Comp}
    (hi : Foot S L ci x) (hj : Foot S L cj y) (hne : ci ≠ cj) (hf : S.Feeds x y) :
    L.wiring.Path ci cj := by
  obtain ⟨L', hL', c1, c2, h1, h2, hp, o1, o2⟩ := hf
  obtain ⟨rfl, rfl, rfl⟩ := sep_level_unique hS hL hL' hi.1 hj.1 h1 h2 hi.2 hj.2 o1 o2 hne
    (hS.path_ne hL' hp)
  exact hp

/-- "no longer in `to_update`" propagates upstream: whoever is resolved (answered, or not taking
part) has only resolved upstreams -/
theorem PreInv.none_up {w : Wiring} (hw : RouterOK w) {t : SimTime} {roots : List Comp}
    {tu : List (Comp × Bool)} {pending : List (Dispatch V)} {tr : List (Ev V)}
    (hp : PreInv w t roots tu pending tr) {a b : Comp} (he : w.Edge a b) (hups : (w.ups b).isSome)
    (hb : alookup tu b = none) : alookup tu a = none := by
  by_cases ha : a ∈ extent w roots
  · have hbe : b ∈ extent w roots := extent_closed ha he
    obtain ⟨ch, hch⟩ := (hp.resolved b hbe).1 hb
    obtain ⟨d, hd⟩ := hp.answer_dispatched hch
    obtain ⟨hdm, hdc⟩ := dispatchOf_eq_some hd
    obtain ⟨pre, post, htr⟩ := List.append_of_mem hdm
    obtain ⟨us, hus⟩ := Option.isSome_iff_exists.1 hups
    have hau : a ∈ us := (hw.ups_edge _ us hus a).2 he
    obtain ⟨cha, hcha⟩ := hp.order pre d post htr us (hdc ▸ hus) a hau ha
    exact (hp.resolved a ha).2 ⟨cha, by rw [htr]; exact List.mem_append_left _ hcha⟩
  · apply Classical.byContradiction
    intro hne
    exact ha (hp.keys_ext a hne)

/-- C01 along paths, as a state property: when a component is dispatched (flagged), everything
with a path of wires into it is no longer in `to_update` -/
theorem PreInv.path_none {w : Wiring} (hw : RouterOK w) (hwf : w.WF)
    (hud : ∀ c ∈ w.components, (w.ups c).isSome) {t : SimTime} {roots : List Comp}
    {tu : List (Comp × Bool)} {pending : List (Dispatch V)} {tr : List (Ev V)}
    (hp : PreInv w t roots tu pending tr) {c1 c2 : Comp} (hpath : w.Path c1 c2)
    (h2 : alookup tu c2 = some true) : alookup tu c1 = none := by
  induction hpath with
  | @single a b e =>
    obtain ⟨p, q, hc⟩ := e
    have hbm := (Wiring.conn_mem_components hwf hc).2
    obtain ⟨us, hus⟩ := Option.isSome_iff_exists.1 (hud b hbm)
    exact hp.gate b h2 us hus a ((hw.ups_edge _ us hus a).2 ⟨p, q, hc⟩)
  | @cons a b c e _ ih =>
    obtain ⟨p, q, hc⟩ := e
    have hbm := (Wiring.conn_mem_components hwf hc).2
    exact hp.none_up hw ⟨p, q, hc⟩ (hud b hbm) (ih h2)

theorem obsOrdered_nil (S : Static) : ObsOrdered S [] := by
  intro pre oy post h
  simp at h

theorem obsOrdered_snoc {new : List Obs} {o : Obs} (h : ObsOrdered S new)
    (hirr : ¬ S.Feeds o.comp o.comp) (hseal : ∀ oy ∈ new, ¬ S.Feeds o.comp oy.comp) :
    ObsOrdered S (new ++ [o]) := by
  intro pre oy post hsp ox hox hf
  rcases List.eq_nil_or_concat post with rfl | ⟨post', p, rfl⟩
  · -- `oy` is the new observation
    obtain ⟨rfl, e⟩ := List.append_inj' hsp rfl
    obtain rfl : o = oy := List.head_eq_of_cons_eq e
    rcases List.mem_append.1 hox with hx | hx
    · exact hx
    · rw [List.mem_singleton.1 hx] at hf
      exact absurd hf hirr
  · -- `oy` is an earlier observation
    rw [List.concat_eq_append, ← List.cons_append, ← List.append_assoc] at hsp
    obtain ⟨rfl, _⟩ := List.append_inj' hsp rfl
    rcases List.mem_append.1 hox with hx | hx
    · exact h pre oy post' rfl ox hx hf
    · rw [List.mem_singleton.1 hx] at hf
      exact absurd hf (hseal oy (List.mem_append_right _ (List.mem_cons_self ..)))

end

def AnsRec.seg (r : AnsRec) : List Obs := r.post.obs.drop r.pre.obs.length

/-- `Inv2` extended by the structure of the global observation list: one segment per answer, in the
order of the answers; a segment lies in the footprint of the answering component and is ordered in
itself (an inner tick, or the single update of a device).  No lemma of this development establishes
`Inv3` (neither for the start of a loop nor across a step); `Inv3.ordered` is what it would yield at
the end of a loop. -/
structure Inv3 (S : Static) (orc : Oracle) (inner : LevelRel) (L : Level) (inCh : List (Port × V))
    (t : SimTime) (roots : List Comp) (st0 : SimSt) (ls : LoopSt) (tr : List (Ev V))
    (recs : List AnsRec) : Prop where
  base : Inv2 S orc inner L inCh t roots st0 ls tr recs
  nodup : (recs.map (fun r => r.d.comp)).Nodup
  obs_eq : ls.st.obs = st0.obs ++ (recs.map AnsRec.seg).flatten
  seg_ok : ∀ r ∈ recs, (∀ o ∈ r.seg, Foot S L r.d.comp o.comp) ∧ ObsOrdered S r.seg
  order : ∀ l1 r2 l2, recs = l1 ++ r2 :: l2 → ∀ c1, L.wiring.Edge c1 r2.d.comp →
    c1 ∈ extent L.wiring roots → ∃ r1 ∈ l1, r1.d.comp = c1

section

variable {S : Static} {orc : Oracle} {inner : LevelRel}

theorem Inv3.order_path {L : Level} {inCh : List (Port × V)} {t : SimTime} {roots : List Comp}
    {st0 : SimSt} {ls : LoopSt} {tr : List (Ev V)} {recs : List AnsRec}
    (inv : Inv3 S orc inner L inCh t roots st0 ls tr recs) {c1 c2 : Comp}
    (hp : L.wiring.Path c1 c2) :
    ∀ l1 r2 l2, recs = l1 ++ r2 :: l2 → r2.d.comp = c2 → c1 ∈ extent L.wiring roots →
      ∃ r1 ∈ l1, r1.d.comp = c1 := by
  induction hp with
  | single e =>
    intro l1 r2 l2 hsp hc hce
    exact inv.order l1 r2 l2 hsp _ (hc ▸ e) hce
  | @cons a b c e _ ih =>
    intro l1 r2 l2 hsp hc hce
    obtain ⟨rb, hrb, hbc⟩ := ih l1 r2 l2 hsp hc (extent_closed hce e)
    obtain ⟨l1a, l1b, hl1⟩ := List.append_of_mem hrb
    have hsp' : recs = l1a ++ rb :: (l1b ++ r2 :: l2) := by rw [hsp, hl1]; simp
    obtain ⟨r1, hr1, h1⟩ := inv.order l1a rb _ hsp' a (hbc ▸ e) hce
    exact ⟨r1, by rw [hl1]; exact List.mem_append_left _ hr1, h1⟩

theorem Inv3.ordered (hS : S.Valid) {L : Level} (hL : L ∈ S.levels) {inCh : List (Port × V)}
    {t : SimTime} {roots : List Comp} {st0 : SimSt} {ls : LoopSt} {tr : List (Ev V)}
    {recs : List AnsRec} (inv : Inv3 S orc inner L inCh t roots st0 ls tr recs) :
    ObsOrdered S (recs.map AnsRec.seg).flatten := by
  intro pre oy post hsp ox hox hf
  obtain ⟨l1, r2, l2, s1, s2, e1, e2, e3, e4⟩ := flatten_map_split AnsRec.seg hsp
  obtain ⟨s, hs, hoxs⟩ := List.mem_flatten.1 hox
  obtain ⟨r1, hr1, rfl⟩ := List.mem_map.1 hs
  have hr2 : r2 ∈ recs := by rw [e1]; simp
  have hoy : oy ∈ r2.seg := by rw [e2]; simp
  rw [e1] at hr1
  rcases List.mem_append.1 hr1 with h | h
  · -- an earlier answer
    rw [e3]
    exact List.mem_append_left _ (List.mem_flatten.2 ⟨_, List.mem_map.2 ⟨r1, h, rfl⟩, hoxs⟩)
  · rcases List.mem_cons.1 h with h | h
    · -- the same answer: ordered inside (an inner tick, or a single device)
      subst h
      rw [e3]
      exact List.mem_append_right _ ((inv.seg_ok r1 hr2).2 s1 oy s2 e2 ox hoxs hf)
    · -- a later answer: impossible
      exfalso
      have hnd := inv.nodup
      rw [e1, List.map_append, List.map_cons, List.nodup_append] at hnd
      obtain ⟨_, hnd2, hdis⟩ := hnd
      have hr1' : r1 ∈ recs := by rw [e1]; simp [h]
      have hne : r1.d.comp ≠ r2.d.comp := by
        intro he
        exact (List.nodup_cons.1 hnd2).1 (he ▸ List.mem_map.2 ⟨r1, h, rfl⟩)
      have hfx := (inv.seg_ok r1 hr1').1 ox hoxs
      have hfy := (inv.seg_ok r2 hr2).1 oy hoy
      have hpath := feeds_sep hS hL hfx hfy hne hf
      have hext : r1.d.comp ∈ extent L.wiring roots :=
        (inv.base.pre.disp_ext _ (inv.base.recs_ok r1 hr1').1).1
      obtain ⟨r1', hr1'', hc⟩ := inv.order_path hpath l1 r2 l2 e1 rfl hext
      exact hdis _ (List.mem_map.2 ⟨r1', hr1'', hc⟩) _
        (List.mem_cons_of_mem _ (List.mem_map.2 ⟨r1, h, rfl⟩)) rfl

end

end Tickit
