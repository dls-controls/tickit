/-
The shape of histories with interrupts (`Core/FlatInt.lean`), before anything is said about what a
tick does: the wakeup recorded by an interrupt, inversion of `FlatRunI`, `FlatRun` as its
interrupt-free fragment, continuations, `StampsTimely` and `lowered`.
-/
import TickitModel.Core.FlatInt
import TickitModel.Lemmas.Wakeups
import TickitModel.Lemmas.DictLemmas

namespace Tickit.FlatInt

open Tickit

variable {Val : Type} [DecidableEq Val]

theorem intWake_lookup (wk : Wakeups) (c : Comp) (stamp : SimTime) (c' : Comp) :
    alookup (intWake wk c stamp) c' =
      if c' = c then some (match alookup wk c with
        | some w => if w < stamp then w else stamp
        | none => stamp)
      else alookup wk c' :=
  addWakeup_lookup _ _ _ _

theorem intWake_unique {wk : Wakeups} (h : UniqueKeys wk) (c : Comp) (stamp : SimTime) :
    UniqueKeys (intWake wk c stamp) :=
  addWakeup_unique _ h _ _

theorem intWake_self (wk : Wakeups) (c : Comp) (stamp : SimTime) :
    ∃ e, alookup (intWake wk c stamp) c = some e ∧ e ≤ stamp ∧
      (e = stamp ∨ alookup wk c = some e) := by
  rw [intWake_lookup, if_pos rfl]
  cases h : alookup wk c with
  | none => exact ⟨stamp, rfl, Int.le_refl _, Or.inl rfl⟩
  | some w0 =>
    by_cases hlt : w0 < stamp
    · exact ⟨w0, congrArg some (if_pos hlt), Int.le_of_lt hlt, Or.inr rfl⟩
    · exact ⟨stamp, congrArg some (if_neg hlt), Int.le_refl _, Or.inl rfl⟩

theorem mem_akeys_intWake {wk : Wakeups} {c : Comp} {stamp : SimTime} {c' : Comp}
    (h : c' ∈ akeys (intWake wk c stamp)) : c' = c ∨ c' ∈ akeys wk :=
  mem_akeys_upsert.1 h

theorem inv_nil {w : Wiring} {devs : DevSeq Val} {t0 : SimTime} {n : Nat} {st : FlatSt Val}
    {times : List SimTime} (h : FlatRunI w devs t0 [] n st times) :
    n = 0 ∧ times = [t0] ∧ TickRun w (devs 0) {} t0 w.components st := by
  generalize hs : ([] : List FAct) = s at h
  cases h with
  | initial h => exact ⟨rfl, rfl, h⟩
  | tick => exact absurd hs.symm (List.append_ne_nil_of_right_ne_nil _ (List.cons_ne_nil _ _))
  | interrupt => exact absurd hs.symm (List.append_ne_nil_of_right_ne_nil _ (List.cons_ne_nil _ _))

theorem inv_tick {w : Wiring} {devs : DevSeq Val} {t0 : SimTime} {sc : List FAct} {n' : Nat}
    {st' : FlatSt Val} {times' : List SimTime}
    (h : FlatRunI w devs t0 (sc ++ [.tick]) n' st' times') :
    ∃ (n : Nat) (st : FlatSt Val) (times : List SimTime) (cs : List Comp) (m : SimTime),
      n' = n + 1 ∧ times' = m :: times ∧ FlatRunI w devs t0 sc n st times ∧
      firstWakeups st.wake = (cs, some m) ∧
      TickRun w (devs (n + 1)) { st with wake := delWakeups st.wake cs } m cs st' := by
  generalize hs : sc ++ [FAct.tick] = s at h
  cases h with
  | initial => exact absurd hs (List.append_ne_nil_of_right_ne_nil _ (List.cons_ne_nil _ _))
  | tick hprev hf htick =>
    obtain ⟨rfl, _⟩ := List.append_singleton_inj.1 hs
    exact ⟨_, _, _, _, _, rfl, rfl, hprev, hf, htick⟩
  | interrupt => exact FAct.noConfusion (List.append_singleton_inj.1 hs).2

theorem inv_interrupt {w : Wiring} {devs : DevSeq Val} {t0 : SimTime} {sc : List FAct} {n : Nat}
    {st' : FlatSt Val} {times : List SimTime} {c : Comp} {stamp : SimTime}
    (h : FlatRunI w devs t0 (sc ++ [.interrupt c stamp]) n st' times) :
    ∃ (st : FlatSt Val), st' = { st with wake := intWake st.wake c stamp } ∧
      c ∈ w.components ∧ FlatRunI w devs t0 sc n st times := by
  generalize hs : sc ++ [FAct.interrupt c stamp] = s at h
  cases h with
  | initial => exact absurd hs (List.append_ne_nil_of_right_ne_nil _ (List.cons_ne_nil _ _))
  | tick => exact FAct.noConfusion (List.append_singleton_inj.1 hs).2
  | interrupt hprev hc =>
    obtain ⟨rfl, h2⟩ := List.append_singleton_inj.1 hs
    cases h2
    exact ⟨_, rfl, hc, hprev⟩

theorem of_flatRun {w : Wiring} {devs : DevSeq Val} {t0 : SimTime} {n : Nat} {st : FlatSt Val}
    {times : List SimTime} (h : FlatRun w devs t0 n st times) :
    FlatRunI w devs t0 (List.replicate n .tick) n st times := by
  induction h with
  | initial h => exact .initial h
  | tick _ hf htick ih =>
    rw [List.replicate_succ']
    exact .tick ih hf htick

theorem to_flatRun {w : Wiring} {devs : DevSeq Val} {t0 : SimTime} {sc : List FAct} {n : Nat}
    {st : FlatSt Val} {times : List SimTime} (h : FlatRunI w devs t0 sc n st times)
    (hsc : ∀ a ∈ sc, a = FAct.tick) :
    FlatRun w devs t0 n st times ∧ sc = List.replicate n .tick := by
  induction h with
  | initial h => exact ⟨.initial h, rfl⟩
  | tick _ hf htick ih =>
    obtain ⟨hr, hs⟩ := ih (fun a ha => hsc a (List.mem_append_left _ ha))
    exact ⟨.tick hr hf htick, by rw [List.replicate_succ', ← hs]⟩
  | interrupt => exact FAct.noConfusion (hsc _ (List.mem_append_right _ (List.mem_singleton_self _)))

theorem flatRunI_congr {w : Wiring} {devs devs' : DevSeq Val} {t0 : SimTime} {sc : List FAct}
    {n : Nat} {st : FlatSt Val} {times : List SimTime} (h : FlatRunI w devs t0 sc n st times)
    (heq : ∀ k, k ≤ n → devs' k = devs k) : FlatRunI w devs' t0 sc n st times := by
  induction h with
  | initial ht =>
    refine .initial ?_
    rw [heq 0 (Nat.le_refl _)]
    exact ht
  | @tick sc n st st' times cs m _ hfw ht ih =>
    refine .tick (ih (fun k hk => heq k (Nat.le_succ_of_le hk))) hfw ?_
    rw [heq (n + 1) (Nat.le_refl _)]
    exact ht
  | @interrupt sc n st times c stamp _ hc ih =>
    exact .interrupt (ih heq) hc

theorem flatRun_congr {w : Wiring} {devs devs' : DevSeq Val} {t0 : SimTime} {n : Nat}
    {st : FlatSt Val} {times : List SimTime} (h : FlatRun w devs t0 n st times)
    (heq : ∀ k, k ≤ n → devs' k = devs k) : FlatRun w devs' t0 n st times :=
  (to_flatRun (flatRunI_congr (of_flatRun h) heq) fun _ ha => (List.mem_replicate.1 ha).2).1

theorem flatRunI_counts {w : Wiring} {devs : DevSeq Val} {t0 : SimTime} {sc : List FAct}
    {n : Nat} {st : FlatSt Val} {times : List SimTime} (h : FlatRunI w devs t0 sc n st times) :
    sc.count .tick = n ∧ times.length = n + 1 := by
  induction h with
  | initial _ => exact ⟨rfl, rfl⟩
  | tick _ _ _ ih => simp [List.count_append, ih.1, ih.2]
  | interrupt _ _ ih => simpa [List.count_append] using ih

theorem FlatExtI.flatRunI {w : Wiring} {devs : DevSeq Val} {t0 : SimTime} {n n' : Nat}
    {st st' : FlatSt Val} {times times' : List SimTime} {sc0 sc : List FAct}
    (hext : FlatExtI w devs n st times sc n' st' times')
    (hrun : FlatRunI w devs t0 sc0 n st times) :
    FlatRunI w devs t0 (sc0 ++ sc) n' st' times' := by
  induction hext with
  | refl => rwa [List.append_nil]
  | tick _ hf htick ih =>
    rw [← List.append_assoc]
    exact .tick ih hf htick
  | interrupt _ hc ih =>
    rw [← List.append_assoc]
    exact .interrupt ih hc

theorem FlatExtI.trans {w : Wiring} {devs : DevSeq Val} {n n' n'' : Nat}
    {st st' st'' : FlatSt Val} {times times' times'' : List SimTime} {sc sc' : List FAct}
    (h1 : FlatExtI w devs n st times sc n' st' times')
    (h2 : FlatExtI w devs n' st' times' sc' n'' st'' times'') :
    FlatExtI w devs n st times (sc ++ sc') n'' st'' times'' := by
  induction h2 with
  | refl => rwa [List.append_nil]
  | tick _ hf htick ih =>
    rw [← List.append_assoc]
    exact .tick ih hf htick
  | interrupt _ hc ih =>
    rw [← List.append_assoc]
    exact .interrupt ih hc

theorem flatRunI_split {w : Wiring} {devs : DevSeq Val} {t0 : SimTime} {sc0 sc : List FAct}
    {n' : Nat} {st' : FlatSt Val} {times' : List SimTime}
    (hrun : FlatRunI w devs t0 (sc0 ++ sc) n' st' times') :
    ∃ n st times, FlatRunI w devs t0 sc0 n st times ∧
      FlatExtI w devs n st times sc n' st' times' := by
  rw [← List.reverse_reverse sc] at hrun ⊢
  generalize sc.reverse = r at hrun ⊢
  induction r generalizing n' st' times' with
  | nil => exact ⟨_, _, _, by rwa [List.reverse_nil, List.append_nil] at hrun, .refl⟩
  | cons a r ih =>
    rw [List.reverse_cons] at hrun ⊢
    rw [← List.append_assoc] at hrun
    cases a with
    | tick =>
      obtain ⟨_, _, _, _, _, rfl, rfl, hprev, hf, htick⟩ := inv_tick hrun
      obtain ⟨n, st, times, hr, he⟩ := ih hprev
      exact ⟨n, st, times, hr, .tick he hf htick⟩
    | interrupt c stamp =>
      obtain ⟨_, rfl, hc, hprev⟩ := inv_interrupt hrun
      obtain ⟨n, st, times, hr, he⟩ := ih hprev
      exact ⟨n, st, times, hr, .interrupt he hc⟩

theorem FlatExtI.times_eq {w : Wiring} {devs : DevSeq Val} {n n' : Nat}
    {st st' : FlatSt Val} {times times' : List SimTime} {sc : List FAct}
    (hext : FlatExtI w devs n st times sc n' st' times') :
    ∃ newT, times' = newT ++ times ∧ n' = n + newT.length := by
  induction hext with
  | refl => exact ⟨[], rfl, rfl⟩
  | tick _ _ _ ih =>
    obtain ⟨newT, h1, h2⟩ := ih
    exact ⟨_ :: newT, by rw [h1]; rfl, by rw [h2]; rfl⟩
  | interrupt _ _ ih => exact ih

theorem stampsTimely_nil (times : List SimTime) : StampsTimely [] times := trivial

theorem stampsTimely_snoc_tick {sc : List FAct} {times : List SimTime} :
    StampsTimely (sc ++ [.tick]) times ↔ StampsTimely sc times.tail := by
  simp [StampsTimely, stampsTimelyRev]

theorem stampsTimely_snoc_interrupt {sc : List FAct} {times : List SimTime} {c : Comp}
    {stamp : SimTime} :
    StampsTimely (sc ++ [.interrupt c stamp]) times ↔
      (∀ tl, times.head? = some tl → tl ≤ stamp) ∧ StampsTimely sc times := by
  simp [StampsTimely, stampsTimelyRev]

theorem stampsTimely_replicate (n : Nat) (times : List SimTime) :
    StampsTimely (List.replicate n .tick) times := by
  induction n generalizing times with
  | zero => trivial
  | succ n ih =>
    rw [List.replicate_succ', stampsTimely_snoc_tick]
    exact ih _

theorem lowered_nil (c : Comp) (t : SimTime) : lowered c t [] = t := rfl

theorem lowered_append (c : Comp) (t : SimTime) (sc sc' : List FAct) :
    lowered c t (sc ++ sc') = lowered c (lowered c t sc) sc' :=
  List.foldl_append

theorem lowered_snoc (c : Comp) (t : SimTime) (sc : List FAct) (a : FAct) :
    lowered c t (sc ++ [a]) = FAct.lower c (lowered c t sc) a :=
  lowered_append c t sc [a]

theorem lower_cases (c : Comp) (t : SimTime) (a : FAct) :
    FAct.lower c t a = t ∨ ∃ s, a = .interrupt c s ∧ FAct.lower c t a = s ∧ s ≤ t := by
  cases a with
  | tick => exact Or.inl rfl
  | interrupt c' s =>
    by_cases hc : c' = c
    · by_cases hlt : t < s
      · exact Or.inl (by rw [FAct.lower, if_pos hc, if_pos hlt])
      · exact Or.inr ⟨s, by rw [hc], by rw [FAct.lower, if_pos hc, if_neg hlt], Int.not_lt.1 hlt⟩
    · exact Or.inl (by rw [FAct.lower, if_neg hc])

theorem lowered_le (c : Comp) (t : SimTime) (sc : List FAct) : lowered c t sc ≤ t := by
  induction sc generalizing t with
  | nil => exact Int.le_refl _
  | cons a sc ih =>
    refine Int.le_trans (ih (FAct.lower c t a)) ?_
    rcases lower_cases c t a with h | ⟨s, _, h, hs⟩
    · exact Int.le_of_eq h
    · exact h ▸ hs

theorem lowered_cases (c : Comp) (t : SimTime) (sc : List FAct) :
    lowered c t sc = t ∨ FAct.interrupt c (lowered c t sc) ∈ sc := by
  induction sc generalizing t with
  | nil => exact Or.inl rfl
  | cons a sc ih =>
    show lowered c (FAct.lower c t a) sc = t ∨
      FAct.interrupt c (lowered c (FAct.lower c t a) sc) ∈ a :: sc
    rcases ih (FAct.lower c t a) with h | h
    · rw [h]
      rcases lower_cases c t a with ha | ⟨s, rfl, ha, _⟩
      · exact Or.inl ha
      · exact Or.inr (by rw [ha]; exact List.mem_cons_self)
    · exact Or.inr (List.mem_cons_of_mem _ h)

theorem lowered_eq_of_no_interrupt (c : Comp) (t : SimTime) (sc : List FAct)
    (h : ∀ s, FAct.interrupt c s ∉ sc) : lowered c t sc = t :=
  (lowered_cases c t sc).resolve_right (h _)

end Tickit.FlatInt
