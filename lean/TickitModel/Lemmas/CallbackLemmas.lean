/-
Helper lemmas for C06 at run level (`Props/C06Run.lean`, whose four parts are R1 exactness, R2
merging, R3 liveness, R4 no invented tick) and for its version with interrupts
(`Props/FlatInt.lean`): what one scheduler step does to one component's pending wakeup, a pending
wakeup along a continuation (proved once, for continuations with interrupts; a continuation by
callback ticks only is the special case of a script of ticks), strict time progress, and where the
wakeup entries and the tick times of a run come from.  At the end: a `FlatRun` continued by a tick
taken from a locally equivalent state (for `Lemmas/MsgRunMain.lean`).

`FlatExt`, `StillPending`, `FirstUpdate`, `StrictFuture` are what the statements of
`Props/C06Run.lean` are written in; `Requested` and `Prov` serve the inductions here only:
the property statements (`wake_entry_was_requested`, `wake_entry_provenanceI`, `tick_provenanceI`)
spell their bodies out.
-/
import TickitModel.Core.FlatInt
import TickitModel.Lemmas.FlatDetLemmas
import TickitModel.Lemmas.TickComplete

set_option linter.unusedSectionVars false

namespace Tickit.Callback

open Tickit

variable {Val : Type} [DecidableEq Val]

theorem step_cases {w : Wiring} (hw : RouterOK w) {dev : DevFn Val} {st st' : FlatSt Val}
    {cs : List Comp} {m : SimTime} (huk : UniqueKeys st.wake)
    (hf : firstWakeups st.wake = (cs, some m))
    (htick : TickRun w dev { st with wake := delWakeups st.wake cs } m cs st')
    {c : Comp} {t : SimTime} (hc : alookup st.wake c = some t) :
    m ≤ t ∧ (c ∈ cs ↔ m = t) ∧
      ((m < t ∧ st'.obsOf c = st.obsOf c ∧ alookup st'.wake c = some t) ∨
        ∃ given, st'.obsOf c = st.obsOf c ++ [(m, given)]) := by
  obtain ⟨hcs, hle, _, _⟩ := firstWakeups_spec _ huk cs m hf
  have hmt : m ≤ t := hle c t hc
  have hiff : c ∈ cs ↔ m = t := by
    rw [hcs c, hc]
    exact ⟨fun h => (Option.some.inj h).symm, fun h => h ▸ rfl⟩
  refine ⟨hmt, hiff, ?_⟩
  by_cases hmem : c ∈ cs
  · obtain ⟨given, hob, _⟩ := Det.tickRun_root hw htick hmem
    exact Or.inr ⟨given, hob⟩
  · rcases Det.tickRun_cases htick c with ⟨hob, hwk⟩ | ⟨given, hob, _⟩
    · refine Or.inl ⟨Int.lt_iff_le_and_ne.mpr ⟨hmt, fun h => hmem (hiff.2 h)⟩, hob, ?_⟩
      rw [hwk]
      show alookup (delWakeups st.wake cs) c = some t
      rw [delWakeups_lookup _ huk, if_neg hmem, hc]
    · exact Or.inr ⟨given, hob⟩

theorem step_serves {w : Wiring} (hw : RouterOK w) {dev : DevFn Val} {st st' : FlatSt Val}
    {cs : List Comp} {m : SimTime} (huk : UniqueKeys st.wake)
    (hf : firstWakeups st.wake = (cs, some m))
    (htick : TickRun w dev { st with wake := delWakeups st.wake cs } m cs st') :
    (∀ c, alookup st.wake c = some m ↔ c ∈ cs) ∧ cs.Nodup ∧
    ∀ c, alookup st.wake c = some m →
      ∃ given, st'.obsOf c = st.obsOf c ++ [(m, given)] ∧ (c, m, given) ∈ st'.obs ∧
        alookup st'.wake c = (dev c m given).callAt := by
  obtain ⟨hcs, _, _, hnd⟩ := firstWakeups_spec _ huk cs m hf
  refine ⟨fun c => (hcs c).symm, hnd, fun c hc => ?_⟩
  have hmem : c ∈ cs := (hcs c).2 hc
  obtain ⟨given, hob, hwk⟩ := Det.tickRun_root hw htick hmem
  refine ⟨given, hob,
    FlatSt.mem_obsOf.1 (hob ▸ List.mem_append_right _ (List.mem_singleton_self _)), ?_⟩
  rw [hwk]
  cases (dev c m given).callAt with
  | none => exact (delWakeups_lookup _ huk cs c).trans (if_pos hmem)
  | some x => rfl

/-- a run continued by further callback ticks, exactly the steps of `FlatRun.tick`.  The initial
time `t0` of `FlatRun` plays no role in a step, so it is not a parameter. -/
inductive FlatExt (w : Wiring) (devs : DevSeq Val) (n : Nat) (st : FlatSt Val)
    (times : List SimTime) : Nat → FlatSt Val → List SimTime → Prop
  | refl : FlatExt w devs n st times n st times
  | tick {n' : Nat} {st' st'' : FlatSt Val} {times' : List SimTime} {cs : List Comp} {m : SimTime} :
      FlatExt w devs n st times n' st' times' → firstWakeups st'.wake = (cs, some m) →
      TickRun w (devs (n' + 1)) { st' with wake := delWakeups st'.wake cs } m cs st'' →
      FlatExt w devs n st times (n' + 1) st'' (m :: times')

theorem FlatExt.toI {w : Wiring} {devs : DevSeq Val} {n n' : Nat} {st st' : FlatSt Val}
    {times times' : List SimTime} (h : FlatExt w devs n st times n' st' times') :
    ∃ k, FlatExtI w devs n st times (List.replicate k .tick) n' st' times' := by
  induction h with
  | refl => exact ⟨0, .refl⟩
  | tick _ hf htick ih =>
    obtain ⟨k, ih⟩ := ih
    exact ⟨k + 1, List.replicate_succ' ▸ .tick ih hf htick⟩

theorem FlatExt.ofI {w : Wiring} {devs : DevSeq Val} {n n' : Nat} {st st' : FlatSt Val}
    {times times' : List SimTime} {sc : List FAct}
    (h : FlatExtI w devs n st times sc n' st' times') (hsc : ∀ a ∈ sc, a = FAct.tick) :
    FlatExt w devs n st times n' st' times' := by
  induction h with
  | refl => exact .refl
  | tick _ hf htick ih => exact .tick (ih fun a ha => hsc a (List.mem_append_left _ ha)) hf htick
  | interrupt => exact nomatch hsc _ (List.mem_append_right _ (List.mem_singleton_self _))

theorem FlatExt.flatRun {w : Wiring} {devs : DevSeq Val} {t0 : SimTime} {n n' : Nat}
    {st st' : FlatSt Val} {times times' : List SimTime}
    (hext : FlatExt w devs n st times n' st' times') (hrun : FlatRun w devs t0 n st times) :
    FlatRun w devs t0 n' st' times' := by
  induction hext with
  | refl => exact hrun
  | tick _ hf htick ih => exact .tick ih hf htick

theorem FlatExt.trans {w : Wiring} {devs : DevSeq Val} {n n' n'' : Nat}
    {st st' st'' : FlatSt Val} {times times' times'' : List SimTime}
    (h1 : FlatExt w devs n st times n' st' times')
    (h2 : FlatExt w devs n' st' times' n'' st'' times'') :
    FlatExt w devs n st times n'' st'' times'' := by
  induction h2 with
  | refl => exact h1
  | tick _ hf htick ih => exact .tick ih hf htick

theorem flatRun_split {w : Wiring} {devs : DevSeq Val} {t0 : SimTime} {n' : Nat}
    {st' : FlatSt Val} {times' : List SimTime} (hrun : FlatRun w devs t0 n' st' times')
    (n : Nat) (hn : n ≤ n') :
    ∃ st times, FlatRun w devs t0 n st times ∧ FlatExt w devs n st times n' st' times' := by
  induction hrun with
  | initial h =>
    cases Nat.le_zero.1 hn
    exact ⟨_, _, .initial h, .refl⟩
  | @tick n0 st0 st1 times0 cs m hprev hf htick ih =>
    rcases Nat.le_succ_iff.1 hn with hlt | rfl
    · obtain ⟨st, times, hr, he⟩ := ih hlt
      exact ⟨st, times, hr, .tick he hf htick⟩
    · exact ⟨_, _, .tick hprev hf htick, .refl⟩

theorem FlatExt.times_eq {w : Wiring} {devs : DevSeq Val} {n n' : Nat}
    {st st' : FlatSt Val} {times times' : List SimTime}
    (hext : FlatExt w devs n st times n' st' times') :
    ∃ newT, times' = newT ++ times ∧ n' = n + newT.length := by
  obtain ⟨k, h⟩ := hext.toI
  exact FlatInt.FlatExtI.times_eq h

theorem obs_extendsI {w : Wiring} {devs : DevSeq Val} {n n' : Nat} {st st' : FlatSt Val}
    {times times' : List SimTime} {sc : List FAct}
    (hext : FlatExtI w devs n st times sc n' st' times') (c : Comp) :
    ∃ new, st'.obsOf c = st.obsOf c ++ new := by
  induction hext with
  | refl => exact ⟨[], (List.append_nil _).symm⟩
  | tick _ _ htick ih =>
    obtain ⟨new, hnew⟩ := ih
    obtain ⟨new', hnew'⟩ := Det.obsOf_mono_tick htick c
    exact ⟨new ++ new', by rw [hnew', ← List.append_assoc]; exact congrArg (· ++ new') hnew⟩
  | interrupt _ _ ih => exact ih

theorem FlatExt.obs_extends {w : Wiring} {devs : DevSeq Val} {n n' : Nat}
    {st st' : FlatSt Val} {times times' : List SimTime}
    (hext : FlatExt w devs n st times n' st' times') (c : Comp) :
    ∃ new, st'.obsOf c = st.obsOf c ++ new := by
  obtain ⟨k, h⟩ := hext.toI
  exact obs_extendsI h c

theorem flatRun_times_length {w : Wiring} {devs : DevSeq Val} {t0 : SimTime} {n : Nat}
    {st : FlatSt Val} {times : List SimTime} (hrun : FlatRun w devs t0 n st times) :
    times.length = n + 1 :=
  (FlatInt.flatRunI_counts (FlatInt.of_flatRun hrun)).2

/-! ### a pending wakeup along a continuation (for R1) -/

theorem _root_.Tickit.FirstUpdateI.obs_ne {w : Wiring} {devs : DevSeq Val} {n n' : Nat}
    {st st' : FlatSt Val} {times times' : List SimTime} {sc : List FAct} {c : Comp} {t : SimTime}
    (h : FirstUpdateI w devs n st times sc n' st' times' c t) : st'.obsOf c ≠ st.obsOf c := by
  obtain ⟨_, _, _, _, _, _, _, _, _, rest, _, _, _, _, _, _, _, _, _, hob⟩ := h
  exact fun hobs => nomatch List.self_eq_append_right.1 (hobs.symm.trans hob)

theorem _root_.Tickit.FirstUpdateI.extend {w : Wiring} {devs : DevSeq Val} {n n' n'' : Nat}
    {st st' st'' : FlatSt Val} {times times' times'' : List SimTime} {sc sc' : List FAct} {c : Comp}
    {t : SimTime} (h : FirstUpdateI w devs n st times sc n' st' times' c t)
    (hext : FlatExtI w devs n' st' times' sc' n'' st'' times'') :
    FirstUpdateI w devs n st times (sc ++ sc') n'' st'' times'' c t := by
  obtain ⟨scA, scB, k, stA, stB, timesA, cs, t1, given, rest, rfl, hA, hpA, hfA, htA, hB, hle,
    hroot, hobB, hob'⟩ := h
  obtain ⟨new, hnew⟩ := obs_extendsI hext c
  exact ⟨scA, scB ++ sc', k, stA, stB, timesA, cs, t1, given, rest ++ new,
    List.append_assoc scA (.tick :: scB) sc', hA, hpA, hfA, htA, FlatInt.FlatExtI.trans hB hext,
    hle, hroot, hobB, by rw [hnew, hob', List.append_assoc]; rfl⟩

/-- **R1 with interrupts.** -/
theorem pending_or_servedI {w : Wiring} (hw : RouterOK w) {devs : DevSeq Val}
    {n n' : Nat} {st st' : FlatSt Val} {times times' : List SimTime} {sc : List FAct}
    (huk : UniqueKeys st.wake) {c : Comp} {t : SimTime}
    (hc : alookup st.wake c = some t) (hext : FlatExtI w devs n st times sc n' st' times') :
    StillPendingI st times sc st' times' c t ∨
      FirstUpdateI w devs n st times sc n' st' times' c t := by
  induction hext with
  | refl => exact Or.inl ⟨rfl, hc, [], rfl, fun _ h => nomatch h⟩
  | @tick sc n' st' st'' times' cs m hpre hf htick ih =>
    rcases ih with hp | hfu
    · obtain ⟨hmt, hiff, hcase⟩ :=
        step_cases hw (Det.flatExtI_uniqueKeys hpre huk) hf htick hp.pending
      rcases hcase with ⟨hlt, hob, hwk⟩ | ⟨given, hob⟩
      · left
        obtain ⟨newT, hti, hall⟩ := hp.earlier
        refine ⟨hob.trans hp.no_new_obs, (FlatInt.lowered_snoc c t sc .tick).symm ▸ hwk,
          m :: newT, congrArg (m :: ·) hti, fun x hx => ?_⟩
        rcases List.mem_cons.1 hx with rfl | hx
        · exact Int.lt_of_lt_of_le hlt (FlatInt.lowered_le c t sc)
        · exact hall x hx
      · right
        have hob : st''.obsOf c = st.obsOf c ++ [(m, given)] := hp.no_new_obs ▸ hob
        exact ⟨sc, [], n', st', st'', times', cs, m, given, [], rfl, hpre, hp, hf, htick, .refl,
          hmt, hiff, hob, hob⟩
    · exact Or.inr (hfu.extend (.tick .refl hf htick))
  | @interrupt sc n' st' times' c' stamp hpre hc' ih =>
    rcases ih with hp | hfu
    · left
      refine ⟨hp.no_new_obs, ?_, hp.earlier⟩
      show alookup (intWake st'.wake c' stamp) c = _
      -- `FAct.lower` repeats the `if w < stamp then w else stamp` of `intWake` literally: once the
      -- pending entry is put in, both sides are the same term
      rw [FlatInt.lowered_snoc, FlatInt.intWake_lookup, FAct.lower]
      by_cases hcc : c = c'
      · subst hcc
        rw [if_pos rfl, if_pos rfl, hp.pending]
      · rw [if_neg hcc, if_neg (fun h => hcc h.symm), hp.pending]
    · exact Or.inr (hfu.extend (.interrupt .refl hc'))

structure StillPending (st : FlatSt Val) (times : List SimTime) (st' : FlatSt Val)
    (times' : List SimTime) (c : Comp) (t : SimTime) : Prop where
  no_new_obs : st'.obsOf c = st.obsOf c
  pending : alookup st'.wake c = some t
  earlier : ∃ newT, times' = newT ++ times ∧ ∀ m ∈ newT, m < t

/-- the continuation contains an update of `c`; the first one happens in the tick from
`(k, stA, timesA)` to `stB`, at `t1 ≤ t`. -/
def FirstUpdate (w : Wiring) (devs : DevSeq Val) (n : Nat) (st : FlatSt Val)
    (times : List SimTime) (n' : Nat) (st' : FlatSt Val) (times' : List SimTime) (c : Comp)
    (t : SimTime) : Prop :=
  ∃ (k : Nat) (stA stB : FlatSt Val) (timesA : List SimTime) (cs : List Comp) (t1 : SimTime)
    (given : List (Port × Val)) (rest : List (SimTime × List (Port × Val))),
    FlatExt w devs n st times k stA timesA ∧ StillPending st times stA timesA c t ∧
    firstWakeups stA.wake = (cs, some t1) ∧
    TickRun w (devs (k + 1)) { stA with wake := delWakeups stA.wake cs } t1 cs stB ∧
    FlatExt w devs (k + 1) stB (t1 :: timesA) n' st' times' ∧
    t1 ≤ t ∧ (c ∈ cs ↔ t1 = t) ∧
    stB.obsOf c = st.obsOf c ++ [(t1, given)] ∧
    st'.obsOf c = st.obsOf c ++ (t1, given) :: rest

theorem StillPending.ofI {st st' : FlatSt Val} {times times' : List SimTime} {sc : List FAct}
    {c : Comp} {t : SimTime} (h : StillPendingI st times sc st' times' c t)
    (hsc : ∀ a ∈ sc, a = FAct.tick) : StillPending st times st' times' c t :=
  ⟨h.no_new_obs,
    FlatInt.lowered_eq_of_no_interrupt c t sc (fun _ hs => nomatch hsc _ hs) ▸ h.pending, h.earlier⟩

theorem FirstUpdate.obs_ne {w : Wiring} {devs : DevSeq Val} {n n' : Nat} {st st' : FlatSt Val}
    {times times' : List SimTime} {c : Comp} {t : SimTime}
    (h : FirstUpdate w devs n st times n' st' times' c t) : st'.obsOf c ≠ st.obsOf c := by
  obtain ⟨_, _, _, _, _, _, _, rest, _, _, _, _, _, _, _, _, hob⟩ := h
  exact fun hobs => nomatch List.self_eq_append_right.1 (hobs.symm.trans hob)

/-- **R1**: `pending_or_servedI` for a continuation by callback ticks only. -/
theorem pending_or_served {w : Wiring} (hw : RouterOK w) {devs : DevSeq Val} {t0 : SimTime}
    {n n' : Nat} {st st' : FlatSt Val} {times times' : List SimTime}
    (hrun : FlatRun w devs t0 n st times) {c : Comp} {t : SimTime}
    (hc : alookup st.wake c = some t) (hext : FlatExt w devs n st times n' st' times') :
    StillPending st times st' times' c t ∨ FirstUpdate w devs n st times n' st' times' c t := by
  obtain ⟨k, hI⟩ := hext.toI
  have hall : ∀ a ∈ List.replicate k FAct.tick, a = .tick := fun a ha => (List.mem_replicate.1 ha).2
  rcases pending_or_servedI hw (Det.flatRun_uniqueKeys hrun) hc hI with hp | ⟨scA, scB, k', stA,
    stB, timesA, cs, t1, given, rest, hsc, hA, hpA, hfA, htA, hB, hle, hroot, hobB, hob'⟩
  · exact Or.inl (.ofI hp hall)
  · rw [hsc] at hall
    have hallA : ∀ a ∈ scA, a = FAct.tick := fun a ha => hall a (List.mem_append_left _ ha)
    rw [FlatInt.lowered_eq_of_no_interrupt c t scA (fun _ hs => nomatch hallA _ hs)] at hle hroot
    exact Or.inr ⟨k', stA, stB, timesA, cs, t1, given, rest, .ofI hA hallA, .ofI hpA hallA, hfA,
      htA, .ofI hB (fun a ha => hall a (List.mem_append_right _ (List.mem_cons_of_mem _ ha))), hle,
      hroot, hobB, hob'⟩

/-! ### strict progress of time and continuability (for R3) -/

def StrictFuture (devs : DevSeq Val) : Prop :=
  ∀ k c t ins x, ((devs k) c t ins).callAt = some x → t < x

omit [DecidableEq Val] in
theorem StrictFuture.noPast {devs : DevSeq Val} (h : StrictFuture devs) : NoPastCallbacks devs :=
  fun k c t ins x hx => Int.le_of_lt (h k c t ins x hx)

/-- the strict form of `Det.flatRunI_wake_ge`, for callback ticks only: an interrupt may be stamped
with the time of the latest tick. -/
theorem flatRun_wake_gt {w : Wiring} {devs : DevSeq Val} (hfut : StrictFuture devs)
    {t0 : SimTime} {n : Nat} {st : FlatSt Val} {times : List SimTime}
    (hrun : FlatRun w devs t0 n st times) :
    ∃ tl rest, times = tl :: rest ∧ ∀ c t, alookup st.wake c = some t → tl < t := by
  cases hrun with
  | initial h =>
    refine ⟨t0, [], rfl, fun c t hc => ?_⟩
    rcases Det.tickRun_wake_cases h hc with h' | ⟨g, h'⟩
    · cases h'
    · exact hfut 0 _ _ _ _ h'
  | @tick n st0 _ times0 cs m hprev hf h =>
    refine ⟨m, times0, rfl, fun c t hc => ?_⟩
    rcases Det.tickRun_wake_cases h hc with h' | ⟨g, h'⟩
    · exact served_then_later _ (Det.flatRun_uniqueKeys hprev) cs m hf c t h'
    · exact hfut (n + 1) _ _ _ _ h'

theorem next_tick_later {w : Wiring} {devs : DevSeq Val} (hfut : StrictFuture devs)
    {t0 : SimTime} {n : Nat} {st : FlatSt Val} {tl : SimTime} {rest : List SimTime}
    (hrun : FlatRun w devs t0 n st (tl :: rest)) {cs : List Comp} {m : SimTime}
    (hf : firstWakeups st.wake = (cs, some m)) : tl < m := by
  obtain ⟨tl', rest', hti, hgt⟩ := flatRun_wake_gt hfut hrun
  cases hti
  obtain ⟨_, _, ⟨c, hc⟩, _⟩ := firstWakeups_spec _ (Det.flatRun_uniqueKeys hrun) cs m hf
  exact hgt c m hc

theorem ext_head_ge {w : Wiring} {devs : DevSeq Val} (hfut : StrictFuture devs)
    {t0 : SimTime} {n n' : Nat} {st st' : FlatSt Val} {tl : SimTime} {rest times' : List SimTime}
    (hrun : FlatRun w devs t0 n st (tl :: rest))
    (hext : FlatExt w devs n st (tl :: rest) n' st' times') :
    ∃ (tl' : SimTime) (rest' : List SimTime), times' = tl' :: rest' ∧
      tl + ((n' - n : Nat) : Int) ≤ tl' := by
  induction hext with
  | refl => exact ⟨tl, rest, rfl, by rw [Nat.sub_self]; exact Int.le_of_eq (Int.add_zero tl)⟩
  | @tick n' st' st'' times' cs m hpre hf _ ih =>
    obtain ⟨tl', rest', rfl, hle⟩ := ih
    have hlt : tl' < m := next_tick_later hfut (hpre.flatRun hrun) hf
    obtain ⟨_, _, hn'⟩ := hpre.times_eq
    refine ⟨m, tl' :: rest', rfl, ?_⟩
    rw [Nat.succ_sub (hn' ▸ Nat.le_add_right _ _), Int.natCast_succ, ← Int.add_assoc]
    exact Int.add_one_le_of_lt (Int.lt_of_le_of_lt hle hlt)

theorem can_tick {w : Wiring} (hacyc : w.Acyclic) (dev : DevFn Val) {st : FlatSt Val}
    (hkeys : ∀ c ∈ akeys st.wake, c ∈ w.components) (hne : st.wake ≠ []) :
    ∃ cs m st', firstWakeups st.wake = (cs, some m) ∧
      TickRun w dev { st with wake := delWakeups st.wake cs } m cs st' := by
  obtain ⟨cs, m, hf⟩ := firstWakeups_some_of_ne_nil st.wake hne
  obtain ⟨st', h⟩ := tickRun_exists w hacyc dev { st with wake := delWakeups st.wake cs } m _
    (Det.extent_ups_isSome fun r hr => hkeys r (firstWakeups_sub hf r hr))
  exact ⟨cs, m, st', hf, h⟩

theorem can_step {w : Wiring} (hacyc : w.Acyclic) {devs : DevSeq Val} {t0 : SimTime} {n : Nat}
    {st : FlatSt Val} {times : List SimTime} (hrun : FlatRun w devs t0 n st times)
    (hne : st.wake ≠ []) :
    ∃ cs m st', firstWakeups st.wake = (cs, some m) ∧
      TickRun w (devs (n + 1)) { st with wake := delWakeups st.wake cs } m cs st' :=
  can_tick hacyc _ (Det.flatRun_wake_keys hrun) hne

theorem ext_exists {w : Wiring} (hw : RouterOK w) (hacyc : w.Acyclic) {devs : DevSeq Val}
    {t0 : SimTime} {n : Nat} {st : FlatSt Val} {times : List SimTime}
    (hrun : FlatRun w devs t0 n st times) {c : Comp} {t : SimTime}
    (hc : alookup st.wake c = some t) (k : Nat) :
    ∃ n' st' times', FlatExt w devs n st times n' st' times' ∧
      (n' = n + k ∨ FirstUpdate w devs n st times n' st' times' c t) := by
  induction k with
  | zero => exact ⟨n, st, times, .refl, Or.inl rfl⟩
  | succ k ih =>
    obtain ⟨n', st', times', hext, hcase⟩ := ih
    rcases hcase with hn | hfu
    · rcases pending_or_served hw hrun hc hext with hp | hfu
      · obtain ⟨cs, m, st'', hf, htick⟩ :=
          can_step hacyc (hext.flatRun hrun) (ne_nil_iff_exists_alookup.mpr ⟨_, _, hp.pending⟩)
        exact ⟨n' + 1, st'', m :: times', .tick hext hf htick, Or.inl (hn ▸ rfl)⟩
      · exact ⟨n', st', times', hext, Or.inr hfu⟩
    · exact ⟨n', st', times', hext, Or.inr hfu⟩

/-! ### where a wakeup entry comes from (for R4) -/

/-- the entry `(c, x)` was requested by an update of `c` in tick `k ≤ n`, and every later update of
`c` asked for no callback, so the entry of tick `k` was kept. -/
def Requested (devs : DevSeq Val) (n : Nat) (times : List SimTime)
    (obsC : List (SimTime × List (Port × Val))) (c : Comp) (x : SimTime) : Prop :=
  ∃ (k : Nat) (t_req : SimTime) (ins : List (Port × Val))
    (pre post : List (SimTime × List (Port × Val))),
    k ≤ n ∧ times[n - k]? = some t_req ∧ obsC = pre ++ (t_req, ins) :: post ∧
    ((devs k) c t_req ins).callAt = some x ∧
    ∀ o ∈ post, ∃ k', k < k' ∧ k' ≤ n ∧ times[n - k']? = some o.1 ∧
      ((devs k') c o.1 o.2).callAt = none

theorem Requested.step {devs : DevSeq Val} {n : Nat} {times : List SimTime}
    {obsC : List (SimTime × List (Port × Val))} {c : Comp} {x : SimTime}
    (h : Requested devs n times obsC c x) (m : SimTime) (new : List (SimTime × List (Port × Val)))
    (hnew : ∀ o ∈ new, o.1 = m ∧ ((devs (n + 1)) c o.1 o.2).callAt = none) :
    Requested devs (n + 1) (m :: times) (obsC ++ new) c x := by
  obtain ⟨k, t_req, ins, pre, post, hk, hti, hob, hcall, hpost⟩ := h
  refine ⟨k, t_req, ins, pre, post ++ new, Nat.le_succ_of_le hk, (getElem?_cons_sub hk m).trans hti,
    by rw [hob, List.append_assoc]; rfl, hcall, fun o ho => ?_⟩
  rcases List.mem_append.1 ho with ho | ho
  · obtain ⟨k', h1, h2, h3, h4⟩ := hpost o ho
    exact ⟨k', h1, Nat.le_succ_of_le h2, (getElem?_cons_sub h2 m).trans h3, h4⟩
  · obtain ⟨h1, h2⟩ := hnew o ho
    exact ⟨n + 1, Nat.lt_succ_of_le hk, Nat.le_refl _, by rw [Nat.sub_self, h1]; rfl, h2⟩

theorem wake_requestedI {w : Wiring} {devs : DevSeq Val} {t0 : SimTime} {sc : List FAct} {n : Nat}
    {st : FlatSt Val} {times : List SimTime} (hrun : FlatRunI w devs t0 sc n st times) (c : Comp)
    (x : SimTime) (hx : alookup st.wake c = some x) :
    Requested devs n times (st.obsOf c) c x ∨ FAct.interrupt c x ∈ sc := by
  induction hrun generalizing x with
  | @initial st htick =>
    obtain ⟨new, hob, ⟨hwk, _⟩ | ⟨g, x', rfl, hcall, hwk⟩⟩ := Det.tickRun_entry_cases htick c
    · cases hwk.symm.trans hx
    · cases hwk.symm.trans hx
      exact Or.inl ⟨0, t0, g, [], [], Nat.le_refl _, rfl, hob, hcall, fun _ h => nomatch h⟩
  | @tick sc n st st' times cs m hprev hf htick ih =>
    obtain ⟨new, hob, ⟨hwk, hnew⟩ | ⟨g, x', rfl, hcall, hwk⟩⟩ := Det.tickRun_entry_cases htick c
    · -- the entry was there before the tick, and the observations `new` keep it
      have hy : alookup (delWakeups st.wake cs) c = some x := hwk ▸ hx
      rw [delWakeups_lookup _ (Det.flatRunI_uniqueKeys hprev)] at hy
      split at hy
      · cases hy
      · exact hob ▸ (ih x hy).imp (·.step m new hnew) (List.mem_append_left _)
    · cases hwk.symm.trans hx
      exact Or.inl ⟨n + 1, m, g, st.obsOf c, [], Nat.le_refl _, by rw [Nat.sub_self]; rfl, hob,
        hcall, fun _ h => nomatch h⟩
  | @interrupt sc n st times c' stamp hprev _ ih =>
    have hx' : alookup (intWake st.wake c' stamp) c = some x := hx
    by_cases hcc : c = c'
    · subst hcc
      obtain ⟨e, he, _, hor⟩ := FlatInt.intWake_self st.wake c stamp
      cases he.symm.trans hx'
      rcases hor with rfl | hold
      · exact Or.inr (List.mem_append_right _ (List.mem_singleton_self _))
      · exact (ih _ hold).imp_right (List.mem_append_left _)
    · rw [FlatInt.intWake_lookup, if_neg hcc] at hx'
      exact (ih x hx').imp_right (List.mem_append_left _)

theorem wake_requested {w : Wiring} {devs : DevSeq Val} {t0 : SimTime} {n : Nat}
    {st : FlatSt Val} {times : List SimTime} (hrun : FlatRun w devs t0 n st times) (c : Comp)
    (x : SimTime) (hx : alookup st.wake c = some x) :
    Requested devs n times (st.obsOf c) c x :=
  (wake_requestedI (FlatInt.of_flatRun hrun) c x hx).resolve_right
    fun h => nomatch (List.mem_replicate.1 h).2

end Tickit.Callback

namespace Tickit.FlatInt

open Tickit

variable {Val : Type} [DecidableEq Val]

/-- `Callback.Requested` without its clause on later updates, or the stamp of an interrupt of `c` in
the script. -/
def Prov (devs : DevSeq Val) (n : Nat) (times : List SimTime)
    (obsC : List (SimTime × List (Port × Val))) (sc : List FAct) (c : Comp) (x : SimTime) : Prop :=
  (∃ (k : Nat) (t_req : SimTime) (ins : List (Port × Val)),
    k ≤ n ∧ times[n - k]? = some t_req ∧ (t_req, ins) ∈ obsC ∧
    ((devs k) c t_req ins).callAt = some x) ∨ FAct.interrupt c x ∈ sc

theorem Prov.tick {w : Wiring} {dev : DevFn Val} {devs : DevSeq Val} {n : Nat}
    {times : List SimTime} {st st' : FlatSt Val} {wk : Wakeups} {m : SimTime} {roots : List Comp}
    {sc : List FAct} {c : Comp} {x : SimTime} (h : Prov devs n times (st.obsOf c) sc c x)
    (htick : TickRun w dev { st with wake := wk } m roots st') :
    Prov devs (n + 1) (m :: times) (st'.obsOf c) (sc ++ [.tick]) c x := by
  obtain ⟨new, hnew⟩ := Det.obsOf_mono_tick htick c
  rcases h with ⟨k, t_req, ins, h1, h2, h3, h4⟩ | h
  · exact Or.inl ⟨k, t_req, ins, Nat.le_succ_of_le h1, (getElem?_cons_sub h1 m).trans h2,
      hnew ▸ List.mem_append_left _ h3, h4⟩
  · exact Or.inr (List.mem_append_left _ h)

theorem wake_prov {w : Wiring} {devs : DevSeq Val} {t0 : SimTime} {sc : List FAct} {n : Nat}
    {st : FlatSt Val} {times : List SimTime} (hrun : FlatRunI w devs t0 sc n st times) (c : Comp)
    (x : SimTime) (hx : alookup st.wake c = some x) :
    Prov devs n times (st.obsOf c) sc c x := by
  refine (Callback.wake_requestedI hrun c x hx).imp_left ?_
  rintro ⟨k, t_req, ins, pre, post, h1, h2, h3, h4, _⟩
  exact ⟨k, t_req, ins, h1, h2, h3 ▸ List.mem_append_right _ List.mem_cons_self, h4⟩

theorem tick_prov {w : Wiring} {devs : DevSeq Val} {t0 : SimTime} {sc : List FAct} {n : Nat}
    {st : FlatSt Val} {times : List SimTime} (hrun : FlatRunI w devs t0 sc n st times) :
    ∀ m ∈ times, m = t0 ∨ ∃ c, Prov devs n times (st.obsOf c) sc c m := by
  induction hrun with
  | initial _ => exact fun m hm => Or.inl (List.mem_singleton.1 hm)
  | @tick sc n st st' times cs m hprev hf htick ih =>
    intro m' hm'
    rcases List.mem_cons.1 hm' with rfl | hm'
    · obtain ⟨_, _, ⟨c, hc⟩, _⟩ := firstWakeups_spec _ (Det.flatRunI_uniqueKeys hprev) cs m' hf
      exact Or.inr ⟨c, (wake_prov hprev c m' hc).tick htick⟩
    · rcases ih m' hm' with h | ⟨c, h⟩
      · exact Or.inl h
      · exact Or.inr ⟨c, h.tick htick⟩
  | @interrupt sc n st times c' stamp hprev _ ih =>
    intro m hm
    rcases ih m hm with h | ⟨c, h⟩
    · exact Or.inl h
    · exact Or.inr ⟨c, Or.imp_right (List.mem_append_left _) h⟩

end Tickit.FlatInt

namespace Tickit

open Tickit.Det

variable {Val : Type} [DecidableEq Val]

/-- **`FlatRun` is closed under a tick taken from a locally equivalent state** `F`, one that `F`'s
own wakeups begin. -/
theorem flatRun_tick_equiv {w : Wiring} (hw : RouterOK w) (hacyc : w.Acyclic) {devs : DevSeq Val}
    (hdev : ∀ k, DevExt (devs k)) {t0 : SimTime} {n : Nat} {st : FlatSt Val} {times : List SimTime}
    (hprev : FlatRun w devs t0 n st times) {F F' : FlatSt Val}
    (hF : ∀ c, (loc F c).Equiv (loc st c)) (hu : UniqueKeys F.wake) {cs : List Comp} {t : SimTime}
    (hf : firstWakeups F.wake = (cs, some t))
    (hrun : TickRun w (devs (n + 1)) { F with wake := delWakeups F.wake cs } t cs F') :
    ∃ st', FlatRun w devs t0 (n + 1) st' (t :: times) ∧ ∀ c, (loc F' c).Equiv (loc st' c) := by
  have hust := flatRun_uniqueKeys hprev
  obtain ⟨_, _, ⟨x, hx⟩, _⟩ := firstWakeups_spec F.wake hu cs t hf
  obtain ⟨cs', t', st', hf', hrun'⟩ := Callback.can_step hacyc hprev
    (ne_nil_iff_exists_alookup.mpr ⟨_, _, (hF x).wk.symm.trans hx⟩)
  obtain ⟨rfl, hcs⟩ := firstWakeups_congr hu hust (fun c => (hF c).wk) hf hf'
  exact ⟨st', .tick hprev hf' hrun', tickRun_loc_equiv hw hacyc (hdev (n + 1)) hcs
    (fun c => (hF c).delWakeups hu hust (hcs c)) hrun hrun'⟩

theorem flatRun_roots_components {w : Wiring} {devs : DevSeq Val} {t0 : SimTime} {n : Nat}
    {st : FlatSt Val} {times : List SimTime} (hrun : FlatRun w devs t0 n st times) {F : FlatSt Val}
    (hF : ∀ c, (loc F c).Equiv (loc st c)) {cs : List Comp} {t : SimTime}
    (hf : firstWakeups F.wake = (cs, some t)) : ∀ r ∈ cs, r ∈ w.components := by
  intro r hr
  obtain ⟨x, hx⟩ := Option.isSome_iff_exists.1 (alookup_isSome_iff.2 (firstWakeups_sub hf r hr))
  exact flatRun_wake_keys hrun r
    (mem_akeys_of_alookup_eq_some ((hF r).wk.symm.trans hx))

end Tickit
