/-
C09 (external stimuli): the whole run with stimuli, `masterRun_corrP`.  The run of the flattening is
built in lockstep with the nested one (by the elimination rule `TimeMono.masterRun_elim` of
`Lemmas/MasterRun.lean`), the two keeping `Lock` between steps; besides the correspondence of the
end states this shows that both handle the same stimuli at the same points with the same stamps
(the log `Pacing.runLog` of `Lemmas/PacingLemmas.lean`; that file is imported for it and for
`RefineStim.stampOf`).  `nesting_transparent_run_gen` puts the initial tick in front.

In `masterRun` a tick takes no real time (it starts and ends at `d`, and every stimulus with
`real ≤ d` is handled before it), so no stimulus falls inside a tick.  Stimuli that arrive in the
middle of a tick exist only in the loop with processing costs, `masterRunC` of `Core/SimCost.lean`;
no transparency theorem is stated for that loop.
-/
import TickitModel.Lemmas.FlattenCorr
import TickitModel.Lemmas.PacingLemmas

namespace Tickit

open Pacing

/-- `stimsTimely` (which has the body of `masterRun` inline) in the terms of `Lemmas/MasterRun.lean`,
as `TimeMono.masterRun_unfold` gives `masterRun` -/
theorem stimsTimely_unfold (S : Static) (orc : Oracle) (fuel : Nat) (s : Speed) (steps nTicks : Nat)
    (pending : Bool) (m : MasterSt) (stims : List Stim) :
    stimsTimely S orc fuel s (steps + 1) (nTicks + 1) pending m stims =
      match TimeMono.stimSel m s (firstWakeups (m.sim.sched "").wake).2 stims with
      | some (st, rest) =>
        (match (firstWakeups (m.sim.sched "").wake).2 with
          | none => true
          | some w => if pending then decide (RefineStim.stampOf s m st = w) else decide (RefineStim.stampOf s m st ≤ w)) &&
        stimsTimely S orc fuel s steps (nTicks + 1) true (TimeMono.stimStep S fuel s m st) rest
      | none =>
        match firstWakeups (m.sim.sched "").wake with
        | (comps, some w) =>
          match tickLevel S orc fuel "" w comps [] (TimeMono.delMaster m.sim comps) with
          | .error _ => true
          | .ok (sim2, _) =>
            stimsTimely S orc fuel s steps nTicks false
              { sim := sim2, tickerTime := w, lastReal := dueReal m s w, now := dueReal m s w } stims
        | (_, none) => true := by
  rw [stimsTimely]
  rcases stims with _ | ⟨st, rest⟩
  · rcases firstWakeups (m.sim.sched "").wake with ⟨comps, _ | w⟩ <;> rfl
  · rcases firstWakeups (m.sim.sched "").wake with ⟨comps, _ | w⟩
    · rfl
    · by_cases hle : st.real ≤ dueReal m s w
      · simp only [TimeMono.stimSel, Option.map_some, hle, if_true]; rfl
      · simp only [TimeMono.stimSel, Option.map_some, hle, if_false]; rfl

/-- without stimuli the check is void: the statements for `stims = []` carry no hypothesis -/
theorem stimsTimely_nil (S : Static) (orc : Oracle) (fuel : Nat) (s : Speed) :
    ∀ (steps nTicks : Nat) (pending : Bool) (m : MasterSt),
      stimsTimely S orc fuel s steps nTicks pending m [] = true := by
  intro steps
  induction steps with
  | zero => intros; rw [stimsTimely]
  | succ steps ih =>
    intro nTicks pending m
    cases nTicks with
    | zero => rw [stimsTimely]; simp
    | succ nTicks =>
      rw [stimsTimely_unfold]
      show (match firstWakeups (m.sim.sched "").wake with
        | (comps, some w) => _
        | (_, none) => true) = true
      split
      · split
        · rfl
        · exact ih ..
      · rfl

theorem CorrP.timely_stamp {S : Static} (hS : S.Valid) {orc : Oracle} {I : List Comp} {τ : SimTime}
    {st st' : SimSt} (hc : CorrP S orc I τ st st') {pending : Bool} (hpend : pending = false → I = [])
    {stamp : SimTime}
    (htim : (match (firstWakeups (st.sched "").wake).2 with
      | none => true
      | some w => if pending then decide (stamp = w) else decide (stamp ≤ w)) = true) :
    (I ≠ [] → stamp = τ) ∧ ∀ L c w, alookup (st.sched L).wake c = some w → stamp ≤ w := by
  cases hfw : (firstWakeups (st.sched "").wake).2 with
  | none =>
    have hnil := (firstWakeups_none _).1 hfw
    refine ⟨fun hIne => ?_, hc.sched.le_all hS (fun c w hw => by rw [hnil] at hw; cases hw)⟩
    rw [hc.first_eq hS hIne] at hfw
    cases hfw
  | some w0 =>
    rw [hfw] at htim
    have hle := ((firstWakeups_snd_eq_some_iff_lookup (hc.sched.wake_unique "") w0).1 hfw).2
    cases pending with
    | true =>
      have h0 : stamp = w0 := by simpa using htim
      exact ⟨fun hIne => by rw [hc.first_eq hS hIne] at hfw; exact h0.trans (Option.some.inj hfw).symm,
        hc.sched.le_all hS (fun c w hw => h0 ▸ hle c w hw)⟩
    | false =>
      have h0 : stamp ≤ w0 := by simpa using htim
      exact ⟨fun hIne => absurd (hpend rfl) hIne,
        hc.sched.le_all hS (fun c w hw => Int.le_trans h0 (hle c w hw))⟩

/-- what the nested run and the run of the flattening keep between two steps of their lockstep;
`I`: the interrupts raised since the last tick (`pending`).  `τ` is their common stamp and means
nothing while `I = []` (see `SchedP`): `Lock.tick` just hands on the one it was given -/
structure Lock (S : Static) (orc : Oracle) (pending : Bool) (I : List Comp) (τ : SimTime)
    (m m' : MasterSt) : Prop where
  corr : CorrP S orc I τ m.sim m'.sim
  pend : pending = false → I = []
  clock : m.SameClock m'
  safe : ∀ x ∈ I, orc.Quiet x ∨ orc.Periodic x

theorem Lock.sel {S : Static} (hS : S.Valid) {orc : Oracle} {pending : Bool} {I : List Comp}
    {τ : SimTime} {m m' : MasterSt} (hl : Lock S orc pending I τ m m') (sp : Speed)
    (stims : List Stim) :
    TimeMono.stimSel m' sp (firstWakeups (m'.sim.sched "").wake).2 stims =
      TimeMono.stimSel m sp (firstWakeups (m.sim.sched "").wake).2 stims := by
  rw [← hl.corr.firstWakeups_eq hS, ← stimSel_congr hl.clock]

theorem Lock.stim {S : Static} (hS : S.Valid) {orc : Oracle} {pending : Bool} {I : List Comp}
    {τ : SimTime} {m m' : MasterSt} (hl : Lock S orc pending I τ m m') {st : Stim}
    (hxd : S.isDevice st.comp) {fuel k : Nat} (hk1 : S.Up "" st.comp k) (hk2 : k ≤ fuel)
    (hsafe : orc.Quiet st.comp ∨ orc.Periodic st.comp) (sp : Speed) (n : Nat)
    (htim : (match (firstWakeups (m.sim.sched "").wake).2 with
      | none => true
      | some w => if pending then decide (RefineStim.stampOf sp m st = w)
          else decide (RefineStim.stampOf sp m st ≤ w)) = true) :
    Lock S orc true (st.comp :: I) (RefineStim.stampOf sp m st) (TimeMono.stimStep S fuel sp m st)
      (TimeMono.stimStep (S.flatten n) 1 sp m' st) := by
  have hc := hl.corr
  obtain ⟨hI, hminw⟩ := hc.timely_stamp hS hl.pend htim
  refine ⟨?_, nofun, ⟨hl.clock.1, hl.clock.2.1, by simp only [TimeMono.stimStep, hl.clock.2.2]⟩,
    List.forall_mem_cons.2 ⟨hsafe, hl.safe⟩⟩
  -- a timely stamp is not later than any wakeup of the interrupted component, on either side:
  -- the time recorded (`stimWhen`, the earlier of the two) is the stamp itself
  rw [TimeMono.stimStep_sim, TimeMono.stimStep_sim]
  show CorrP S orc (st.comp :: I) (RefineStim.stampOf sp m st)
    (SimSt.addMasterWake _ _ (TimeMono.stimWhen _ _ (RefineStim.stampOf sp m st)))
    (SimSt.addMasterWake _ _ (TimeMono.stimWhen _ _ (RefineStim.stampOf sp m' st)))
  rw [← RefineStim.stampOf_congr hl.clock, TimeMono.stimWhen_eq_stamp_of_timely,
    TimeMono.stimWhen_eq_stamp_of_timely]
  · exact hc.stim hS hxd hk1 hk2 hI hminw n
  · rw [raiseInterrupt_flat S n hxd]
    intro w hw
    by_cases hxI : st.comp ∈ I
    · rw [hc.wake_int _ hxI] at hw
      cases hw
      rw [hI (List.ne_nil_of_mem hxI)]
      exact Int.le_refl _
    · obtain ⟨P, hP⟩ := Option.isSome_iff_exists.1 hxd.1
      rw [hc.wake_dev _ P hxd hxI hP] at hw
      exact hminw P _ w hw
  · intro w hw
    rw [raiseInterrupt_wake] at hw
    exact hminw "" _ w hw

theorem Lock.tick {S : Static} (hS : S.Valid) {orc : Oracle} {n : Nat} (hst : S.ResolveStable n)
    {pending : Bool} {I : List Comp} {τ : SimTime} {m m' : MasterSt}
    (hl : Lock S orc pending I τ m m') (sp : Speed) {comps : List Comp} {w : SimTime}
    (hfw : firstWakeups (m.sim.sched "").wake = (comps, some w)) {fuel : Nat} {sim2 : SimSt}
    {out : List (Port × V)}
    (ht : tickLevel S orc fuel "" w comps [] (TimeMono.delMaster m.sim comps) = .ok (sim2, out)) :
    ∃ comps' sim2' out', firstWakeups (m'.sim.sched "").wake = (comps', some w) ∧
      tickLevel (S.flatten n) orc 1 "" w comps' [] (TimeMono.delMaster m'.sim comps') = .ok (sim2', out') ∧
      Lock S orc false [] τ
        { sim := sim2, tickerTime := w, lastReal := dueReal m sp w, now := dueReal m sp w }
        { sim := sim2', tickerTime := w, lastReal := dueReal m' sp w, now := dueReal m' sp w } := by
  have hmin := hl.corr.firstWakeups_eq hS
  cases hfw' : firstWakeups (m'.sim.sched "").wake with
  | mk comps' whenT' =>
    rw [hfw, hfw'] at hmin
    cases hmin
    obtain ⟨sim2', out', htick', hc2⟩ := hl.corr.tick hS hst hl.safe hfw hfw' ht
    exact ⟨comps', sim2', out', rfl, htick', hc2, fun _ => rfl,
      ⟨rfl, dueReal_congr hl.clock sp w, dueReal_congr hl.clock sp w⟩, nofun⟩

/-- the last clause of the fourth conjunct (no interrupt pending at the end, if there were none at
the start and the run has no stimuli) is how the runs without stimuli get `Corr` back -/
theorem masterRun_corrP {S : Static} (hS : S.Valid) {orc : Oracle} {n : Nat} (hst : S.ResolveStable n)
    {fuel : Nat}
    (hup : ∀ d, S.isDevice d → ∃ k, S.Up "" d k ∧ k ≤ fuel) (sp : Speed) :
    ∀ (steps nTicks : Nat) (m : MasterSt) (stims : List Stim) (acc : List TickRec)
      (r : MasterSt × List TickRec), masterRun S orc fuel sp steps nTicks m stims acc = .ok r →
      ∀ (pending : Bool) (m' : MasterSt) (acc' : List TickRec) (I : List Comp) (τ : SimTime),
      Lock S orc pending I τ m m' →
      acc.map (·.time) = acc'.map (·.time) → acc.map (·.real) = acc'.map (·.real) →
      (∀ st ∈ stims, S.isDevice st.comp) → orc.InterruptSafe stims →
      stimsTimely S orc fuel sp steps nTicks pending m stims = true →
        ∃ m2' ticks', masterRun (S.flatten n) orc 1 sp steps nTicks m' stims acc' = .ok (m2', ticks') ∧
          r.2.map (·.time) = ticks'.map (·.time) ∧ r.2.map (·.real) = ticks'.map (·.real) ∧
          (∃ I' τ', CorrP S orc I' τ' r.1.sim m2'.sim ∧ (stims = [] → I = [] → I' = [])) ∧
          (runLog S orc fuel sp steps nTicks m stims acc.length).map
              (fun ev => (ev.k, ev.st.comp, ev.stamp sp)) =
            (runLog (S.flatten n) orc 1 sp steps nTicks m' stims acc'.length).map
              (fun ev => (ev.k, ev.st.comp, ev.stamp sp)) := by
  refine TimeMono.masterRun_elim ?_ ?_ ?_ ?_
  · intro steps nTicks m stims acc h0 pending m' acc' I τ hl ht hr _ _ _
    exact ⟨m', acc', TimeMono.masterRun_stop h0, ht, hr, ⟨I, τ, hl.corr, fun _ h => h⟩,
      by rw [runLog_stop h0, runLog_stop h0]⟩
  · intro steps nTicks m stims acc st rest r hs ih pending m' acc' I τ hl ht hr hdevs hsafe htim
    obtain rfl := TimeMono.stimSel_mem hs
    have hs' := (hl.sel hS sp _).trans hs
    rw [stimsTimely_unfold, hs, Bool.and_eq_true] at htim
    have hxd := hdevs st List.mem_cons_self
    obtain ⟨k, hk1, hk2⟩ := hup st.comp hxd
    obtain ⟨m2', ticks', hrun, e1, e2, ⟨I', τ', hc', _⟩, elog⟩ := ih true _ acc' _ _
      (hl.stim hS hxd hk1 hk2 (hsafe st List.mem_cons_self) sp n htim.1) ht hr
      (fun s hs => hdevs s (List.mem_cons_of_mem _ hs))
      (fun s hs => hsafe s (List.mem_cons_of_mem _ hs)) htim.2
    refine ⟨m2', ticks', (TimeMono.masterRun_stim hs').trans hrun, e1, e2, ⟨I', τ', hc', nofun⟩, ?_⟩
    rw [runLog_stim hs, runLog_stim hs', List.map_cons, List.map_cons, elog]
    show (acc.length, st.comp, RefineStim.stampOf sp m st) :: _ =
      (acc'.length, st.comp, RefineStim.stampOf sp m' st) :: _
    rw [RefineStim.stampOf_congr hl.clock, show acc.length = acc'.length by
      simpa using congrArg List.length ht]
  · intro steps nTicks m stims acc comps w sim2 out r hs hfw htick ih pending m' acc' I τ hl ht hr
      hdevs hsafe htim
    have hs' := (hl.sel hS sp _).trans hs
    obtain ⟨comps', sim2', out', hfw', htick', hl2⟩ := hl.tick hS hst sp hfw htick
    rw [stimsTimely_unfold, hs, hfw] at htim
    simp only [] at htim -- reduces the `match (comps, some w) with …`
    rw [htick] at htim
    have hd := dueReal_congr hl.clock sp w
    obtain ⟨m2', ticks', hrun, e1, e2, ⟨I', τ', hc', hI'⟩, elog⟩ := ih false _
      (acc' ++ [⟨w, dueReal m' sp w, comps'⟩]) [] τ hl2
      (by rw [List.map_append, List.map_append, ht]; rfl)
      (by rw [List.map_append, List.map_append, hr, hd]; rfl) hdevs hsafe htim
    refine ⟨m2', ticks', ?_, e1, e2, ⟨I', τ', hc', fun hs _ => hI' hs rfl⟩, ?_⟩
    · rw [TimeMono.masterRun_tick hs' hfw', htick']; exact hrun
    · rw [runLog_tick hs hfw htick, runLog_tick hs' hfw' htick']
      rw [List.length_append, List.length_append] at elog
      exact elog
  · intro steps nTicks m stims acc hs hn pending m' acc' I τ hl ht hr _ _ _
    have hs' := (hl.sel hS sp _).trans hs
    have hn' := (hl.corr.firstWakeups_eq hS).symm.trans hn
    exact ⟨m', acc', TimeMono.masterRun_idle hs' hn', ht, hr, ⟨I, τ, hl.corr, fun _ h => h⟩,
      by rw [runLog_idle hs hn, runLog_idle hs' hn']⟩

theorem corrP_initial {S : Static} (hS : S.Valid) {orc : Oracle} {n : Nat} (hst : S.ResolveStable n)
    {fuel fuel' : Nat} {t0 : SimTime} {now : Int} {m m' : MasterSt}
    {tr tr' : TickRec} (h : masterInitial S orc fuel t0 now = .ok (m, tr))
    (h' : masterInitial (S.flatten n) orc fuel' t0 now = .ok (m', tr')) :
    CorrP S orc [] t0 m.sim m'.sim := by
  have hS' : (S.flatten n).Valid := hS.flatten_valid n
  obtain ⟨L, out, hL, ht⟩ := masterInitial_tick h
  obtain ⟨L', out', hL', ht'⟩ := masterInitial_tick h'
  obtain ⟨new, E, hsch⟩ := tick_eqs_initial hS hst hL ht
  obtain ⟨new', E', hsch'⟩ := tick_eqs_initial hS' (S.flatten_resolveStable n) hL' ht'
  refine (corr_of_tickEqs hS (DevCorr.empty S) (fun _ _ => Iff.rfl) E E'
    (fun _ _ _ _ => Or.inl ⟨Iff.rfl, rfl⟩) hsch hsch').toCorrP t0 ?_
  -- every device is updated in the initial tick, a quiet one asks for no callback
  intro d P hd hq hP
  have hm : d ∈ new.map Obs.comp := (E.val d hd).upd_iff.2 (Or.inl trivial)
  obtain ⟨o, ho, rfl⟩ := List.mem_map.1 hm
  obtain ⟨_, r, _, _, _, hr, _⟩ := (E.val _ hd).upd o ho rfl
  exact ((E.wake _ P hd hP).1 hm r hr).2.1 (hq r (stepResp_mem hr)) trivial

/-- C09, whole run: the general form of the run theorems of `Props/C09.lean` — any sufficient
resolution fuel, any history of callbacks and stimuli.  The observations are the part `.dev.obs` of
`CorrP`. -/
theorem nesting_transparent_run_gen (S : Static) (hS : S.Valid) (orc : Oracle) (fuel rfuel : Nat)
    (hr : S.ResolveStable rfuel) (t0 : SimTime) (now : Int) (sp : Speed) (steps nTicks : Nat)
    (stims : List Stim) (hdev : ∀ st ∈ stims, S.isDevice st.comp) (hsafe : orc.InterruptSafe stims)
    (m m2 : MasterSt) (tr : TickRec) (ticks : List TickRec)
    (h : masterInitial S orc fuel t0 now = .ok (m, tr))
    (htimely : stimsTimely S orc fuel sp steps nTicks false m stims = true)
    (h2 : masterRun S orc fuel sp steps nTicks m stims [tr] = .ok (m2, ticks)) :
    ∃ m' tr' m2' ticks', masterInitial (S.flatten rfuel) orc 1 t0 now = .ok (m', tr') ∧
      masterRun (S.flatten rfuel) orc 1 sp steps nTicks m' stims [tr'] = .ok (m2', ticks') ∧
      ticks.map (·.time) = ticks'.map (·.time) ∧ ticks.map (·.real) = ticks'.map (·.real) ∧
      (∃ I τ, CorrP S orc I τ m2.sim m2'.sim ∧ (stims = [] → I = [])) ∧
      (Pacing.runLog S orc fuel sp steps nTicks m stims 1).map
          (fun ev => (ev.k, ev.st.comp, ev.stamp sp)) =
        (Pacing.runLog (S.flatten rfuel) orc 1 sp steps nTicks m' stims 1).map
          (fun ev => (ev.k, ev.st.comp, ev.stamp sp)) := by
  obtain ⟨m', tr', h'⟩ := flat_initial_ok hS hr h
  obtain ⟨c1, c2, c3, c4, c5⟩ := masterInitial_clock h
  obtain ⟨c1', c2', c3', c4', c5'⟩ := masterInitial_clock h'
  obtain ⟨m2', ticks', hrun, ht, hre, ⟨I, τ, hc, hI⟩, hlog⟩ :=
    masterRun_corrP hS hr (masterInitial_fuel hS hr h) sp steps nTicks m stims [tr] (m2, ticks) h2
      false m' [tr'] [] t0
      ⟨corrP_initial hS hr h h', fun _ => rfl,
        ⟨c1.trans c1'.symm, c2.trans c2'.symm, c3.trans c3'.symm⟩, nofun⟩
      (by simp [c4, c4']) (by simp [c5, c5']) hdev hsafe htimely
  exact ⟨m', tr', m2', ticks', h', hrun, ht, hre, ⟨I, τ, hc, fun hs => hI hs rfl⟩, hlog⟩

end Tickit
