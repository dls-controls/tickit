/-
The forward simulation from the message-level model of a tick (`Core/MsgFlat.lean`) to the
atomic model (`Core/TickSys.lean`): every message-level step is a stutter (a component starts;
a component consumes its `Input` and produces its `Output`) or exactly one `TickSys.step` (the
scheduler consumes an `Output`/`Skip`).
-/
import TickitModel.Lemmas.MsgFlatBasic
import TickitModel.Lemmas.TickerLemmas

set_option autoImplicit false

namespace Tickit

variable {Val : Type}

structure MsgSim (rx : MsgReact Val) (m : MsgSt Val) (s : TickSys Val) : Prop where
  tk : m.tk = some s.tk
  trace : m.trace = s.trace
  slot : SlotRel rx m s.pending

theorem MsgSim.pending_iff {rx : MsgReact Val} {m : MsgSt Val} {s : TickSys Val}
    (h : MsgSim rx m s) (d : Dispatch Val) : d ∈ s.pending ↔ m.inflight d.comp = some d := by
  obtain ⟨o, ho, hp⟩ := h.slot d.comp
  rw [ho.inflight_eq, ← hp d]
  simp

theorem MsgSim.start {w : Wiring} {rx : MsgReact Val} {t : SimTime} {roots : List Comp}
    {m m' : MsgSt Val} (hI : m.Idle) (h : m.step w rx t roots .startSched = some (.ok m')) :
    ∃ s, TickSys.init w t roots = .ok s ∧ MsgSim rx m' s := by
  obtain ⟨_, r, hcall, rfl⟩ := MsgSt.step_startSched_ok h
  have hinit : TickSys.init w t roots = .ok (⟨r.1, r.2, r.2.map Ev.dispatch⟩ : TickSys Val) :=
    TickSys.init_eq_ok_iff.2 ⟨r.1, r.2, hcall, rfl⟩
  refine ⟨_, hinit, by simp, ?_, ?_⟩
  · rw [MsgSt.trace_sendAll, MsgSt.trace_setTk, hI.trace_eq_nil]; rfl
  · have base : SlotRel rx (m.setTk r.1) [] := fun c =>
      ⟨none, .idle (hI.2.2 _) (hI.2.2 _), fun d => by simp⟩
    simpa using SlotRel.sendAll r.2 base (by simpa using (TickInv.init hinit).pre.pend_nodup)

inductive MsgSim.Move (w : Wiring) (rx : MsgReact Val) (t : SimTime) (m : MsgSt Val)
    (s : TickSys Val) : MsgAct → MsgSt Val → TickSys Val → Prop
  | comp (c : Comp) : c ∉ m.started →
      Move w rx t m s (.startComp c) { m with started := c :: m.started } s
  | react (c : Comp) (t' : SimTime) (ins : List (Port × Val)) : c ∈ m.started →
      m.next (.inT c) = some (.disp (.input c t' ins)) → Dispatch.input c t' ins ∈ s.pending →
      Move w rx t m s (.deliverIn c) (((m.advance (.inT c)).produce (.outT c)
        (.output c t' (rx c t' ins).1 (rx c t' ins).2)).record (.react c t' ins)) s
  | answer (i : Nat) (d : Dispatch Val) (r : Ticker Val × List (Dispatch Val)) :
      s.pending[i]? = some d → d.time = t →
      m.next (.outT d.comp) = some (answerMsg rx d) →
      s.tk.propagate w d.comp t (answerOf (rx.at t) d) = .ok r →
      Move w rx t m s (.deliverOut d.comp)
        (((((m.advance (.outT d.comp)).record (.answer d.comp (answerOf (rx.at t) d))).setTk r.1).sendAll
          r.2).noteWakeup d.comp (d.callAt rx))
        ⟨r.1, s.pending.eraseIdx i ++ r.2,
          s.trace ++ [Ev.answer d.comp (answerOf (rx.at t) d)] ++ r.2.map Ev.dispatch⟩

theorem MsgSim.Move.abs {w : Wiring} {rx : MsgReact Val} {t : SimTime} {m m' : MsgSt Val}
    {s s' : TickSys Val} {a : MsgAct} (h : MsgSim.Move w rx t m s a m' s') :
    (s' = s ∧ ∀ c, a ≠ .deliverOut c) ∨ ∃ i, s.step w (rx.at t) i = some (.ok s') := by
  cases h with
  | comp | react => exact Or.inl ⟨rfl, fun _ => MsgAct.noConfusion⟩
  | answer i d r hi hdt _ hprop =>
    exact Or.inr ⟨i, TickSys.step_eq_ok_iff.2 ⟨d, r.1, r.2, hi, by rw [hdt]; exact hprop, rfl⟩⟩

theorem MsgSim.Move.reachable {w : Wiring} {rx : MsgReact Val} {t : SimTime} {roots : List Comp}
    {m m' : MsgSt Val} {s s' : TickSys Val} {a : MsgAct} (h : MsgSim.Move w rx t m s a m' s')
    (hr : s.Reachable w (rx.at t) t roots) : s'.Reachable w (rx.at t) t roots := by
  rcases h.abs with ⟨rfl, _⟩ | ⟨i, hi⟩
  · exact hr
  · exact hr.step hi

/-- under the simulation no message is ever dropped and the scheduler does not start twice: the
step is one of the three moves. -/
theorem MsgSim.step_cases {w : Wiring} {rx : MsgReact Val} {t : SimTime} {roots : List Comp}
    {m m' : MsgSt Val} {s : TickSys Val} (hs : MsgSim rx m s)
    (hr : s.Reachable w (rx.at t) t roots) {a : MsgAct}
    (h : m.step w rx t roots a = some (.ok m')) :
    ∃ s', MsgSim.Move w rx t m s a m' s' ∧ MsgSim rx m' s' := by
  cases a with
  | startSched =>
    obtain ⟨htk, _⟩ := MsgSt.step_startSched_ok h
    rw [hs.tk] at htk; cases htk
  | startComp c =>
    obtain ⟨hc, rfl⟩ := MsgSt.step_startComp_ok h
    exact ⟨s, .comp c hc, hs.tk, hs.trace, hs.slot.congr (fun _ => rfl) (fun _ => rfl)⟩
  | deliverIn c =>
    obtain ⟨hc, μ, hμ, _⟩ := MsgSt.step_deliverIn_cases h
    obtain ⟨t', ins, rfl, hP, hrel⟩ := hs.slot.deliverIn hμ
    rw [MsgSt.step_deliverIn_input hc hμ] at h
    cases h
    exact ⟨s, .react c t' ins hc hμ hP, hs.tk, by simpa [MsgEv.toEv] using hs.trace, hrel⟩
  | deliverOut c =>
    obtain ⟨_, μ, _, hμ, _⟩ := MsgSt.step_deliverOut_cases h
    obtain ⟨d, i, hi, rfl, rfl, hrel⟩ := hs.slot.deliverOut hr.inv.pre.pend_nodup hμ
    -- a pending dispatch was dispatched in this tick, so it carries the tick's time
    have hdt : d.time = t :=
      (hr.inv.pre.disp_ext d (hr.inv.pre.pend_trace d (List.mem_of_getElem? hi))).2
    rw [MsgSt.step_deliverOut_answer hs.tk hμ, hdt] at h
    obtain ⟨r, hprop, rfl⟩ := MsgSt.absorb_eq_ok (Option.some.inj h)
    have hmove := MsgSim.Move.answer (rx := rx) i d r hi hdt hμ hprop
    refine ⟨_, hmove, ?_, ?_, ?_⟩
    · rw [MsgSt.tk_noteWakeup, MsgSt.tk_sendAll, MsgSt.tk_setTk]
    · rw [MsgSt.trace_noteWakeup, MsgSt.trace_sendAll, MsgSt.trace_setTk, MsgSt.trace_record,
        MsgSt.trace_advance, hs.trace]
      rfl
    · have base : SlotRel rx (((m.advance (.outT d.comp)).record (.answer d.comp
          (answerOf (rx.at t) d))).setTk r.1) (s.pending.eraseIdx i) :=
        hrel.congr (fun _ => rfl) (fun _ => rfl)
      exact (SlotRel.sendAll r.2 base (hmove.reachable hr).inv.pre.pend_nodup).congr
        (MsgSt.log_noteWakeup _ _ _) (MsgSt.cur_noteWakeup _ _ _)

theorem MsgSim.step_stutter {w : Wiring} {rx : MsgReact Val} {t : SimTime} {roots : List Comp}
    {m m' : MsgSt Val} {s : TickSys Val} (hs : MsgSim rx m s)
    (hr : s.Reachable w (rx.at t) t roots) {a : MsgAct} (ha : ∀ c, a ≠ .deliverOut c)
    (h : m.step w rx t roots a = some (.ok m')) : MsgSim rx m' s := by
  obtain ⟨s', hmove, hs'⟩ := hs.step_cases hr h
  cases hmove with
  | comp | react => exact hs'
  | answer => exact absurd rfl (ha _)

theorem MsgSim.step {w : Wiring} {rx : MsgReact Val} {t : SimTime} {roots : List Comp}
    {m m' : MsgSt Val} {s : TickSys Val} (hs : MsgSim rx m s)
    (hr : s.Reachable w (rx.at t) t roots) {a : MsgAct}
    (h : m.step w rx t roots a = some (.ok m')) :
    MsgSim rx m' s ∨ ∃ i s', s.step w (rx.at t) i = some (.ok s') ∧ MsgSim rx m' s' := by
  obtain ⟨s', hmove, hs'⟩ := hs.step_cases hr h
  rcases hmove.abs with ⟨rfl, _⟩ | ⟨i, hi⟩
  · exact Or.inl hs'
  · exact Or.inr ⟨i, s', hi, hs'⟩

theorem MsgSt.Reach.induct {w : Wiring} {rx : MsgReact Val} {t : SimTime} {roots : List Comp}
    {m0 : MsgSt Val} (h0 : m0.Idle) {P : MsgSt Val → Prop} (init : P m0)
    (early : ∀ {m : MsgSt Val} (c : Comp), m.Idle → P m → P { m with started := c :: m.started })
    (start : ∀ {m : MsgSt Val} (r : Ticker Val × List (Dispatch Val)), m.Idle →
      (Ticker.call w t roots : Except TickErr _) = .ok r → P m → P ((m.setTk r.1).sendAll r.2))
    (move : ∀ {m m' : MsgSt Val} {s s' : TickSys Val} {a : MsgAct},
      s.Reachable w (rx.at t) t roots → MsgSim rx m s → MsgSim.Move w rx t m s a m' s' →
      MsgSim rx m' s' → P m → P m')
    {m : MsgSt Val} (h : MsgSt.Reach w rx t roots m0 m) : P m := by
  suffices hsuf : (m.Idle ∨ ∃ s, s.Reachable w (rx.at t) t roots ∧ MsgSim rx m s) ∧ P m from hsuf.2
  induction h with
  | init => exact ⟨Or.inl h0, init⟩
  | @step m m' a _ hstep ih =>
    obtain ⟨hI | ⟨s, hr, hs⟩, hP⟩ := ih
    · cases a with
      | startSched =>
        obtain ⟨s, hinit, hsim⟩ := MsgSim.start hI hstep
        obtain ⟨_, r, hcall, rfl⟩ := MsgSt.step_startSched_ok hstep
        exact ⟨Or.inr ⟨s, .init hinit, hsim⟩, start r hI hcall hP⟩
      | startComp c =>
        obtain ⟨_, rfl⟩ := MsgSt.step_startComp_ok hstep
        exact ⟨Or.inl hI, early c hI hP⟩
      | deliverIn c =>
        obtain ⟨_, μ, hμ, _⟩ := MsgSt.step_deliverIn_cases hstep
        rw [hI.next_eq_none] at hμ; cases hμ
      | deliverOut c =>
        obtain ⟨tk, _, htk, _⟩ := MsgSt.step_deliverOut_cases hstep
        rw [hI.1] at htk; cases htk
    · obtain ⟨s', hmove, hs'⟩ := hs.step_cases hr hstep
      exact ⟨Or.inr ⟨s', hmove.reachable hr, hs'⟩, move hr hs hmove hs' hP⟩

theorem MsgSt.Reach.sim {w : Wiring} {rx : MsgReact Val} {t : SimTime} {roots : List Comp}
    {m0 m : MsgSt Val} (h0 : m0.Idle) (h : MsgSt.Reach w rx t roots m0 m) :
    (m.Idle ∧ (∀ T, m.log T = m0.log T) ∧ (∀ T, m.cur T = m0.cur T)) ∨
      ∃ s, s.Reachable w (rx.at t) t roots ∧ MsgSim rx m s := by
  refine h.induct h0 (P := fun m => (m.Idle ∧ (∀ T, m.log T = m0.log T) ∧ (∀ T, m.cur T = m0.cur T)) ∨
      ∃ s, s.Reachable w (rx.at t) t roots ∧ MsgSim rx m s)
    (Or.inl ⟨h0, fun _ => rfl, fun _ => rfl⟩) ?_ ?_ ?_
  · rintro m c hI (⟨_, hl, hc⟩ | ⟨s, _, hs⟩)
    · exact Or.inl ⟨hI, hl, hc⟩
    · exact absurd (hI.1.symm.trans hs.tk) nofun
  · intro m r hI hcall _
    obtain ⟨s, hinit, hsim⟩ := MsgSim.start (rx := rx) hI
      (by rw [MsgSt.step_startSched_eq hI.1, hcall]; rfl)
    exact Or.inr ⟨s, .init hinit, hsim⟩
  · intro m m' s s' a hr _ hmove hs' _
    exact Or.inr ⟨s', hmove.reachable hr, hs'⟩

end Tickit
