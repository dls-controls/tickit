/-
Association lists as Python dicts (`alookup`, `upsert`, `aerase`, `akeys`, `aupdate`, `atouch`,
`agetD`) and duplicate-free lists as sets (`sinsert`, `sunion`): the lemmas shared by all proofs.
Most operations of the model are folds over such lists, hence the fold principles at the head.
-/
import TickitModel.Core.Basic
import TickitModel.Lemmas.ListLemmas

namespace Tickit

/-- `view` is typically "`c` is a member of ..." for a fixed `c`. -/
theorem foldl_prop_iff {σ α : Type} (view : σ → Prop) (f : σ → α → σ) (P : α → Prop)
    (l : List α) (hf : ∀ x ∈ l, ∀ s, view (f s x) ↔ view s ∨ P x) (s : σ) :
    view (l.foldl f s) ↔ view s ∨ ∃ x ∈ l, P x := by
  induction l generalizing s with
  | nil => simp
  | cons x l ih =>
    rw [List.foldl_cons, ih (fun y hy => hf y (List.mem_cons_of_mem _ hy)),
      hf x List.mem_cons_self, or_assoc]
    simp only [List.mem_cons, exists_eq_or_imp]

theorem foldl_prop_iff_of_not {σ α : Type} (view : σ → Prop) (f : σ → α → σ) (P : α → Prop)
    (l : List α) (hf : ∀ x ∈ l, ∀ s, view (f s x) ↔ view s ∨ P x) {s : σ} (hs : ¬ view s) :
    view (l.foldl f s) ↔ ∃ x ∈ l, P x :=
  (foldl_prop_iff view f P l hf s).trans (or_iff_right hs)

theorem foldl_inv {σ α : Type} (Inv : σ → Prop) (f : σ → α → σ) (l : List α)
    (hf : ∀ x ∈ l, ∀ s, Inv s → Inv (f s x)) (s : σ) (hs : Inv s) : Inv (l.foldl f s) := by
  induction l generalizing s with
  | nil => exact hs
  | cons x l ih =>
    exact ih (fun y hy => hf y (List.mem_cons_of_mem _ hy)) _ (hf x List.mem_cons_self s hs)

section Sets
variable {α : Type} [DecidableEq α]

theorem mem_sinsert {s : List α} {x y : α} : y ∈ sinsert s x ↔ y ∈ s ∨ y = x := by
  unfold sinsert
  split
  · next h => exact ⟨Or.inl, fun h' => h'.elim id (· ▸ h)⟩
  · exact List.mem_append.trans (or_congr_right List.mem_singleton)

theorem nodup_sinsert {s : List α} {x : α} (h : s.Nodup) : (sinsert s x).Nodup := by
  unfold sinsert
  split
  · exact h
  · next hx => exact nodup_snoc h hx

theorem mem_sunion {s t : List α} {y : α} : y ∈ sunion s t ↔ y ∈ s ∨ y ∈ t :=
  (foldl_prop_iff (y ∈ ·) sinsert (y = ·) t (fun _ _ _ => mem_sinsert) s).trans
    (or_congr_right ⟨fun ⟨_, hx, e⟩ => e ▸ hx, fun h => ⟨y, h, rfl⟩⟩)

theorem mem_sunion_left (s t : List α) (y : α) (h : y ∈ s) : y ∈ sunion s t :=
  mem_sunion.2 (Or.inl h)

theorem nodup_sunion {s t : List α} (h : s.Nodup) : (sunion s t).Nodup :=
  foldl_inv List.Nodup sinsert t (fun _ _ _ hs => nodup_sinsert hs) s h

end Sets

variable {κ β : Type}

@[simp] theorem akeys_nil : akeys ([] : List (κ × β)) = [] := rfl

@[simp] theorem akeys_cons (e : κ × β) (m : List (κ × β)) : akeys (e :: m) = e.1 :: akeys m := rfl

@[simp] theorem akeys_append (m m' : List (κ × β)) : akeys (m ++ m') = akeys m ++ akeys m' :=
  List.map_append

theorem length_akeys (m : List (κ × β)) : (akeys m).length = m.length := List.length_map _

theorem akeys_map_mk (l : List κ) (f : κ → β) : akeys (l.map fun c => (c, f c)) = l := by
  induction l with
  | nil => rfl
  | cons c l ih => simp [ih]

theorem mem_akeys_of_mem {m : List (κ × β)} {k : κ} {v : β} (h : (k, v) ∈ m) : k ∈ akeys m :=
  List.mem_map.2 ⟨(k, v), h, rfl⟩

theorem mem_akeys {m : List (κ × β)} {k : κ} : k ∈ akeys m ↔ ∃ v, (k, v) ∈ m :=
  ⟨fun h => (List.mem_map.1 h).elim fun e he => ⟨e.2, he.2 ▸ he.1⟩, fun ⟨_, h⟩ => mem_akeys_of_mem h⟩

/-- splits "`c` is a key" off a per-entry disjunction: the key sets of `fromInverse`/`fromWiring`
come out of their folds as "some entry has key `c` or mentions `c`". -/
theorem exists_mem_key_or {m : List (κ × β)} {c : κ} {Q : κ × β → Prop} :
    (∃ e ∈ m, c = e.1 ∨ Q e) ↔ c ∈ akeys m ∨ ∃ e ∈ m, Q e :=
  ⟨fun ⟨e, he, h⟩ => h.imp (fun hc : c = e.1 => hc ▸ List.mem_map_of_mem he) fun hq => ⟨e, he, hq⟩,
    fun h => h.elim (fun hk => (mem_akeys.1 hk).elim fun v hv => ⟨(c, v), hv, Or.inl rfl⟩)
      fun ⟨e, he, hq⟩ => ⟨e, he, Or.inr hq⟩⟩

/-- a Python dict: keys are unique.  The wiring predicates are stated with `DictWF`, the lemmas
below with its body `(akeys m).Nodup`, the scheduler's with `UniqueKeys`: the three are the same
proposition by definition, so a proof of one is a proof of the others. -/
def DictWF {κ β : Type} (m : List (κ × β)) : Prop := (akeys m).Nodup

def UniqueKeys {κ β : Type} (m : List (κ × β)) : Prop := (m.map (·.1)).Nodup

theorem DictWF_nil : DictWF ([] : List (κ × β)) := List.nodup_nil

variable [DecidableEq κ]

@[simp] theorem alookup_nil (k : κ) : alookup ([] : List (κ × β)) k = none := rfl

theorem alookup_cons (k' : κ) (v : β) (m : List (κ × β)) (k : κ) :
    alookup ((k', v) :: m) k = if k' = k then some v else alookup m k := rfl

theorem alookup_append (m n : List (κ × β)) (x : κ) :
    alookup (m ++ n) x = (alookup m x).or (alookup n x) := by
  induction m with
  | nil => rfl
  | cons e t ih =>
    obtain ⟨k, v⟩ := e
    by_cases h : k = x <;> simp [alookup_cons, h, ih]

theorem alookup_eq_none_iff {m : List (κ × β)} {k : κ} : alookup m k = none ↔ k ∉ akeys m := by
  induction m with
  | nil => simp
  | cons e m ih =>
    obtain ⟨k', v⟩ := e
    rw [alookup_cons]
    by_cases h : k' = k
    · simp [h]
    · simp [h, ih, Ne.symm h]

theorem alookup_ne_none_iff {m : List (κ × β)} {k : κ} : alookup m k ≠ none ↔ k ∈ akeys m := by
  rw [Ne, alookup_eq_none_iff, Classical.not_not]

theorem alookup_isSome_iff {m : List (κ × β)} {k : κ} : (alookup m k).isSome = true ↔ k ∈ akeys m := by
  rw [← alookup_ne_none_iff, Option.isSome_iff_ne_none]

theorem mem_of_alookup_eq_some {m : List (κ × β)} {k : κ} {v : β} (h : alookup m k = some v) :
    (k, v) ∈ m := by
  induction m with
  | nil => simp at h
  | cons e m ih =>
    obtain ⟨k', v'⟩ := e
    rw [alookup_cons] at h
    by_cases hk : k' = k
    · simp [hk] at h; simp [hk, h]
    · simp [hk] at h; exact List.mem_cons_of_mem _ (ih h)

theorem mem_akeys_of_alookup_eq_some {m : List (κ × β)} {k : κ} {v : β} (h : alookup m k = some v) :
    k ∈ akeys m := mem_akeys_of_mem (mem_of_alookup_eq_some h)

theorem alookup_eq_some_of_mem {m : List (κ × β)} (hn : (akeys m).Nodup) {k : κ} {v : β}
    (h : (k, v) ∈ m) : alookup m k = some v := by
  induction m with
  | nil => simp at h
  | cons e m ih =>
    obtain ⟨k', v'⟩ := e
    simp only [akeys_cons, List.nodup_cons] at hn
    rw [alookup_cons]
    rcases List.mem_cons.1 h with h | h
    · cases h; simp
    · have : k' ≠ k := fun hk => hn.1 (hk ▸ mem_akeys_of_mem h)
      simp [this, ih hn.2 h]

theorem alookup_eq_some_iff_mem {m : List (κ × β)} (hn : (akeys m).Nodup) {k : κ} {v : β} :
    alookup m k = some v ↔ (k, v) ∈ m :=
  ⟨mem_of_alookup_eq_some, alookup_eq_some_of_mem hn⟩

theorem mem_iff_alookup {m : List (κ × β)} (hm : DictWF m) {k : κ} {v : β} :
    (k, v) ∈ m ↔ alookup m k = some v := (alookup_eq_some_iff_mem hm).symm

theorem ne_nil_iff_exists_alookup {m : List (κ × β)} :
    m ≠ [] ↔ ∃ k v, alookup m k = some v := by
  cases m with
  | nil => simp
  | cons e m =>
    obtain ⟨k, v⟩ := e
    simp only [ne_eq, reduceCtorEq, not_false_eq_true, true_iff]
    exact ⟨k, v, by simp [alookup_cons]⟩

theorem alookup_eq_find? (m : List (κ × β)) (k : κ) :
    alookup m k = (m.find? (fun w => w.1 = k)).map (·.2) := by
  induction m with
  | nil => rfl
  | cons e t ih =>
    obtain ⟨k', v⟩ := e
    rw [alookup_cons, List.find?_cons]
    by_cases h : k' = k <;> simp [h, ih]

theorem filter_key_length_one (m : List (κ × β)) (h : (akeys m).Nodup) (k : κ) (hk : k ∈ akeys m) :
    (m.filter (fun e => e.1 == k)).length = 1 := by
  have : (m.filter (fun e => e.1 == k)).length = (akeys m).count k := by
    rw [List.count_eq_length_filter, akeys, List.filter_map, List.length_map]
    rfl
  rw [this, List.Nodup.count h, if_pos hk]

theorem akeys_upsert (m : List (κ × β)) (k : κ) (v : β) :
    akeys (upsert m k v) = sinsert (akeys m) k := by
  induction m with
  | nil => rfl
  | cons e m ih =>
    obtain ⟨k', v'⟩ := e
    unfold upsert sinsert
    by_cases h : k' = k
    · simp [h]
    · rw [if_neg h, akeys_cons, ih]
      unfold sinsert
      simp only [akeys_cons, List.mem_cons, Ne.symm h, false_or]
      split <;> rfl

theorem mem_akeys_upsert {m : List (κ × β)} {k : κ} {v : β} {x : κ} :
    x ∈ akeys (upsert m k v) ↔ x = k ∨ x ∈ akeys m := by
  rw [akeys_upsert, mem_sinsert, or_comm]

theorem alookup_upsert (m : List (κ × β)) (k : κ) (v : β) (x : κ) :
    alookup (upsert m k v) x = if k = x then some v else alookup m x := by
  induction m with
  | nil => rfl
  | cons e m ih =>
    obtain ⟨k', v'⟩ := e
    simp only [upsert]
    by_cases h : k' = k
    · subst h
      by_cases h' : k' = x <;> simp [alookup_cons, h']
    · by_cases h' : k' = x
      · subst h'
        simp [alookup_cons, h, Ne.symm h]
      · simp [alookup_cons, h, h', ih]

theorem mem_upsert {m : List (κ × β)} {k : κ} {v : β} {e : κ × β} (h : e ∈ upsert m k v) :
    e = (k, v) ∨ e ∈ m := by
  induction m with
  | nil => exact Or.inl (List.mem_singleton.1 h)
  | cons e' t ih =>
    obtain ⟨k', v'⟩ := e'
    simp only [upsert] at h
    split at h
    · next hk => exact (List.mem_cons.1 h).imp (hk ▸ ·) (List.mem_cons_of_mem _)
    · rcases List.mem_cons.1 h with h | h
      · exact Or.inr (h ▸ List.mem_cons_self)
      · exact (ih h).imp_right (List.mem_cons_of_mem _)

theorem mem_akeys_foldl_upsert (cs : List κ) (b : β) (m : List (κ × β)) (x : κ) :
    x ∈ akeys (cs.foldl (fun acc c => upsert acc c b) m) ↔ x ∈ akeys m ∨ x ∈ cs :=
  (foldl_prop_iff (x ∈ akeys ·) _ (x = ·) cs (fun _ _ _ => mem_akeys_upsert.trans or_comm) m).trans
    (or_congr_right ⟨fun ⟨_, h, e⟩ => e ▸ h, fun h => ⟨x, h, rfl⟩⟩)

theorem upsert_ne_nil (m : List (κ × β)) (k : κ) (v : β) : upsert m k v ≠ [] :=
  fun h => List.not_mem_nil (a := k) (akeys_nil (κ := κ) (β := β) ▸ h ▸ mem_akeys_upsert.2 (Or.inl rfl))

/-- `d.setdefault(k, v)`. -/
theorem alookup_setdefault (m : List (κ × β)) (k k' : κ) (v : β) :
    alookup (if (alookup m k).isSome then m else upsert m k v) k' =
      if k' = k then some ((alookup m k).getD v) else alookup m k' := by
  cases h : alookup m k with
  | some i =>
    simp only [Option.isSome_some, if_true, Option.getD_some]
    split
    · subst k'; exact h
    · rfl
  | none =>
    rw [Option.isSome_none, if_neg Bool.false_ne_true, alookup_upsert]
    exact ite_congr (propext eq_comm) (fun _ => rfl) (fun _ => rfl)

/-- `k₁` has to be present: a present key is replaced in place, an absent one is appended. -/
theorem upsert_comm_of_mem (m : List (κ × β)) {k₁ k₂ : κ} (v₁ v₂ : β)
    (hmem : k₁ ∈ akeys m) (hne : k₁ ≠ k₂) :
    upsert (upsert m k₁ v₁) k₂ v₂ = upsert (upsert m k₂ v₂) k₁ v₁ := by
  induction m with
  | nil => simp at hmem
  | cons e m ih =>
    obtain ⟨k, w⟩ := e
    by_cases h1 : k = k₁
    · subst h1
      simp [upsert, hne]
    · have hm : k₁ ∈ akeys m := (List.mem_cons.1 hmem).resolve_left (Ne.symm h1)
      by_cases h2 : k = k₂
      · subst h2
        simp [upsert, h1]
      · simp [upsert, h1, h2, ih hm]

theorem UniqueKeys.upsert {m : List (κ × β)} (h : UniqueKeys m) (k : κ) (v : β) :
    UniqueKeys (upsert m k v) := by
  show (akeys _).Nodup
  rw [akeys_upsert]; exact nodup_sinsert h

theorem length_upsert (m : List (κ × β)) (k : κ) (v : β) :
    (upsert m k v).length = if (alookup m k).isSome then m.length else m.length + 1 := by
  rw [← length_akeys, akeys_upsert, sinsert, apply_ite List.length, List.length_append, length_akeys]
  exact ite_congr (propext alookup_isSome_iff.symm) (fun _ => rfl) (fun _ => rfl)

theorem akeys_aerase (m : List (κ × β)) (k : κ) : akeys (aerase m k) = (akeys m).erase k := by
  induction m with
  | nil => rfl
  | cons e m ih =>
    obtain ⟨k', v'⟩ := e
    simp only [aerase]
    by_cases h : k' = k
    · simp [h]
    · simp [h, ih, List.erase_cons_tail]

theorem alookup_aerase_ne (m : List (κ × β)) {k x : κ} (h : x ≠ k) :
    alookup (aerase m k) x = alookup m x := by
  induction m with
  | nil => rfl
  | cons e m ih =>
    obtain ⟨k', v'⟩ := e
    simp only [aerase]
    by_cases h1 : k' = k
    · subst h1
      simp [alookup_cons, Ne.symm h]
    · simp [h1, alookup_cons, ih]

theorem alookup_aerase_self {m : List (κ × β)} (hn : (akeys m).Nodup) (k : κ) :
    alookup (aerase m k) k = none := by
  rw [alookup_eq_none_iff, akeys_aerase]
  exact fun h => (List.Nodup.mem_erase_iff hn).1 h |>.1 rfl

theorem alookup_aerase {m : List (κ × β)} (hn : (akeys m).Nodup) (k x : κ) :
    alookup (aerase m k) x = if x = k then none else alookup m x := by
  by_cases h : x = k
  · subst h; simp [alookup_aerase_self hn]
  · simp [h, alookup_aerase_ne m h]

theorem alookup_aerase_eq_some {m : List (κ × β)} (hn : (akeys m).Nodup) {k x : κ} {v : β} :
    alookup (aerase m k) x = some v ↔ alookup m x = some v ∧ x ≠ k := by
  rw [alookup_aerase hn]
  split <;> simp [*]

theorem mem_akeys_of_mem_akeys_aerase {m : List (κ × β)} {k x : κ} (h : x ∈ akeys (aerase m k)) :
    x ∈ akeys m := by
  rw [akeys_aerase] at h; exact List.mem_of_mem_erase h

theorem alookup_aerase_eq_none {m : List (κ × β)} {k x : κ} (h : alookup m x = none) :
    alookup (aerase m k) x = none :=
  alookup_eq_none_iff.2 fun h' => alookup_eq_none_iff.1 h (mem_akeys_of_mem_akeys_aerase h')

theorem length_aerase {m : List (κ × β)} {k : κ} (h : k ∈ akeys m) :
    (aerase m k).length + 1 = m.length := by
  rw [← length_akeys, akeys_aerase, List.length_erase_of_mem h,
    Nat.sub_add_cancel (List.length_pos_of_mem h), length_akeys]

theorem aerase_sublist (m : List (κ × β)) (k : κ) : (aerase m k).Sublist m := by
  induction m with
  | nil => exact List.Sublist.refl _
  | cons e m ih =>
    obtain ⟨k', v⟩ := e
    rw [aerase]
    split
    · exact List.sublist_cons_self _ _
    · exact ih.cons_cons _

theorem mem_aerase {m : List (κ × β)} {k : κ} {e : κ × β} (h : e ∈ aerase m k) : e ∈ m :=
  (aerase_sublist m k).subset h

theorem UniqueKeys.aerase {m : List (κ × β)} (h : UniqueKeys m) (k : κ) : UniqueKeys (aerase m k) := by
  show (akeys _).Nodup
  rw [akeys_aerase]; exact List.Nodup.erase k h

theorem aupdate_nil (m : List (κ × β)) : aupdate m [] = m := rfl

theorem mem_aupdate {m o : List (κ × β)} {e : κ × β} (h : e ∈ aupdate m o) : e ∈ m ∨ e ∈ o := by
  induction o generalizing m with
  | nil => exact Or.inl h
  | cons kv o ih =>
    rcases ih (m := upsert m kv.1 kv.2) h with h | h
    · exact (mem_upsert h).symm.imp_right fun he => List.mem_cons.2 (Or.inl he)
    · exact Or.inr (List.mem_cons_of_mem _ h)

theorem nodup_akeys_aupdate {m : List (κ × β)} (hn : (akeys m).Nodup) (o : List (κ × β)) :
    (akeys (aupdate m o)).Nodup :=
  foldl_inv (fun m => (akeys m).Nodup) _ o (fun _ _ _ h => UniqueKeys.upsert h _ _) m hn

theorem aupdate_cons (m : List (κ × β)) (kv : κ × β) (o : List (κ × β)) :
    aupdate m (kv :: o) = aupdate (upsert m kv.1 kv.2) o := rfl

/-- `d.update(items)` for an arbitrary item list, in closed form: the LAST item for the key wins,
a key without item keeps its value.  (`applyWrites`, `normDict`, `InvWiring.fromConfigs` and the
EPICS record tables are this fold.) -/
theorem alookup_aupdate_reverse (m o : List (κ × β)) (x : κ) :
    alookup (aupdate m o) x = (alookup o.reverse x).orElse (fun _ => alookup m x) := by
  induction o generalizing m with
  | nil => rfl
  | cons e o ih =>
    obtain ⟨k, v⟩ := e
    rw [aupdate_cons, ih, List.reverse_cons, alookup_append, alookup_upsert]
    cases alookup o.reverse x with
    | some a => rfl
    | none =>
      show (if k = x then some v else alookup m x) = ((alookup [(k, v)] x).orElse fun _ => alookup m x)
      rw [alookup_cons]
      split <;> rfl

theorem alookup_reverse_of_nodup {o : List (κ × β)} (hn : (akeys o).Nodup) (x : κ) :
    alookup o.reverse x = alookup o x := by
  have hr : (akeys o.reverse).Nodup := by
    rw [akeys, List.map_reverse]
    exact (List.reverse_perm _).nodup_iff.mpr hn
  refine Option.ext fun v => ?_
  rw [alookup_eq_some_iff_mem hr, alookup_eq_some_iff_mem hn, List.mem_reverse]

/-- `d.update(other)` for a dict `other`. -/
theorem alookup_aupdate_of_nodup (m : List (κ × β)) {o : List (κ × β)} (hn : (akeys o).Nodup)
    (x : κ) : alookup (aupdate m o) x = (alookup o x).orElse (fun _ => alookup m x) := by
  rw [alookup_aupdate_reverse, alookup_reverse_of_nodup hn]

theorem alookup_aupdate (m o : List (κ × β)) (x : κ) :
    alookup (aupdate m o) x = (alookup (aupdate [] o) x).orElse (fun _ => alookup m x) := by
  rw [alookup_aupdate_reverse, alookup_aupdate_reverse []]
  cases alookup o.reverse x <;> rfl

theorem akeys_atouch (m : List (κ × β)) (k : κ) (d : β) :
    akeys (atouch m k d) = sinsert (akeys m) k := by
  unfold atouch sinsert
  cases h : alookup m k with
  | none => simp [alookup_eq_none_iff.1 h]
  | some v => simp [mem_akeys_of_alookup_eq_some h]

theorem mem_akeys_atouch {m : List (κ × β)} {k : κ} {d : β} {x : κ} :
    x ∈ akeys (atouch m k d) ↔ x ∈ akeys m ∨ x = k := by
  rw [akeys_atouch, mem_sinsert]

theorem DictWF_atouch {m : List (κ × β)} (h : DictWF m) (k : κ) (d : β) : DictWF (atouch m k d) := by
  unfold DictWF
  rw [akeys_atouch]
  exact nodup_sinsert h

theorem mem_atouch {m : List (κ × β)} {k : κ} {d : β} {e : κ × β} (h : e ∈ atouch m k d) :
    e = (k, d) ∨ e ∈ m := by
  unfold atouch at h
  split at h
  · exact Or.inr h
  · exact (List.mem_append.1 h).symm.imp_left List.mem_singleton.1

theorem agetD_eq (m : List (κ × β)) (k : κ) (d : β) : agetD m k d = (alookup m k).getD d := rfl

theorem agetD_of_alookup {m : List (κ × β)} {k : κ} {d v : β} (h : alookup m k = some v) :
    agetD m k d = v := by simp [agetD, h]

theorem agetD_upsert (m : List (κ × β)) (x y : κ) (v d : β) :
    agetD (upsert m x v) y d = if x = y then v else agetD m y d := by
  unfold agetD
  rw [alookup_upsert]
  split <;> rfl

theorem agetD_atouch (m : List (κ × β)) (k : κ) (d : β) (x : κ) :
    agetD (atouch m k d) x d = agetD m x d := by
  unfold atouch agetD
  split
  · rfl
  · rw [alookup_append]
    cases alookup m x with
    | some v => rfl
    | none => by_cases hk : k = x <;> simp [alookup_cons, hk]

theorem agetD_mem_or {m : List (κ × β)} {k : κ} {d : β} :
    agetD m k d = d ∨ (k, agetD m k d) ∈ m := by
  unfold agetD
  cases h : alookup m k with
  | none => exact Or.inl rfl
  | some v => exact Or.inr (mem_of_alookup_eq_some h)

theorem nodup_akeys_filter {κ β : Type} {m : List (κ × β)} (hn : (akeys m).Nodup)
    (p : κ × β → Bool) : (akeys (m.filter p)).Nodup :=
  hn.sublist (List.Sublist.map _ List.filter_sublist)

section FilterMapValues
variable {κ β γ : Type}

theorem akeys_filterMap_snd_sublist (m : List (κ × β)) (f : β → Option γ) :
    (akeys (m.filterMap (fun e => (f e.2).map (fun y => (e.1, y))))).Sublist (akeys m) := by
  induction m with
  | nil => simp
  | cons e m ih =>
    rw [List.filterMap_cons]
    cases hf : f e.2 with
    | none => simpa [hf] using ih.cons e.1
    | some y => simpa [hf] using ih.cons_cons e.1

variable [DecidableEq κ]

theorem alookup_filterMap_snd {m : List (κ × β)} (hn : (akeys m).Nodup) (f : β → Option γ) (k : κ) :
    alookup (m.filterMap (fun e => (f e.2).map (fun y => (e.1, y)))) k = (alookup m k).bind f := by
  induction m with
  | nil => rfl
  | cons e m ih =>
    obtain ⟨k', v⟩ := e
    simp only [akeys_cons, List.nodup_cons] at hn
    rw [List.filterMap_cons]
    by_cases hk : k' = k
    · subst hk
      cases hf : f v with
      | none =>
        simp only [Option.map_none]
        rw [ih hn.2, alookup_eq_none_iff.2 hn.1]
        simp [hf, alookup_cons]
      | some y =>
        simp [hf, alookup_cons]
    · cases hf : f v with
      | none => simp [ih hn.2, hk, alookup_cons]
      | some y => simp [ih hn.2, hk, alookup_cons]

theorem alookup_map_mk (l : List κ) (f : κ → β) (k : κ) :
    alookup (l.map (fun c => (c, f c))) k = if k ∈ l then some (f k) else none := by
  induction l with
  | nil => simp
  | cons c l ih =>
    rw [List.map_cons]
    by_cases hk : c = k
    · subst hk; simp [alookup_cons]
    · have : k ≠ c := fun h => hk h.symm
      simp [hk, ih, this, alookup_cons]

end FilterMapValues

end Tickit
