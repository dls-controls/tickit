/-
C09: what the initial tick of a (nested) configuration hands to every device and in which order,
stated on its own, in terms of `outC` alone (no start state, no notion of "decided"): the vocabulary,
the loop invariant `InitInv`, the post-condition `InitPost` it ends in, and `InitFacts`, what is known
after a completed `masterInitial`.  `Lemmas/FlattenInitGen.lean` establishes them from the general tick
(`masterInitial_facts`).  The transparency theorems of `Props/C09.lean` take the initial tick through the
tick equations (`tick_eqs_initial`) and read only `InitFacts.all` here.
-/
import TickitModel.Lemmas.StaticValid
import TickitModel.Lemmas.FlattenLemmas
import TickitModel.Lemmas.TickerResLemmas

namespace Tickit

/-- `{**{}, **changes}` for a dict `changes` -/
theorem flt_alookup_merge_empty {ins : List (Port × V)} (hn : (akeys ins).Nodup) (q : Port) :
    alookup (({} : DevComp V).merge ins) q = alookup ins q := by
  unfold DevComp.merge
  rw [alookup_aupdate_of_nodup _ hn]
  cases alookup ins q <;> simp

def Static.ValAt (S : Static) (orc : Oracle) (n : Nat) (lvl a : Comp) (p : Port) (v : V) : Prop :=
  ∃ a₀ p₀, S.resolve n lvl a p = some (a₀, p₀) ∧ alookup (outC orc a₀) p₀ = some v

/-- `SrcDec` of `Lemmas/FlattenGenDefs.lean` with "already observed" for "decided" -/
def Static.SeenAt (S : Static) (n : Nat) (obs : List Obs) (lvl a : Comp) (p : Port) : Prop :=
  ∀ a₀ p₀, S.resolve n lvl a p = some (a₀, p₀) → a₀ ∈ obs.map Obs.comp

theorem Static.SeenAt.append {S : Static} {n : Nat} {obs : List Obs} {lvl a : Comp} {p : Port}
    (h : S.SeenAt n obs lvl a p) (new : List Obs) : S.SeenAt n (obs ++ new) lvl a p :=
  fun a₀ p₀ hr => by rw [List.map_append]; exact List.mem_append_left _ (h a₀ p₀ hr)

def Static.AnsOK (S : Static) (orc : Oracle) (n : Nat) (L : Level) (obs : List Obs) (a : Comp)
    (chs : List (Port × V)) : Prop :=
  (akeys chs).Nodup ∧ ∀ p b q, L.wiring.Conn a p b q →
    (∀ v, alookup chs p = some v ↔ S.ValAt orc n L.name a p v) ∧ S.SeenAt n obs L.name a p

def Static.PendOK (S : Static) (orc : Oracle) (n : Nat) (L : Level) (obs : List Obs) (c : Comp)
    (ins : List (Port × V)) : Prop :=
  (akeys ins).Nodup ∧
  (∀ q v, alookup ins q = some v ↔ ∃ a p, L.wiring.Conn a p c q ∧ S.ValAt orc n L.name a p v) ∧
  (∀ q a p, L.wiring.Conn a p c q → S.SeenAt n obs L.name a p)

/-- the observation made by a device in the initial tick is `{}` overlaid with the values of the
resolved sources of its input ports -/
def Static.ObsOK (S : Static) (orc : Oracle) (n : Nat) (o : Obs) : Prop :=
  OrcOK orc o.comp ∧ ∀ q v, alookup o.inputs q = some v ↔
    ∃ a₀ p₀, alookup (S.flatInputs n o.comp) q = some (a₀, p₀) ∧ alookup (outC orc a₀) p₀ = some v

def Static.Ordered (S : Static) (n : Nat) (base new : List Obs) : Prop :=
  ∀ pre o post, new = pre ++ o :: post → ∀ q a₀ p₀,
    alookup (S.flatInputs n o.comp) q = some (a₀, p₀) → a₀ ∈ (base ++ pre).map Obs.comp

theorem Static.Ordered.nil (S : Static) (n : Nat) (base : List Obs) : S.Ordered n base [] := by
  intro pre o post h
  cases pre <;> simp at h

theorem Static.Ordered.append {S : Static} {n : Nat} {base new new1 : List Obs}
    (h : S.Ordered n base new) (h1 : S.Ordered n (base ++ new) new1) :
    S.Ordered n base (new ++ new1) := by
  intro pre o post he q a₀ p₀ hq
  rcases append_eq_append_cons he with ⟨post', h2, _⟩ | ⟨pre', h2, h3⟩
  · exact h pre o post' h2 q a₀ p₀ hq
  · have := h1 pre' o post h3 q a₀ p₀ hq
    rw [h2, ← List.append_assoc]
    exact this

def DevFrame (st st' : SimSt) (new : List Obs) : Prop :=
  ∀ x, x ∉ new.map Obs.comp →
    agetD st'.devs x {} = agetD st.devs x {} ∧ agetD st'.count x 0 = agetD st.count x 0

theorem DevFrame.refl (st : SimSt) : DevFrame st st [] := fun _ _ => ⟨rfl, rfl⟩

theorem DevFrame.trans {st st' st'' : SimSt} {new new1 : List Obs} (h : DevFrame st st' new)
    (h1 : DevFrame st' st'' new1) : DevFrame st st'' (new ++ new1) := by
  intro x hx
  rw [List.map_append, List.mem_append, not_or] at hx
  exact ⟨(h1 x hx.2).1.trans (h x hx.1).1, (h1 x hx.2).2.trans (h x hx.1).2⟩

def Static.InitPost (S : Static) (orc : Oracle) (n : Nat) (L : Level) (st st' : SimSt)
    (out : List (Port × V)) : Prop :=
  ∃ new, st'.obs = st.obs ++ new ∧ (∀ o ∈ new, S.ObsOK orc n o) ∧ S.Ordered n st.obs new ∧
    DevFrame st st' new ∧ S.PendOK orc n L st'.obs pseudoExpose out

theorem Static.Ordered.singleton {S : Static} {n : Nat} {base : List Obs} {o : Obs}
    (h : ∀ q a₀ p₀, alookup (S.flatInputs n o.comp) q = some (a₀, p₀) → a₀ ∈ base.map Obs.comp) :
    S.Ordered n base [o] := by
  intro pre o' post he q a₀ p₀ hfi
  cases pre with
  | nil =>
    cases he
    simpa using h q a₀ p₀ hfi
  | cons x pre => simp at he

/-- invariant of `tickLoop` in an initial tick of level `L`; complements `LoopInv` of `Lemmas/SimLoop.lean` -/
structure InitInv (S : Static) (orc : Oracle) (n : Nat) (L : Level) (t : SimTime)
    (roots : List Comp) (st0 : SimSt) (ls : LoopSt) (trace : List (Ev V)) (new : List Obs) : Prop where
  pre : PreInv L.wiring t roots ls.tk.toUpdate ls.pending trace
  obs_eq : ls.st.obs = st0.obs ++ new
  inputs : InputsInv L.wiring ls.tk.inputs trace
  ins_nodup : ∀ c, (akeys (agetD ls.tk.inputs c [])).Nodup
  ans_ok : ∀ a chs, Ev.answer a chs ∈ trace → S.AnsOK orc n L ls.st.obs a chs
  pend_ok : ∀ d ∈ ls.pending, ∀ ins, d = .input d.comp t ins → S.PendOK orc n L ls.st.obs d.comp ins
  obs_ok : ∀ o ∈ new, S.ObsOK orc n o
  ordered : S.Ordered n st0.obs new
  frame : DevFrame st0 ls.st new
  out_none : (∀ ch, Ev.answer pseudoExpose ch ∉ trace) → ls.outCh = []
  out_ok : (∃ ch, Ev.answer pseudoExpose ch ∈ trace) → S.PendOK orc n L ls.st.obs pseudoExpose ls.outCh

theorem InitInv.finish {S : Static} (hS : S.Valid) {orc : Oracle} {n : Nat} {L : Level}
    (hL : L ∈ S.levels) {t : SimTime} {roots : List Comp} {st0 : SimSt}
    (hall : ∀ c ∈ L.wiring.components, c ∈ roots) {ls : LoopSt} {trace : List (Ev V)}
    {new : List Obs} (iv : InitInv S orc n L t roots st0 ls trace new) (htu : ls.tk.toUpdate = []) :
    S.InitPost orc n L st0 ls.st ls.outCh := by
  refine ⟨new, iv.obs_eq, iv.obs_ok, iv.ordered, iv.frame, ?_⟩
  by_cases hex : ∃ ch, Ev.answer pseudoExpose ch ∈ trace
  · exact iv.out_ok hex
  · have hnone := iv.out_none (fun ch hm => hex ⟨ch, hm⟩)
    rw [hnone]
    have hno : ∀ a p q, ¬ L.wiring.Conn a p pseudoExpose q := by
      intro a p q hconn
      have hc := (Wiring.conn_mem_components (hS.wiring_wf L hL).1 hconn).2
      have := (iv.pre.resolved _ (mem_extent_of_mem_roots (hall _ hc))).1 (by rw [htu]; rfl)
      exact hex this
    refine ⟨by simp, fun q v => ?_, fun q a p hconn => absurd hconn (hno a p q)⟩
    constructor
    · intro h; simp at h
    · rintro ⟨a, p, hconn, _⟩; exact absurd hconn (hno a p q)

structure InitFacts (S : Static) (orc : Oracle) (n : Nat) (t0 : SimTime) (st : SimSt) : Prop where
  nodup : (st.obs.map Obs.comp).Nodup
  obs : ∀ o ∈ st.obs, o.time = t0 ∧ S.isDevice o.comp ∧ S.ObsOK orc n o
  all : ∀ d, S.isDevice d → d ∈ st.obs.map Obs.comp
  ordered : S.Ordered n [] st.obs

end Tickit
