/-
The stop protocol (`Core/StopProtocol.lean`).  Its transitions as an inductive relation `StopStep`:
what a step that WAS taken does is read off by one `cases` on `StopStep.of_step`, with no unfolding
of `StopSt.step` and its three sub-functions.  The relation is one-directional (there is no
converse lemma): that an action is or is not ENABLED is still read off the functions themselves.
Then the inductive invariant `StopInv` for the code as it is (`stopOnce = false`), with one
preservation lemma per kind of action, so that it holds in every reachable state (`StopReach.inv`).
-/
import TickitModel.Core.StopProtocol
import TickitModel.Lemmas.ListLemmas

namespace Tickit

variable {cfg : StopCfg} {s s' : StopSt} {a : StopAct}

/-- One constructor per branch of the code.  `pause` and `woken` do not say where exactly the run
loop comes to rest: no proof needs more than "not inside a tick". -/
inductive StopStep (cfg : StopCfg) (s : StopSt) : StopAct → StopSt → Prop
  | wakeup : StopStep cfg s .wakeup { s with hasWakeups := true, newWakeup := true }
  | sleepExpires {cs : List Comp} {left : Bool} (hpc : s.pc = .sleeping) (hcs : cs ≠ [])
      (hsub : ∀ c ∈ cs, c ∈ cfg.comps) :
      StopStep cfg s (.sleepExpires cs left)
        { s with pc := .ticking, hasWakeups := left, toUpdate := cs, failed := [] }
  | exit (hpc : s.pc = .top) (he : s.error = true) : StopStep cfg s .loop { s with pc := .exited }
  | pause {pc' : SLoopPc} {nw : Bool} (hpc : s.pc = .top) (he : s.error = false)
      (hpc' : pc' ≠ .ticking) : StopStep cfg s .loop { s with pc := pc', newWakeup := nw }
  | woken {pc' : SLoopPc} {nw : Bool} (hpc : s.pc = .waiting ∨ s.pc = .sleeping)
      (hw : s.newWakeup = true) (hpc' : pc' ≠ .ticking) :
      StopStep cfg s .loop { s with pc := pc', newWakeup := nw }
  | tickDone (hpc : s.pc = .ticking) (hfin : s.finished = true) :
      StopStep cfg s .loop { s with pc := .top, finished := false }
  | answer {c : Comp} (hc : c ∈ s.toUpdate) (hf : c ∉ s.failed) :
      StopStep cfg s (.answer c)
        { s with toUpdate := s.toUpdate.filter (· ≠ c),
                 finished := s.finished || (s.toUpdate.filter (· ≠ c)).isEmpty }
  | fail {c : Comp} (hc : c ∈ s.toUpdate) (hf : c ∉ s.failed) :
      StopStep cfg s (.fail c)
        { s with failed := s.failed ++ [c], reports := s.reports ++ [⟨c, .start⟩] }
  /-- seeded variant only: the guard `if self._stopping: return` -/
  | returnEarly {i : Nat} {r : StopReport} (hi : s.reports[i]? = some r) (hpc : r.pc = .start)
      (honce : cfg.stopOnce = true) (hst : s.stopping = true) :
      StopStep cfg s (.handler i) { s with reports := s.reports.set i ⟨r.src, .afterSuper⟩ }
  | startFanout {i : Nat} {r : StopReport} (hi : s.reports[i]? = some r) (hpc : r.pc = .start)
      (hgo : (cfg.stopOnce && s.stopping) = false) :
      StopStep cfg s (.handler i)
        { s with stopping := s.stopping || cfg.stopOnce,
                 reports := s.reports.set i ⟨r.src, .fanout cfg.comps⟩ }
  | setError {i : Nat} {r : StopReport} (hi : s.reports[i]? = some r) (hpc : r.pc = .fanout []) :
      StopStep cfg s (.handler i)
        { s with error := true, reports := s.reports.set i ⟨r.src, .afterSuper⟩ }
  | release {i : Nat} {r : StopReport} (hi : s.reports[i]? = some r) (hpc : r.pc = .afterSuper) :
      StopStep cfg s (.handler i)
        { s with finished := true, reports := s.reports.set i ⟨r.src, .done⟩ }
  | produce {i : Nat} {c src : Comp} {p : List Comp} (hi : s.reports[i]? = some ⟨src, .fanout p⟩)
      (hc : c ∈ p) :
      StopStep cfg s (.produceStop i c)
        { s with reports := s.reports.set i ⟨src, .fanout (p.erase c)⟩,
                 inbox := s.inbox ++ [c], stopSent := s.stopSent ++ [c] }
  | deliver {c : Comp} (hc : c ∈ s.inbox) :
      StopStep cfg s (.deliverStop c) { s with inbox := s.inbox.erase c, stopped := c :: s.stopped }

theorem StopStep.of_loopStep (hs : s.loopStep = some s') : StopStep cfg s .loop s' := by
  unfold StopSt.loopStep at hs
  split at hs
  · next hpc =>
    split at hs
    · next he => cases hs; exact .exit hpc he
    · next he =>
      have he := Bool.eq_false_iff.mpr he
      split at hs <;> cases hs <;> exact .pause hpc he (by decide)
  · next hpc =>
    obtain ⟨hw, hs⟩ := Option.ite_none_right_eq_some.mp hs
    split at hs <;> cases hs
    · exact .woken (.inl hpc) hw (by decide)
    · exact .woken (pc' := s.pc) (.inl hpc) hw (by rw [hpc]; decide)
  · next hpc =>
    obtain ⟨hw, ⟨⟩⟩ := Option.ite_none_right_eq_some.mp hs
    exact .woken (nw := s.newWakeup) (.inr hpc) hw (by decide)
  · next hpc =>
    obtain ⟨hfin, ⟨⟩⟩ := Option.ite_none_right_eq_some.mp hs
    exact .tickDone hpc hfin
  · cases hs

theorem StopStep.of_handlerStep {i : Nat} (hs : s.handlerStep cfg i = some s') :
    StopStep cfg s (.handler i) s' := by
  unfold StopSt.handlerStep at hs
  split at hs
  · cases hs
  · next r hi =>
    split at hs
    · next hpc =>
      split at hs <;> cases hs
      · next h => exact .returnEarly hi hpc (Bool.and_eq_true_iff.mp h).1 (Bool.and_eq_true_iff.mp h).2
      · next h => exact .startFanout hi hpc (Bool.eq_false_iff.mpr h)
    · next hpc => cases hs; exact .setError hi hpc
    · cases hs
    · next hpc => cases hs; exact .release hi hpc
    · cases hs

theorem StopStep.of_produceStep {i : Nat} {c : Comp} (hs : s.produceStep i c = some s') :
    StopStep cfg s (.produceStop i c) s' := by
  unfold StopSt.produceStep at hs
  split at hs
  · next src p hi =>
    obtain ⟨hc, ⟨⟩⟩ := Option.ite_none_right_eq_some.mp hs
    exact .produce hi hc
  · cases hs

theorem StopStep.of_step (hs : s.step cfg a = some s') : StopStep cfg s a s' := by
  cases a with
  | wakeup => cases hs; exact .wakeup
  | loop => exact .of_loopStep hs
  | handler i => exact .of_handlerStep hs
  | produceStop i c => exact .of_produceStep hs
  | sleepExpires cs left =>
    obtain ⟨h, ⟨⟩⟩ := Option.ite_none_right_eq_some.mp hs
    exact .sleepExpires h.1 h.2.1 h.2.2
  | answer c =>
    obtain ⟨h, ⟨⟩⟩ := Option.ite_none_right_eq_some.mp hs
    exact .answer h.1 h.2
  | fail c =>
    obtain ⟨h, ⟨⟩⟩ := Option.ite_none_right_eq_some.mp hs
    exact .fail h.1 h.2
  | deliverStop c =>
    obtain ⟨h, ⟨⟩⟩ := Option.ite_none_right_eq_some.mp hs
    exact .deliver h

theorem StopSt.step_pc_ticking (a : StopAct)
    (hs : s.step cfg a = some s') (hp : s'.pc = .ticking) :
    s.pc = .ticking ∨ ∃ cs left, a = .sleepExpires cs left := by
  cases StopStep.of_step hs with
  | sleepExpires => exact .inr ⟨_, _, rfl⟩
  | exit | tickDone => cases hp
  | pause _ _ hpc' | woken _ _ hpc' => exact absurd hp hpc'
  | _ => exact .inl hp

theorem StopSt.step_sets_finished (a : StopAct)
    (hs : s.step cfg a = some s') (h0 : s.finished = false) (h1 : s'.finished = true) :
    (∃ c, a = .answer c ∧ s'.toUpdate = []) ∨
    (∃ i r, a = .handler i ∧ s.reports[i]? = some r ∧ r.pc = .afterSuper) := by
  cases StopStep.of_step hs with
  | answer =>
    exact .inl ⟨_, rfl, List.isEmpty_iff.mp ((Bool.or_eq_true_iff.mp h1).resolve_left (h0 ▸ nofun))⟩
  | release hi hpc => exact .inr ⟨_, _, rfl, hi, hpc⟩
  | tickDone => cases h1
  | _ => exact nomatch h0.symm.trans h1

theorem StopSt.exec_cons_eq_some {as : List StopAct} :
    s.exec cfg (a :: as) = some s' ↔ ∃ s1, s.step cfg a = some s1 ∧ s1.exec cfg as = some s' := by
  rw [StopSt.exec]
  cases s.step cfg a <;> simp

theorem StopSt.sched_succ (σ : Nat → StopAct) (n : Nat) :
    s.sched cfg σ (n + 1) = ((s.sched cfg σ n).step cfg (σ n)).getD (s.sched cfg σ n) := rfl

theorem StopSt.exec_closed {A : StopAct → Prop} {P : StopSt → Prop}
    (hP : ∀ {s a s'}, A a → P s → s.step cfg a = some s' → P s') {as : List StopAct}
    (hA : ∀ a ∈ as, A a) (h : P s) (hs : s.exec cfg as = some s') : P s' := by
  induction as generalizing s with
  | nil => cases hs; exact h
  | cons a as ih =>
    obtain ⟨s1, h1, hs⟩ := StopSt.exec_cons_eq_some.mp hs
    exact ih (fun b hb => hA b (List.mem_cons_of_mem _ hb))
      (hP (hA a (List.mem_cons_self ..)) h h1) hs

theorem StopSt.sched_closed {A : StopAct → Prop} {P : StopSt → Prop}
    (hP : ∀ {s a s'}, A a → P s → s.step cfg a = some s' → P s') {σ : Nat → StopAct}
    (hσ : ∀ n, A (σ n)) {n m : Nat} (hnm : n ≤ m) (h : P (s.sched cfg σ n)) :
    P (s.sched cfg σ m) := by
  induction hnm with
  | refl => exact h
  | step _ ih =>
    rw [StopSt.sched_succ]
    cases hst : (s.sched cfg σ _).step cfg (σ _) with
    | none => exact ih
    | some s1 => exact hP (hσ _) ih hst

structure StopInv (cfg : StopCfg) (s : StopSt) : Prop where
  /-- a handler past `super()` has executed `self.error.set()` -/
  errOfAfter : ∀ r ∈ s.reports, r.pc = .afterSuper ∨ r.pc = .done → s.error = true
  /-- a fan-out in progress: every component is still pending or was sent its `StopComponent` -/
  fanoutCover : ∀ r ∈ s.reports, ∀ p, r.pc = .fanout p → ∀ c ∈ cfg.comps, c ∈ p ∨ c ∈ s.stopSent
  /-- `error` is set only after a complete fan-out -/
  sentOfErr : s.error = true → ∀ c ∈ cfg.comps, c ∈ s.stopSent
  sentTracked : ∀ c ∈ s.stopSent, c ∈ s.inbox ∨ c ∈ s.stopped
  /-- while a report exists and `error` is clear the run loop is held inside the tick -/
  inTick : s.reports ≠ [] → s.error = false → s.pc = .ticking ∧ s.finished = false
  /-- with `error` set the loop is in the failing tick, at its head, or out -/
  errPc : s.error = true → s.pc = .ticking ∨ s.pc = .top ∨ s.pc = .exited
  /-- without any report: `error` clear, components are awaited only inside a tick, no stale release -/
  quiet : s.reports = [] → s.error = false ∧ (s.toUpdate ≠ [] → s.pc = .ticking ∧ s.finished = false)
    ∧ (s.finished = true → s.pc = .ticking)
  /-- a handler that has returned has released the tick -/
  doneRel : s.pc = .ticking → s.finished = false → ∀ r ∈ s.reports, r.pc ≠ .done
  /-- one report per failure, carrying the failing component's identity, in order -/
  ident : s.reports.map (·.src) = s.failed
  tuComps : ∀ c ∈ s.toUpdate, c ∈ cfg.comps
  /-- a failed component stays awaited: it never answers -/
  failedTu : ∀ c ∈ s.failed, c ∈ s.toUpdate
  noSpurious : s.reports = [] → s.stopSent = []
  stoppedSent : ∀ c ∈ s.stopped, c ∈ s.stopSent
  inboxSent : ∀ c ∈ s.inbox, c ∈ s.stopSent

theorem StopInv.init (cfg : StopCfg) : StopInv cfg (StopSt.init cfg) := by
  constructor <;> simp [StopSt.init]

theorem StopInv.failed_nil (h : StopInv cfg s) (hr : s.reports = []) : s.failed = [] := by
  rw [← h.ident, hr]; rfl

theorem StopInv.failed_ne_nil (h : StopInv cfg s) (hr : s.reports ≠ []) : s.failed ≠ [] :=
  fun hf => hr (List.map_eq_nil_iff.mp (h.ident.trans hf))

theorem StopInv.pc_of_reports (h : StopInv cfg s) (hr : s.reports ≠ []) :
    s.pc = .ticking ∨ s.pc = .top ∨ s.pc = .exited := by
  cases he : s.error with
  | true => exact h.errPc he
  | false => exact Or.inl (h.inTick hr he).1

theorem StopInv.at_rest (h : StopInv cfg s) (hp : s.pc ≠ .ticking) (he : s.error = false) :
    s.reports = [] ∧ s.toUpdate = [] ∧ s.finished = false := by
  have hr : s.reports = [] := Classical.byContradiction fun hr => hp (h.inTick hr he).1
  have hq := (h.quiet hr).2
  exact ⟨hr, Classical.byContradiction fun ht => hp (hq.1 ht).1,
    Bool.eq_false_iff.mpr fun hf => hp (hq.2 hf)⟩

theorem StopInv.resting (h : StopInv cfg s) (hp : s.pc = .waiting ∨ s.pc = .sleeping) :
    s.pc ≠ .ticking ∧ s.error = false := by
  refine ⟨by rcases hp with hp | hp <;> simp [hp], Bool.eq_false_iff.mpr fun he => ?_⟩
  rcases hp with hp | hp <;> simpa [hp] using h.errPc he

theorem StopInv.move_at_rest (h : StopInv cfg s) (hp : s.pc ≠ .ticking) (he : s.error = false)
    {pc' : SLoopPc} {nw : Bool} (hpc' : pc' ≠ .ticking) :
    StopInv cfg { s with pc := pc', newWakeup := nw } :=
  have ⟨hr, htu, hfin⟩ := h.at_rest hp he
  { h with
    inTick := fun hr' => absurd hr hr'
    errPc := fun he' => nomatch he'.symm.trans he
    quiet := fun _ => ⟨he, fun ht => absurd htu ht, fun hf => nomatch hf.symm.trans hfin⟩
    doneRel := fun hp' => absurd hp' hpc' }

theorem StopInv.wakeup (h : StopInv cfg s) :
    StopInv cfg { s with hasWakeups := true, newWakeup := true } :=
  { h with }

theorem StopInv.sleepExpires (h : StopInv cfg s) (hpc : s.pc = .sleeping) (cs : List Comp)
    (left : Bool) (hcs : ∀ c ∈ cs, c ∈ cfg.comps) :
    StopInv cfg { s with pc := .ticking, hasWakeups := left, toUpdate := cs, failed := [] } :=
  have ⟨hp, he⟩ := h.resting (.inr hpc)
  have ⟨hr, _, hfin⟩ := h.at_rest hp he
  { h with
    inTick := fun hr' => absurd hr hr'
    errPc := fun _ => .inl rfl
    quiet := fun _ => ⟨he, fun _ => ⟨rfl, hfin⟩, fun _ => rfl⟩
    doneRel := fun _ _ r hr' => nomatch (hr ▸ hr' : r ∈ [])
    ident := by rw [hr]; rfl
    tuComps := hcs
    failedTu := nofun }

theorem StopInv.loop (h : StopInv cfg s) (hs : s.loopStep = some s') : StopInv cfg s' := by
  cases StopStep.of_loopStep (cfg := cfg) hs with
  | exit hpc he =>
    exact { h with
      inTick := fun _ he' => nomatch he.symm.trans he'
      errPc := fun _ => .inr (.inr rfl)
      quiet := fun hr => nomatch he.symm.trans (h.quiet hr).1
      doneRel := nofun }
  | pause hpc he hpc' => exact h.move_at_rest (by rw [hpc]; decide) he hpc'
  | woken hpc _ hpc' => exact h.move_at_rest (h.resting hpc).1 (h.resting hpc).2 hpc'
  | tickDone hpc hfin =>
    -- the tick was released: by a handler (then `error` is set), or all components answered
    exact { h with
      inTick := fun hr he => nomatch hfin.symm.trans (h.inTick hr he).2
      errPc := fun _ => .inr (.inl rfl)
      quiet := fun hr => ⟨(h.quiet hr).1,
        fun ht => (nomatch hfin.symm.trans ((h.quiet hr).2.1 ht).2), nofun⟩
      doneRel := nofun }

theorem StopInv.answer (h : StopInv cfg s) (c : Comp) (hc : c ∈ s.toUpdate) (hf : c ∉ s.failed) :
    StopInv cfg { s with toUpdate := s.toUpdate.filter (· ≠ c),
                         finished := s.finished || (s.toUpdate.filter (· ≠ c)).isEmpty } := by
  have htu : s.toUpdate ≠ [] := List.ne_nil_of_mem hc
  -- a failed component never answers: it stays awaited
  have hft : ∀ x ∈ s.failed, x ∈ s.toUpdate.filter (· ≠ c) := fun x hx =>
    List.mem_filter.mpr ⟨h.failedTu x hx, decide_eq_true fun e => hf (e ▸ hx)⟩
  have hfin : ∀ {b}, b = false → s.toUpdate.filter (· ≠ c) ≠ [] →
      (b || (s.toUpdate.filter (· ≠ c)).isEmpty) = false := fun hb hne =>
    Bool.or_eq_false_iff.mpr ⟨hb, List.isEmpty_eq_false_iff.mpr hne⟩
  exact { h with
    inTick := fun hr he =>
      -- so with a report in flight the tick cannot complete
      have ⟨x, hx⟩ := List.exists_mem_of_ne_nil _ (h.failed_ne_nil hr)
      ⟨(h.inTick hr he).1, hfin (h.inTick hr he).2 (List.ne_nil_of_mem (hft x hx))⟩
    quiet := fun hr =>
      have ⟨hp, hfin'⟩ := (h.quiet hr).2.1 htu
      ⟨(h.quiet hr).1, fun hne => ⟨hp, hfin hfin' hne⟩, fun _ => hp⟩
    doneRel := fun hp hfin' => h.doneRel hp (Bool.or_eq_false_iff.mp hfin').1
    tuComps := fun x hx => h.tuComps x (List.mem_filter.mp hx).1
    failedTu := hft }

theorem StopInv.fail (h : StopInv cfg s) (c : Comp) (hc : c ∈ s.toUpdate) :
    StopInv cfg { s with failed := s.failed ++ [c], reports := s.reports ++ [⟨c, .start⟩] } :=
  have hne : s.reports ++ [(⟨c, .start⟩ : StopReport)] ≠ [] :=
    List.append_ne_nil_of_right_ne_nil _ (List.cons_ne_nil _ _)
  { h with
    errOfAfter := List.forall_mem_append.mpr ⟨h.errOfAfter, List.forall_mem_singleton.mpr nofun⟩
    fanoutCover := List.forall_mem_append.mpr ⟨h.fanoutCover, List.forall_mem_singleton.mpr nofun⟩
    inTick := fun _ he =>
      if hr : s.reports = [] then (h.quiet hr).2.1 (List.ne_nil_of_mem hc) else h.inTick hr he
    quiet := fun hr => absurd hr hne
    doneRel := fun hp hfin => List.forall_mem_append.mpr ⟨h.doneRel hp hfin, List.forall_mem_singleton.mpr nofun⟩
    ident := List.map_append.trans (congrArg (· ++ [c]) h.ident)
    failedTu := List.forall_mem_append.mpr ⟨h.failedTu, List.forall_mem_singleton.mpr hc⟩
    noSpurious := fun hr => absurd hr hne }

theorem StopInv.set_report (h : StopInv cfg s) {i : Nat} {r : StopReport}
    (hi : s.reports[i]? = some r) (pc' : HPc) :
    s.reports.set i ⟨r.src, pc'⟩ ≠ [] ∧ (s.reports.set i ⟨r.src, pc'⟩).map (·.src) = s.failed :=
  ⟨fun hx => List.ne_nil_of_mem (List.mem_of_getElem? hi) ((List.set_eq_nil_iff i _).mp hx),
    (map_set_of_eq (f := (·.src)) (b := ⟨r.src, pc'⟩) hi rfl).trans h.ident⟩

theorem StopInv.handler (hcfg : cfg.stopOnce = false) (h : StopInv cfg s) (i : Nat)
    (hs : s.handlerStep cfg i = some s') : StopInv cfg s' := by
  cases StopStep.of_handlerStep hs with
  | returnEarly _ _ honce => rw [hcfg] at honce; cases honce
  | startFanout hi hpc =>
    have hne := List.ne_nil_of_mem (List.mem_of_getElem? hi)
    have ⟨hset, hid⟩ := h.set_report hi (.fanout cfg.comps)
    exact { h with
      errOfAfter := forall_mem_set h.errOfAfter nofun
      fanoutCover := forall_mem_set h.fanoutCover fun p hp c hc => by cases hp; exact .inl hc
      inTick := fun _ => h.inTick hne
      quiet := fun hr => absurd hr hset
      doneRel := fun hp hfin => forall_mem_set (h.doneRel hp hfin) nofun
      ident := hid
      noSpurious := fun hr => absurd hr hset }
  | setError hi hpc =>
    -- `self.error.set()`: the fan-out is complete
    have hrm := List.mem_of_getElem? hi
    have ⟨hset, hid⟩ := h.set_report hi .afterSuper
    have hall : ∀ c ∈ cfg.comps, c ∈ s.stopSent := fun c hc =>
      (h.fanoutCover _ hrm [] hpc c hc).resolve_left nofun
    exact { h with
      errOfAfter := fun _ _ _ => rfl
      fanoutCover := fun _ _ _ _ c hc => .inr (hall c hc)
      sentOfErr := fun _ => hall
      inTick := nofun
      errPc := fun _ => h.pc_of_reports (List.ne_nil_of_mem hrm)
      quiet := fun hr => absurd hr hset
      doneRel := fun hp hfin => forall_mem_set (h.doneRel hp hfin) nofun
      ident := hid
      noSpurious := fun hr => absurd hr hset }
  | release hi hpc =>
    -- `self.ticker.finished.set()`: `error` was set before
    have he : s.error = true := h.errOfAfter _ (List.mem_of_getElem? hi) (.inl hpc)
    have ⟨hset, hid⟩ := h.set_report hi .done
    exact { h with
      errOfAfter := fun _ _ _ => he
      fanoutCover := fun _ _ _ _ c hc => .inr (h.sentOfErr he c hc)
      inTick := fun _ he' => nomatch he.symm.trans he'
      quiet := fun hr => absurd hr hset
      doneRel := nofun
      ident := hid
      noSpurious := fun hr => absurd hr hset }

theorem StopInv.produce (h : StopInv cfg s) (i : Nat) (c : Comp)
    (hs : s.produceStep i c = some s') : StopInv cfg s' := by
  cases StopStep.of_produceStep (cfg := cfg) hs with
  | @produce _ _ src p hi hc =>
    have hrm := List.mem_of_getElem? hi
    have ⟨hset, hid⟩ := h.set_report hi (.fanout (p.erase c))
    exact { h with
      errOfAfter := forall_mem_set h.errOfAfter nofun
      fanoutCover := forall_mem_set
        (fun x hx q hq d hd => (h.fanoutCover x hx q hq d hd).imp_right (List.mem_append_left _))
        fun q hq d hd => by
          cases hq
          rcases h.fanoutCover _ hrm p rfl d hd with hh | hh
          · by_cases hdc : d = c
            · exact .inr (List.mem_append_right _ (List.mem_singleton.mpr hdc))
            · exact .inl ((List.mem_erase_of_ne hdc).mpr hh)
          · exact .inr (List.mem_append_left _ hh)
      sentOfErr := fun he d hd => List.mem_append_left _ (h.sentOfErr he d hd)
      sentTracked := List.forall_mem_append.mpr
        ⟨fun d hd => (h.sentTracked d hd).imp_left (List.mem_append_left _),
          fun d hd => .inl (List.mem_append_right _ hd)⟩
      inTick := fun _ => h.inTick (List.ne_nil_of_mem hrm)
      quiet := fun hr => absurd hr hset
      doneRel := fun hp hfin => forall_mem_set (h.doneRel hp hfin) nofun
      ident := hid
      noSpurious := fun hr => absurd hr hset
      stoppedSent := fun d hd => List.mem_append_left _ (h.stoppedSent d hd)
      inboxSent := List.forall_mem_append.mpr
        ⟨fun d hd => List.mem_append_left _ (h.inboxSent d hd), fun d => List.mem_append_right _⟩ }

theorem StopInv.deliver (h : StopInv cfg s) (c : Comp) (hc : c ∈ s.inbox) :
    StopInv cfg { s with inbox := s.inbox.erase c, stopped := c :: s.stopped } :=
  { h with
    sentTracked := fun d hd => by
      rcases h.sentTracked d hd with hh | hh
      · by_cases hdc : d = c
        · exact .inr (hdc ▸ List.mem_cons_self ..)
        · exact .inl ((List.mem_erase_of_ne hdc).mpr hh)
      · exact .inr (List.mem_cons_of_mem _ hh)
    stoppedSent := List.forall_mem_cons.mpr ⟨h.inboxSent c hc, h.stoppedSent⟩
    inboxSent := fun d hd => h.inboxSent d (List.mem_of_mem_erase hd) }

theorem StopInv.step (hcfg : cfg.stopOnce = false) (h : StopInv cfg s) (a : StopAct)
    (hs : s.step cfg a = some s') : StopInv cfg s' := by
  cases a with
  | wakeup => cases hs; exact h.wakeup
  | loop => exact h.loop hs
  | handler i => exact h.handler hcfg i hs
  | produceStop i c => exact h.produce i c hs
  | sleepExpires cs left =>
    cases StopStep.of_step hs with | sleepExpires hpc _ hsub => exact h.sleepExpires hpc cs left hsub
  | answer c => cases StopStep.of_step hs with | answer hc hf => exact h.answer c hc hf
  | fail c => cases StopStep.of_step hs with | fail hc _ => exact h.fail c hc
  | deliverStop c => cases StopStep.of_step hs with | deliver hc => exact h.deliver c hc

theorem StopReach.inv (hcfg : cfg.stopOnce = false) (h : StopReach cfg s) : StopInv cfg s := by
  induction h with
  | init => exact StopInv.init cfg
  | step _ hs ih => exact ih.step hcfg _ hs

theorem StopReach.exec (as : List StopAct) (h : StopReach cfg s) (hs : s.exec cfg as = some s') :
    StopReach cfg s' :=
  StopSt.exec_closed (A := fun _ => True) (fun _ h hs => h.step hs) (fun _ _ => trivial) h hs

end Tickit
