/-
For C07 at run level with processing costs (`Props/C07Cost.lean`): a PENDING wakeup of a top-level
component along a trace of the master loop with costs (`TraceC`), started between ticks or in the
middle of one.

* `PendC m top B`: the master holds a wakeup of `top` that is not after `B`.  It survives every
  stimulus (`Pacing.stimStep_wakeup`: an interrupt of `top` itself can only LOWER it) and every tick
  that does not serve it (`tick_pend`).
* `TraceC.c07_next`: the next tick record is started no later than `Cfg.due`, the real time at which
  a tick for `B` is due in the present configuration (while a tick is in progress: its end plus the
  sleep for `B`, `sleepFor` of `Lemmas/MiscArith.lean`), and exactly then if it is for `B`.
* `TraceC.c07_serve`: a pending wakeup is served or still pending when the trace ends.
  `ServedFrom … e k j x`: counted from tick record `k`, `x = ticks[j]` is the first that serves the
  wakeup `e` of `top`, and the records `k … j-1` keep it waiting (`WaitsC`).
-/
import TickitModel.Lemmas.C07CostTick
import TickitModel.Lemmas.CostRun

namespace Tickit
namespace CostRun

open TimeMono Pacing C07Cost

def PendC (m : MasterSt) (top : Comp) (B : SimTime) : Prop :=
  ∃ e, alookup (m.sim.sched "").wake top = some e ∧ e ≤ B

theorem PendC.mono {m : MasterSt} {top : Comp} {B B' : SimTime} (h : PendC m top B) (hB : B ≤ B') :
    PendC m top B' := by
  obtain ⟨e, he, heB⟩ := h
  exact ⟨e, he, Int.le_trans heB hB⟩

theorem PendC.firstWakeups_ne_none {m : MasterSt} {top : Comp} {B : SimTime} (h : PendC m top B) :
    (firstWakeups (m.sim.sched "").wake).2 ≠ none := by
  obtain ⟨e, he, _⟩ := h
  obtain ⟨w, hw, _⟩ := firstWakeups_some_of_mem _ (top, e) (mem_of_alookup_eq_some he)
  rw [hw]
  simp

section
variable (S : Static) (fuel : Nat) (sp : Speed)

theorem stimStepC_pend (m : MasterSt) (st : Stim)
    (top : Comp) (B : SimTime) (h : PendC m top B) : PendC (stimStepC S fuel sp m st) top B := by
  obtain ⟨e, he, heB⟩ := h
  obtain ⟨e', he', hle, _⟩ := stimStep_wakeup S fuel sp ⟨m, st, 0⟩ he
  exact ⟨e', he', Int.le_trans hle heB⟩

theorem stimStepC_pend_self (ev : StimEvC) :
    PendC (stimStepC S fuel sp ev.m ev.st) (ev.top S fuel) (ev.when S fuel sp) :=
  ⟨_, (stimStep_lookup S fuel sp ev.toStimEv _).trans (if_pos rfl), Int.le_refl _⟩

end

theorem endTick_pend (S : Static) (fuel : Nat) (sp : Speed) (sim : SimSt) (w : SimTime) (d e : Int)
    (stims : List Stim) (top : Comp) (B : SimTime)
    (h : ∃ x, alookup (sim.sched "").wake top = some x ∧ x ≤ B) :
    PendC (endTick S fuel sp sim w d e stims).1 top B :=
  midTick_preserves S fuel sp e (PendC · top B) (fun m st _ => stimStepC_pend S fuel sp m st top B)
    { sim := sim, tickerTime := w, lastReal := d, now := d } stims h

/-- Besides a tick that has `top` among its roots, a tick for a time `< e` serves the wakeup `e` of
`top` when `top` is wired downstream of one of its roots and has answered with a new callback request
that REPLACED the wakeup (the model keeps no `_pending_interrupts`; see the header of
`Props/C07Cost.lean`). -/
def ServesC (L : Level) (top : Comp) (e : SimTime) (x : TickRec) : Prop :=
  x.time ≤ e ∧ (top ∈ x.roots ∨
    (x.time < e ∧ ∃ r ∈ x.roots, r ∈ L.wiring.components ∧ top ∈ L.wiring.dependants r))

theorem ServesC.root {L : Level} {top : Comp} {e : SimTime} {x : TickRec}
    (h : ServesC L top e x)
    (hsrc : ∀ r ∈ L.wiring.components, top ∈ L.wiring.dependants r → r = top) : top ∈ x.roots := by
  rcases h.2 with h2 | ⟨_, r, hr, hrc, hrd⟩
  · exact h2
  · rw [← hsrc r hrc hrd]; exact hr

theorem ServesC.mono {L : Level} {top : Comp} {e e' : SimTime} {x : TickRec}
    (h : ServesC L top e x) (he : e ≤ e') : ServesC L top e' x := by
  obtain ⟨h1, h2⟩ := h
  refine ⟨Int.le_trans h1 he, ?_⟩
  rcases h2 with h2 | ⟨h2, h3⟩
  · exact Or.inl h2
  · exact Or.inr ⟨Int.lt_of_lt_of_le h2 he, h3⟩

theorem tick_pend {S : Static} (hroot : S.isSys "" = false) {orc : Oracle} {fuel : Nat}
    {L : Level} (hL : S.level "" = some L) {m : MasterSt} {comps : List Comp} {w : SimTime}
    {sim2 : SimSt} {out : List (Port × V)} {top : Comp} {e : SimTime}
    (hfw : firstWakeups (m.sim.sched "").wake = (comps, some w))
    (htick : tickLevel S orc fuel "" w comps [] (delMasterC m.sim comps) = .ok (sim2, out))
    (he : alookup (m.sim.sched "").wake top = some e) :
    w ≤ e ∧ ∃ new, sim2.obs = m.sim.obs ++ new ∧
      (((top ∈ comps ∨
          (w < e ∧ ∃ r ∈ comps, r ∈ L.wiring.components ∧ top ∈ L.wiring.dependants r)) ∧
        (S.isSys top = false → ∃ o ∈ new, o.comp = top ∧ o.time = w)) ∨
       (top ∉ comps ∧ w < e ∧ alookup (sim2.sched "").wake top = some e)) := by
  obtain ⟨h1, h2⟩ := firstWakeups_pend hfw he
  obtain ⟨L', hL', new, hnew, hrootsU, hpost⟩ :=
    tickLevel_master_post S hroot orc fuel w comps [] _ sim2 out htick
  rw [hL] at hL'
  cases hL'
  refine ⟨h1, new, hnew, ?_⟩
  by_cases hr : top ∈ comps
  · exact Or.inl ⟨Or.inl hr, hrootsU top hr⟩
  · rcases hpost top with hsame | ⟨hin, hdev⟩
    · right
      refine ⟨hr, h2 hr, ?_⟩
      rw [hsame, delMasterC_wake, delWakeups_lookup_not_mem _ _ _ hr, he]
    · obtain ⟨r, hrc, hrd⟩ := (mem_extent_iff L.wiring comps top).1 hin
      obtain ⟨L', hL', hknown⟩ := tickLevel_ok_roots htick
      rw [hL] at hL'
      cases hL'
      exact Or.inl ⟨Or.inr ⟨h2 hr, r, hrc, hknown r hrc, hrd⟩, hdev⟩

/-- the earliest real time at which the next tick can start -/
def Cfg.lo (c : Cfg) : Int :=
  match c.tickEnd with
  | none => c.m.now
  | some e => e

def Cfg.due (sp : Speed) (c : Cfg) (B : SimTime) : Int :=
  match c.tickEnd with
  | none => dueReal c.m sp B
  | some e => e + sleepFor sp (B - c.m.tickerTime)

section
variable {S : Static} {orc : Oracle} {fuel : Nat} {sp : Speed} {cost : Nat → Nat}
  {ticks : List TickRec}

theorem TraceC.c07_next {c c2 : Cfg} {log : List StimEvC}
    (h : TraceC S orc fuel sp cost c log c2) (hn : 0 < sp.num) (top : Comp) (B : SimTime) :
    PendC c.m top B → ∀ x, c2.acc[c.acc.length]? = some x →
      x.time ≤ B ∧ c.lo ≤ x.real ∧ x.real ≤ c.due sp B ∧ (x.time = B → x.real = c.due sp B) := by
  induction h with
  | done c =>
    intro _ x hx
    exact absurd (List.getElem?_eq_some_iff.1 hx).1 (Nat.lt_irrefl _)
  | step hs ht ih =>
    intro hp x hx
    cases hs with
    | @stim m stims acc st rest hsel =>
      -- the stimulus is not after the due time of the first wakeup, which is not after that of `B`:
      -- handling it leaves the due time of `B` as it was
      obtain ⟨e, he, heB⟩ := hp
      rw [stimFirstC_eq] at hsel
      obtain ⟨w, hw, hwe⟩ := firstWakeups_some_of_mem _ (top, e) (mem_of_alookup_eq_some he)
      rw [hw] at hsel
      have h1 := stimStepC_now_ge S fuel sp m st
      have h2 := stimStepC_now_le S fuel sp m st (never_early m sp hn B).1
        (Int.le_trans (stimSel_due hsel) (dueReal_mono_when m sp hn w B (Int.le_trans hwe heB)))
      have hd := dueReal_now_shift m (stimStepC S fuel sp m st) sp hn B rfl rfl h1 h2
      obtain ⟨r1, r2, r3, r4⟩ := ih (stimStepC_pend S fuel sp m st top B ⟨e, he, heB⟩) x hx
      -- between ticks `Cfg.due sp c B` is `dueReal c.m sp B` by `rfl`: restated so that `rw` finds it
      have r3' : x.real ≤ dueReal (stimStepC S fuel sp m st) sp B := r3
      have r4' : x.time = B → x.real = dueReal (stimStepC S fuel sp m st) sp B := r4
      rw [hd] at r3' r4'
      exact ⟨r1, Int.le_trans h1 r2, r3', r4'⟩
    | @tick m stims acc comps w sim2 out hsel hfw htick =>
      obtain ⟨e, he, heB⟩ := hp
      obtain ⟨t, ht'⟩ := ht.prefix
      rw [ht', List.append_assoc, List.getElem?_append_right (Nat.le_refl _), Nat.sub_self] at hx
      cases hx
      have hwB : w ≤ B := Int.le_trans (firstWakeups_pend hfw he).1 heB
      exact ⟨hwB, (never_early m sp hn w).1, dueReal_mono_when m sp hn w B hwB,
        fun hwb => congrArg (dueReal m sp) hwb⟩
    | mid hin => exact ih (stimStepC_pend S fuel sp _ _ top B hp) x hx
    | @endT e m stims acc hout =>
      have hd : dueReal { m with lastReal := e, now := e } sp B = e + sleepFor sp (B - m.tickerTime) :=
        dueReal_after_tick m.sim m.tickerTime e sp B
      obtain ⟨r1, r2, r3, r4⟩ := ih hp x hx
      -- `Cfg.due` after the end of the tick, unfolded by `rfl` as above
      have r3' : x.real ≤ dueReal { m with lastReal := e, now := e } sp B := r3
      have r4' : x.time = B → x.real = dueReal { m with lastReal := e, now := e } sp B := r4
      rw [hd] at r3' r4'
      exact ⟨r1, r2, r3', r4'⟩

def WaitsC (sp : Speed) (cost : Nat → Nat) (ticks : List TickRec) (top : Comp) (e : SimTime)
    (k j : Nat) : Prop :=
  ∀ i y, k ≤ i → i < j → ticks[i]? = some y → y.time < e ∧ top ∉ y.roots ∧
    ∀ b, ticks[i + 1]? = some b →
      y.real + cost i ≤ b.real ∧ b.real ≤ y.real + cost i + sleepFor sp (e - y.time)

theorem WaitsC.mono {top : Comp} {e e' : SimTime} {k j : Nat} (h : WaitsC sp cost ticks top e k j)
    (hn : 0 < sp.num) (he : e ≤ e') : WaitsC sp cost ticks top e' k j := by
  intro i y hi hij hy
  obtain ⟨h1, h2, h3⟩ := h i y hi hij hy
  refine ⟨Int.lt_of_lt_of_le h1 he, h2, fun b hb => ?_⟩
  have := sleepFor_mono sp hn (e - y.time) (e' - y.time) (Int.sub_le_sub_right he _)
  exact ⟨(h3 b hb).1, Int.le_trans (h3 b hb).2 (Int.add_le_add_left this _)⟩

theorem WaitsC.chain {top : Comp} {e : SimTime} {k j : Nat} (h : WaitsC sp cost ticks top e k j) :
    ∀ i y b, k ≤ i → i < j → ticks[i]? = some y → ticks[i + 1]? = some b →
      y.real + cost i ≤ b.real ∧ b.real ≤ y.real + cost i + sleepFor sp (e - y.time) :=
  fun i y b hi hij hy hb => (h i y hi hij hy).2.2 b hb

theorem WaitsC.cons {top : Comp} {e : SimTime} {k j : Nat} {t : SimTime} {d : Int}
    {roots : List Comp} (h : WaitsC sp cost ticks top e (k + 1) j)
    (hy : ticks[k]? = some ⟨t, d, roots⟩) (ht : t < e) (hr : top ∉ roots)
    (hb : ∀ b, ticks[k + 1]? = some b →
      d + cost k ≤ b.real ∧ b.real ≤ d + cost k + sleepFor sp (e - t)) :
    WaitsC sp cost ticks top e k j := by
  intro i y' hi hij hy'
  by_cases hik : i = k
  · subst hik
    rw [hy] at hy'
    cases hy'
    exact ⟨ht, hr, hb⟩
  · exact h i y' (Nat.lt_of_le_of_ne hi (Ne.symm hik)) hij hy'

structure ServedFrom (L : Level) (sp : Speed) (cost : Nat → Nat) (ticks : List TickRec)
    (top : Comp) (e : SimTime) (k j : Nat) (x : TickRec) : Prop where
  idx : k ≤ j ∧ ticks[j]? = some x
  serves : ServesC L top e x
  waits : WaitsC sp cost ticks top e k j

theorem ServedFrom.mono {L : Level} {top : Comp} {e e' : SimTime} {k j : Nat} {x : TickRec}
    (h : ServedFrom L sp cost ticks top e k j x) (hn : 0 < sp.num) (he : e ≤ e') :
    ServedFrom L sp cost ticks top e' k j x :=
  ⟨h.idx, h.serves.mono he, h.waits.mono hn he⟩

theorem TraceC.c07_serve {c c2 : Cfg} {log : List StimEvC}
    (h : TraceC S orc fuel sp cost c log c2)
    (hroot : S.isSys "" = false) {L : Level} (hL : S.level "" = some L) (hn : 0 < sp.num)
    (top : Comp) :
    ∀ e, alookup (c.m.sim.sched "").wake top = some e →
    ∃ new, c2.m.sim.obs = c.m.sim.obs ++ new ∧
      ((∃ j x, ServedFrom L sp cost c2.acc top e c.acc.length j x ∧
          (S.isSys top = false → ∃ o ∈ new, o.comp = top ∧ o.time = x.time) ∧
          ∀ ev ∈ log, ev.top S fuel = top → ev.k ≤ j →
            ServedFrom L sp cost c2.acc top (ev.when S fuel sp) ev.k j x) ∨
       (PendC c2.m top e ∧ ∀ j, WaitsC sp cost c2.acc top e c.acc.length j)) := by
  induction h with
  | done c =>
    intro e he
    refine ⟨[], (List.append_nil _).symm, Or.inr ⟨⟨e, he, Int.le_refl _⟩, fun j i y hi _ hy => ?_⟩⟩
    exact absurd (List.getElem?_eq_some_iff.1 hy).1 (Nat.not_lt.2 hi)
  | @step c c' c2 l log hs ht ih =>
    intro e he
    rcases hs.log_cases with rfl | ⟨ev0, rfl⟩
    · cases hs with
      | @endT e' m stims acc hout => exact ih e he
      | @tick m stims acc comps w sim2 out hsel hfw htick =>
        obtain ⟨t, hpre⟩ := ht.prefix
        have hrec : c2.acc[acc.length]? = some ⟨w, dueReal m sp w, comps⟩ := by
          rw [hpre, List.append_assoc, List.getElem?_append_right (Nat.le_refl _), Nat.sub_self]
          rfl
        obtain ⟨hwe, new1, hnew1, hcase⟩ := tick_pend hroot hL hfw htick he
        rcases hcase with ⟨hs', hdev⟩ | ⟨hr, hlt, hstill⟩
        · -- served by this very tick; every stimulus of the log is handled after it
          obtain ⟨new2, hnew2⟩ := ht.ext
          have hnew2' : c2.m.sim.obs = sim2.obs ++ new2 := hnew2
          refine ⟨new1 ++ new2, by rw [hnew2', hnew1, List.append_assoc], Or.inl ?_⟩
          refine ⟨acc.length, _, ⟨⟨Nat.le_refl _, hrec⟩, ⟨hwe, hs'⟩,
            fun i y hi hij => absurd hij (Nat.not_lt.2 hi)⟩, fun hsys => ?_, fun ev hev _ hk => ?_⟩
          · obtain ⟨o, ho, hoc⟩ := hdev hsys
            exact ⟨o, List.mem_append_left _ ho, hoc⟩
          · have := ht.log_k_ge ev hev
            rw [List.length_append] at this
            exact absurd (Nat.le_trans this hk) (Nat.not_succ_le_self _)
        · -- the wakeup is still pending while the tick is in progress
          obtain ⟨new2, hnew2, hcase2⟩ := ih e hstill
          have hnew2' : c2.m.sim.obs = sim2.obs ++ new2 := hnew2
          rw [List.length_append] at hcase2
          -- this record keeps the wakeup waiting, the next tick follows within the sleep for `e - w`
          have hnext : ∀ b, c2.acc[acc.length + 1]? = some b →
              dueReal m sp w + cost acc.length ≤ b.real ∧
              b.real ≤ dueReal m sp w + cost acc.length + sleepFor sp (e - w) := by
            intro b hb
            obtain ⟨_, n2, n3, _⟩ := ht.c07_next hn top e ⟨e, hstill, Int.le_refl _⟩ b
              (by rw [List.length_append]; exact hb)
            exact ⟨n2, n3⟩
          have hcons : ∀ j, WaitsC sp cost c2.acc top e (acc.length + 1) j →
              WaitsC sp cost c2.acc top e acc.length j :=
            fun j hw => hw.cons hrec hlt hr hnext
          refine ⟨new1 ++ new2, by rw [hnew2', hnew1, List.append_assoc], ?_⟩
          rcases hcase2 with ⟨j, x, hs2, hdev, hlog⟩ | ⟨hp, hall⟩
          · refine Or.inl ⟨j, x, ⟨⟨Nat.le_of_succ_le hs2.idx.1, hs2.idx.2⟩, hs2.serves,
              hcons j hs2.waits⟩, fun hsys => ?_, hlog⟩
            obtain ⟨o, ho, hoc⟩ := hdev hsys
            exact ⟨o, List.mem_append_right _ ho, hoc⟩
          · exact Or.inr ⟨hp, fun j => hcons j (hall j)⟩
    · -- a stimulus, between ticks or in the middle of one: the wakeup is kept or lowered
      obtain ⟨e1, e2, _, e5, _⟩ := hs.event
      have hm' : c'.m = stimStepC S fuel sp ev0.m ev0.st := by rw [e5]
      have hacc : c'.acc = c.acc := by rw [e5]
      rw [← e1] at he
      obtain ⟨e', he', hle, hself⟩ := stimStep_wakeup S fuel sp ev0.toStimEv he
      obtain ⟨new, hnew, hcase⟩ := ih e' (hm' ▸ he')
      rw [hacc] at hcase
      rw [hm', stimStepC_obs, e1] at hnew
      refine ⟨new, hnew, ?_⟩
      rcases hcase with ⟨j, x, hs2, hdev, hlog⟩ | ⟨hp, hall⟩
      · refine Or.inl ⟨j, x, hs2.mono hn hle, hdev, fun ev hev htop hk => ?_⟩
        rcases List.mem_cons.1 hev with hev | hev
        · subst hev
          rw [← hself htop, e2]
          exact hs2
        · exact hlog ev hev htop hk
      · exact Or.inr ⟨hp.mono hle, fun j => (hall j).mono hn hle⟩

end

end CostRun
end Tickit
