/-
C09: the device-level tick equations hold for every completed tick
of a (nested) configuration — the operational core of the whole-run theorem, assembled from
the post-conditions of `tickLevel` about observations (`LevelPost`), values (`GenPost`) and
schedulers (`SchedPost`) (`tick_eqs_of`); what these need to be fixed during the tick (`TickCtx`,
`SchedCtx`) and of the state in which the master starts it (`SchedPre`) follows from the schedulers'
invariant between ticks (`SchedP.tickCtx`, `SchedP.schedCtx`, `SchedP.schedPre_master`).
-/
import TickitModel.Lemmas.FlattenGenSched
import TickitModel.Lemmas.MasterRun

namespace Tickit

/-- the assembly on which `tick_eqs_initial` and `tick_eqs_path` rest: the three post-conditions of
ONE `tickLevel` of the master, read against the reference state `σ₀` of the tick.  `hother` is there
for the keys that are neither the master's nor a system's: no tick writes a scheduler state under
them, so what `SchedOK` says of them has to come from `σ₀`. -/
theorem tick_eqs_of {S : Static} (hS : S.Valid) {orc : Oracle} {n : Nat} (hst : S.ResolveStable n)
    {σ₀ : SimSt} {t : SimTime} {Root Due : Comp → Prop} (ctx : TickCtx S σ₀ t Root)
    (sctx : SchedCtx S σ₀ t Root Due) {fuel : Nat} {Lm : Level} (hLm : S.level "" = some Lm)
    {roots : List Comp} {st : SimSt}
    (hgen : GenPre S orc n σ₀ Root (fun _ => False) "" Lm roots [] st [])
    (hsp : SchedPre S σ₀ Root Due "" Lm roots st [])
    (hother : ∀ L, L ≠ "" → st.sched L = σ₀.sched L)
    {σ' : SimSt} {out : List (Port × V)}
    (ht : tickLevel S orc fuel "" t roots [] st = .ok (σ', out)) :
    ∃ new, TickEqs S orc n σ₀ t Root Due σ' new ∧ SchedOK S σ' := by
  obtain ⟨new, hobs, hnd, hown, _, _⟩ := tickLevel_post hS.toWF orc _ _ _ _ _ _ _ _ ht
  obtain ⟨new', hobs', hdev, _⟩ := tickLevel_gen hS orc hst ctx fuel _ _ _ _ _ _ _ _ _ ht hLm hgen
  have hnn : new' = new := List.append_cancel_left (hobs'.symm.trans hobs)
  subst hnn
  have hs := tickLevel_sched hS orc ctx sctx fuel "" Lm roots [] st σ' out [] new' ht hLm hobs hsp
  have hfr := tickLevel_frame hS.toWF orc fuel "" t roots [] st σ' out ht
  simp only [List.nil_append] at hdev hs
  have hobs0 : st.obs = σ₀.obs := by simpa using hgen.obs_eq
  have hLok : ∀ P, (P = "" ∨ S.isSys P = true) → LvlOK S orc σ₀ Due P σ' new' := by
    rintro P (rfl | hsys)
    · exact hs.lvl_ok
    · exact (hs.below_ok P hsys (Static.below_master hS.toWF (hS.sys_parent P hsys))).1
  have hpl : ∀ d P, alookup S.parent d = some P → P = "" ∨ S.isSys P = true := by
    intro d P hP
    obtain ⟨_, _, _, h⟩ := hS.parent_level d P hP
    exact h
  -- a scheduler that is neither the master's nor a system's is never written
  have hsame : ∀ L, ¬ (L = "" ∨ S.isSys L = true) → σ'.sched L = σ₀.sched L := by
    intro L hL
    have h1 : L ≠ "" := fun h => hL (Or.inl h)
    rw [hfr.sched_dev L h1 (Bool.eq_false_iff.2 fun h => hL (Or.inr h)), hother L h1]
  refine ⟨new', ?_, ?_⟩
  · exact
      { obs_eq := by rw [hobs, hobs0]
        nodup := hnd
        dev := fun o ho => ⟨(hown o ho).1, (hown o ho).2.1⟩
        due_sub := sctx.due_sub
        val := fun d hd => (hdev d hd (Static.below_master hS.toWF hd.1)).transport
          (fun _ _ => trivial) (fun o ho => ho) (fun o ho hno => absurd ho hno) ⟨rfl, rfl⟩
        wake := fun d P hd hP => (hLok P (hpl _ P hP)).dev d hd hP }
  · exact
      { started := fun s hsys =>
          (hs.below_ok s hsys (Static.below_master hS.toWF (hS.sys_parent s hsys))).2
        wake_sys := fun s P hsys hP => (hLok P (hpl _ P hP)).sys s hsys hP
        wake_keys := fun L c hk => (Classical.em _).elim (fun hL => (hLok L hL).keys c hk)
          fun hL => sctx.keys₀ L c (hsame L hL ▸ hk)
        wake_unique := fun L => (Classical.em _).elim (fun hL => (hLok L hL).unique)
          fun hL => hsame L hL ▸ sctx.unique₀ L }

theorem tick_eqs_initial {S : Static} (hS : S.Valid) {orc : Oracle} {n : Nat} (hst : S.ResolveStable n)
    {fuel : Nat} {t0 : SimTime} {L : Level} (hL : S.level "" = some L) {σ' : SimSt}
    {out : List (Port × V)}
    (ht : tickLevel S orc fuel "" t0 L.wiring.components [] {} = .ok (σ', out)) :
    ∃ new, TickEqs S orc n {} t0 (fun _ => True) (fun _ => True) σ' new ∧ SchedOK S σ' := by
  have ctx := TickCtx.initial S t0
  have sctx : SchedCtx S {} t0 (fun _ => True) (fun _ => True) :=
    { due_sub := fun _ _ => trivial
      due_up := fun _ _ _ _ _ => trivial
      due_root := fun _ _ _ _ => trivial
      root_due := fun _ _ _ _ => Or.inr rfl
      keys₀ := by intro L c h; simp [SimSt.sched, agetD] at h
      unique₀ := by intro L; simp [SimSt.sched, agetD, UniqueKeys]
      min₀ := fun _ _ _ _ _ => rfl
      started₀ := fun _ _ h => absurd trivial h }
  refine tick_eqs_of hS hst ctx sctx hL (GenPre.initial S orc n L) ?_ (fun _ _ => rfl) ht
  exact
      { hroots := fun c hc _ => ⟨fun _ => trivial, fun _ => hc⟩
        fresh_obs := by simp
        fresh_count := fun _ _ => rfl
        fresh_sched := fun _ _ => rfl
        own_wake := fun _ => ⟨fun _ => rfl, fun h => absurd trivial h⟩
        own_unique := by simp [SimSt.sched, agetD, UniqueKeys]
        own_keys := by intro c h; simp [SimSt.sched, agetD] at h }

section SchedP

variable {S : Static} {Path : Comp → Prop} {t : SimTime} {σ₀ : SimSt}

theorem SchedP.mem_nestedDue_iff (hsch : SchedP S Path t σ₀) (s c : Comp) :
    c ∈ nestedDue (σ₀.sched s).wake t ↔ alookup S.parent c = some s ∧ S.DueAt σ₀ t c := by
  rw [nestedDue_spec _ (hsch.wake_unique s)]
  constructor
  · rintro ⟨w, hw, hle⟩
    have hp := hsch.wake_keys s c (mem_akeys_of_alookup_eq_some hw)
    exact ⟨hp, s, w, hp, hw, hle⟩
  · rintro ⟨hp, P, w, hP, hw, hle⟩
    cases hp.symm.trans hP
    exact ⟨w, hw, hle⟩

/-- `≤ t` in `DueAt` is `= t` for the master: no wakeup is earlier than the first -/
theorem SchedP.mem_served_iff (hsch : SchedP S Path t σ₀) {comps : List Comp}
    (hfw : firstWakeups (σ₀.sched "").wake = (comps, some t)) (c : Comp) :
    c ∈ comps ↔ alookup S.parent c = some "" ∧ S.DueAt σ₀ t c := by
  obtain ⟨hcs, hmin, _, _⟩ := firstWakeups_spec _ (hsch.wake_unique "") comps t hfw
  rw [hcs c]
  constructor
  · intro hw
    have hp := hsch.wake_keys "" c (mem_akeys_of_alookup_eq_some hw)
    exact ⟨hp, "", t, hp, hw, Int.le_refl _⟩
  · rintro ⟨hp, P, w, hP, hw, hle⟩
    cases hp.symm.trans hP
    rw [← Int.le_antisymm hle (hmin c w hw)]
    exact hw

/-- the system's entry at its parent is the minimum of its inner wakeups, or the time of the tick if
the system is on the way of an interrupt -/
theorem SchedP.dueAt_up (hS : S.Valid) (hsch : SchedP S Path t σ₀) {c P : Comp}
    (hP : alookup S.parent c = some P) (hPne : P ≠ "") (hd : S.DueAt σ₀ t c) : S.DueAt σ₀ t P := by
  obtain ⟨P', w, hP', hw, hle⟩ := hd
  cases hP.symm.trans hP'
  obtain ⟨_, _, _, hsys⟩ := hS.parent_level c P hP
  have hsysP : S.isSys P = true := hsys.resolve_left hPne
  obtain ⟨PP, hPP⟩ := Option.isSome_iff_exists.1 (hS.sys_parent P hsysP)
  by_cases hex : PP = "" ∧ Path P
  · obtain ⟨rfl, hon⟩ := hex
    exact ⟨"", t, hPP, hsch.wake_top P hPP hon, Int.le_refl _⟩
  · have hm := hsch.wake_sys P PP hsysP hPP hex
    cases hfw' : (firstWakeups (σ₀.sched P).wake).2 with
    | none =>
      rw [(firstWakeups_none _).1 hfw'] at hw
      cases hw
    | some m =>
      obtain ⟨_, hle'⟩ := system_callback_is_min _ (hsch.wake_unique P) m hfw'
      exact ⟨PP, m, hPP, hfw' ▸ hm, Int.le_trans (hle' c w hw) hle⟩

theorem SchedP.tickCtx (hS : S.Valid) (hsch : SchedP S Path t σ₀)
    (path_up : ∀ c P, alookup S.parent c = some P → P ≠ "" → Path c → Path P)
    (path_parent : ∀ c, Path c → (alookup S.parent c).isSome = true) :
    TickCtx S σ₀ t (fun c => S.DueAt σ₀ t c ∨ Path c) :=
  { root_up := fun c P hP hPne hr =>
      hr.imp (hsch.dueAt_up hS hP hPne) (path_up c P hP hPne)
    roots_sys := by
      intro s Ls hsys hLs c hcm hne
      obtain ⟨hLs1, hLs2⟩ := Static.level_some hLs
      -- a component of the level that has a parent at all is a child of the level
      have hps : (alookup S.parent c).isSome = true → alookup S.parent c = some s := by
        intro hsome
        rcases hS.members Ls hLs1 c hcm with h' | ⟨_, h' | h'⟩
        · exact hLs2 ▸ h'
        · exact absurd h' hne
        · rw [h', hS.pseudo_fresh.2.1] at hsome; cases hsome
      rw [hsch.first_done s hsys]
      simp only [if_true, mem_sunion, List.mem_singleton, hne, or_false, List.not_mem_nil]
      rw [hsch.ints s c hsys, hsch.mem_nestedDue_iff s c]
      constructor
      · rintro (⟨_, hon⟩ | ⟨_, hd⟩)
        · exact Or.inr hon
        · exact Or.inl hd
      · rintro (hd | hon)
        · exact Or.inr ⟨hps (by obtain ⟨P, _, hP, _⟩ := hd; rw [hP]; rfl), hd⟩
        · exact Or.inl ⟨hps (path_parent c hon), hon⟩ }

theorem SchedP.schedCtx (hS : S.Valid) (hsch : SchedP S Path t σ₀)
    (path_up : ∀ c P, alookup S.parent c = some P → P ≠ "" → Path c → Path P) :
    SchedCtx S σ₀ t (fun c => S.DueAt σ₀ t c ∨ Path c) (S.DueAt σ₀ t) :=
  { due_sub := fun _ h => Or.inl h
    due_up := fun _ _ hP hPne hd => hsch.dueAt_up hS hP hPne hd
    due_root := fun s c _ h => ((hsch.mem_nestedDue_iff s c).1 h).2
    root_due := by
      intro s c _ hd
      by_cases hp : alookup S.parent c = some s
      · exact Or.inl ((hsch.mem_nestedDue_iff s c).2 ⟨hp, hd⟩)
      · exact Or.inr (Classical.byContradiction fun hl =>
          hp (hsch.wake_keys s c (alookup_ne_none_iff.1 hl)))
    keys₀ := hsch.wake_keys
    unique₀ := hsch.wake_unique
    min₀ := by
      intro s P hs hP hnd
      refine hsch.wake_sys s P hs hP ?_
      rintro ⟨rfl, hon⟩
      exact hnd ⟨"", t, hP, hsch.wake_top s hP hon, Int.le_refl _⟩
    started₀ := by
      intro s hs hnr
      refine ⟨hsch.first_done s hs, List.eq_nil_iff_forall_not_mem.2 fun c hc => ?_⟩
      obtain ⟨hp, hon⟩ := (hsch.ints s c hs).1 hc
      exact hnr (Or.inr (path_up c s hp (hS.sys_ne_master hs) hon)) }

theorem SchedP.schedPre_master (hS : S.Valid) (hsch : SchedP S Path t σ₀) {Root : Comp → Prop} {L : Level}
    {comps : List Comp} (hfw : firstWakeups (σ₀.sched "").wake = (comps, some t))
    (hroots : ∀ c ∈ L.wiring.components, c ≠ pseudoExternal → (c ∈ comps ↔ Root c)) :
    SchedPre S σ₀ Root (S.DueAt σ₀ t) "" L comps (σ₀.delWake comps) [] := by
  obtain ⟨hw, hu, hk⟩ := served_wakeups (hsch.wake_unique "") (hsch.wake_keys "")
    (fun c hm => ((hsch.mem_served_iff hfw c).1 hm).2)
    (fun c hd => Classical.or_iff_not_imp_right.2 fun hne => (hsch.mem_served_iff hfw c).2
      ⟨hsch.wake_keys "" c (alookup_ne_none_iff.1 hne), hd⟩)
  have hprep := σ₀.delWake_sched_master comps
  exact
    { hroots := hroots
      fresh_obs := by simp
      fresh_count := fun _ _ => rfl
      fresh_sched := fun s hb => σ₀.delWake_sched_ne comps (hS.below_ne_master hb)
      own_wake := hprep ▸ hw
      own_unique := hprep ▸ hu
      own_keys := hprep ▸ hk }

end SchedP

/-- `Path`: the components on the way from an interrupted device up to the master (the top-level ones
have the time of the tick as wakeup).  The schedulers are in order up to the interrupts queued along
it (`SchedP`); the roots are the components with a due callback and those on such a way. -/
theorem tick_eqs_path {S : Static} (hS : S.Valid) {orc : Oracle} {n : Nat} (hst : S.ResolveStable n)
    {fuel : Nat} {σ₀ : SimSt} {Path : Comp → Prop} {t : SimTime} (hsch : SchedP S Path t σ₀)
    (path_up : ∀ c P, alookup S.parent c = some P → P ≠ "" → Path c → Path P)
    (path_parent : ∀ c, Path c → (alookup S.parent c).isSome = true) {comps : List Comp}
    (hfw : firstWakeups (σ₀.sched "").wake = (comps, some t)) {σ' : SimSt} {out : List (Port × V)}
    (ht : tickLevel S orc fuel "" t comps [] (σ₀.delWake comps) = .ok (σ', out)) :
    ∃ new, TickEqs S orc n σ₀ t (fun c => S.DueAt σ₀ t c ∨ Path c) (S.DueAt σ₀ t) σ' new ∧
      SchedOK S σ' := by
  obtain ⟨L, hL, _⟩ := tickLevel_ok_roots ht
  obtain ⟨hL1, hL2⟩ := Static.level_some hL
  have hroots : ∀ c ∈ L.wiring.components, c ≠ pseudoExternal →
      (c ∈ comps ↔ (S.DueAt σ₀ t c ∨ Path c)) := by
    intro c hcm _
    -- a component of the master's level that has a parent at all is a child of the master
    have hp0 : (alookup S.parent c).isSome = true → alookup S.parent c = some "" := fun _ =>
      (hS.members L hL1 c hcm).elim (fun h' => hL2 ▸ h') (fun h' => absurd hL2 h'.1)
    rw [hsch.mem_served_iff hfw c]
    constructor
    · exact fun h => Or.inl h.2
    · rintro (hd | hon)
      · exact ⟨hp0 (by obtain ⟨P, _, hP, _⟩ := hd; rw [hP]; rfl), hd⟩
      · have hp := hp0 (path_parent c hon)
        exact ⟨hp, "", t, hp, hsch.wake_top c hp hon, Int.le_refl _⟩
  exact tick_eqs_of hS hst (hsch.tickCtx hS path_up path_parent) (hsch.schedCtx hS path_up) hL
    (GenPre.master (st := σ₀.delWake comps) S orc n hroots rfl ⟨rfl, rfl⟩
      fun s hb => σ₀.delWake_sched_ne comps (hS.below_ne_master hb))
    (hsch.schedPre_master hS hfw hroots) (fun _ h => σ₀.delWake_sched_ne comps h) ht

/-- the callback tick: `tick_eqs_path` with no interrupt queued -/
theorem tick_eqs {S : Static} (hS : S.Valid) {orc : Oracle} {n : Nat} (hst : S.ResolveStable n)
    {fuel : Nat} {σ₀ : SimSt} (hsch : SchedOK S σ₀) {t : SimTime} {comps : List Comp}
    (hfw : firstWakeups (σ₀.sched "").wake = (comps, some t)) {σ' : SimSt} {out : List (Port × V)}
    (ht : tickLevel S orc fuel "" t comps [] (σ₀.delWake comps) = .ok (σ', out)) :
    ∃ new, TickEqs S orc n σ₀ t (S.DueAt σ₀ t) (S.DueAt σ₀ t) σ' new ∧ SchedOK S σ' := by
  obtain ⟨new, E, hs⟩ := tick_eqs_path hS hst (hsch.toSchedP t) (fun _ _ _ _ h => h)
    (fun _ h => h.elim) hfw ht
  exact ⟨new, { E with
    due_sub := fun _ h => h
    val := fun d hd => { E.val d hd with
      upd_iff := (E.val d hd).upd_iff.trans (or_congr (or_iff_left id) Iff.rfl) } }, hs⟩

end Tickit
