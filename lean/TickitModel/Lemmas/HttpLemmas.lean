/-
The HTTP adapter path of `Core/Http.lean`.  Every resolver of the model is a search of the shape of
`findSome?_pair_eq_some_iff` (`Lemmas/ListLemmas`); from that, both resolvers are sound and complete,
and the indexed one follows an exact rule (`resolveIndexed_eq_some_iff`).  A sound and complete
resolver serves SOME accepting endpoint of the table or answers with an error
(`httpRequestWith_cases`).  The syntactic overlap test is exact, so on a table without overlapping
routes every such resolver serves the same route, whatever the order of registration
(`httpRequestWith_perm`).
-/
import TickitModel.Core.Http
import TickitModel.Lemmas.ListLemmas

namespace Tickit
namespace Http

theorem Endpoint.wrapped_call (e : Endpoint) (a : Args) :
    e.wrapped.call a =
      ([.effect e.handler a] ++ (if e.interrupt then [Event.interrupt] else []), e.handler) := by
  unfold Endpoint.wrapped
  cases e.interrupt <;> rfl

theorem Endpoint.wrapped_target (e : Endpoint) : e.wrapped.target = e.handler := by
  unfold Endpoint.wrapped
  cases e.interrupt <;> rfl

theorem Endpoint.define_accepts (e : Endpoint) (m : Method) (p : Path) :
    e.define.accepts m p = e.accepts m p := rfl

theorem createRouteDefinitions_getElem? (eps : List Endpoint) (i : Nat) :
    (createRouteDefinitions eps)[i]? = (eps[i]?).map Endpoint.define :=
  List.getElem?_map ..

theorem Endpoint.define_serve (e : Endpoint) (a : Args) :
    (e.define.handler.call a).1 ++ [Event.reply (e.define.handler.call a).2] = e.trace a := by
  show (e.wrapped.call a).1 ++ [Event.reply (e.wrapped.call a).2] = e.trace a
  rw [Endpoint.wrapped_call]
  rfl

def Resolver.Sound (R : Resolver) : Prop :=
  ∀ routes m p r a, R routes m p = some (r, a) → r ∈ routes ∧ r.accepts m p = some a

def Resolver.Complete (R : Resolver) : Prop :=
  ∀ routes m p, R routes m p = none → ∀ r ∈ routes, r.accepts m p = none

theorem resolveFirst_eq_some_iff (routes : List RouteDef) (m : Method) (p : Path) (r : RouteDef)
    (a : Args) :
    resolveFirst routes m p = some (r, a) ↔
      ∃ i : Nat, routes[i]? = some r ∧ r.accepts m p = some a ∧
        ∀ j : Nat, j < i → ∀ r' : RouteDef, routes[j]? = some r' → r'.accepts m p = none :=
  findSome?_pair_eq_some_iff (fun r : RouteDef => r.accepts m p) routes r a

theorem resolveFirst_sound : Resolver.Sound resolveFirst := by
  intro routes m p r a h
  obtain ⟨i, hi, hacc, _⟩ := (resolveFirst_eq_some_iff ..).mp h
  exact ⟨List.mem_of_getElem? hi, hacc⟩

theorem resolveFirst_complete : Resolver.Complete resolveFirst :=
  fun routes m p => (findSome?_pair_eq_none_iff (fun r : RouteDef => r.accepts m p) routes).mp

theorem httpRequestWith_cases {R : Resolver} (hs : R.Sound) (hc : R.Complete) (eps : List Endpoint)
    (m : Method) (p : Path) :
    (∃ e ∈ eps, ∃ a, e.accepts m p = some a ∧ httpRequestWith R eps m p = e.trace a) ∨
    ((∀ e ∈ eps, e.accepts m p = none) ∧ httpRequestWith R eps m p =
      [.error (if pathKnown (createRouteDefinitions eps) p then 405 else 404)]) := by
  unfold httpRequestWith serve
  cases h : R (createRouteDefinitions eps) m p with
  | none => exact Or.inr ⟨fun e he => hc _ _ _ h e.define (List.mem_map_of_mem he), rfl⟩
  | some ra =>
    obtain ⟨r, a⟩ := ra
    obtain ⟨hmem, hacc⟩ := hs _ _ _ _ _ h
    obtain ⟨e, he, rfl⟩ := List.mem_map.mp hmem
    exact Or.inl ⟨e, he, a, hacc, e.define_serve a⟩

/-- soundness suffices: a sound resolver cannot return a route here, and `serve` does the rest. -/
theorem httpRequestWith_unmatched {R : Resolver} (hs : R.Sound) (eps : List Endpoint) (m : Method)
    (p : Path) (h : ∀ e ∈ eps, e.accepts m p = none) :
    httpRequestWith R eps m p =
      [.error (if pathKnown (createRouteDefinitions eps) p then 405 else 404)] := by
  unfold httpRequestWith serve
  cases hr : R (createRouteDefinitions eps) m p with
  | none => rfl
  | some ra =>
    obtain ⟨hmem, hacc⟩ := hs _ _ _ ra.1 ra.2 hr
    obtain ⟨e, he, hdef⟩ := List.mem_map.mp hmem
    rw [← hdef, e.define_accepts, h e he] at hacc
    cases hacc

def Seg.fits : Seg → String → Prop
  | .lit l, s => l = s
  | .var _, s => segOk s = true

theorem matchPath_cons_cons (x : Seg) (t : List Seg) (s : String) (p : Path) :
    (matchPath (x :: t) (s :: p)).isSome ↔ x.fits s ∧ (matchPath t p).isSome := by
  cases x with
  | lit l =>
    simp only [matchPath, Seg.fits]
    by_cases h : l = s <;> simp [h]
  | var n =>
    simp only [matchPath, Seg.fits]
    by_cases h : segOk s = true <;> simp [h]

theorem matchPath_cons_nil (x : Seg) (t : List Seg) : matchPath (x :: t) [] = none := by
  cases x <;> rfl

theorem stripTrailingEmpty_prefix (l : List String) : stripTrailingEmpty l <+: l := by
  have h := List.reverse_prefix.mpr (List.dropWhile_suffix (l := l.reverse) (· == ""))
  rwa [List.reverse_reverse] at h

/-- `Seg.text` of a variable is its name, which is no path text; it never enters: `takeWhile Seg.isLit`
stops before the first variable. -/
theorem litPrefix_of_match (t : List Seg) (p : Path) (h : (matchPath t p).isSome) :
    (t.takeWhile Seg.isLit).map Seg.text <+: p := by
  induction t generalizing p with
  | nil => exact List.nil_prefix
  | cons s t ih =>
    cases s with
    | var n => exact List.nil_prefix
    | lit l =>
      cases p with
      | nil => rw [matchPath_cons_nil] at h; cases h
      | cons x p =>
        obtain ⟨rfl, h'⟩ := (matchPath_cons_cons ..).mp h
        exact List.cons_prefix_cons.mpr ⟨rfl, ih p h'⟩

theorem RouteDef.indexKey_eq_take (r : RouteDef) (m : Method) (p : Path)
    (h : (r.accepts m p).isSome) :
    indexKey r.path = p.take (indexKey r.path).length ∧ (indexKey r.path).length ≤ p.length := by
  have hm : (matchPath r.path p).isSome := by
    unfold RouteDef.accepts at h
    split at h
    · exact h
    · cases h
  have hp := (stripTrailingEmpty_prefix _).trans (litPrefix_of_match r.path p hm)
  exact ⟨List.prefix_iff_eq_take.mp hp, hp.length_le⟩

theorem resolveAt_eq (routes : List RouteDef) (m : Method) (p : Path) (key : List String) :
    resolveAt routes m p key =
      routes.findSome? (fun r =>
        (if indexKey r.path = key then r.accepts m p else none).map (fun a => (r, a))) := by
  unfold resolveAt
  rw [findSome?_pair_filter]
  simp only [beq_iff_eq]

theorem resolveAt_eq_some_iff (routes : List RouteDef) (m : Method) (p : Path) (key : List String)
    (r : RouteDef) (a : Args) :
    resolveAt routes m p key = some (r, a) ↔
      ∃ i : Nat, routes[i]? = some r ∧ indexKey r.path = key ∧ r.accepts m p = some a ∧
        ∀ j : Nat, j < i → ∀ r' : RouteDef, routes[j]? = some r' → indexKey r'.path = key →
          r'.accepts m p = none := by
  rw [resolveAt_eq, findSome?_pair_eq_some_iff]
  simp only [Option.ite_none_right_eq_some, ite_eq_right_iff, and_assoc]

theorem resolveAt_eq_none_iff (routes : List RouteDef) (m : Method) (p : Path) (key : List String) :
    resolveAt routes m p key = none ↔
      ∀ r ∈ routes, indexKey r.path = key → r.accepts m p = none := by
  rw [resolveAt_eq, findSome?_pair_eq_none_iff]
  simp only [ite_eq_right_iff]

theorem resolveIndexed_sound : Resolver.Sound resolveIndexed := by
  intro routes m p r a h
  obtain ⟨k, _, hk⟩ := List.exists_of_findSome?_eq_some h
  obtain ⟨i, hi, _, hacc, _⟩ := (resolveAt_eq_some_iff ..).mp hk
  exact ⟨List.mem_of_getElem? hi, hacc⟩

theorem resolveIndexed_complete : Resolver.Complete resolveIndexed := by
  intro routes m p h r hr
  refine Option.not_isSome_iff_eq_none.mp fun hs => ?_
  obtain ⟨hk, hle⟩ := r.indexKey_eq_take m p hs
  have hat := (findSome?_countdown_eq_none _ _).mp h _ (Nat.lt_succ_of_le hle)
  rw [(resolveAt_eq_none_iff ..).mp hat r hr hk] at hs
  cases hs

/-- aiohttp's indexed resolution, exactly (simple templates): an accepting route of maximal specificity
(length of the literal prefix of its template), and among those the first registered. -/
theorem resolveIndexed_eq_some_iff (routes : List RouteDef) (m : Method) (p : Path) (r : RouteDef)
    (a : Args) :
    resolveIndexed routes m p = some (r, a) ↔
      ∃ i : Nat, routes[i]? = some r ∧ r.accepts m p = some a ∧
        ∀ (j : Nat) (r' : RouteDef), routes[j]? = some r' → (r'.accepts m p).isSome →
          (indexKey r'.path).length < (indexKey r.path).length ∨
          ((indexKey r'.path).length = (indexKey r.path).length ∧ i ≤ j) := by
  unfold resolveIndexed
  rw [findSome?_countdown]
  have hspec : ∀ (r' : RouteDef) (k : Nat), (r'.accepts m p).isSome → k ≤ p.length →
      (indexKey r'.path = p.take k ↔ (indexKey r'.path).length = k) := by
    intro r' k hacc' hk
    obtain ⟨hk', _⟩ := r'.indexKey_eq_take m p hacc'
    exact ⟨fun h => by rw [h, List.length_take_of_le hk], fun h => h ▸ hk'⟩
  constructor
  · rintro ⟨k, hk, hat, hlater⟩
    obtain ⟨i, hi, hkey, hacc, hbefore⟩ := (resolveAt_eq_some_iff ..).mp hat
    have hk := Nat.le_of_lt_succ hk
    have hlen := (hspec r k (by rw [hacc]; rfl) hk).mp hkey
    refine ⟨i, hi, hacc, fun j r' hr' hacc' => ?_⟩
    have hle' := (r'.indexKey_eq_take m p hacc').2
    rw [hlen]
    rcases Nat.lt_trichotomy (indexKey r'.path).length k with hlt | heq | hgt
    · exact Or.inl hlt
    · refine Or.inr ⟨heq, Nat.le_of_not_lt fun hji => ?_⟩
      rw [hbefore j hji r' hr' ((hspec r' k hacc' hk).mpr heq)] at hacc'
      cases hacc'
    · have hnone := (resolveAt_eq_none_iff ..).mp (hlater _ hgt (Nat.lt_succ_of_le hle'))
      rw [hnone r' (List.mem_of_getElem? hr') ((hspec r' _ hacc' hle').mpr rfl)] at hacc'
      cases hacc'
  · rintro ⟨i, hi, hacc, hall⟩
    obtain ⟨hk, hle⟩ := r.indexKey_eq_take m p (by rw [hacc]; rfl)
    refine ⟨(indexKey r.path).length, Nat.lt_succ_of_le hle, ?_, fun k' hgt hle' => ?_⟩
    · refine (resolveAt_eq_some_iff ..).mpr ⟨i, hi, hk, hacc, fun j hj r' hr' hk' => ?_⟩
      refine Option.not_isSome_iff_eq_none.mp fun hs => ?_
      have hlen := (hspec r' _ hs hle).mp hk'
      rcases hall j r' hr' hs with h | ⟨_, h⟩
      · exact Nat.ne_of_lt h hlen
      · exact Nat.not_lt.mpr h hj
    · refine (resolveAt_eq_none_iff ..).mpr fun r' hr' hk' => ?_
      refine Option.not_isSome_iff_eq_none.mp fun hs => ?_
      have hlen := (hspec r' k' hs (Nat.le_of_lt_succ hle')).mp hk'
      obtain ⟨j, hj⟩ := List.getElem?_of_mem hr'
      rcases hall j r' hj hs with h | ⟨h, _⟩
      · exact Nat.lt_asymm hgt (hlen ▸ h)
      · exact Nat.ne_of_lt hgt (h.symm.trans hlen)

theorem matchPath_nil_iff (p : Path) : (matchPath [] p).isSome ↔ p = [] := by
  cases p <;> simp [matchPath]

theorem templatesOverlap_cons_cons (x y : Seg) (s t : List Seg) :
    templatesOverlap (x :: s) (y :: t) = true ↔
      (∃ q, x.fits q ∧ y.fits q) ∧ templatesOverlap s t = true := by
  cases x with
  | lit a =>
    cases y with
    | lit b =>
      show (a == b && templatesOverlap s t) = true ↔ _
      rw [Bool.and_eq_true, beq_iff_eq]
      exact and_congr_left fun _ => ⟨fun h => ⟨a, rfl, h.symm⟩, fun ⟨_, h1, h2⟩ => h1.trans h2.symm⟩
    | var n =>
      show (segOk a && templatesOverlap s t) = true ↔ _
      rw [Bool.and_eq_true]
      exact and_congr_left fun _ => ⟨fun h => ⟨a, rfl, h⟩, fun ⟨_, h1, h2⟩ => h1 ▸ h2⟩
  | var n =>
    cases y with
    | lit b =>
      show (segOk b && templatesOverlap s t) = true ↔ _
      rw [Bool.and_eq_true]
      exact and_congr_left fun _ => ⟨fun h => ⟨b, h, rfl⟩, fun ⟨_, h1, h2⟩ => h2 ▸ h1⟩
    | var n' =>
      have hx : segOk "x" = true := rfl
      exact ⟨fun h => ⟨⟨"x", hx, hx⟩, h⟩, fun h => h.2⟩

theorem templatesOverlap_iff (s t : List Seg) :
    templatesOverlap s t = true ↔ ∃ p, (matchPath s p).isSome ∧ (matchPath t p).isSome := by
  induction s generalizing t with
  | nil =>
    cases t with
    | nil => exact ⟨fun _ => ⟨[], rfl, rfl⟩, fun _ => rfl⟩
    | cons y t =>
      refine ⟨nofun, fun ⟨p, h1, h2⟩ => ?_⟩
      rw [(matchPath_nil_iff p).mp h1, matchPath_cons_nil] at h2
      cases h2
  | cons x s ih =>
    cases t with
    | nil =>
      refine ⟨fun h => (by cases x <;> cases h), fun ⟨p, h1, h2⟩ => ?_⟩
      rw [(matchPath_nil_iff p).mp h2, matchPath_cons_nil] at h1
      cases h1
    | cons y t =>
      rw [templatesOverlap_cons_cons, ih]
      constructor
      · rintro ⟨⟨q, hx, hy⟩, p, hs, ht⟩
        exact ⟨q :: p, (matchPath_cons_cons ..).mpr ⟨hx, hs⟩, (matchPath_cons_cons ..).mpr ⟨hy, ht⟩⟩
      · rintro ⟨p, h1, h2⟩
        cases p with
        | nil =>
          rw [matchPath_cons_nil] at h1
          cases h1
        | cons q p =>
          rw [matchPath_cons_cons] at h1 h2
          exact ⟨⟨q, h1.1, h2.1⟩, p, h1.2, h2.2⟩

theorem methodsOverlap_iff (a b : Method) :
    methodsOverlap a b = true ↔ ∃ m, methodServes a m = true ∧ methodServes b m = true := by
  simp only [methodsOverlap, methodServes, Bool.or_eq_true, Bool.and_eq_true, beq_iff_eq]
  constructor
  · rintro ((h | ⟨h1, h2⟩) | ⟨h1, h2⟩)
    · exact ⟨a, Or.inl rfl, Or.inl h.symm⟩
    · exact ⟨"HEAD", Or.inr ⟨h1, rfl⟩, Or.inl h2⟩
    · exact ⟨"HEAD", Or.inl h1, Or.inr ⟨h2, rfl⟩⟩
  · rintro ⟨m, (h1 | ⟨h1, h1'⟩), (h2 | ⟨h2, h2'⟩)⟩
    · exact Or.inl (Or.inl (h1.trans h2.symm))
    · exact Or.inr ⟨h1.trans h2', h2⟩
    · exact Or.inl (Or.inr ⟨h1, h2.trans h1'⟩)
    · exact Or.inl (Or.inl (h1.trans h2.symm))

theorem Endpoint.accepts_isSome_iff (e : Endpoint) (m : Method) (p : Path) :
    (e.accepts m p).isSome ↔ methodServes e.method m = true ∧ (matchPath e.path p).isSome := by
  unfold Endpoint.accepts
  by_cases h : methodServes e.method m = true <;> simp [h]

theorem Endpoint.overlaps_iff (e f : Endpoint) :
    e.overlaps f = true ↔ ∃ m p, (e.accepts m p).isSome ∧ (f.accepts m p).isSome := by
  simp only [Endpoint.overlaps, Bool.and_eq_true, methodsOverlap_iff, templatesOverlap_iff,
    Endpoint.accepts_isSome_iff]
  constructor
  · rintro ⟨⟨m, h1, h2⟩, ⟨p, h3, h4⟩⟩
    exact ⟨m, p, ⟨h1, h3⟩, ⟨h2, h4⟩⟩
  · rintro ⟨m, p, ⟨h1, h3⟩, ⟨h2, h4⟩⟩
    exact ⟨⟨m, h1, h2⟩, ⟨p, h3, h4⟩⟩

theorem Endpoint.overlaps_comm (e f : Endpoint) : e.overlaps f = f.overlaps e := by
  rw [Bool.eq_iff_iff, Endpoint.overlaps_iff, Endpoint.overlaps_iff]
  constructor <;> rintro ⟨m, p, h1, h2⟩ <;> exact ⟨m, p, h2, h1⟩

theorem nonOverlapping_iff (l : List Endpoint) :
    nonOverlapping l = true ↔ l.Pairwise (fun e f => e.overlaps f = false) := by
  induction l with
  | nil => simp [nonOverlapping]
  | cons e t ih =>
    simp only [nonOverlapping, Bool.and_eq_true, List.all_eq_true, Bool.not_eq_true',
      List.pairwise_cons, ih]

theorem specificityOrdered_iff (l : List Endpoint) :
    specificityOrdered l = true ↔
      l.Pairwise (fun e f => e.overlaps f = false ∨ f.spec ≤ e.spec) := by
  induction l with
  | nil => simp [specificityOrdered]
  | cons e t ih =>
    simp only [specificityOrdered, Bool.and_eq_true, List.all_eq_true, Bool.or_eq_true,
      Bool.not_eq_true', decide_eq_true_eq, List.pairwise_cons, ih]

theorem nonOverlapping_perm {l l' : List Endpoint} (h : l.Perm l') (hno : nonOverlapping l = true) :
    nonOverlapping l' = true := by
  rw [nonOverlapping_iff] at hno ⊢
  exact h.pairwise hno (fun {x y} hxy => by rw [Endpoint.overlaps_comm]; exact hxy)

theorem nonOverlapping_specificityOrdered (l : List Endpoint) (h : nonOverlapping l = true) :
    specificityOrdered l = true :=
  (specificityOrdered_iff l).mpr (((nonOverlapping_iff l).mp h).imp Or.inl)

theorem acceptor_unique (l : List Endpoint) (hno : nonOverlapping l = true) (m : Method) (p : Path)
    (e f : Endpoint) (he : e ∈ l) (hf : f ∈ l) (hea : (e.accepts m p).isSome)
    (hfa : (f.accepts m p).isSome) : e = f := by
  rw [nonOverlapping_iff] at hno
  -- `e = f ∨ no overlap` is reflexive, so it holds between ANY two members; `e`, `f` do overlap
  refine (List.Pairwise.forall_of_forall_of_flip (R := fun e f => e = f ∨ e.overlaps f = false)
    (fun _ _ => Or.inl rfl) (hno.imp Or.inr)
    (hno.imp fun h => Or.inr ((Endpoint.overlaps_comm ..).trans h)) he hf).resolve_right fun h => ?_
  rw [(Endpoint.overlaps_iff e f).mpr ⟨m, p, hea, hfa⟩] at h
  cases h

theorem httpRequestWith_perm {R₁ R₂ : Resolver} (hs₁ : R₁.Sound) (hc₁ : R₁.Complete)
    (hs₂ : R₂.Sound) (hc₂ : R₂.Complete) (eps eps' : List Endpoint) (hp : eps.Perm eps')
    (hno : nonOverlapping eps = true) (m : Method) (p : Path) :
    httpRequestWith R₁ eps m p = httpRequestWith R₂ eps' m p := by
  rcases httpRequestWith_cases hs₁ hc₁ eps m p with ⟨e, he, a, hacc, htr⟩ | ⟨hnone, htr⟩ <;>
    rcases httpRequestWith_cases hs₂ hc₂ eps' m p with ⟨e', he', a', hacc', htr'⟩ | ⟨hnone', htr'⟩
  · cases acceptor_unique eps hno m p e e' he (hp.mem_iff.mpr he') (hacc ▸ rfl) (hacc' ▸ rfl)
    rw [htr, htr', Option.some.inj (hacc.symm.trans hacc')]
  · rw [hnone' e (hp.mem_iff.mp he)] at hacc
    cases hacc
  · rw [hnone e' (hp.mem_iff.mpr he')] at hacc'
    cases hacc'
  · rw [htr, htr']
    unfold pathKnown createRouteDefinitions
    rw [(hp.map _).any_eq]

end Http
end Tickit
