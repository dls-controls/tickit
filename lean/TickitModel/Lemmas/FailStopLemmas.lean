/-
Helper lemmas for the exception path (fail-stop).

`failIn` / `pathTo` are non-recursive wrappers around `findChild` / `pathChild` on the same list
of trees.  The report of `findChild` is a function of the path of `pathChild`
(`findChild_eq_pathChild`): that one equation carries every property of the report.
-/
import TickitModel.Core.FailStop
namespace Tickit

theorem failIn_eq (lvl : Comp) (comps : List Tree) (target : Comp) (err : String) :
    failIn lvl comps target err =
      (findChild comps target err).map fun r =>
        { exc := r.exc, stopped := r.stopped ++ comps.map Tree.name,
          errored := r.errored ++ [lvl] } := by
  rw [failIn]; cases findChild comps target err <;> rfl

theorem pathTo_eq (lvl : Comp) (comps : List Tree) (target : Comp) :
    pathTo lvl comps target =
      (pathChild comps target).map fun p => p ++ [(lvl, comps.map Tree.name)] := by
  rw [pathTo]; cases pathChild comps target <;> rfl

theorem findChild_nil (target : Comp) (err : String) : findChild [] target err = none := by
  rw [findChild]

theorem findChild_dev (n : Comp) (rest : List Tree) (target : Comp) (err : String) :
    findChild (.dev n :: rest) target err =
      if n = target then some { exc := ⟨n, err⟩, stopped := [], errored := [] }
      else findChild rest target err := by
  rw [findChild]

theorem findChild_sys (n : Comp) (ch rest : List Tree) (target : Comp) (err : String) :
    findChild (.sys n ch :: rest) target err =
      match findChild ch target err with
      | some r => some { exc := r.exc, stopped := r.stopped ++ ch.map Tree.name,
                         errored := r.errored ++ [n] }
      | none => findChild rest target err := by
  rw [findChild, failIn_eq]; cases findChild ch target err <;> rfl

theorem pathChild_nil (target : Comp) : pathChild [] target = none := by
  rw [pathChild]

theorem pathChild_dev (n : Comp) (rest : List Tree) (target : Comp) :
    pathChild (.dev n :: rest) target =
      if n = target then some [] else pathChild rest target := by
  rw [pathChild]

theorem pathChild_sys (n : Comp) (ch rest : List Tree) (target : Comp) :
    pathChild (.sys n ch :: rest) target =
      match pathChild ch target with
      | some p => some (p ++ [(n, ch.map Tree.name)])
      | none => pathChild rest target := by
  rw [pathChild, pathTo_eq]; cases pathChild ch target <;> rfl

theorem devicesOf_nil : devicesOf [] = [] := by rw [devicesOf]

theorem devicesOf_dev (n : Comp) (rest : List Tree) :
    devicesOf (.dev n :: rest) = n :: devicesOf rest := by
  rw [devicesOf, Tree.devices]; rfl

theorem devicesOf_sys (n : Comp) (ch rest : List Tree) :
    devicesOf (.sys n ch :: rest) = devicesOf ch ++ devicesOf rest := by
  rw [devicesOf, Tree.devices]

/-- the induction that follows the recursion of `findChild`, `pathChild` and `devicesOf`. -/
theorem Tree.list_induction {P : List Tree → Prop} (nil : P [])
    (dev : ∀ n rest, P rest → P (.dev n :: rest))
    (sys : ∀ n ch rest, P ch → P rest → P (.sys n ch :: rest)) (l : List Tree) : P l :=
  @Tree.rec_1 (fun t => ∀ rest, P rest → P (t :: rest)) P
    (fun n rest h => dev n rest h) (fun n ch ih rest h => sys n ch rest ih h)
    nil (fun _ ts iht ihts => iht ts ihts) l

/-- what the schedulers along a path do with the exception of `target`: each stops the components
it manages and raises its flag, innermost first; the exception itself is passed on unchanged. -/
def Report.ofPath (target : Comp) (err : String) (p : List (Comp × List Comp)) : Report :=
  { exc := ⟨target, err⟩, stopped := (p.map (·.2)).flatten, errored := p.map (·.1) }

theorem Report.ofPath_append (target : Comp) (err : String) (p : List (Comp × List Comp))
    (lvl : Comp) (cs : List Comp) :
    Report.ofPath target err (p ++ [(lvl, cs)]) =
      { exc := (Report.ofPath target err p).exc, stopped := (Report.ofPath target err p).stopped ++ cs,
        errored := (Report.ofPath target err p).errored ++ [lvl] } := by
  simp [Report.ofPath]

theorem Report.ofPath_covers (target : Comp) (err : String) {p : List (Comp × List Comp)}
    {lvl : Comp × List Comp} (hl : lvl ∈ p) :
    lvl.1 ∈ (Report.ofPath target err p).errored ∧
      ∀ c ∈ lvl.2, c ∈ (Report.ofPath target err p).stopped :=
  ⟨List.mem_map_of_mem hl, fun _ hc => List.mem_flatten.mpr ⟨_, List.mem_map_of_mem hl, hc⟩⟩

theorem findChild_eq_pathChild (target : Comp) (err : String) (comps : List Tree) :
    findChild comps target err = (pathChild comps target).map (Report.ofPath target err) := by
  induction comps using Tree.list_induction with
  | nil => rw [findChild_nil, pathChild_nil]; rfl
  | dev n rest ih =>
    rw [findChild_dev, pathChild_dev]
    split
    · next hn => rw [hn]; rfl
    · exact ih
  | sys n ch rest ihc ih =>
    rw [findChild_sys, pathChild_sys, ihc]
    cases pathChild ch target with
    | none => exact ih
    | some p => exact congrArg some (Report.ofPath_append target err p n _).symm

theorem failIn_eq_pathTo (lvl : Comp) (comps : List Tree) (target : Comp) (err : String) :
    failIn lvl comps target err = (pathTo lvl comps target).map (Report.ofPath target err) := by
  rw [failIn_eq, pathTo_eq, findChild_eq_pathChild]
  cases pathChild comps target with
  | none => rfl
  | some p => exact congrArg some (Report.ofPath_append target err p lvl _).symm

theorem pathChild_none_iff (target : Comp) (comps : List Tree) :
    pathChild comps target = none ↔ target ∉ devicesOf comps := by
  induction comps using Tree.list_induction with
  | nil => simp [pathChild_nil, devicesOf_nil]
  | dev n rest ih =>
    rw [pathChild_dev, devicesOf_dev, List.mem_cons, not_or, ← ih]
    split
    · next hn => simp [hn]
    · next hn => simp [Ne.symm hn]
  | sys n ch rest ihc ih =>
    rw [pathChild_sys, devicesOf_sys, List.mem_append, not_or, ← ihc, ← ih]
    cases pathChild ch target <;> simp

theorem findChild_none_iff (target : Comp) (err : String) (comps : List Tree) :
    findChild comps target err = none ↔ target ∉ devicesOf comps := by
  rw [findChild_eq_pathChild, Option.map_eq_none_iff, pathChild_none_iff]

end Tickit
