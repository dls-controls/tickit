/-
C09: one tick of a configuration without system simulations, from any state `σ` and with any
roots, cannot fail, provided the oracle has non-raising responses for a set `U` of devices that
contains the roots and is closed under "an input changes".  (The suffix `_gen` of the three theorems
says just that: any roots, any state.)
-/
import TickitModel.Lemmas.SimLoop
import TickitModel.Lemmas.FlattenEqs

namespace Tickit

theorem flt_simAnswer_gen {S : Static} (hnosys : ∀ c, S.isSys c = false) {orc : Oracle} (fuel : Nat)
    {L : Level} (hname : L.name = "") (inCh : List (Port × V)) {σ : SimSt} (st : SimSt)
    (out0 : List (Port × V)) (d : Dispatch V)
    (horc : (∃ ins, d = .input d.comp d.time ins) → ∃ r, stepResp orc σ d.comp = some r ∧ r.raises = false)
    (hfresh : agetD st.devs d.comp {} = agetD σ.devs d.comp {} ∧
      agetD st.count d.comp 0 = agetD σ.count d.comp 0) :
    ∃ st' out' ch callAt, simAnswer S orc fuel L inCh st out0 d = .ok (st', out', ch, callAt) ∧
      (ch = [] ∨ ((∃ ins, d = .input d.comp d.time ins) ∧ ch = stepChg orc σ d.comp)) ∧
      ∀ x, x ≠ d.comp → agetD st'.devs x {} = agetD st.devs x {} ∧
        agetD st'.count x 0 = agetD st.count x 0 := by
  cases d with
  | skip c t => exact ⟨st, out0, [], none, rfl, Or.inl rfl, fun _ _ => ⟨rfl, rfl⟩⟩
  | input c t ins =>
    obtain ⟨r, hr, hraise⟩ := horc ⟨ins, rfl⟩
    simp only [Dispatch.comp] at hr hfresh hraise ⊢
    have hr' : (agetD orc c [])[agetD st.count c 0]? = some r := by
      rw [hfresh.2]; exact hr
    simp only [simAnswer, hname, bne_self_eq_false, Bool.false_and, Bool.false_eq_true, if_false,
      hnosys c, hr', hraise]
    refine ⟨_, _, _, _, rfl, Or.inr ⟨⟨ins, rfl⟩, ?_⟩, fun x hx => ?_⟩
    · unfold stepChg
      rw [hr, hfresh.1]
      rfl
    · simp [agetD_upsert, Ne.symm hx]

theorem flat_tickLoop_gen {S : Static} (hnosys : ∀ c, S.isSys c = false) {orc : Oracle} (fuel : Nat)
    {L : Level} (hname : L.name = "") (hw : RouterOK L.wiring) (hacyc : L.wiring.Acyclic)
    {t : SimTime} {roots : List Comp}
    (hups : ∀ c ∈ extent L.wiring roots, (L.wiring.ups c).isSome = true) {σ : SimSt}
    (U : Comp → Prop)
    (hUorc : ∀ c, U c → ∃ r, stepResp orc σ c = some r ∧ r.raises = false)
    (hUroot : ∀ c ∈ roots, U c)
    (hUfed : ∀ c a p q v, L.wiring.Conn a p c q → U a → alookup (stepChg orc σ a) p = some v → U c)
    (inCh : List (Port × V)) :
    ∀ (k steps : Nat) (ls : LoopSt) (trace : List (Ev V)),
      TickSys.Run L.wiring (fun d chs => chs = [] ∨ (U d.comp ∧ chs = stepChg orc σ d.comp)) t roots
        ⟨ls.tk, ls.pending, trace⟩ →
      (∀ c, alookup ls.tk.toUpdate c ≠ none →
        agetD ls.st.devs c {} = agetD σ.devs c {} ∧ agetD ls.st.count c 0 = agetD σ.count c 0) →
      ls.tk.toUpdate.length = k → k + 1 ≤ steps →
      ∃ r, tickLoop S orc fuel steps L inCh ls = .ok r := by
  intro k
  induction k with
  | zero =>
    intro steps ls trace hrun _ hk hsteps
    have hp : PreInv L.wiring t roots ls.tk.toUpdate ls.pending trace := hrun.inv.pre
    have htu : ls.tk.toUpdate = [] := List.eq_nil_of_length_eq_zero hk
    obtain ⟨steps', rfl⟩ : ∃ s', steps = s' + 1 := ⟨steps - 1, by omega⟩
    have hpend : ls.pending = [] := by
      cases hpd : ls.pending with
      | nil => rfl
      | cons d rest =>
        have := (hp.pend_flag d.comp).1 ⟨d, by rw [hpd]; simp, rfl⟩
        rw [htu] at this; cases this
    rw [tickLoop_nil _ _ _ _ _ _ _ hpend, htu]
    exact ⟨_, rfl⟩
  | succ k ih =>
    intro steps ls trace hrun hfresh hk hsteps
    obtain ⟨steps', rfl⟩ : ∃ s', steps = s' + 1 := ⟨steps - 1, by omega⟩
    have hi := hrun.inv
    have hp : PreInv L.wiring t roots ls.tk.toUpdate ls.pending trace := hi.pre
    have hne : ls.tk.toUpdate ≠ [] := by
      intro h; rw [h] at hk; cases hk
    cases hpd : ls.pending with
    | nil => exact absurd hpd (hp.progress hacyc hi.complete hne)
    | cons d rest =>
      have hdm : d ∈ ls.pending := by rw [hpd]; simp
      have hd0 : ls.pending[0]? = some d := by rw [hpd]; rfl
      have hne0 : alookup ls.tk.toUpdate d.comp ≠ none := by
        rw [(hp.pend_flag _).1 ⟨d, hdm, rfl⟩]; simp
      -- an `Input` goes to a member of `U`: a root, or fed by the answer of a member of `U`
      have hU : (∃ ins, d = .input d.comp d.time ins) → U d.comp := fun hin => by
        rcases hrun.input_cases hw (fun _ _ h => h.elim (· ▸ List.nodup_nil)
            (·.2 ▸ flt_nodup_stepChg _ _ _)) (hp.pend_trace d hdm) hin with
          hr | ⟨d', ch, p, q, v, _, hch | ⟨hUa, hch⟩, hc, hv⟩
        · exact hUroot _ hr
        · rw [hch] at hv; cases hv
        · exact hUfed _ _ p q v hc hUa (hch ▸ hv)
      obtain ⟨st', out', ch, callAt, ha, hch, hframe⟩ :=
        flt_simAnswer_gen hnosys fuel hname inCh (σ := σ) ls.st ls.outCh d
          (fun hin => hUorc _ (hU hin)) (hfresh _ hne0)
      obtain ⟨tk', ds, hprop⟩ := hp.propagate_ok hups hi.time hdm ch
      have hrun' := hrun.answer hd0 (hch.imp_right fun h => ⟨hU h.1, h.2⟩) hprop
      rw [hpd] at hrun'
      rw [tickLoop_cons _ _ _ _ _ _ _ _ _ hpd, ha]
      simp only [hprop]
      refine ih steps' ⟨tk', rest ++ ds, out', anyWake st' L.name d.comp callAt⟩ _ hrun' ?_ ?_
        (by omega)
      · intro c hcne
        show agetD (anyWake st' L.name d.comp callAt).devs c {} = _ ∧
          agetD (anyWake st' L.name d.comp callAt).count c 0 = _
        rw [anyWake_devs, anyWake_count]
        have hc := mt (Ticker.propagate_resolved hp.nodup hprop c).2 hcne
        obtain ⟨f1, f2⟩ := hframe c fun h => hc (Or.inl h)
        obtain ⟨g1, g2⟩ := hfresh c fun h => hc (Or.inr h)
        exact ⟨f1.trans g1, f2.trans g2⟩
      · show tk'.toUpdate.length = k
        have := Ticker.propagate_length hprop
        omega

theorem flat_tickLevel_gen {S : Static} (hnosys : ∀ c, S.isSys c = false) {orc : Oracle}
    {L : Level} (hLv : S.level "" = some L) (hw : RouterOK L.wiring) (hacyc : L.wiring.Acyclic)
    (t : SimTime) {roots : List Comp} (hroots : ∀ r ∈ roots, r ∈ L.wiring.components) (σ : SimSt)
    (U : Comp → Prop)
    (hUorc : ∀ c, U c → ∃ r, stepResp orc σ c = some r ∧ r.raises = false)
    (hUroot : ∀ c ∈ roots, U c)
    (hUfed : ∀ c a p q v, L.wiring.Conn a p c q → U a → alookup (stepChg orc σ a) p = some v → U c)
    (fuel : Nat) :
    ∃ r, tickLevel S orc (fuel + 1) "" t roots [] σ = .ok r := by
  have hname : L.name = "" := (Static.level_some hLv).2
  have hsub : ∀ c ∈ extent L.wiring roots, c ∈ L.wiring.components :=
    fun c hc => extent_sub_components hroots hc
  have hups : ∀ c ∈ extent L.wiring roots, (L.wiring.ups c).isSome = true :=
    fun c hc => (Wiring.ups_isSome_iff' L.wiring c).2 (hsub c hc)
  obtain ⟨tk, ds, hcall⟩ := Ticker.call_ok (Val := V) (w := L.wiring) t hups
  have hrun := TickSys.Run.call
    (P := fun d chs => chs = [] ∨ (U d.comp ∧ chs = stepChg orc σ d.comp)) hcall
  have hp : PreInv L.wiring t roots tk.toUpdate ds _ := hrun.inv.pre
  rw [tickLevel.eq_2, hLv]
  simp only [hcall]
  have hlen : tk.toUpdate.length ≤ L.wiring.components.length :=
    Nat.le_trans hp.toUpdate_length_le (extent_length_le hroots)
  exact flat_tickLoop_gen hnosys fuel hname hw hacyc hups U hUorc hUroot hUfed []
    tk.toUpdate.length _ ⟨tk, ds, [], σ⟩ (ds.map Ev.dispatch) hrun (fun c _ => ⟨rfl, rfl⟩) rfl
    (by omega)

end Tickit
