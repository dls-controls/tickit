/-
Helper lemmas for the ZeroMQ push stream (`Core/Zmq.lean`): the moves of one sender as a relation
(`ZStepCase`, equivalent to the executable `Zmq.stepSender`), and the accounting invariant `ZAcc`
(written ++ in hand ++ still to take = given) with its preservation by every action; `ZAcc` is
shared with the system with cancellation.  The invariant `ZInv` of the base stream is only DEFINED
here: that it holds along every history (`ZInv.run_init`) is obtained in
`Lemmas/ZmqCancelInv.lean` from the invariant `CInv` of the system with cancellation, of which a
history of the base stream is the cancel-free special case (`CInv.toZInv` along the erasure).
-/
import TickitModel.Core.Zmq
import TickitModel.Lemmas.ListLemmas

namespace Tickit

/-- the message a sender has taken but not yet written.  Cut off by the place, not by `cur`:
`stepSender` leaves `cur = some m` standing through `draining` and clears it only when the drain
ends. -/
def Sender.infl (s : Sender) : List Nat :=
  match s.pc with
  | .wantLock | .inFactory | .ready => s.cur.toList
  | .idle | .draining => []

def Zmq.wr (z : Zmq) (i : Nat) : List Nat := (z.writes.filter (fun w => w.1 == i)).map (·.2)

theorem Sender.infl_length_le (s : Sender) : s.infl.length ≤ 1 := by
  unfold Sender.infl
  split <;> cases s.cur <;> simp

theorem Sender.infl_rest {s : Sender} (h : s.pc = .idle ∨ s.pc = .draining) : s.infl = [] := by
  rcases h with h | h <;> simp [Sender.infl, h]

theorem Sender.infl_busy {s : Sender} (h : s.pc = .wantLock ∨ s.pc = .inFactory ∨ s.pc = .ready) :
    s.infl = s.cur.toList := by
  rcases h with h | h | h <;> simp [Sender.infl, h]

/-- what sender `k` has still to take: the queue for the queue loop, its to-do list for a
direct sequence -/
def Zmq.rest (z : Zmq) (k : Nat) (s : Sender) : List Nat := if k = 0 then z.queue else s.todo

structure ZAcc (z : Zmq) : Prop where
  wlt : ∀ w ∈ z.writes, w.1 < z.senders.length
  /-- the queue loop (sender 0): everything ever queued -/
  q : ∃ s0, z.senders[0]? = some s0 ∧ z.wr 0 ++ s0.infl ++ z.queue = z.queued
  /-- a direct sequence (sender `i > 0`): the sequence it was given -/
  d : ∀ (i : Nat) (s : Sender), 0 < i → z.senders[i]? = some s → z.wr i ++ s.infl ++ s.todo = s.orig

/-- the invariant of `Core/Zmq.lean`: lock, socket and factory-call discipline, and the accounting
fields of `ZAcc` -/
structure ZInv (z : Zmq) : Prop where
  /-- the socket factory has been called once iff the socket exists or is being made -/
  fc : z.factoryCalls = if (z.socket = true ∨ z.lockHeld.isSome = true) then 1 else 0
  holder : ∀ (i : Nat) (s : Sender), z.senders[i]? = some s → s.pc = .inFactory → z.lockHeld = some i
  sock : ∀ (i : Nat) (s : Sender), z.senders[i]? = some s → (s.pc = .ready ∨ s.pc = .draining) → z.socket = true
  wsock : z.writes ≠ [] → z.socket = true
  wlt : ∀ w ∈ z.writes, w.1 < z.senders.length
  q : ∃ s0, z.senders[0]? = some s0 ∧ z.wr 0 ++ s0.infl ++ z.queue = z.queued
  d : ∀ (i : Nat) (s : Sender), 0 < i → z.senders[i]? = some s → z.wr i ++ s.infl ++ s.todo = s.orig

inductive ZStepCase (z : Zmq) (i : Nat) (s : Sender) : Zmq → Prop where
  | takeQ (m : Nat) (q : List Nat) : i = 0 → s.pc = .idle → z.queue = m :: q →
      ZStepCase z i s (setSender { z with queue := q } i { s with pc := .wantLock, cur := some m })
  | takeT (m : Nat) (t : List Nat) : i ≠ 0 → s.pc = .idle → s.todo = m :: t →
      ZStepCase z i s (setSender z i { s with pc := .wantLock, cur := some m, todo := t })
  /-- the lock is held, or free but another task is ahead (somebody queues and `i` is not the head
  of the queue, the test of `Zmq.stepSender`): `i` joins the lock queue -/
  | wait : s.pc = .wantLock → i ∉ z.waiters →
      (z.lockHeld ≠ none ∨ (z.waiters.head? == some i || z.waiters.isEmpty) = false) →
      ZStepCase z i s { z with waiters := z.waiters ++ [i] }
  /-- the socket exists: the lock is taken and released at once, `i` is past `_ensure_socket` -/
  | pass : s.pc = .wantLock → z.lockHeld = none →
      (z.waiters.head? == some i || z.waiters.isEmpty) = true → z.socket = true →
      ZStepCase z i s (setSender { z with waiters := z.waiters.filter (· != i) } i { s with pc := .ready })
  /-- no socket yet: `i` keeps the lock and calls the socket factory -/
  | call : s.pc = .wantLock → z.lockHeld = none →
      (z.waiters.head? == some i || z.waiters.isEmpty) = true → z.socket = false →
      ZStepCase z i s (setSender
        { z with waiters := z.waiters.filter (· != i), lockHeld := some i, factoryCalls := z.factoryCalls + 1 }
        i { s with pc := .inFactory })
  /-- the factory returns: the socket is stored, the lock released -/
  | made : s.pc = .inFactory →
      ZStepCase z i s (setSender { z with socket := true, lockHeld := none } i { s with pc := .ready })
  /-- the sender without a message (the `_ensure_socket` of `setup`) is done -/
  | skip : s.pc = .ready → s.cur = none →
      ZStepCase z i s (setSender z i { s with pc := .idle })
  | write (m : Nat) : s.pc = .ready → s.cur = some m →
      ZStepCase z i s (setSender { z with writes := z.writes ++ [(i, m)] } i { s with pc := .draining })
  | drained : s.pc = .draining →
      ZStepCase z i s (setSender z i { s with pc := .idle, cur := none })

theorem stepSender_cases {z z' : Zmq} {i : Nat} (h : z.stepSender i = some z') :
    ∃ s, z.senders[i]? = some s ∧ ZStepCase z i s z' := by
  unfold Zmq.stepSender at h
  cases hs : z.senders[i]? with
  | none => simp only [hs] at h; cases h
  | some s =>
    refine ⟨s, rfl, ?_⟩
    cases hpc : s.pc with
    | idle =>
      simp only [hs, hpc, beq_iff_eq] at h
      split at h
      · next h0 =>
        split at h
        · cases h
        · next m q hq => cases h; exact .takeQ m q h0 hpc hq
      · next h0 =>
        split at h
        · cases h
        · next m t ht => cases h; exact .takeT m t h0 hpc ht
    | wantLock =>
      simp only [hs, hpc] at h
      split at h
      · next x hl =>
        obtain ⟨hw, h⟩ := Option.ite_none_left_eq_some.mp h
        cases h
        exact .wait hpc hw (.inl (hl ▸ nofun))
      · next hl =>
        split at h
        · next hm =>
          split at h <;> cases h
          · next hsk => exact .pass hpc hl hm hsk
          · next hsk => exact .call hpc hl hm (Bool.eq_false_iff.mpr hsk)
        · next hm =>
          obtain ⟨hw, h⟩ := Option.ite_none_left_eq_some.mp h
          cases h
          exact .wait hpc hw (.inr (Bool.eq_false_iff.mpr hm))
    | inFactory => simp only [hs, hpc] at h; cases h; exact .made hpc
    | ready =>
      simp only [hs, hpc] at h
      split at h <;> cases h
      · next hc => exact .skip hpc hc
      · next m hc => exact .write m hpc hc
    | draining => simp only [hs, hpc] at h; cases h; exact .drained hpc

/-- the converse of `stepSender_cases`: with it `ZReach.step` (`Lemmas/ZmqCancelLive.lean`) builds
enabled schedules out of cases. -/
theorem ZStepCase.sound {z z' : Zmq} {i : Nat} {s : Sender} (hs : z.senders[i]? = some s)
    (h : ZStepCase z i s z') : z.stepSender i = some z' := by
  unfold Zmq.stepSender
  rw [hs]
  cases h with
  | takeQ m q h0 hpc hq => subst h0; simp [hpc, hq]
  | takeT m t h0 hpc ht => simp [hpc, h0, ht]
  | wait hpc hw hor =>
    simp only [hpc]
    rcases hor with hl | hm
    · cases hlk : z.lockHeld with
      | none => exact absurd hlk hl
      | some x => simp [hw]
    · cases hlk : z.lockHeld with
      | none => simp only [hm]; simp [hw]
      | some x => simp [hw]
  | pass hpc hl hm hsk => simp only [hpc, hl, hm]; simp [hsk]
  | call hpc hl hm hsk => simp only [hpc, hl, hm]; simp [hsk]
  | made hpc => simp [hpc]
  | skip hpc hc => simp [hpc, hc]
  | write m hpc hc => simp [hpc, hc]
  | drained hpc => simp [hpc]

theorem Zmq.wr_of_writes {z z' : Zmq} {i : Nat} {ws : List Nat} (h : z'.writes = z.writes ++ ws.map (Prod.mk i))
    (j : Nat) : z'.wr j = z.wr j ++ if j = i then ws else [] := by
  unfold Zmq.wr
  rw [h, List.filter_append, List.map_append, List.filter_map]
  by_cases hj : j = i
  · subst hj; simp [Function.comp_def]
  · simp [Function.comp_def, hj, Ne.symm hj]

theorem Zmq.init_sender {i : Nat} {s : Sender} (h : Zmq.init.senders[i]? = some s) : i = 0 ∧ s = {} := by
  cases i <;> simp [Zmq.init] at h
  exact ⟨rfl, h.symm⟩

theorem ZAcc.init : ZAcc Zmq.init := by
  refine ⟨by simp [Zmq.init], ⟨{}, rfl, rfl⟩, fun i s hi h => ?_⟩
  have := (Zmq.init_sender h).1
  omega

/-- sender `i` goes from record `s` to `s'` and writes `ws`; its own ledger (`ws` ++ in hand ++
still to take) is the same list as before, and no clause of `ZAcc` about another sender mentions
anything that changed. -/
theorem ZAcc.set {z z' : Zmq} {i : Nat} {s s' : Sender} {ws : List Nat} (h : ZAcc z)
    (hs : z.senders[i]? = some s) (hsend : z'.senders = z.senders.set i s')
    (hw : z'.writes = z.writes ++ ws.map (Prod.mk i)) (hqd : z'.queued = z.queued)
    (hled : ws ++ s'.infl ++ z'.rest i s' = s.infl ++ z.rest i s) (hq : i ≠ 0 → z'.queue = z.queue)
    (horig : s'.orig = s.orig) : ZAcc z' := by
  obtain ⟨hwlt, ⟨s0, hs0, hq0⟩, hd0⟩ := h
  have hwr := Zmq.wr_of_writes hw
  simp only [Zmq.rest, List.append_assoc] at hled
  refine ⟨fun w hw' => ?_, ?_, fun j t hj0 hj => ?_⟩
  · rw [hsend, List.length_set]
    rw [hw, List.mem_append, List.mem_map] at hw'
    rcases hw' with hw' | ⟨_, _, rfl⟩
    · exact hwlt w hw'
    · exact lt_length_of_getElem?_eq_some hs
  · rw [hwr, hqd, hsend, ← hq0]
    by_cases h0 : i = 0
    · subst h0
      cases hs0.symm.trans hs
      refine ⟨s', List.getElem?_set_self (lt_length_of_getElem?_eq_some hs), ?_⟩
      simp only [if_pos, List.append_assoc] at hled ⊢
      rw [hled]
    · refine ⟨s0, by rw [List.getElem?_set_ne h0]; exact hs0, ?_⟩
      rw [if_neg (Ne.symm h0), hq h0, List.append_nil]
  · rw [hsend, getElem?_set_some hs] at hj
    rw [hwr]
    rcases hj with ⟨rfl, rfl⟩ | ⟨hne, hj⟩
    · rw [horig, ← hd0 j s hj0 hs]
      simp only [if_pos, if_neg (Nat.ne_of_gt hj0), List.append_assoc] at hled ⊢
      rw [hled]
    · rw [if_neg hne, List.append_nil]
      exact hd0 j t hj0 hj

theorem ZAcc.step {z z' : Zmq} {i : Nat} {s : Sender} (h : ZAcc z) (hs : z.senders[i]? = some s)
    (hc : ZStepCase z i s z') : ZAcc z' := by
  have nil (l : List (Nat × Nat)) : l = l ++ ([] : List Nat).map (Prod.mk i) := (List.append_nil l).symm
  -- arguments of `set` after `hs`: the senders, the writes (`nil _`: none), `queued`, the ledger of
  -- `i`, the queue when `i ≠ 0`, `orig`; only the ledger is not closed by `rfl`
  cases hc with
  | takeQ m q h0 hpc hq =>
    exact h.set hs rfl (nil _) rfl (by simp [Zmq.rest, setSender, Sender.infl, h0, hpc, hq]) (absurd h0) rfl
  | takeT m t h0 hpc ht =>
    exact h.set hs rfl (nil _) rfl (by simp [Zmq.rest, Sender.infl, h0, hpc, ht]) (fun _ => rfl) rfl
  -- only the lock queue changes, which `ZAcc` does not mention
  | wait hpc hw hor => exact ⟨h.wlt, h.q, h.d⟩
  | pass hpc | call hpc | made hpc | drained hpc =>
    exact h.set hs rfl (nil _) rfl (by simp [Zmq.rest, setSender, Sender.infl, hpc]) (fun _ => rfl) rfl
  | skip hpc hc =>
    exact h.set hs rfl (nil _) rfl (by simp [Zmq.rest, setSender, Sender.infl, hpc, hc]) (fun _ => rfl) rfl
  | write m hpc hc =>
    exact h.set (ws := [m]) hs rfl rfl rfl (by simp [Zmq.rest, setSender, Sender.infl, hpc, hc]) (fun _ => rfl) rfl

theorem Zmq.wr_eq_nil_of_forall (z : Zmq) (i : Nat) (h : ∀ w ∈ z.writes, w.1 ≠ i) : z.wr i = [] := by
  simp only [Zmq.wr, List.map_eq_nil_iff, List.filter_eq_nil_iff]
  intro w hw; simpa using h w hw

/-- a new task appears (`spawn`, `ensure`) -/
theorem ZAcc.push {z : Zmq} {t : Sender} (h : ZAcc z) (ht : t.infl ++ t.todo = t.orig) :
    ZAcc { z with senders := z.senders ++ [t] } := by
  obtain ⟨hwlt, ⟨s0, hs0, hq0⟩, hd⟩ := h
  refine ⟨fun w hw => ?_, ⟨s0, getElem?_append_singleton_some.2 (Or.inl hs0), hq0⟩, fun j u hj0 hj => ?_⟩
  · have := hwlt w hw
    simp only [List.length_append, List.length_singleton]; omega
  · rcases getElem?_append_singleton_some.1 hj with hj | ⟨rfl, rfl⟩
    · exact hd j u hj0 hj
    · have : z.wr z.senders.length = [] :=
        z.wr_eq_nil_of_forall _ (fun w hw => Nat.ne_of_lt (hwlt w hw))
      show z.wr z.senders.length ++ u.infl ++ u.todo = u.orig
      rw [this]; exact ht

theorem ZAcc.enqueue {z : Zmq} (h : ZAcc z) (m : Nat) :
    ZAcc { z with queue := z.queue ++ [m], queued := z.queued ++ [m] } := by
  obtain ⟨hwlt, ⟨s0, hs0, hq0⟩, hd⟩ := h
  refine ⟨hwlt, ⟨s0, hs0, ?_⟩, hd⟩
  show z.wr 0 ++ s0.infl ++ (z.queue ++ [m]) = z.queued ++ [m]
  rw [← hq0]; simp only [List.append_assoc]

end Tickit
