/-
C09: what the correspondence says about the next tick, and the step "one external stimulus".
Without stimuli: corresponding states pick the same next tick time — the earliest wakeup of the
nested master is the earliest wakeup of any device (`Corr.firstWakeups_eq`;
`Props/AnyTransferC06.lean` reads C06 through nesting off this).
One stimulus: the fuel `raiseInterrupt` needs is the depth of the interrupted component
(`Static.Up`), and a completed initial tick has used that much for every device
(`masterInitial_fuel`); then what one stimulus does to the correspondence `CorrP`, handled on both
sides (`CorrP.stim`).  The step "one tick" is `Lemmas/FlattenCorr.lean`.
-/
import TickitModel.Lemmas.MasterRun
import TickitModel.Lemmas.FlattenFuel
import TickitModel.Lemmas.FlattenInitGen

namespace Tickit

/-- a wakeup inside a system is represented at the master by an entry that is not later (with
interrupts pending: the master's entry of a top-level component on a path is their stamp, which is
below every entry) -/
theorem SchedP.dominated_below {S : Static} (hS : S.Valid) {Path : Comp → Prop} {τ : SimTime}
    {st : SimSt} (h : SchedP S Path τ st) {c : Comp} (hb : S.Below "" c) :
    ∀ P w, alookup S.parent c = some P → alookup (st.sched P).wake c = some w →
      ∃ a w', alookup (st.sched "").wake a = some w' ∧ w' ≤ w := by
  induction hb with
  | direct h' =>
    intro P w hP hw
    rw [h'] at hP; cases hP
    exact ⟨_, w, hw, Int.le_refl _⟩
  | @step c p h' hp _ ih =>
    intro P w hP hw
    rw [h'] at hP; cases hP
    obtain ⟨_, _, _, hsys'⟩ := hS.parent_level c p h'
    have hsysP : S.isSys p = true := hsys'.resolve_left hp
    obtain ⟨PP, hPP⟩ := Option.isSome_iff_exists.1 (hS.sys_parent p hsysP)
    by_cases hex : PP = "" ∧ Path p
    · obtain ⟨rfl, hon⟩ := hex
      exact ⟨p, τ, h.wake_top p hPP hon, h.ge p hon _ _ _ hw⟩
    · have hmin := h.wake_sys p PP hsysP hPP hex
      cases hfw : (firstWakeups (st.sched p).wake).2 with
      | none =>
        rw [firstWakeups_none] at hfw
        rw [hfw] at hw
        simp at hw
      | some m =>
        obtain ⟨_, hle⟩ := system_callback_is_min _ (h.wake_unique p) m hfw
        rw [hfw] at hmin
        obtain ⟨a, w', ha, hw'⟩ := ih PP m hPP hmin
        exact ⟨a, w', ha, Int.le_trans hw' (hle c w hw)⟩

theorem SchedP.le_all {S : Static} (hS : S.Valid) {Path : Comp → Prop} {τ : SimTime} {σ : SimSt}
    (h : SchedP S Path τ σ) {stamp : SimTime}
    (hmin : ∀ c w, alookup (σ.sched "").wake c = some w → stamp ≤ w) :
    ∀ L c w, alookup (σ.sched L).wake c = some w → stamp ≤ w := by
  intro L c w hw
  have hpc := h.wake_keys L c (mem_akeys_of_alookup_eq_some hw)
  obtain ⟨a, w', ha, hle⟩ :=
    h.dominated_below hS (Static.below_master hS.toWF (by rw [hpc]; rfl)) L w hpc hw
  exact Int.le_trans (hmin a w' ha) hle

theorem Corr.wake_down {S : Static} (hS : S.Valid) {st st' : SimSt} (hc : Corr S st st') :
    ∀ c P m, alookup S.parent c = some P → alookup (st.sched P).wake c = some m →
      ∃ d, alookup (st'.sched "").wake d = some m := by
  have key := hS.down_induct (motive := fun c => ∀ P m, alookup S.parent c = some P →
      alookup (st.sched P).wake c = some m → ∃ d, alookup (st'.sched "").wake d = some m)
    (fun c _ _ ih P m hP hw => by
      by_cases hsys : S.isSys c = true
      · have hmin := hc.wake_sys c P hsys hP
        rw [hw] at hmin
        obtain ⟨⟨c', hc'⟩, _⟩ := system_callback_is_min _ (hc.wake_unique c) m hmin.symm
        have hpar' := hc.wake_keys c c' (mem_akeys_of_alookup_eq_some hc')
        exact ih c' hpar' c m hpar' hc'
      · have hdev : S.isDevice c := ⟨by rw [hP]; rfl, by simpa using hsys⟩
        exact ⟨c, by rw [hc.wake_dev c P hdev hP]; exact hw⟩)
  exact fun c P m hP hw => key c P hP P m hP hw

theorem Corr.firstWakeups_eq {S : Static} (hS : S.Valid) {st st' : SimSt} (hc : Corr S st st') :
    (firstWakeups (st.sched "").wake).2 = (firstWakeups (st'.sched "").wake).2 := by
  refine firstWakeups_snd_eq_of_dominated (hc.wake_unique "") (hc.flat_sched.wake_unique "")
    (fun a m ha => ?_) (fun d w hw => ?_)
  · obtain ⟨d, hd⟩ :=
      hc.wake_down hS a "" m (hc.wake_keys "" a (mem_akeys_of_alookup_eq_some ha)) ha
    exact ⟨d, m, hd, Int.le_refl m⟩
  · have hd := hc.flat_sched.flat_keys (mem_akeys_of_alookup_eq_some hw)
    obtain ⟨P, hP⟩ := Option.isSome_iff_exists.1 hd.1
    rw [hc.wake_dev d P hd hP] at hw
    exact (hc.schedOK.toSchedP 0).dominated_below hS (Static.below_master hS.toWF hd.1) P w hP hw

theorem Static.Up.lift {S : Static} {lvl c x : Comp} {k : Nat} (hc : alookup S.parent c = some lvl)
    (hne : c ≠ "") (h : S.Up c x k) : S.Up lvl x (k + 1) := by
  induction h with
  | direct h => exact .step h hne (.direct hc)
  | step h hp _ ih => exact .step h hp ih

theorem Static.Below.toUp {S : Static} {lvl c : Comp} (h : S.Below lvl c) : ∃ k, S.Up lvl c k := by
  induction h with
  | direct h => exact ⟨1, .direct h⟩
  | step h hp _ ih =>
    obtain ⟨k, hk⟩ := ih
    exact ⟨k + 1, .step h hp hk⟩

/-- the observations made by a tick with `f` units of fuel lie at most `f` levels below it -/
def FuelPost (S : Static) (lvl : Comp) (f : Nat) (st st' : SimSt) : Prop :=
  ∃ new, st'.obs = st.obs ++ new ∧ ∀ o ∈ new, ∃ k, S.Up lvl o.comp k ∧ k ≤ f

theorem FuelPost.refl (S : Static) (lvl : Comp) (f : Nat) (st : SimSt) : FuelPost S lvl f st st :=
  ⟨[], by simp, by simp⟩

theorem FuelPost.trans {S : Static} {lvl : Comp} {f : Nat} {st st1 st2 : SimSt}
    (h1 : FuelPost S lvl f st st1) (h2 : FuelPost S lvl f st1 st2) : FuelPost S lvl f st st2 := by
  obtain ⟨new1, hobs1, hk1⟩ := h1
  obtain ⟨new2, hobs2, hk2⟩ := h2
  refine ⟨new1 ++ new2, by rw [hobs2, hobs1, List.append_assoc], fun o ho => ?_⟩
  exact (List.mem_append.1 ho).elim (hk1 o) (hk2 o)

/-- one answer: a device observes one level below, an inner tick one level further down than it
says of itself -/
theorem AnsP.fuelPost {S : Static} (hS : S.WF) {orc : Oracle} {fuel : Nat} {L : Level}
    (hL : L ∈ S.levels) {inCh : List (Port × V)} {st : SimSt} {d : Dispatch V}
    (hc : d.comp ∈ L.wiring.components) {res : SimSt × List (Port × V) × Option SimTime}
    (a : AnsP S orc (fun c t ro i s r => tickLevel S orc fuel c t ro i s = .ok r ∧
      FuelPost S c fuel s r.1) L inCh st d res) : FuelPost S L.name (fuel + 1) st res.1 := by
  cases a with
  | skip => exact .refl ..
  | external => exact .refl ..
  | expose => exact .refl ..
  | @sys c t ins st2 outCh h1 h2 _ h4 =>
    obtain ⟨hr, new, hobs, hk⟩ := h4
    obtain ⟨Lc, hLc, hroots⟩ := tickLevel_ok_roots hr
    obtain ⟨hLc1, hLc2⟩ := Static.level_some hLc
    have hext : pseudoExternal ∈ Lc.wiring.components := hroots _ (external_mem_sysRoots S st c t)
    have hcne : c ≠ "" := hLc2 ▸ hS.mock_nested hLc1 hext hS.pseudo_fresh.1
    refine ⟨new, hobs, fun o ho => ?_⟩
    obtain ⟨k, hu, hle⟩ := hk o ho
    exact ⟨k + 1, hu.lift (hS.parent_of_member hL hc h1 h2) hcne, by omega⟩
  | @dev c t ins resp h1 h2 =>
    refine ⟨[_], rfl, fun o ho => ?_⟩
    rw [List.mem_singleton.1 ho]
    exact ⟨1, .direct (hS.parent_of_member hL hc h1 h2), by omega⟩

theorem tickLevel_fuel {S : Static} (hS : S.WF) {orc : Oracle} {fuel : Nat} {lvl : Comp} {t : SimTime}
    {roots : List Comp} {inCh : List (Port × V)} {st st' : SimSt} {out : List (Port × V)}
    (h : tickLevel S orc fuel lvl t roots inCh st = .ok (st', out)) : FuelPost S lvl fuel st st' := by
  refine tickLevel_fuel_induct (fun f lvl _ _ _ st r => FuelPost S lvl f st r.1) ?_ _ _ _ _ _ _ _ h
  rintro fuel lvl t roots inCh st r ⟨L, tk, ds, hLv, hcall, hloop⟩
  obtain ⟨hL, rfl⟩ := Static.level_some hLv
  have key : ∀ ls r, LoopP S orc (fun c t ro i s r => tickLevel S orc fuel c t ro i s = .ok r ∧
        FuelPost S c fuel s r.1) L inCh ls r → (∀ d ∈ ls.pending, d.comp ∈ L.wiring.components) →
      FuelPost S L.name (fuel + 1) st ls.st → FuelPost S L.name (fuel + 1) st r.1 := by
    intro ls r hl
    induction hl with
    | done => exact fun _ hf => hf
    | step hi ha hprop _ ih =>
      intro hpc hf
      refine ih (fun d' hd' => ?_) (hf.trans (ha.fuelPost hS hL (hpc _ (List.mem_of_getElem? hi))))
      exact (List.mem_append.1 hd').elim (fun h' => hpc d' (List.mem_of_mem_eraseIdx h'))
        (fun h' => (Ticker.propagate_mem hprop h').1)
  exact key _ _ hloop (fun d hd => (Ticker.call_mem hcall hd).1) (.refl ..)

theorem masterInitial_fuel {S : Static} (hS : S.Valid) {orc : Oracle} {n : Nat}
    (hst : S.ResolveStable n) {fuel : Nat} {t0 : SimTime} {now : Int} {m : MasterSt} {tr : TickRec}
    (h : masterInitial S orc fuel t0 now = .ok (m, tr)) :
    ∀ d, S.isDevice d → ∃ k, S.Up "" d k ∧ k ≤ fuel := by
  intro d hd
  have hf := masterInitial_facts hS hst h
  obtain ⟨L, out, hL, ht⟩ := masterInitial_tick h
  obtain ⟨new, hobs, hk⟩ := tickLevel_fuel hS.toWF ht
  have hnew : m.sim.obs = new := by simpa using hobs
  obtain ⟨o, ho, rfl⟩ := List.mem_map.1 (hf.all d hd)
  exact hk o (hnew ▸ ho)

theorem raise_spec {S : Static} (hS : S.Valid) {c : Comp} {k : Nat} (hu : S.Up "" c k) :
    ∀ (f : Nat) (st : SimSt), k ≤ f →
      alookup S.parent (raiseInterrupt S f c st).2 = some "" ∧
      S.Own (raiseInterrupt S f c st).2 c ∧
      ∀ s c', c' ∈ ((raiseInterrupt S f c st).1.sched s).interrupts ↔
        c' ∈ (st.sched s).interrupts ∨ (alookup S.parent c' = some s ∧ s ≠ "" ∧ S.Own c' c) := by
  induction hu with
  | @direct c h =>
    intro f st _
    rw [raiseInterrupt_top S f st h]
    refine ⟨h, .refl S c, fun s c' => ⟨Or.inl, ?_⟩⟩
    rintro (h' | ⟨hp', hs', ho⟩)
    · exact h'
    · rw [(Static.own_iff_of_top h).1 ho, h] at hp'
      cases hp'; exact absurd rfl hs'
  | @step c p k' h hp _ ih =>
    intro f st hk
    obtain ⟨f, rfl⟩ : ∃ f', f = f' + 1 := ⟨f - 1, by omega⟩
    rw [raiseInterrupt_step S f st h hp]
    obtain ⟨r1, r2, r3⟩ := ih f (st.queueInt p c) (by omega)
    refine ⟨r1, r2.of_parent hp h, fun s c' => ?_⟩
    rw [r3, SimSt.mem_queueInt, Static.own_iff_of_parent h hp]
    constructor
    · rintro ((h' | ⟨rfl, rfl⟩) | ⟨h1, h2, h3⟩)
      · exact Or.inl h'
      · exact Or.inr ⟨h, hp, Or.inl rfl⟩
      · exact Or.inr ⟨h1, h2, Or.inr ⟨hS.child_ne_master h1, h3⟩⟩
    · rintro (h' | ⟨h1, h2, rfl | ⟨_, h3⟩⟩)
      · exact Or.inl (Or.inl h')
      · rw [h] at h1; cases h1; exact Or.inl (Or.inr ⟨rfl, rfl⟩)
      · exact Or.inr ⟨h1, h2, h3⟩

theorem raiseInterrupt_of_up {S : Static} {c : Comp} {k : Nat} (hu : S.Up "" c k) :
    ∀ (f : Nat) (st : SimSt), k ≤ f → raiseInterrupt S f c st = raiseInterrupt S k c st := by
  induction hu with
  | direct h => intro f st _; rw [raiseInterrupt_top S f st h, raiseInterrupt_top S 1 st h]
  | @step c p k' h hp _ ih =>
    intro f st hk
    obtain ⟨f, rfl⟩ : ∃ f', f = f' + 1 := ⟨f - 1, by omega⟩
    rw [raiseInterrupt_step S f st h hp, raiseInterrupt_step S k' st h hp, ih f _ (by omega)]

theorem SchedP.stim {S : Static} (hS : S.Valid) {Path : Comp → Prop} {τ : SimTime} {σ : SimSt}
    (h : SchedP S Path τ σ) {x : Comp} {fuel k : Nat} (hup : S.Up "" x k) (hk : k ≤ fuel)
    {stamp : SimTime} (hτ : ∀ c, Path c → stamp = τ)
    (hmin : ∀ L c w, alookup (σ.sched L).wake c = some w → stamp ≤ w) :
    SchedP S (fun c => S.Own c x ∨ Path c) stamp
      ((raiseInterrupt S fuel x σ).1.addMasterWake (raiseInterrupt S fuel x σ).2 stamp) := by
  obtain ⟨htp, hto, hin⟩ := raise_spec hS hup fuel σ hk
  obtain ⟨-, -, -, hfr⟩ := raiseInterrupt_frame_all S fuel x σ
  have hentry := raise_wake_lookup S fuel x σ (raiseInterrupt S fuel x σ).2 stamp
  generalize raiseInterrupt S fuel x σ = r at *
  obtain ⟨r1, top⟩ := r
  simp only [] at htp hto hin hfr hentry ⊢ -- reduces the projections `(r1, top).1`, `(r1, top).2`
  have hnest : ∀ s, s ≠ "" → (r1.addMasterWake top stamp).sched s = r1.sched s :=
    fun s hs => SimSt.addMasterWake_sched_ne _ _ _ hs
  exact
    { first_done := fun s hs => by
        rw [hnest s (hS.sys_ne_master hs), (hfr s).2]; exact h.first_done s hs
      ints := by
        intro s c hs
        have hsne := hS.sys_ne_master hs
        rw [hnest s hsne, hin s c, h.ints s c hs]
        constructor
        · rintro (⟨h1, h2⟩ | ⟨h1, _, h3⟩)
          · exact ⟨h1, Or.inr h2⟩
          · exact ⟨h1, Or.inl h3⟩
        · rintro ⟨h1, h2 | h2⟩
          · exact Or.inr ⟨h1, hsne, h2⟩
          · exact Or.inl ⟨h1, h2⟩
      wake_sys := by
        intro s P hs hP hex
        rw [hentry P s, hnest s (hS.child_ne_master hP), (hfr s).1, if_neg]
        · exact h.wake_sys s P hs hP (fun h' => hex ⟨h'.1, Or.inr h'.2⟩)
        · rintro ⟨rfl, rfl⟩; exact hex ⟨rfl, Or.inl hto⟩
      wake_top := by
        intro c hcp hon
        rw [hentry "" c]
        by_cases hct : c = top
        · simp [hct]
        · rw [if_neg (fun h' => hct h'.2)]
          rcases hon with ho | ho
          · exact absurd (Static.Own.unique hS.toWF hcp htp ho hto) hct
          · rw [h.wake_top c hcp ho, hτ c ho]
      ge := by
        intro _ _ L c w hw
        rw [hentry L c] at hw
        split at hw
        · cases hw; exact Int.le_refl _
        · exact hmin L c w hw
      wake_keys := by
        intro L c hk'
        have hl := alookup_ne_none_iff.2 hk'
        rw [hentry L c] at hl
        split at hl
        · rename_i h'; rw [h'.1, h'.2]; exact htp
        · exact h.wake_keys L c (alookup_ne_none_iff.1 hl)
      wake_unique := SimSt.addMasterWake_unique (fun L => by rw [(hfr L).1]; exact h.wake_unique L) _ _ }

theorem raiseInterrupt_flat (S : Static) (n : Nat) {f : Nat} {x : Comp} (hx : S.isDevice x)
    (st : SimSt) : raiseInterrupt (S.flatten n) f x st = (st, x) :=
  raiseInterrupt_top _ f st (S.flatten_parent_device n hx)

theorem SchedOK.addMasterWake_flat {S : Static} {n : Nat} {σ : SimSt} (h : SchedOK (S.flatten n) σ)
    {x : Comp} (hx : S.isDevice x) (w : SimTime) : SchedOK (S.flatten n) (σ.addMasterWake x w) :=
  { started := fun s hs => by rw [S.flatten_isSys] at hs; cases hs
    wake_sys := fun s P hs _ => by rw [S.flatten_isSys] at hs; cases hs
    wake_keys := by
      intro L c hk'
      by_cases hL : L = ""
      · subst hL
        have hl := alookup_ne_none_iff.2 hk'
        rw [SimSt.addMasterWake_lookup] at hl
        split at hl
        · rename_i h'
          rw [h', S.flatten_parent_device n hx]
        · exact h.wake_keys "" c (alookup_ne_none_iff.1 hl)
      · rw [SimSt.addMasterWake_sched_ne _ _ _ hL] at hk'
        exact h.wake_keys L c hk'
    wake_unique := SimSt.addMasterWake_unique h.wake_unique _ _ }

theorem CorrP.stim {S : Static} (hS : S.Valid) {orc : Oracle} {I : List Comp} {τ : SimTime}
    {st st' : SimSt} (hc : CorrP S orc I τ st st') {x : Comp} (hx : S.isDevice x) {fuel k : Nat}
    (hup : S.Up "" x k) (hk : k ≤ fuel) {stamp : SimTime} (hI : I ≠ [] → stamp = τ)
    (hmin : ∀ L c w, alookup (st.sched L).wake c = some w → stamp ≤ w) (n : Nat) :
    CorrP S orc (x :: I) stamp
      ((raiseInterrupt S fuel x st).1.addMasterWake (raiseInterrupt S fuel x st).2 stamp)
      ((raiseInterrupt (S.flatten n) 1 x st').1.addMasterWake
        (raiseInterrupt (S.flatten n) 1 x st').2 stamp) := by
  rw [raiseInterrupt_flat S n hx]
  have hτ : ∀ y ∈ I, stamp = τ := fun y hy => hI (List.ne_nil_of_mem hy)
  have hs := (hc.sched.stim hS hup hk (fun c ⟨y, hy, _⟩ => hτ y hy) hmin).congr
    (S.onPath_cons x I) (fun _ _ => rfl)
  obtain ⟨-, hto, -⟩ := raise_spec hS hup fuel st hk
  obtain ⟨hdv, hcn, hob, -⟩ := raiseInterrupt_frame_all S fuel x st
  have hentry := raise_wake_lookup S fuel x st (raiseInterrupt S fuel x st).2 stamp
  generalize raiseInterrupt S fuel x st = r at *
  obtain ⟨r1, top⟩ := r
  simp only [] at hto hdv hcn hob hentry hs ⊢ -- reduces `(r1, top).1`, `(r1, top).2`
  -- the master's entry that is written belongs to no device but `x`
  have hnt : ∀ d P, S.isDevice d → d ≠ x → ¬ (P = "" ∧ d = top) := by
    rintro d P hd hdx ⟨_, hdt⟩
    exact hdx (hS.toWF.own_of_not_sys hd.2 (hdt ▸ hto)).symm
  exact
    { dev := hc.dev.congr hdv hcn hob rfl rfl rfl
      sched := hs
      flat_sched := hc.flat_sched.addMasterWake_flat hx stamp
      int_dev := List.forall_mem_cons.2 ⟨hx, hc.int_dev⟩
      wake_dev := by
        intro d P hd hdn hP
        simp only [List.mem_cons, not_or] at hdn
        rw [SimSt.addMasterWake_lookup, if_neg hdn.1, hentry P d, if_neg (hnt d P hd hdn.1)]
        exact hc.wake_dev d P hd hdn.2 hP
      wake_int := by
        intro y hy
        rw [SimSt.addMasterWake_lookup]
        split
        · rfl
        · next hyx =>
          have h := (List.mem_cons.1 hy).resolve_left hyx
          rw [hc.wake_int y h, hτ y h]
      quiet := by
        intro d P hd hq hP hex
        by_cases hdx : d = x
        · rw [hentry P d, if_neg]
          · exact hc.quiet d P hd hq hP (fun h' => hex ⟨h'.1, List.mem_cons_of_mem _ h'.2⟩)
          · rintro ⟨hP0, _⟩; exact hex ⟨hP0, hdx ▸ List.mem_cons_self⟩
        · rw [hentry P d, if_neg (hnt d P hd hdx)]
          exact hc.quiet d P hd hq hP (fun h' => hex ⟨h'.1, List.mem_cons_of_mem _ h'.2⟩) }

end Tickit
