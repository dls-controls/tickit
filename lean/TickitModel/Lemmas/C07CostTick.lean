/-
What ONE TICK of the master level (`tickLevel S orc fuel "" t roots [] st`) does to the master's
wakeups (for C07 at run level, `Props/C07Cost.lean`): a tick of a NESTED level never touches the master's
bookkeeping `sched ""` (`tickLevel_keeps_master`), and after a tick of the master level the wakeup entry
of a top-level component `c` is what it was before, unless `c` lies in the extent of the tick
(`extent L.wiring roots`, the components `Ticker._start_tick` puts into `to_update`); and then, if `c` is
a device, it WAS UPDATED in the tick (`tickLevel_master_post`).  `S.WF` is not assumed here, so that a
system component is not the master is the hypothesis `S.isSys "" = false`, and not taken from the roots
of its inner tick as in `Static.WF.sys_ne_master_of_roots`.

The code (`schedulers/base.py`):

    async def handle_message(self, message):
        if isinstance(message, Output):
            await self.ticker.propagate(message)
            if message.call_at is not None:
                self.add_wakeup(message.source, message.call_at)     # only for the answering component
-/
import TickitModel.Lemmas.TimeMonoLemmas

namespace Tickit
namespace C07Cost

theorem _root_.Tickit.AnsP.keeps_master {S : Static} (hroot : S.isSys "" = false) {orc : Oracle}
    {inner : LevelRel}
    (hin : ∀ c t ro i s r, inner c t ro i s r → c ≠ "" → r.1.sched "" = s.sched "")
    {L : Level} {inCh : List (Port × V)} {st : SimSt} {d : Dispatch V}
    {res : SimSt × List (Port × V) × Option SimTime} (a : AnsP S orc inner L inCh st d res) :
    res.1.sched "" = st.sched "" := by
  cases a with
  | skip => rfl
  | external _ => rfl
  | expose _ _ => rfl
  | @sys c t ins st2 outCh _ _ hsys h4 =>
    have hc : c ≠ "" := fun hc => by rw [hc, hroot] at hsys; cases hsys
    exact (hin _ _ _ _ _ _ h4 hc).trans (sysPre_sched_ne _ _ hc)
  | dev _ _ _ _ _ => rfl

theorem keepsMaster_hereditary (S : Static) (hroot : S.isSys "" = false) (orc : Oracle) :
    Hereditary S orc fun lvl _ _ _ st r => lvl ≠ "" → r.1.sched "" = st.sched "" := by
  rintro inner hin lvl t roots inCh st r ⟨L, tk, ds, hLv, _, hl⟩ hl'
  have hname : L.name ≠ "" := by rw [(Static.level_some hLv).2]; exact hl'
  obtain ⟨ls', hkeep, _, _, rfl⟩ := hl.invariant (I := fun ls => ls.st.sched "" = st.sched "")
    (fun {_ _ d st1 _ ca _ _} hkeep _ ha _ => by
      show (anyWake st1 L.name d.comp ca).sched "" = _
      rw [anyWake_sched_ne _ _ _ hname, ha.keeps_master hroot hin, hkeep]) rfl
  exact hkeep

theorem tickLevel_keeps_master (S : Static) (hroot : S.isSys "" = false) (orc : Oracle)
    (fuel : Nat) (lvl : Comp) (t : SimTime) (roots : List Comp) (inCh : List (Port × V))
    (st st' : SimSt) (out : List (Port × V)) (hl : lvl ≠ "")
    (h : tickLevel S orc fuel lvl t roots inCh st = .ok (st', out)) : st'.sched "" = st.sched "" :=
  (keepsMaster_hereditary S hroot orc).tickLevel _ _ _ _ _ _ _ h hl

def InnerOK (inner : LevelRel) : Prop :=
  ∀ c t ro i s r, inner c t ro i s r → (c ≠ "" → r.1.sched "" = s.sched "") ∧ s.Ext r.1

theorem _root_.Tickit.AnsP.master_spec {S : Static} (hroot : S.isSys "" = false) {orc : Oracle}
    {inner : LevelRel} (hin : InnerOK inner) {L : Level} (hL : L.name = "") {inCh : List (Port × V)}
    {st : SimSt} {d : Dispatch V} {res : SimSt × List (Port × V) × Option SimTime}
    (a : AnsP S orc inner L inCh st d res) :
    res.1.sched "" = st.sched "" ∧ ∃ new, res.1.obs = st.obs ++ new ∧
      ((∃ ins, d = .input d.comp d.time ins) → S.isSys d.comp = false →
        ∃ o ∈ new, o.comp = d.comp ∧ o.time = d.time) ∧
      (res.2.2 ≠ none → ∃ ins, d = .input d.comp d.time ins) := by
  refine ⟨a.keeps_master hroot (fun _ _ _ _ _ _ h => (hin _ _ _ _ _ _ h).1), ?_⟩
  have hmaster : ∀ c, (L.name != "" && c == pseudoExternal) = false ∧
      (L.name != "" && c == pseudoExpose) = false := by simp [hL]
  cases a with
  | skip => exact ⟨[], (List.append_nil _).symm, fun ⟨ins, hins⟩ => (by cases hins),
      fun hc => absurd rfl hc⟩
  | @external c _ _ hx => exact absurd ((hmaster c).1.symm.trans hx) Bool.false_ne_true
  | @expose c _ _ _ hy => exact absurd ((hmaster c).2.symm.trans hy) Bool.false_ne_true
  | @sys c t ins st2 outCh _ _ hsys h4 =>
    obtain ⟨new, hnew⟩ := (hin _ _ _ _ _ _ h4).2
    exact ⟨new, hnew, fun _ hdev => absurd (hdev.symm.trans hsys) Bool.false_ne_true,
      fun _ => ⟨ins, rfl⟩⟩
  | @dev c t ins _ _ _ _ _ _ =>
    exact ⟨[⟨c, t, _⟩], rfl, fun _ _ => ⟨_, List.mem_singleton.2 rfl, rfl, rfl⟩, fun _ => ⟨ins, rfl⟩⟩

def MasterTickPost (S : Static) (w : Wiring) (t : SimTime) (roots : List Comp) (st st' : SimSt) :
    Prop :=
  ∃ new : List Obs, st'.obs = st.obs ++ new ∧
    (∀ r ∈ roots, S.isSys r = false → ∃ o ∈ new, o.comp = r ∧ o.time = t) ∧
    ∀ c, alookup (st'.sched "").wake c = alookup (st.sched "").wake c ∨
      (c ∈ extent w roots ∧ (S.isSys c = false → ∃ o ∈ new, o.comp = c ∧ o.time = t))

structure MasterLoopInv (S : Static) (L : Level) (t : SimTime) (roots : List Comp) (st0 : SimSt)
    (ls : LoopSt) (new : List Obs) : Prop where
  time : ls.tk.time = t
  troots : ls.tk.roots = roots
  keys : ∀ c, alookup ls.tk.toUpdate c ≠ none → c ∈ extent L.wiring roots
  pend_input : ∀ d ∈ ls.pending, d.comp ∈ roots → ∃ ins, d = .input d.comp t ins
  obs_eq : ls.st.obs = st0.obs ++ new
  root_done : ∀ r ∈ roots, alookup ls.tk.toUpdate r ≠ none ∨
    (S.isSys r = false → ∃ o ∈ new, o.comp = r ∧ o.time = t)
  wake : ∀ c, alookup (ls.st.sched "").wake c = alookup (st0.sched "").wake c ∨
    (c ∈ extent L.wiring roots ∧ (S.isSys c = false → ∃ o ∈ new, o.comp = c ∧ o.time = t))

theorem MasterLoopInv.step {S : Static} (hroot : S.isSys "" = false) {orc : Oracle}
    {inner : LevelRel} (hin : InnerOK inner)
    {L : Level} (hL : L.name = "") {t : SimTime} {roots : List Comp} {st0 : SimSt}
    {inCh : List (Port × V)} {ls : LoopSt} {new : List Obs}
    (inv : MasterLoopInv S L t roots st0 ls new)
    {i : Nat} {d : Dispatch V} (hd : ls.pending[i]? = some d)
    {st1 : SimSt} {changes : List (Port × V)} {callAt : Option SimTime}
    (ha : AnsP S orc inner L inCh ls.st d (st1, changes, callAt))
    {tk' : Ticker V} {ds : List (Dispatch V)}
    (hprop : ls.tk.propagate L.wiring d.comp d.time changes = .ok (tk', ds)) :
    ∃ new', MasterLoopInv S L t roots st0
      ⟨tk', ls.pending.eraseIdx i ++ ds, (exposeIns L d).getD ls.outCh,
        anyWake st1 L.name d.comp callAt⟩ new' := by
  obtain ⟨hsrc, htime, _, _, _, htk, hroots'⟩ := Ticker.propagate_eq_ok hprop
  obtain ⟨hsched, new1, hnew1, hdev, hcall⟩ := ha.master_spec hroot hin hL
  have hdm : d ∈ ls.pending := List.mem_of_getElem? hd
  have hdext : d.comp ∈ extent L.wiring roots := inv.keys _ hsrc
  have hdt : d.time = t := htime.trans inv.time
  have hkeep : ∀ c, alookup tk'.toUpdate c ≠ none → alookup ls.tk.toUpdate c ≠ none :=
    fun c hc => if h : c = d.comp then h ▸ hsrc else mt (Ticker.propagate_resolved_ne hprop h).2 hc
  have hgone : ∀ c, c ≠ d.comp → alookup ls.tk.toUpdate c ≠ none →
      alookup tk'.toUpdate c ≠ none :=
    fun c hcd hc => mt (Ticker.propagate_resolved_ne hprop hcd).1 hc
  have hup : ∀ c, (S.isSys c = false → ∃ o ∈ new, o.comp = c ∧ o.time = t) →
      (S.isSys c = false → ∃ o ∈ new ++ new1, o.comp = c ∧ o.time = t) := by
    intro c h2 hs
    obtain ⟨o, ho, hoc⟩ := h2 hs
    exact ⟨o, List.mem_append_left _ ho, hoc⟩
  have hdone : (∃ ins, d = .input d.comp d.time ins) → ∀ c, d.comp = c →
      (S.isSys c = false → ∃ o ∈ new ++ new1, o.comp = c ∧ o.time = t) := by
    intro hinp c hdc hs
    obtain ⟨o, ho, hoc, hot⟩ := hdev hinp (by rw [hdc]; exact hs)
    exact ⟨o, List.mem_append_right _ ho, hoc.trans hdc, hot.trans hdt⟩
  refine ⟨new ++ new1,
    { time := htk.trans inv.time
      troots := hroots'.trans inv.troots
      keys := fun c hc => inv.keys c (hkeep c hc)
      pend_input := ?_
      obs_eq := by
        show st1.obs = _
        rw [hnew1, inv.obs_eq, List.append_assoc]
      root_done := ?_
      wake := ?_ }⟩
  · intro d' hd' hr
    rcases List.mem_append.1 hd' with hd' | hd'
    · exact inv.pend_input d' (List.mem_of_mem_eraseIdx hd') hr
    · exact inv.time ▸ (Ticker.propagate_mem hprop hd').2 (inv.troots ▸ hr)
  · intro r hr
    rcases inv.root_done r hr with h1 | h1
    · by_cases hrd' : r = d.comp
      · right
        obtain ⟨ins, hins⟩ := inv.pend_input d hdm (hrd' ▸ hr)
        exact hdone ⟨ins, by rw [hdt]; exact hins⟩ r hrd'.symm
      · exact Or.inl (hgone r hrd' h1)
    · exact Or.inr (hup r h1)
  · intro c
    show alookup ((anyWake st1 L.name d.comp callAt).sched "").wake c = _ ∨ _
    rw [hL, anyWake_sched_own, hsched, wakeUpd_lookup]
    have hold : alookup (ls.st.sched "").wake c = alookup (st0.sched "").wake c ∨
        (c ∈ extent L.wiring roots ∧
          (S.isSys c = false → ∃ o ∈ new ++ new1, o.comp = c ∧ o.time = t)) :=
      (inv.wake c).imp id (fun ⟨h1, h2⟩ => ⟨h1, hup c h2⟩)
    by_cases hdc : c = d.comp
    · rw [if_pos hdc]
      cases hca : callAt with
      | none => exact hold
      | some w => exact Or.inr ⟨hdc ▸ hdext, hdone (hcall (by rw [hca]; simp)) c hdc.symm⟩
    · rw [if_neg hdc]
      exact hold

theorem LevelP.master_post {S : Static} (hroot : S.isSys "" = false) {orc : Oracle}
    {inner : LevelRel} (hin : InnerOK inner) {t : SimTime} {roots : List Comp}
    {inCh : List (Port × V)} {st : SimSt} {r : SimSt × List (Port × V)}
    (h : LevelP S orc inner "" t roots inCh st r) :
    ∃ L, S.level "" = some L ∧ MasterTickPost S L.wiring t roots st r.1 := by
  obtain ⟨L, tk, ds, hLv, hcall, hl⟩ := h
  refine ⟨L, hLv, ?_⟩
  obtain ⟨_, _, htime, hrt, _⟩ := PreInv.call hcall
  have hkey : ∀ c, c ∈ extent L.wiring roots ↔ alookup tk.toUpdate c ≠ none :=
    fun c => by rw [Ne, Ticker.call_resolved hcall c, Classical.not_not]
  obtain ⟨ls', ⟨new, inv⟩, _, hempty, hr⟩ := hl.invariant
    (I := fun ls => ∃ new, MasterLoopInv S L t roots st ls new)
    (fun ⟨_, inv⟩ hd ha hprop => inv.step hroot hin (Static.level_some hLv).2 hd ha hprop)
    ⟨[],
      { time := htime
        troots := hrt
        keys := fun c hc => (hkey c).2 hc
        pend_input := fun d hd => (Ticker.call_mem hcall hd).2
        obs_eq := by simp
        root_done := fun r hr => Or.inl ((hkey r).1 (mem_extent_of_mem_roots hr))
        wake := fun c => Or.inl rfl }⟩
  cases hr
  refine ⟨new, inv.obs_eq, fun r hr => (inv.root_done r hr).resolve_left ?_, inv.wake⟩
  rw [hempty]
  exact fun h1 => h1 rfl

theorem tickLevel_master_post (S : Static) (hroot : S.isSys "" = false) (orc : Oracle)
    (fuel : Nat) (t : SimTime) (roots : List Comp) (inCh : List (Port × V))
    (st st' : SimSt) (out : List (Port × V))
    (h : tickLevel S orc fuel "" t roots inCh st = .ok (st', out)) :
    ∃ L, S.level "" = some L ∧ MasterTickPost S L.wiring t roots st st' := by
  obtain ⟨fuel', _, hl⟩ := tickLevel_levelP h
  exact LevelP.master_post hroot (fun c t ro i s r h =>
    ⟨fun hc => tickLevel_keeps_master S hroot orc fuel' c t ro i s r.1 r.2 hc h,
      (TimeMono.tickLevel_ok S orc fuel' c t ro i s r.1 r.2 h).1⟩) hl

end C07Cost
end Tickit
