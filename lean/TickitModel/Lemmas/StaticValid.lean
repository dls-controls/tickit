/-
`Static.Valid`: the structural well-formedness every theorem about a nested configuration assumes, and
what follows from it about the levels, the wires of a level (`RouterOK`, acyclicity as a rank) and the
nesting tree (`Static.Below`, `Static.Own` of `Lemmas/SimLemmas.lean`).  No tick is run, nothing is resolved.

`S.Feeds x y`: at the scheduler level where the paths from the root to `x` and to `y` separate, the
component `x` belongs to is wired — directly or through other components of that level
(`Wiring.Path`) — into the component `y` belongs to.  In a valid configuration that level is unique
(`sep_level_unique`) and `Feeds` is a strict partial order.  That updates happen in this order is
`tickInter_ordered` of `Lemmas/InterOrder.lean`; that every wire of the flattened wiring is a `Feeds`
pair, `Lemmas/FlattenFlat.lean`.
-/
import TickitModel.Lemmas.ListLemmas
import TickitModel.Lemmas.SimLemmas
import TickitModel.Lemmas.RouterOK

namespace Tickit

/-- well-formedness needed for transparency, beyond `Static.WF` -/
structure Static.Valid (S : Static) : Prop extends Static.WF S where
  level_names : (S.levels.map (·.name)).Nodup
  wiring_wf : ∀ L ∈ S.levels, L.wiring.WF ∧ L.wiring.OneSource
  acyclic : ∀ L ∈ S.levels, L.wiring.Acyclic
  parent_unique : (akeys S.parent).Nodup
  pseudo_dir : ∀ L ∈ S.levels, ∀ a p b q, L.wiring.Conn a p b q → b ≠ pseudoExternal ∧ a ≠ pseudoExpose
  /-- the master scheduler (level name `""`) is not itself a component -/
  master_fresh : alookup S.parent "" = none

theorem Static.Valid.level_of_mem {S : Static} (hS : S.Valid) {L : Level} (hL : L ∈ S.levels) :
    S.level L.name = some L := by
  have key : ∀ ls : List Level, (ls.map (·.name)).Nodup → L ∈ ls →
      ls.find? (·.name == L.name) = some L := by
    intro ls
    induction ls with
    | nil => intro _ h; simp at h
    | cons L' ls ih =>
      intro hn hL
      simp only [List.map_cons, List.nodup_cons] at hn
      rcases List.mem_cons.1 hL with rfl | hL
      · simp
      · have hne : L'.name ≠ L.name := fun h => hn.1 (h ▸ List.mem_map.2 ⟨L, hL, rfl⟩)
        rw [List.find?_cons]
        have : (L'.name == L.name) = false := by simpa using hne
        rw [this]
        exact ih hn.2 hL
  exact key S.levels hS.level_names hL

theorem Static.Valid.level_inj {S : Static} (hS : S.Valid) {L L' : Level} (hL : L ∈ S.levels) (hL' : L' ∈ S.levels)
    (h : L.name = L'.name) : L = L' :=
  Option.some.inj ((hS.level_of_mem hL).symm.trans (h ▸ hS.level_of_mem hL'))

theorem Static.Valid.routerOK {S : Static} (hS : S.Valid) {L : Level} (hL : L ∈ S.levels) :
    RouterOK L.wiring :=
  routerOK_of_wf _ (hS.wiring_wf L hL).1 (hS.wiring_wf L hL).2

theorem Static.Valid.edge_rank {S : Static} (hS : S.Valid) {L : Level} (hL : L ∈ S.levels) :
    ∃ rank : Comp → Nat, ∀ a b, L.wiring.Edge a b → rank a < rank b := by
  obtain ⟨rank, hr⟩ := hS.acyclic L hL
  refine ⟨rank, ?_⟩
  rintro a b ⟨p, q, hc⟩
  have hb := (Wiring.conn_mem_components (hS.wiring_wf L hL).1 hc).2
  obtain ⟨us, hus⟩ := Option.isSome_iff_exists.1 (hS.ups_defined L hL b hb)
  exact hr b us a hus (((hS.routerOK hL).ups_edge b us hus a).2 ⟨p, q, hc⟩)

theorem Static.Valid.conn_source {S : Static} (hS : S.Valid) {L : Level} (hL : L ∈ S.levels) {a : Comp}
    {p : Port} {b : Comp} {q : Port} (hc : L.wiring.Conn a p b q) :
    a = pseudoExternal ∨ alookup S.parent a = some L.name := by
  rcases hS.members L hL a (Wiring.conn_mem_components (hS.wiring_wf L hL).1 hc).1 with hp | ⟨_, hp | hp⟩
  · exact Or.inr hp
  · exact Or.inl hp
  · exact absurd hp (hS.pseudo_dir L hL _ _ _ _ hc).2

theorem Static.WF.sys_member {S : Static} (hS : S.WF) {L : Level} (hL : L ∈ S.levels) {a : Comp}
    (ha : a ∈ L.wiring.components) (hsys : S.isSys a = true) : alookup S.parent a = some L.name := by
  rcases hS.members L hL a ha with h | ⟨_, h | h⟩
  · exact h
  · rw [h, hS.pseudo_fresh.2.2.1] at hsys; cases hsys
  · rw [h, hS.pseudo_fresh.2.2.2] at hsys; cases hsys

theorem Static.WF.child_ne_external {S : Static} (hS : S.WF) {c P : Comp}
    (h : alookup S.parent c = some P) : c ≠ pseudoExternal :=
  fun he => nomatch (he ▸ hS.pseudo_fresh.1).symm.trans h

theorem Static.WF.mock_nested {S : Static} (hS : S.WF) {L : Level} (hL : L ∈ S.levels) {c : Comp}
    (hc : c ∈ L.wiring.components) (hp : alookup S.parent c = none) : L.name ≠ "" :=
  (hS.members L hL c hc).elim (fun h => nomatch hp.symm.trans h) (·.1)

theorem Static.Valid.child_ne_master {S : Static} (hS : S.Valid) {x s : Comp}
    (h : alookup S.parent x = some s) : x ≠ "" := by
  intro hx
  rw [hx, hS.master_fresh] at h
  cases h

theorem Static.Valid.below_ne_master {S : Static} (hS : S.Valid) {a b : Comp} (h : S.Below a b) : b ≠ "" := by
  cases h with
  | direct h => exact hS.child_ne_master h
  | step h _ _ => exact hS.child_ne_master h

theorem Static.Valid.below_of_parent {S : Static} (hS : S.Valid) {c lvl a : Comp}
    (hpos : lvl = c ∨ S.Below c lvl) (ha : alookup S.parent a = some lvl) : S.Below c a := by
  rcases hpos with rfl | hb
  · exact .direct ha
  · exact .step ha (hS.below_ne_master hb) hb

theorem Static.Valid.sys_ne_master {S : Static} (hS : S.Valid) {s : Comp} (hs : S.isSys s = true) :
    s ≠ "" :=
  have ⟨_, hP⟩ := Option.isSome_iff_exists.1 (hS.sys_parent s hs)
  hS.child_ne_master hP

theorem Static.Valid.own_not_parent {S : Static} (hS : S.Valid) {c P : Comp}
    (hc : alookup S.parent c = some P) : ¬ S.Own c P := by
  obtain ⟨depth, hdepth⟩ := hS.nesting
  have hcne : c ≠ "" := hS.child_ne_master hc
  intro ho
  by_cases hP : P = ""
  · rcases ho with h | ⟨_, h⟩
    · exact hcne (h ▸ hP)
    · exact hS.below_ne_master h hP
  · have h1 := hdepth c P hc hP
    rcases ho with h | ⟨_, h⟩
    · rw [h] at h1; exact Nat.lt_irrefl _ h1
    · have h2 := h.depth_lt hdepth hcne
      omega

/-- `Own.of_parent` with its side condition `P ≠ ""` derived -/
theorem Static.Own.child {S : Static} (hS : S.Valid) {c P y : Comp} (h : S.Own c P) (hc : c ≠ "")
    (hy : alookup S.parent y = some P) : S.Own c y :=
  h.of_parent (h.elim (fun e => e ▸ hc) fun hb => hS.below_ne_master hb.2) hy

theorem Static.Own.of_below_level {S : Static} (hS : S.Valid) {L L' c y z : Comp} (hc : alookup S.parent c = some L)
    (hcy : S.Own c y) (h : S.Below L L') (hy : S.Below L' y) (hz : S.Below L' z) : S.Own c z := by
  obtain ⟨c', hc', hown⟩ := h.top
  have hne := hS.child_ne_master hc'
  have hL'ne := hS.below_ne_master h
  rw [Static.Own.unique hS.toWF hc hc' hcy (hown.trans_below hne hy hL'ne)]
  exact hown.trans_below hne hz hL'ne

theorem Static.Valid.own_disjoint {S : Static} (hS : S.Valid) {L : Level} (hL : L ∈ S.levels)
    {c dc x : Comp} (hc : alookup S.parent c = some L.name) (hdc : dc ∈ L.wiring.components)
    (hne : c ≠ dc) (ho : S.Own c x) : ¬ S.Own dc x := by
  intro ho'
  rcases hS.members L hL dc hdc with hp | ⟨_, hp⟩
  · exact hne (Static.Own.unique hS.toWF hc hp ho ho')
  · have hnp : alookup S.parent dc = none := by
      rcases hp with rfl | rfl
      · exact hS.pseudo_fresh.1
      · exact hS.pseudo_fresh.2.1
    have hns : S.isSys dc = false := by
      rcases hp with rfl | rfl
      · exact hS.pseudo_fresh.2.2.1
      · exact hS.pseudo_fresh.2.2.2
    have hx := hS.toWF.own_of_not_sys hns ho'
    subst hx
    rcases ho with h | ⟨_, hb⟩
    · rw [h, hc] at hnp; cases hnp
    · cases hb with
      | direct h' => rw [hnp] at h'; cases h'
      | step h' _ _ => rw [hnp] at h'; cases h'

inductive Wiring.Path (w : Wiring) : Comp → Comp → Prop
  | single {a b : Comp} : w.Edge a b → Wiring.Path w a b
  | cons {a b c : Comp} : w.Edge a b → Wiring.Path w b c → Wiring.Path w a c

def Static.Feeds (S : Static) (x y : Comp) : Prop :=
  ∃ L ∈ S.levels, ∃ c1 c2, alookup S.parent c1 = some L.name ∧ alookup S.parent c2 = some L.name ∧
    L.wiring.Path c1 c2 ∧ S.Own c1 x ∧ S.Own c2 y

section Feeds

variable {S : Static}

theorem Wiring.Path.rank_lt {w : Wiring} {rank : Comp → Nat}
    (hr : ∀ a b, w.Edge a b → rank a < rank b) {a b : Comp} (h : w.Path a b) : rank a < rank b := by
  induction h with
  | single e => exact hr _ _ e
  | cons e _ ih => exact Nat.lt_trans (hr _ _ e) ih

theorem Static.Valid.path_ne (hS : S.Valid) {L : Level} (hL : L ∈ S.levels) {a b : Comp}
    (h : L.wiring.Path a b) : a ≠ b := by
  obtain ⟨rank, hr⟩ := hS.edge_rank hL
  intro he
  have := h.rank_lt hr
  rw [he] at this
  exact Nat.lt_irrefl _ this

theorem Wiring.Path.trans {w : Wiring} {a b c : Comp} (h : w.Path a b) (h' : w.Path b c) : w.Path a c := by
  induction h with
  | single e => exact .cons e h'
  | cons e _ ih => exact .cons e (ih h')

theorem Wiring.Path.snoc {w : Wiring} {a b c : Comp} (h : w.Path a b) (e : w.Edge b c) : w.Path a c :=
  h.trans (.single e)

theorem sep_level_unique (hS : S.Valid) {L L' : Level} (hL : L ∈ S.levels) (hL' : L' ∈ S.levels)
    {ci cj c1 c2 x y : Comp}
    (hi : alookup S.parent ci = some L.name) (hj : alookup S.parent cj = some L.name)
    (h1 : alookup S.parent c1 = some L'.name) (h2 : alookup S.parent c2 = some L'.name)
    (oi : S.Own ci x) (oj : S.Own cj y) (o1 : S.Own c1 x) (o2 : S.Own c2 y)
    (hne : ci ≠ cj) (hne' : c1 ≠ c2) : L = L' ∧ ci = c1 ∧ cj = c2 := by
  have hwf := hS.toWF
  -- a level below the other lies inside ONE child of it, which then holds both `x` and `y`
  rcases (oi.below hi).total (o1.below h1) with h | h | h
  · cases hS.level_inj hL hL' h
    exact ⟨rfl, Static.Own.unique hwf hi h1 oi o1, Static.Own.unique hwf hj h2 oj o2⟩
  · exact absurd (Static.Own.unique hwf hi hj (oi.of_below_level hS hi h (o1.below h1) (o2.below h2)) oj) hne
  · exact absurd (Static.Own.unique hwf h1 h2 (o1.of_below_level hS h1 h (oi.below hi) (oj.below hj)) o2) hne'

theorem Static.Valid.feeds_irrefl (hS : S.Valid) {x : Comp} : ¬ S.Feeds x x := by
  rintro ⟨L, hL, c1, c2, h1, h2, hp, o1, o2⟩
  exact hS.path_ne hL hp (Static.Own.unique hS.toWF h1 h2 o1 o2)

theorem Static.Valid.feeds_trans (hS : S.Valid) {x y z : Comp} (h1 : S.Feeds x y) (h2 : S.Feeds y z) :
    S.Feeds x z := by
  obtain ⟨L, hL, c1, c2, hc1, hc2, hp, o1, o2⟩ := h1
  obtain ⟨L', hL', d1, d2, hd1, hd2, hp', o1', o2'⟩ := h2
  -- both levels lie above `y`: they coincide, or one lies inside a child of the other
  rcases (o2.below hc2).total (o1'.below hd1) with h | h | h
  · cases hS.level_inj hL hL' h
    cases Static.Own.unique hS.toWF hc2 hd1 o2 o1'
    exact ⟨L, hL, c1, d2, hc1, hd2, hp.trans hp', o1, o2'⟩
  · exact ⟨L, hL, c1, c2, hc1, hc2, hp, o1,
      o2.of_below_level hS hc2 h (o1'.below hd1) (o2'.below hd2)⟩
  · exact ⟨L', hL', d1, d2, hd1, hd2, hp',
      o1'.of_below_level hS hd1 h (o2.below hc2) (o1.below hc1), o2'⟩

end Feeds

/-! For the worked examples: `Static.TreeChecked` and `Static.WiringsChecked` together are `Static.Valid` with
every quantifier bounded by a list of the configuration and the existential witnesses given, so
evaluation decides them. -/

def Static.TreeChecked (S : Static) (depth : Comp → Nat) : Prop :=
  (∀ e ∈ S.parent, ∃ L ∈ S.level e.2, e.1 ∈ L.wiring.components ∧ (e.2 = "" ∨ S.isSys e.2 = true)) ∧
  (∀ L ∈ S.levels, ∀ c ∈ L.wiring.components,
    alookup S.parent c = some L.name ∨ (L.name ≠ "" ∧ (c = pseudoExternal ∨ c = pseudoExpose))) ∧
  (∀ c ∈ S.systems, (S.level c).isSome ∧ (alookup S.parent c).isSome) ∧
  (alookup S.parent pseudoExternal = none ∧ alookup S.parent pseudoExpose = none ∧
    S.isSys pseudoExternal = false ∧ S.isSys pseudoExpose = false) ∧
  (∀ e ∈ S.parent, e.2 = "" ∨ depth e.2 < depth e.1) ∧
  (S.levels.map (·.name)).Nodup ∧ (akeys S.parent).Nodup ∧ alookup S.parent "" = none

def Static.WiringsChecked (S : Static) (invs : List InvWiring) (rank : Comp → Nat) : Prop :=
  ∀ L ∈ S.levels,
    (∀ c ∈ L.wiring.components, (L.wiring.ups c).isSome) ∧
    (∃ iw ∈ invs, (akeys iw).Nodup ∧ (∀ e ∈ iw, (akeys e.2).Nodup) ∧
      decide (L.wiring = Wiring.fromInverse iw) = true) ∧
    (∀ e ∈ L.wiring.inverseTree, ∀ u ∈ e.2, rank u < rank e.1) ∧
    ∀ e ∈ L.wiring, ∀ pe ∈ e.2, ∀ bq ∈ pe.2, bq.1 ≠ pseudoExternal ∧ e.1 ≠ pseudoExpose

instance (S : Static) (depth : Comp → Nat) : Decidable (S.TreeChecked depth) := by
  unfold Static.TreeChecked
  infer_instance

instance (S : Static) (invs : List InvWiring) (rank : Comp → Nat) :
    Decidable (S.WiringsChecked invs rank) := by
  unfold Static.WiringsChecked
  infer_instance

theorem Static.valid_of_checked {S : Static} {depth rank : Comp → Nat} {invs : List InvWiring}
    (ht : S.TreeChecked depth) (hw : S.WiringsChecked invs rank) : S.Valid := by
  obtain ⟨h1, h2, h3, h4, h5, h6, h7, h8⟩ := ht
  have hsys : ∀ c, S.isSys c = true → c ∈ S.systems := fun c hc => by simpa [Static.isSys] using hc
  exact
    { parent_level := fun c p hp => by
        obtain ⟨L, hL, hm⟩ := h1 (c, p) (mem_of_alookup_eq_some hp)
        exact ⟨L, hL, hm⟩
      members := h2
      sys_level := fun c hc => by
        obtain ⟨L, hL⟩ := Option.isSome_iff_exists.1 (h3 c (hsys c hc)).1
        exact ⟨L, hL, (Static.level_some hL).2⟩
      pseudo_fresh := h4
      sys_parent := fun c hc => (h3 c (hsys c hc)).2
      nesting := ⟨depth, fun c p hp hne => (h5 (c, p) (mem_of_alookup_eq_some hp)).resolve_left hne⟩
      ups_defined := fun L hL => (hw L hL).1
      level_names := h6
      wiring_wf := fun L hL => by
        obtain ⟨iw, _, k1, k2, e⟩ := (hw L hL).2.1
        rw [of_decide_eq_true e]
        exact ⟨Wiring.wf_fromInverse' iw, Wiring.oneSource_fromInverse iw ⟨k1, k2⟩⟩
      acyclic := fun L hL =>
        ⟨rank, fun c us u hus hu => (hw L hL).2.2.1 (c, us) (mem_of_alookup_eq_some hus) u hu⟩
      parent_unique := h7
      pseudo_dir := fun L hL a p b q ⟨ports, ins, k1, k2, k3⟩ =>
        (hw L hL).2.2.2 (a, ports) (mem_of_alookup_eq_some k1) (p, ins) (mem_of_alookup_eq_some k2)
          (b, q) k3
      master_fresh := h8 }

end Tickit
