/-
ZeroMQ push stream with cancellation (`Core/ZmqCancel.lean`).  The effect of `cancel k` on the
shared state and the enabled actions of the system as relations (`ZCancelCase`, `ZCActCase`; as
`ZStepCase` is to `Zmq.stepSender`).  The invariant `CInv`: control (lock, socket, counters,
cancelled tasks) and, as its field `acc`, the accounting `ZAcc` of the underlying stream, which the
order theorems read; it holds along every history (`run`) and every strict execution (`exec`).
What never changes again (`ZmqC.run_mono`): the socket once stored, the number of factory calls
once the socket exists, the set of cancelled tasks, the record and the writes of a cancelled task.
Erasure: without `cancel` actions the system with cancellation IS the system of `Core/Zmq.lean`
(same enabledness, same successor states).
The invariant `ZInv` of the base stream is proved HERE, not in `Lemmas/ZmqLemmas.lean`: a history
of the base stream is a history with cancellation in which nobody is cancelled, and there `CInv`
says what `ZInv` says (`CInv.toZInv`, `ZInv.run_init`).
-/
import TickitModel.Core.ZmqCancel
import TickitModel.Lemmas.ZmqLemmas
import TickitModel.Lemmas.RunOpt

namespace Tickit

/-- by the place of task `k` (record `s`); the `Bool`: whether a factory call is aborted. -/
inductive ZCancelCase (z : Zmq) (k : Nat) (s : Sender) : Zmq × Bool → Prop where
  /-- inside or before `acquire()`: the task leaves the lock queue (if it was in it) -/
  | waiting : s.pc = .wantLock →
      ZCancelCase z k s ({ z with waiters := z.waiters.filter (· != k) }, false)
  /-- inside the factory: the lock is released, no socket is stored, the call counts as aborted -/
  | holding : s.pc = .inFactory → ZCancelCase z k s ({ z with lockHeld := none }, true)
  | other : (s.pc = .idle ∨ s.pc = .ready ∨ s.pc = .draining) → ZCancelCase z k s (z, false)

theorem cancelSender_cases {z : Zmq} {k : Nat} {r : Zmq × Bool} (h : z.cancelSender k = some r) :
    ∃ s, z.senders[k]? = some s ∧ s.finished k = false ∧ ZCancelCase z k s r := by
  unfold Zmq.cancelSender at h
  split at h
  · cases h
  rename_i s hs
  split at h
  · cases h
  rename_i hf
  refine ⟨s, hs, by simpa using hf, ?_⟩
  split at h <;> cases h
  · exact .waiting ‹_›
  · exact .holding ‹_›
  · exact .other (Or.inl ‹_›)
  · exact .other (Or.inr (Or.inl ‹_›))
  · exact .other (Or.inr (Or.inr ‹_›))

theorem ZCancelCase.sound {z : Zmq} {k : Nat} {s : Sender} {r : Zmq × Bool}
    (hs : z.senders[k]? = some s) (hf : s.finished k = false) (h : ZCancelCase z k s r) :
    z.cancelSender k = some r := by
  unfold Zmq.cancelSender
  rw [hs]
  cases h with
  | waiting hpc => simp [hf, hpc]
  | holding hpc => simp [hf, hpc]
  | other hpc => rcases hpc with hpc | hpc | hpc <;> simp [hf, hpc]

def ZmqC.after (c : ZmqC) (i : Nat) (b : Zmq) : ZmqC :=
  { c with base := b, completed := c.completed + (if c.base.inFactory i then 1 else 0) }

inductive ZCActCase (c : ZmqC) : ZCAct → ZmqC → Prop where
  | step {i : Nat} {s : Sender} {b : Zmq} : i ∉ c.cancelled → c.base.senders[i]? = some s →
      ZStepCase c.base i s b → ZCActCase c (.base (.step i)) (c.after i b)
  | cancel {k : Nat} {s : Sender} {b : Zmq} {ab : Bool} : k ∉ c.cancelled → c.base.senders[k]? = some s →
      ZCancelCase c.base k s (b, ab) → ZCActCase c (.cancel k)
        { c with base := b, cancelled := k :: c.cancelled, aborted := c.aborted + (if ab then 1 else 0) }
  | enqueue (m : Nat) : ZCActCase c (.base (.enqueue m))
      { c with base := { c.base with queue := c.base.queue ++ [m], queued := c.base.queued ++ [m] } }
  | spawn (msgs : List Nat) : ZCActCase c (.base (.spawn msgs))
      { c with base := { c.base with senders := c.base.senders ++ [{ todo := msgs, orig := msgs }] } }
  | ensure : ZCActCase c (.base .ensure)
      { c with base := { c.base with senders := c.base.senders ++ [{ pc := .wantLock }] } }

theorem ZmqC.act_cases {c c' : ZmqC} {a : ZCAct} (hact : c.act a = some c') : ZCActCase c a c' := by
  cases a with
  | cancel k =>
    obtain ⟨hk, hact⟩ := Option.ite_none_left_eq_some.mp hact
    cases hcs : c.base.cancelSender k with
    | none => simp only [hcs] at hact; cases hact
    | some r =>
      simp only [hcs] at hact
      cases hact
      obtain ⟨s, hs, _, hc⟩ := cancelSender_cases hcs
      exact .cancel hk hs hc
  | base a =>
    cases a with
    | step i =>
      obtain ⟨hi, hact⟩ := Option.ite_none_left_eq_some.mp hact
      cases hb : c.base.stepSender i with
      | none => simp only [hb] at hact; cases hact
      | some b =>
        simp only [hb] at hact
        cases hact
        obtain ⟨s, hs, hc⟩ := stepSender_cases hb
        exact .step hi hs hc
    | enqueue m => cases hact; exact .enqueue m
    | spawn msgs => cases hact; exact .spawn msgs
    | ensure => cases hact; exact .ensure

def pcAt (l : List Sender) (j : Nat) : Option Pc := (l[j]?).map (·.pc)

abbrev Zmq.pcOf (z : Zmq) (j : Nat) : Option Pc := pcAt z.senders j

theorem pcAt_of_get {l : List Sender} {j : Nat} {s : Sender} (h : l[j]? = some s) :
    pcAt l j = some s.pc := by simp [pcAt, h]

theorem get_of_pcAt {l : List Sender} {j : Nat} {p : Pc} (h : pcAt l j = some p) :
    ∃ s, l[j]? = some s ∧ s.pc = p := Option.map_eq_some_iff.mp h

theorem pcAt_set {l : List Sender} {i : Nat} {s : Sender} (hs : l[i]? = some s) (s' : Sender) (j : Nat) :
    pcAt (l.set i s') j = if j = i then some s'.pc else pcAt l j := by
  unfold pcAt
  rw [List.getElem?_set]
  have := lt_length_of_getElem?_eq_some hs
  by_cases hij : i = j
  · subst hij; simp [this]
  · simp [hij, Ne.symm hij]

structure CInv (c : ZmqC) : Prop where
  /-- started = completed + aborted + (one in flight iff the lock is held) -/
  calls : c.base.factoryCalls = c.completed + c.aborted + (if c.base.lockHeld.isSome then 1 else 0)
  comp : c.completed = if c.base.socket then 1 else 0
  /-- the lock is held only to make the socket: never while one exists -/
  excl : c.base.lockHeld.isSome → c.base.socket = false
  /-- a live task inside the factory holds the lock ... -/
  holder : ∀ i, pcAt c.base.senders i = some .inFactory → i ∉ c.cancelled → c.base.lockHeld = some i
  /-- ... and conversely whoever holds the lock is live and inside the factory -/
  held : ∀ h, c.base.lockHeld = some h → h ∉ c.cancelled ∧ pcAt c.base.senders h = some .inFactory
  /-- whoever queues for the lock is live and inside `acquire()` -/
  wait : ∀ w ∈ c.base.waiters, w ∉ c.cancelled ∧ pcAt c.base.senders w = some .wantLock
  nodup : c.base.waiters.Nodup
  /-- a task past `_ensure_socket` (cancelled or not) has seen the socket -/
  sock : ∀ i, (pcAt c.base.senders i = some .ready ∨ pcAt c.base.senders i = some .draining) →
    c.base.socket = true
  wsock : c.base.writes ≠ [] → c.base.socket = true
  clt : ∀ k ∈ c.cancelled, k < c.base.senders.length
  acc : ZAcc c.base

theorem CInv.init : CInv ZmqC.init := by
  have idle {i : Nat} {p : Pc} (h : pcAt Zmq.init.senders i = some p) : p = .idle := by
    obtain ⟨s, hs, rfl⟩ := get_of_pcAt h
    rw [(Zmq.init_sender hs).2]
  exact ⟨rfl, rfl, nofun, fun i h => (nomatch idle h), nofun, nofun, .nil,
    fun i h => h.elim (nomatch idle ·) (nomatch idle ·), fun h => absurd rfl h, nofun, ZAcc.init⟩

theorem Zmq.inFactory_eq {z : Zmq} {i : Nat} {s : Sender} (hs : z.senders[i]? = some s) :
    z.inFactory i = (s.pc == .inFactory) := by simp [Zmq.inFactory, hs]

theorem CInv.not_held {c : ZmqC} {i : Nat} {s : Sender} (h : CInv c) (hs : c.base.senders[i]? = some s)
    (hpc : s.pc ≠ .inFactory) : c.base.lockHeld ≠ some i :=
  fun hl => hpc (Option.some.inj ((pcAt_of_get hs).symm.trans (h.held i hl).2))

theorem CInv.not_waiting {c : ZmqC} {i : Nat} {s : Sender} (h : CInv c) (hs : c.base.senders[i]? = some s)
    (hpc : s.pc ≠ .wantLock) : i ∉ c.base.waiters :=
  fun hw => hpc (Option.some.inj ((pcAt_of_get hs).symm.trans (h.wait i hw).2))

/-- one live sender moves from record `s` to `s'`, the shared state becomes `b` and
`n` factory calls have completed.  The clauses about the other senders survive when they keep
their relation to the lock (`hlock`, `hqueue`) and the socket stays; the counters and the
clauses about `i` are asked for. -/
theorem CInv.set {c : ZmqC} {b : Zmq} {i n : Nat} {s s' : Sender} (h : CInv c) (hi : i ∉ c.cancelled)
    (hs : c.base.senders[i]? = some s) (hsend : b.senders = c.base.senders.set i s')
    (hcalls : b.factoryCalls = n + c.aborted + (if b.lockHeld.isSome then 1 else 0))
    (hcomp : n = if b.socket then 1 else 0) (hexcl : b.lockHeld.isSome → b.socket = false)
    (hlock : ∀ j, j ≠ i → (b.lockHeld = some j ↔ c.base.lockHeld = some j))
    (hqueue : ∀ w ∈ b.waiters, w ≠ i → w ∈ c.base.waiters) (hnodup : b.waiters.Nodup)
    (hsock : c.base.socket = true → b.socket = true)
    (hfact : s'.pc = .inFactory ↔ b.lockHeld = some i) (hwant : i ∈ b.waiters → s'.pc = .wantLock)
    (hpast : s'.pc = .ready ∨ s'.pc = .draining → b.socket = true)
    (hwr : b.writes ≠ [] → b.socket = true) (hacc : ZAcc b) :
    CInv { c with base := b, completed := n } := by
  have hp (j : Nat) : pcAt b.senders j = if j = i then some s'.pc else pcAt c.base.senders j :=
    hsend ▸ pcAt_set hs s' j
  refine ⟨hcalls, hcomp, hexcl, fun j hj hjc => ?_, fun j hj => ?_, fun w hw => ?_, hnodup, fun j hj => ?_,
    hwr, fun k hk => ?_, hacc⟩ <;> dsimp only at *
  · rw [hp] at hj
    by_cases hji : j = i
    · rw [if_pos hji] at hj; exact hji ▸ hfact.1 (Option.some.inj hj)
    · rw [if_neg hji] at hj; exact (hlock j hji).2 (h.holder j hj hjc)
  · rw [hp]
    by_cases hji : j = i
    · rw [if_pos hji, hfact.2 (hji ▸ hj)]; exact ⟨hji ▸ hi, rfl⟩
    · rw [if_neg hji]; exact h.held j ((hlock j hji).1 hj)
  · rw [hp]
    by_cases hwi : w = i
    · rw [if_pos hwi, hwant (hwi ▸ hw)]; exact ⟨hwi ▸ hi, rfl⟩
    · rw [if_neg hwi]; exact h.wait w (hqueue w hw hwi)
  · rw [hp] at hj
    by_cases hji : j = i
    · rw [if_pos hji] at hj; exact hpast (hj.imp Option.some.inj Option.some.inj)
    · rw [if_neg hji] at hj; exact hsock (h.sock j hj)
  · rw [hsend, List.length_set]; exact h.clt k hk

/-- `set` for a move between places that are neither the lock queue nor the factory. -/
theorem CInv.set_off_lock {c : ZmqC} {b : Zmq} {i : Nat} {s s' : Sender} (h : CInv c) (hi : i ∉ c.cancelled)
    (hs : c.base.senders[i]? = some s) (hsend : b.senders = c.base.senders.set i s')
    (hsk : b.socket = c.base.socket) (hl : b.lockHeld = c.base.lockHeld) (hwt : b.waiters = c.base.waiters)
    (hfc : b.factoryCalls = c.base.factoryCalls)
    (hold : s.pc ≠ .wantLock ∧ s.pc ≠ .inFactory) (hnew : s'.pc ≠ .inFactory)
    (hnew' : (s'.pc = .ready ∨ s'.pc = .draining) → c.base.socket = true)
    (hwr : b.writes ≠ [] → c.base.socket = true) (hacc : ZAcc b) :
    CInv { c with base := b } :=
  h.set hi hs hsend
    (hcalls := by rw [hfc, hl]; exact h.calls)
    (hcomp := by rw [hsk]; exact h.comp)
    (hexcl := by rw [hsk, hl]; exact h.excl)
    (hlock := fun j _ => by rw [hl])
    (hqueue := fun w hw _ => hwt ▸ hw)
    (hnodup := hwt ▸ h.nodup)
    (hsock := by rw [hsk]; exact id)
    (hfact := ⟨fun e => absurd e hnew, fun e => absurd (hl ▸ e) (h.not_held hs hold.2)⟩)
    (hwant := fun hw => absurd (hwt ▸ hw) (h.not_waiting hs hold.1))
    (hpast := by rw [hsk]; exact hnew')
    (hwr := by rw [hsk]; exact hwr)
    (hacc := hacc)

theorem CInv.step {c : ZmqC} {b : Zmq} {i : Nat} {s : Sender} (h : CInv c) (hi : i ∉ c.cancelled)
    (hs : c.base.senders[i]? = some s) (hc : ZStepCase c.base i s b) : CInv (c.after i b) := by
  have hacc := h.acc.step hs hc
  have hfilter {w : Nat} (hw : w ∈ c.base.waiters.filter (· != i)) : w ∈ c.base.waiters ∧ w ≠ i := by
    simpa using hw
  rw [ZmqC.after, Zmq.inFactory_eq hs]
  cases hc with
  | takeQ _ _ _ hpc | takeT _ _ _ hpc | skip hpc | drained hpc =>
    -- away from the lock; the five `rfl`: senders, socket, lock, lock queue, calls are as `set_off_lock` asks
    rw [beq_false_of_ne (by simp [hpc])]
    exact h.set_off_lock hi hs rfl rfl rfl rfl rfl (by simp [hpc]) (by simp) (by simp) h.wsock hacc
  | write m hpc hcur =>
    rw [beq_false_of_ne (by simp [hpc])]
    have hsk : c.base.socket = true := h.sock i (Or.inl (by rw [pcAt_of_get hs, hpc]))
    exact h.set_off_lock hi hs rfl rfl rfl rfl rfl (by simp [hpc]) (by simp) (fun _ => hsk) (fun _ => hsk) hacc
  | wait hpc hw hor =>
    rw [beq_false_of_ne (by simp [hpc])]
    refine ⟨h.calls, h.comp, h.excl, h.holder, h.held, fun w hw' => ?_, ?_, h.sock, h.wsock, h.clt, hacc⟩
    · rcases List.mem_append.1 hw' with hw' | hw'
      · exact h.wait w hw'
      · cases List.mem_singleton.1 hw'
        exact ⟨hi, by rw [pcAt_of_get hs, hpc]⟩
    · exact List.nodup_append.2 ⟨h.nodup, by simp, fun a ha b hb e => hw (List.mem_singleton.1 hb ▸ e ▸ ha)⟩
  | pass hpc hl hm hsk =>
    -- `i` leaves the lock queue; lock, socket and counters stay
    rw [beq_false_of_ne (by simp [hpc])]
    exact h.set hi hs rfl
      (hcalls := h.calls) (hcomp := h.comp) (hexcl := h.excl)
      (hlock := fun _ _ => Iff.rfl)
      (hqueue := fun w hw _ => (hfilter hw).1)
      (hnodup := h.nodup.sublist List.filter_sublist)
      (hsock := id)
      (hfact := ⟨by simp, fun e => by rw [hl] at e; cases e⟩)
      (hwant := fun hw => absurd rfl (hfilter hw).2)
      (hpast := fun _ => hsk) (hwr := h.wsock) (hacc := hacc)
  | call hpc hl hm hsk =>
    -- `i` leaves the lock queue and takes the free lock: one more call started and in flight
    rw [beq_false_of_ne (by simp [hpc])]
    exact h.set hi hs rfl
      (hcalls := by simp [setSender, h.calls, hl]) (hcomp := h.comp) (hexcl := fun _ => hsk)
      (hlock := fun j hji =>
        ⟨fun e => absurd (Option.some.inj e).symm hji, fun e => by rw [hl] at e; cases e⟩)
      (hqueue := fun w hw _ => (hfilter hw).1)
      (hnodup := h.nodup.sublist List.filter_sublist)
      (hsock := id)
      (hfact := ⟨fun _ => rfl, fun _ => rfl⟩)
      (hwant := fun hw => absurd rfl (hfilter hw).2)
      (hpast := by simp) (hwr := h.wsock) (hacc := hacc)
  | made hpc =>
    -- the holder `i` stores the socket and releases: the call in flight becomes the completed one
    have hli : c.base.lockHeld = some i := h.holder i (by rw [pcAt_of_get hs, hpc]) hi
    have hsk : c.base.socket = false := h.excl (by simp [hli])
    exact h.set hi hs rfl
      (hcalls := by simp [setSender, h.calls, hli, hpc]; omega)
      (hcomp := by simp [setSender, h.comp, hsk, hpc])
      (hexcl := by simp [setSender])
      (hlock := fun j hji => ⟨nofun, fun e => absurd (Option.some.inj (e.symm.trans hli)) hji⟩)
      (hqueue := fun _ hw _ => hw) (hnodup := h.nodup)
      (hsock := fun _ => rfl)
      (hfact := ⟨by simp, nofun⟩)
      (hwant := fun hw => absurd hw (h.not_waiting hs (by simp [hpc])))
      (hpast := fun _ => rfl) (hwr := fun _ => rfl) (hacc := hacc)

theorem pcAt_push {l : List Sender} {t : Sender} {j : Nat} {p : Pc} :
    pcAt (l ++ [t]) j = some p ↔ pcAt l j = some p ∨ (j = l.length ∧ t.pc = p) := by
  simp only [pcAt, Option.map_eq_some_iff, getElem?_append_singleton_some]
  constructor
  · rintro ⟨s, hs | ⟨hj, rfl⟩, hp⟩
    · exact Or.inl ⟨s, hs, hp⟩
    · exact Or.inr ⟨hj, hp⟩
  · rintro (⟨s, hs, hp⟩ | ⟨hj, hp⟩)
    · exact ⟨s, Or.inl hs, hp⟩
    · exact ⟨t, Or.inr ⟨hj, rfl⟩, hp⟩

/-- a new task appears (`spawn`, `ensure`) -/
theorem CInv.push {c : ZmqC} {t : Sender} (h : CInv c) (hpc : t.pc = .idle ∨ t.pc = .wantLock)
    (ht : t.infl ++ t.todo = t.orig) :
    CInv { c with base := { c.base with senders := c.base.senders ++ [t] } } := by
  have hnew : t.pc ≠ .inFactory ∧ t.pc ≠ .ready ∧ t.pc ≠ .draining := by
    rcases hpc with e | e <;> simp [e]
  refine ⟨h.calls, h.comp, h.excl, fun j hj hjc => ?_, fun j hj => ?_, fun w hw => ?_, h.nodup,
    fun j hj => ?_, h.wsock, fun k hk => ?_, h.acc.push ht⟩
  · rcases pcAt_push.1 hj with hj | ⟨_, e⟩
    · exact h.holder j hj hjc
    · exact absurd e hnew.1
  · exact ⟨(h.held j hj).1, pcAt_push.2 (Or.inl (h.held j hj).2)⟩
  · exact ⟨(h.wait w hw).1, pcAt_push.2 (Or.inl (h.wait w hw).2)⟩
  · rcases hj with hj | hj <;> rcases pcAt_push.1 hj with hj | ⟨_, e⟩
    · exact h.sock j (Or.inl hj)
    · exact absurd e hnew.2.1
    · exact h.sock j (Or.inr hj)
    · exact absurd e hnew.2.2
  · exact Nat.lt_of_lt_of_le (h.clt k hk) (by simp)

theorem CInv.kill {c : ZmqC} {k : Nat} (h : CInv c) (hk : k < c.base.senders.length)
    (hnh : c.base.lockHeld ≠ some k) (hnw : k ∉ c.base.waiters) :
    CInv { c with cancelled := k :: c.cancelled } := by
  refine ⟨h.calls, h.comp, h.excl, fun j hj hjc => h.holder j hj (fun hm => hjc (List.mem_cons_of_mem _ hm)),
    fun j hj => ⟨fun hm => ?_, (h.held j hj).2⟩, fun w hw => ⟨fun hm => ?_, (h.wait w hw).2⟩, h.nodup,
    h.sock, h.wsock, fun j hj => ?_, h.acc⟩
  · rcases List.mem_cons.1 hm with rfl | hm
    · exact hnh hj
    · exact (h.held j hj).1 hm
  · rcases List.mem_cons.1 hm with rfl | hm
    · exact hnw hw
    · exact (h.wait w hw).1 hm
  · rcases List.mem_cons.1 hj with rfl | hj
    · exact hk
    · exact h.clt j hj

/-- `acc` is rebuilt from its fields for the new base state: `ZAcc` does not mention the lock queue -/
theorem CInv.unqueue {c : ZmqC} (p : Nat → Bool) (h : CInv c) :
    CInv { c with base := { c.base with waiters := c.base.waiters.filter p } } :=
  ⟨h.calls, h.comp, h.excl, h.holder, h.held, fun w hw => h.wait w (List.mem_filter.1 hw).1,
    h.nodup.sublist List.filter_sublist, h.sock, h.wsock, h.clt, ⟨h.acc.wlt, h.acc.q, h.acc.d⟩⟩

theorem CInv.cancel {c : ZmqC} {k : Nat} {s : Sender} {b : Zmq} {ab : Bool} (h : CInv c)
    (hk : k ∉ c.cancelled) (hs : c.base.senders[k]? = some s) (hc : ZCancelCase c.base k s (b, ab)) :
    CInv { c with base := b, cancelled := k :: c.cancelled, aborted := c.aborted + (if ab then 1 else 0) } := by
  have hlt := lt_length_of_getElem?_eq_some hs
  cases hc with
  | waiting hpc =>
    exact (h.unqueue (· != k)).kill hlt (h.not_held hs (by simp [hpc])) (by simp [List.mem_filter])
  | other hpc =>
    exact h.kill hlt (h.not_held hs (by rcases hpc with e | e | e <;> simp [e]))
      (h.not_waiting hs (by rcases hpc with e | e | e <;> simp [e]))
  | holding hpc =>
    -- the holder releases: nobody holds the lock, the call is counted as aborted (`acc`: rebuilt
    -- from its fields, `ZAcc` does not mention `lockHeld`)
    have hl : c.base.lockHeld = some k := h.holder k (by rw [pcAt_of_get hs, hpc]) hk
    refine ⟨?_, h.comp, nofun, fun j hj hjc => ?_, nofun, fun w hw => ⟨fun hm => ?_, (h.wait w hw).2⟩,
      h.nodup, h.sock, h.wsock, fun j hj => ?_, ⟨h.acc.wlt, h.acc.q, h.acc.d⟩⟩
    · simp [h.calls, hl]; omega
    · have := h.holder j hj (fun hm => hjc (List.mem_cons_of_mem _ hm))
      cases hl.symm.trans this
      exact absurd List.mem_cons_self hjc
    · rcases List.mem_cons.1 hm with rfl | hm
      · exact h.not_waiting hs (by simp [hpc]) hw
      · exact (h.wait w hw).1 hm
    · rcases List.mem_cons.1 hj with rfl | hj
      · exact hlt
      · exact h.clt j hj

theorem CInv.act {c c' : ZmqC} {a : ZCAct} (h : CInv c) (hact : c.act a = some c') : CInv c' := by
  cases ZmqC.act_cases hact with
  | step hi hs hc => exact h.step hi hs hc
  | cancel hk hs hc => exact h.cancel hk hs hc
  | enqueue m =>
    exact ⟨h.calls, h.comp, h.excl, h.holder, h.held, h.wait, h.nodup, h.sock, h.wsock, h.clt,
      h.acc.enqueue m⟩
  | spawn msgs => exact h.push (Or.inl rfl) rfl
  | ensure => exact h.push (Or.inr rfl) rfl

theorem ZmqC.run_eq_runOpt (c : ZmqC) (acts : List ZCAct) : c.run acts = runOpt ZmqC.act c acts :=
  eq_runOpt_of_rec (fun _ => rfl) (fun c a _ => by rw [ZmqC.run]; cases c.act a <;> rfl) c acts

theorem CInv.run {c : ZmqC} (h : CInv c) (acts : List ZCAct) : CInv (c.run acts) :=
  ZmqC.run_eq_runOpt .. ▸ runOpt_induction CInv.act h acts

theorem CInv.run_init (acts : List ZCAct) : CInv (ZmqC.init.run acts) := CInv.init.run acts

theorem ZmqC.run_append (c : ZmqC) (as bs : List ZCAct) : c.run (as ++ bs) = (c.run as).run bs := by
  simp only [ZmqC.run_eq_runOpt, runOpt_append]

theorem ZmqC.exec_append {c c' : ZmqC} {as : List ZCAct} (h : c.exec as = some c') (bs : List ZCAct) :
    c.exec (as ++ bs) = c'.exec bs := by
  induction as generalizing c with
  | nil => cases h; rfl
  | cons a as ih =>
    simp only [List.cons_append, ZmqC.exec] at h ⊢
    split at h
    · exact ih h
    · cases h

theorem ZmqC.run_of_exec {c c' : ZmqC} {as : List ZCAct} (h : c.exec as = some c') : c.run as = c' := by
  induction as generalizing c with
  | nil => cases h; rfl
  | cons a as ih =>
    simp only [ZmqC.exec, ZmqC.run] at h ⊢
    split at h
    · exact ih h
    · cases h

theorem CInv.exec {c c' : ZmqC} (h : CInv c) {acts : List ZCAct} (he : c.exec acts = some c') : CInv c' :=
  ZmqC.run_of_exec he ▸ h.run acts

theorem ZmqC.act_mono {c c' : ZmqC} {a : ZCAct} (hact : c.act a = some c') :
    (c.base.socket = true → c'.base.socket = true) ∧
    (c.base.socket = true → c'.base.factoryCalls = c.base.factoryCalls) ∧
    (∀ k ∈ c.cancelled, k ∈ c'.cancelled) ∧
    (∀ k ∈ c.cancelled, k < c.base.senders.length →
      c'.base.senders[k]? = c.base.senders[k]? ∧ c'.base.wr k = c.base.wr k) := by
  cases ZmqC.act_cases hact with
  | @step i _ _ hi hs hc =>
    have hne {k : Nat} (hk : k ∈ c.cancelled) : k ≠ i := fun e => hi (e ▸ hk)
    have hset (s' : Sender) {k : Nat} (hk : k ∈ c.cancelled) :
        (c.base.senders.set i s')[k]? = c.base.senders[k]? := List.getElem?_set_ne (hne hk).symm
    cases hc with
    | takeQ | takeT | pass | skip | drained =>
      exact ⟨id, fun _ => rfl, fun _ h => h, fun _ hk _ => ⟨hset _ hk, rfl⟩⟩
    | wait => exact ⟨id, fun _ => rfl, fun _ h => h, fun _ _ _ => ⟨rfl, rfl⟩⟩
    | call _ _ _ hsk =>
      exact ⟨id, fun h => (nomatch hsk.symm.trans h), fun _ h => h, fun _ hk _ => ⟨hset _ hk, rfl⟩⟩
    | made => exact ⟨fun _ => rfl, fun _ => rfl, fun _ h => h, fun _ hk _ => ⟨hset _ hk, rfl⟩⟩
    | write m =>
      exact ⟨id, fun _ => rfl, fun _ h => h, fun k hk _ => ⟨hset _ hk,
        (Zmq.wr_of_writes (i := i) (ws := [m]) rfl k).trans (by rw [if_neg (hne hk), List.append_nil])⟩⟩
  | cancel hk hs hc =>
    cases hc <;>
      exact ⟨id, fun _ => rfl, fun j hj => List.mem_cons_of_mem _ hj, fun _ _ _ => ⟨rfl, rfl⟩⟩
  | enqueue => exact ⟨id, fun _ => rfl, fun _ h => h, fun _ _ _ => ⟨rfl, rfl⟩⟩
  | spawn | ensure =>
    exact ⟨id, fun _ => rfl, fun _ h => h, fun _ _ hk => ⟨List.getElem?_append_left hk, rfl⟩⟩

theorem ZmqC.run_mono {c : ZmqC} (hinv : CInv c) (acts : List ZCAct) :
    (c.base.socket = true → (c.run acts).base.socket = true) ∧
    (c.base.socket = true → (c.run acts).base.factoryCalls = c.base.factoryCalls) ∧
    (∀ k ∈ c.cancelled, k ∈ (c.run acts).cancelled) ∧
    (∀ k ∈ c.cancelled,
      (c.run acts).base.senders[k]? = c.base.senders[k]? ∧ (c.run acts).base.wr k = c.base.wr k) := by
  induction acts generalizing c with
  | nil => exact ⟨id, fun _ => rfl, fun _ h => h, fun _ _ => ⟨rfl, rfl⟩⟩
  | cons a as ih =>
    unfold ZmqC.run
    split
    · rename_i c' hact
      obtain ⟨h1, h2, h3, h4⟩ := ZmqC.act_mono hact
      obtain ⟨i1, i2, i3, i4⟩ := ih (hinv.act hact)
      refine ⟨fun h => i1 (h1 h), fun h => (i2 (h1 h)).trans (h2 h), fun k hk => i3 k (h3 k hk),
        fun k hk => ?_⟩
      have a4 := h4 k hk (hinv.clt k hk)
      have b4 := i4 k (h3 k hk)
      exact ⟨b4.1.trans a4.1, b4.2.trans a4.2⟩
    · exact ih hinv

/-- `n`: only the ghost counter `completed` moves. -/
theorem ZmqC.act_base_erase {c : ZmqC} (hc : c.cancelled = []) (a : ZAct) :
    ∃ n, c.act (.base a) = (c.base.act a).map fun b => { c with base := b, completed := n } := by
  cases a with
  | step i =>
    refine ⟨c.completed + (if c.base.inFactory i then 1 else 0), ?_⟩
    simp only [ZmqC.act, Zmq.act, hc, List.not_mem_nil, if_false]
    cases c.base.stepSender i <;> rfl
  | enqueue m | spawn msgs | ensure => exact ⟨c.completed, rfl⟩

theorem ZmqC.run_erase {c : ZmqC} (hc : c.cancelled = []) (acts : List ZCAct)
    (hno : ∀ a ∈ acts, a.isCancel = false) :
    (c.run acts).base = c.base.run (eraseCancel acts) ∧ (c.run acts).cancelled = [] ∧
      (c.run acts).aborted = c.aborted := by
  induction acts generalizing c with
  | nil => exact ⟨rfl, hc, rfl⟩
  | cons a as ih =>
    have hno' : ∀ a ∈ as, a.isCancel = false := fun x hx => hno x (List.mem_cons_of_mem _ hx)
    cases a with
    | cancel k => exact nomatch hno (.cancel k) List.mem_cons_self
    | base a =>
      obtain ⟨n, hact⟩ := ZmqC.act_base_erase hc a
      simp only [ZmqC.run, eraseCancel, Zmq.run, hact]
      cases c.base.act a with
      | none => exact ih hc hno'
      | some b => exact ih (c := { c with base := b, completed := n }) hc hno'

theorem eraseCancel_map_base (acts : List ZAct) : eraseCancel (acts.map .base) = acts := by
  induction acts with
  | nil => rfl
  | cons a as ih => simp [eraseCancel, ih]

theorem ZmqC.run_map_base {c : ZmqC} (hc : c.cancelled = []) (acts : List ZAct) :
    (c.run (acts.map .base)).base = c.base.run acts ∧ (c.run (acts.map .base)).cancelled = [] ∧
      (c.run (acts.map .base)).aborted = c.aborted := by
  have h := ZmqC.run_erase hc (acts.map .base) fun a ha => by
    obtain ⟨_, _, rfl⟩ := List.mem_map.1 ha; rfl
  rwa [eraseCancel_map_base] at h

/-- with nobody cancelled and no call aborted, `CInv` says what `ZInv` says: `started = completed
+ in flight`, and the two exclude each other -/
theorem CInv.toZInv {c : ZmqC} (h : CInv c) (hc : c.cancelled = []) (ha : c.aborted = 0) : ZInv c.base := by
  refine ⟨?_, fun i s hs hpc => h.holder i (by rw [pcAt_of_get hs, hpc]) (hc ▸ List.not_mem_nil),
    fun i s hs hpc => h.sock i (by rw [pcAt_of_get hs]; exact hpc.imp (congrArg some) (congrArg some)),
    h.wsock, h.acc.wlt, h.acc.q, h.acc.d⟩
  rw [h.calls, h.comp, ha]
  have hx := h.excl
  revert hx
  cases c.base.lockHeld <;> cases c.base.socket <;> simp

theorem ZInv.run_init (acts : List ZAct) : ZInv (Zmq.init.run acts) := by
  obtain ⟨hb, hc, ha⟩ := ZmqC.run_map_base (c := ZmqC.init) rfl acts
  exact hb ▸ (CInv.run_init _).toZInv hc ha

end Tickit
