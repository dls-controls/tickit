/-
The flat multi-tick system (`Core/Flat.lean`, `Core/FlatInt.lean`) seen from ONE component: what a
tick does to its state, its wakeup, its observations and its reports (`own`, `TickRun.elim`: the one
place where `TickRun` is opened), schedule independence of one tick and of whole runs (C08), the
wakeups of a run (their keys, C04).  Run-level facts are proved for runs with interrupts
(`FlatRunI`); a `FlatRun` is a `FlatRunI` without interrupts (`FlatInt.of_flatRun`).  The lemmas of
`MapEq` at the head are all there are: the files that compare states up to the order of keys import
this one.  `Tickit.NoPastCallbacks`, the hypothesis of C04, is defined where its invariant
`flatRunI_wake_ge` is proved.
-/
import TickitModel.Lemmas.Wakeups
import TickitModel.Lemmas.FlatRunILemmas
import TickitModel.Lemmas.TickUpd

set_option linter.unusedSectionVars false

namespace Tickit

theorem MapEq.refl {κ β : Type} [DecidableEq κ] (a : List (κ × β)) : MapEq a a := fun _ => rfl

theorem MapEq.symm {κ β : Type} [DecidableEq κ] {a b : List (κ × β)} (h : MapEq a b) : MapEq b a :=
  fun k => (h k).symm

theorem MapEq.trans {κ β : Type} [DecidableEq κ] {a b c : List (κ × β)} (h : MapEq a b)
    (h' : MapEq b c) : MapEq a c := fun k => (h k).trans (h' k)

theorem Det.mapEq_aupdate {κ β : Type} [DecidableEq κ] {a b i1 i2 : List (κ × β)} (h : MapEq a b)
    (hn1 : (akeys i1).Nodup) (hn2 : (akeys i2).Nodup) (hi : MapEq i1 i2) :
    MapEq (aupdate a i1) (aupdate b i2) := by
  intro x
  rw [alookup_aupdate_of_nodup a hn1, alookup_aupdate_of_nodup b hn2, h x, hi x]

theorem mapEq_addWakeup {w1 w2 : Wakeups} (h : MapEq w1 w2) (c : Comp) (t : SimTime) :
    MapEq (addWakeup w1 c t) (addWakeup w2 c t) := by
  intro x
  rw [addWakeup_lookup, addWakeup_lookup, h x]

theorem mapEq_delWakeups {w1 w2 : Wakeups} (h1 : UniqueKeys w1) (h2 : UniqueKeys w2)
    (h : MapEq w1 w2) {cs1 cs2 : List Comp} (hcs : ∀ c, c ∈ cs1 ↔ c ∈ cs2) :
    MapEq (delWakeups w1 cs1) (delWakeups w2 cs2) :=
  fun x => delWakeups_lookup_congr h1 h2 (h x) (hcs x)

end Tickit

namespace Tickit.Det

open Tickit

variable {Val : Type} [DecidableEq Val]

theorem afterTick_nil (st : FlatSt Val) (dev : DevFn Val) : st.afterTick dev [] = st := rfl

theorem afterTick_cons_dispatch (st : FlatSt Val) (dev : DevFn Val) (d : Dispatch Val)
    (tr : List (Ev Val)) :
    st.afterTick dev (Ev.dispatch d :: tr) = (st.absorb dev d).afterTick dev tr := rfl

theorem afterTick_cons_answer (st : FlatSt Val) (dev : DevFn Val) (a : Comp)
    (ch : List (Port × Val)) (tr : List (Ev Val)) :
    st.afterTick dev (Ev.answer a ch :: tr) = st.afterTick dev tr := rfl

theorem outChanges_congr {l1 l2 : List (Port × Val)} (h : MapEq l1 l2) (outs : List (Port × Val)) :
    outChanges l1 outs = outChanges l2 outs := by
  unfold outChanges
  congr 1
  funext kv
  rw [h kv.1]

theorem nodup_akeys_normDict (items : List (Port × Val)) : (akeys (normDict items)).Nodup :=
  nodup_akeys_aupdate (m := []) List.nodup_nil items

theorem react_wf (st : FlatSt Val) (dev : DevFn Val) (t : SimTime) : ReactWF (st.react dev t) :=
  fun _ _ => nodup_akeys_filter (nodup_akeys_normDict _) _

/-- the part of a flat state that belongs to one component and that two runs are compared on
(`Loc.Equiv`).  `Own` below adds the ghost reports, which a tick also determines (`TickRun.elim`)
but which `Loc.Equiv` must not mention. -/
structure Loc (Val : Type) where
  dc : DevComp Val
  wk : Option SimTime
  ob : List (SimTime × List (Port × Val))

def loc (st : FlatSt Val) (c : Comp) : Loc Val := ⟨st.comp c, alookup st.wake c, st.obsOf c⟩

theorem comp_absorb_input (st : FlatSt Val) (dev : DevFn Val) (c : Comp) (t : SimTime)
    (ins : List (Port × Val)) (x : Comp) :
    (st.absorb dev (.input c t ins)).comp x =
      if c = x then { deviceInputs := (st.comp c).merge ins,
                      lastOutputs := normDict (dev c t ((st.comp c).merge ins)).outs }
      else st.comp x := by
  show agetD (upsert st.comps c _) x {} = _
  rw [agetD, alookup_upsert]
  split <;> rfl

theorem obsOf_absorb_input (st : FlatSt Val) (dev : DevFn Val) (c : Comp) (t : SimTime)
    (ins : List (Port × Val)) (x : Comp) :
    (st.absorb dev (.input c t ins)).obsOf x =
      if c = x then st.obsOf x ++ [(t, (st.comp c).merge ins)] else st.obsOf x := by
  show ((st.obs ++ [(c, t, (st.comp c).merge ins)]).filter _).map _ = _
  rw [List.filter_append, List.map_append, List.filter_cons, List.filter_nil]
  by_cases h : c = x
  · rw [if_pos h, if_pos (beq_iff_eq.2 h)]
    rfl
  · rw [if_neg h, if_neg (fun hb => h (beq_iff_eq.1 hb))]
    exact List.append_nil _

theorem _root_.Tickit.FlatSt.mem_obsOf {st : FlatSt Val} {c : Comp} {t : SimTime} {g : List (Port × Val)} :
    (t, g) ∈ st.obsOf c ↔ (c, t, g) ∈ st.obs := by
  unfold FlatSt.obsOf
  simp only [List.mem_map, List.mem_filter, beq_iff_eq]
  constructor
  · rintro ⟨⟨c', t', g'⟩, ⟨hm, rfl⟩, he⟩
    cases he
    exact hm
  · exact fun h => ⟨(c, t, g), ⟨h, rfl⟩, rfl⟩

end Tickit.Det

namespace Tickit.Sync

open Tickit

variable {Val : Type} [DecidableEq Val]

theorem alookup_foldl_report (c : Comp) {outs : List (Port × Val)} (hn : (akeys outs).Nodup)
    (rep : List ((Comp × Port) × Val)) (a : Comp) (p : Port) :
    alookup (outs.foldl (fun acc pv => upsert acc (c, pv.1) pv.2) rep) (a, p) =
      if c = a then (alookup outs p).orElse (fun _ => alookup rep (a, p)) else alookup rep (a, p) := by
  induction outs generalizing rep with
  | nil => simp
  | cons e outs ih =>
    obtain ⟨k, v⟩ := e
    simp only [akeys_cons, List.nodup_cons] at hn
    rw [List.foldl_cons, ih hn.2, alookup_upsert, alookup_cons]
    by_cases hc : c = a
    · subst hc
      by_cases hk : k = p
      · subst hk
        simp [alookup_eq_none_iff.2 hn.1]
      · simp [hk]
    · simp [hc]

def outsOf (st : FlatSt Val) (dev : DevFn Val) (c : Comp) (t : SimTime) (ins : List (Port × Val)) :
    List (Port × Val) :=
  normDict (dev c t ((st.comp c).merge ins)).outs

theorem nodup_akeys_outsOf (st : FlatSt Val) (dev : DevFn Val) (c : Comp) (t : SimTime)
    (ins : List (Port × Val)) : (akeys (outsOf st dev c t ins)).Nodup :=
  Det.nodup_akeys_normDict _

theorem reported_absorb_input (st : FlatSt Val) (dev : DevFn Val) (c : Comp) (t : SimTime)
    (ins : List (Port × Val)) (a : Comp) (p : Port) :
    alookup (st.absorb dev (.input c t ins)).reported (a, p) =
      if c = a then (alookup (outsOf st dev c t ins) p).orElse (fun _ => alookup st.reported (a, p))
      else alookup st.reported (a, p) :=
  alookup_foldl_report c (nodup_akeys_outsOf st dev c t ins) st.reported a p

end Tickit.Sync

namespace Tickit.Det

open Tickit

variable {Val : Type} [DecidableEq Val]

structure Own (Val : Type) where
  dc : DevComp Val
  wk : Option SimTime
  ob : List (SimTime × List (Port × Val))
  rep : Port → Option Val

def own (st : FlatSt Val) (c : Comp) : Own Val :=
  ⟨st.comp c, alookup st.wake c, st.obsOf c, fun p => alookup st.reported (c, p)⟩

/-- what a tick at `t` makes of `own st c`, given whether `c` is updated and with which changes
(`TickRun.elim`). -/
def Own.upd (dev : DevFn Val) (c : Comp) (t : SimTime) (L : Own Val) :
    Option (List (Port × Val)) → Own Val
  | none => L
  | some ins =>
    ⟨⟨L.dc.merge ins, normDict (dev c t (L.dc.merge ins)).outs⟩,
      match (dev c t (L.dc.merge ins)).callAt with
      | some x => some x
      | none => L.wk,
      L.ob ++ [(t, L.dc.merge ins)],
      fun p => (alookup (normDict (dev c t (L.dc.merge ins)).outs) p).orElse fun _ => L.rep p⟩

theorem loc_eq_own (st : FlatSt Val) (c : Comp) :
    loc st c = ⟨(own st c).dc, (own st c).wk, (own st c).ob⟩ := rfl

theorem own_absorb_ne (st : FlatSt Val) (dev : DevFn Val) {d : Dispatch Val} {c : Comp}
    (h : d.comp ≠ c) : own (st.absorb dev d) c = own st c := by
  cases d with
  | skip c' t => rfl
  | input c' t ins =>
    have h : c' ≠ c := h
    show Own.mk _ _ _ _ = Own.mk _ _ _ _
    rw [Own.mk.injEq]
    refine ⟨(comp_absorb_input st dev c' t ins c).trans (if_neg h), ?_,
      (obsOf_absorb_input st dev c' t ins c).trans (if_neg h),
      funext fun p => (Sync.reported_absorb_input st dev c' t ins c p).trans (if_neg h)⟩
    show alookup (match (dev c' t ((st.comp c').merge ins)).callAt with
      | some w => addWakeup st.wake c' w
      | none => st.wake) c = alookup st.wake c
    cases (dev c' t ((st.comp c').merge ins)).callAt with
    | none => rfl
    | some x => exact (addWakeup_lookup _ _ _ _).trans (if_neg (Ne.symm h))

theorem own_absorb_input (st : FlatSt Val) (dev : DevFn Val) (c : Comp) (t : SimTime)
    (ins : List (Port × Val)) :
    own (st.absorb dev (.input c t ins)) c = (own st c).upd dev c t (some ins) := by
  show Own.mk _ _ _ _ = Own.mk _ _ _ _
  rw [Own.mk.injEq]
  refine ⟨(comp_absorb_input st dev c t ins c).trans (if_pos rfl), ?_,
    (obsOf_absorb_input st dev c t ins c).trans (if_pos rfl),
    funext fun p => (Sync.reported_absorb_input st dev c t ins c p).trans (if_pos rfl)⟩
  show alookup (match (dev c t ((st.comp c).merge ins)).callAt with
    | some w => addWakeup st.wake c w
    | none => st.wake) c = match (dev c t ((st.comp c).merge ins)).callAt with
    | some x => some x
    | none => alookup st.wake c
  cases (dev c t ((st.comp c).merge ins)).callAt with
  | none => rfl
  | some x => exact (addWakeup_lookup _ _ _ _).trans (if_pos rfl)

theorem count_le_one_tail {e : Ev Val} {tr : List (Ev Val)} {c : Comp}
    (h : ((e :: tr).filter (Ev.isDispatchOf c)).length ≤ 1) :
    (tr.filter (Ev.isDispatchOf c)).length ≤ 1 :=
  Nat.le_trans ((List.sublist_cons_self e tr).filter _).length_le h

theorem dispatchOf_tail_eq_none {d : Dispatch Val} {tr : List (Ev Val)}
    (h : ((Ev.dispatch d :: tr).filter (Ev.isDispatchOf d.comp)).length ≤ 1) :
    dispatchOf tr d.comp = none := by
  rw [dispatchOf_eq_none_iff]
  intro d' hd' hc
  have hm : Ev.dispatch d' ∈ tr.filter (Ev.isDispatchOf d.comp) :=
    List.mem_filter.2 ⟨hd', beq_iff_eq.2 hc⟩
  rw [List.filter_cons_of_pos (show Ev.isDispatchOf d.comp (Ev.dispatch d) = true from
    beq_self_eq_true d.comp)] at h
  exact absurd (List.length_pos_of_mem hm) (Nat.not_lt.2 (Nat.le_of_succ_le_succ h))

theorem view_afterTick {X : Type} (π : FlatSt Val → X) (dev : DevFn Val) {c : Comp}
    (hne : ∀ st d, d.comp ≠ c → π (st.absorb dev d) = π st)
    (hcongr : ∀ s1 s2 d, d.comp = c → π s1 = π s2 → π (s1.absorb dev d) = π (s2.absorb dev d))
    {tr : List (Ev Val)} (hcount : (tr.filter (Ev.isDispatchOf c)).length ≤ 1) (st : FlatSt Val) :
    π (st.afterTick dev tr) = match dispatchOf tr c with
      | some d => π (st.absorb dev d)
      | none => π st := by
  induction tr generalizing st with
  | nil => rfl
  | cons e tr ih =>
    cases e with
    | answer a ch =>
      rw [afterTick_cons_answer, dispatchOf_cons_answer]
      exact ih (count_le_one_tail hcount) st
    | dispatch d =>
      rw [afterTick_cons_dispatch, dispatchOf_cons_dispatch, ih (count_le_one_tail hcount)]
      by_cases hc : d.comp = c
      · subst hc
        rw [if_pos rfl, dispatchOf_tail_eq_none hcount]
      · rw [if_neg hc]
        cases hd : dispatchOf tr c with
        | none => exact hne st d hc
        | some d' => exact hcongr _ _ d' (dispatchOf_eq_some hd).2 (hne st d hc)

theorem uniqueKeys_wake_afterTick {st : FlatSt Val} (dev : DevFn Val) (tr : List (Ev Val))
    (h : UniqueKeys st.wake) : UniqueKeys (st.afterTick dev tr).wake := by
  induction tr generalizing st with
  | nil => exact h
  | cons e tr ih =>
    cases e with
    | answer a ch => exact ih h
    | dispatch d =>
      refine ih ?_
      cases d with
      | skip c t => exact h
      | input c t ins =>
        show UniqueKeys (match (dev c t _).callAt with | some w => _ | none => _)
        split
        · exact addWakeup_unique _ h _ _
        · exact h

/-- why `TickRun` may take every reaction from the PRE-tick state (`st.react dev t`) although
`afterTick` threads the state through the trace: the dispatches to other components leave `own · c`
alone and there is at most one to `c` (`view_afterTick`), so the state of `c` at its one dispatch is
its pre-tick state. -/
theorem own_afterTick {w : Wiring} {dev : DevFn Val} {st : FlatSt Val} {t : SimTime}
    {roots : List Comp} {s : TickSys Val} (hs : s.Reachable w (st.react dev t) t roots) (c : Comp) :
    own (st.afterTick dev s.trace) c = (own st c).upd dev c t (updOf s.trace c) := by
  rw [view_afterTick (own · c) dev (fun st d => own_absorb_ne st dev) ?_ (hs.inv.pre.count c).1]
  · unfold updOf
    cases hd : dispatchOf s.trace c with
    | none => rfl
    | some d =>
      obtain ⟨hm, hc⟩ := dispatchOf_eq_some hd
      cases d with
      | skip c' t' => rfl
      | input c' t' ins =>
        cases (hc : c' = c)
        -- every dispatch of the trace carries the tick's time
        cases ((hs.inv.pre.disp_ext _ hm).2 : t' = t)
        exact own_absorb_input st dev c' t' ins
  · intro s1 s2 d hd h
    cases d with
    | skip c' t' => exact h
    | input c' t' ins =>
      cases (hd : c' = c)
      exact (own_absorb_input s1 dev c' t' ins).trans
        ((congrArg (·.upd dev c' t' (some ins)) h).trans (own_absorb_input s2 dev c' t' ins).symm)

/-- **what a complete tick is**, and the one way in for every other proof about `TickRun`: there is
an update map `U` (who was updated, with which input changes) that solves the tick equations `UpdEqs`
for the reactions of the pre-tick state, so that on an acyclic wiring `U` is unique up to `UpdEq`
(`UpdEqs.unique_on`). -/
theorem _root_.Tickit.TickRun.elim {w : Wiring} {dev : DevFn Val} {st st' : FlatSt Val}
    {t : SimTime} {roots : List Comp} (h : TickRun w dev st t roots st') :
    ∃ U, (∀ c, own st' c = (own st c).upd dev c t (U c)) ∧
      (∀ c ins, U c = some ins → c ∈ extent w roots) ∧
      (RouterOK w → UpdEqs w (st.react dev t) roots U) ∧
      (UniqueKeys st.wake → UniqueKeys st'.wake) := by
  obtain ⟨s, hs, hf, rfl⟩ := h
  exact ⟨_, own_afterTick hs, fun _ _ => updOf_ext hs,
    fun hw => UpdEqs.of_complete hw (react_wf st dev t) hs hf,
    uniqueKeys_wake_afterTick dev s.trace⟩

theorem tickRun_cases {w : Wiring} {dev : DevFn Val} {st0 st' : FlatSt Val} {m : SimTime}
    {roots : List Comp} (h : TickRun w dev st0 m roots st') (c : Comp) :
    (st'.obsOf c = st0.obsOf c ∧ alookup st'.wake c = alookup st0.wake c) ∨
    (∃ given, st'.obsOf c = st0.obsOf c ++ [(m, given)] ∧
        alookup st'.wake c =
          match (dev c m given).callAt with
          | some x => some x
          | none => alookup st0.wake c) := by
  obtain ⟨U, hown, _⟩ := h.elim
  have := hown c
  cases hU : U c with
  | none => rw [hU] at this; exact Or.inl ⟨congrArg Own.ob this, congrArg Own.wk this⟩
  | some ins => rw [hU] at this; exact Or.inr ⟨_, congrArg Own.ob this, congrArg Own.wk this⟩

theorem tickRun_root {w : Wiring} (hw : RouterOK w) {dev : DevFn Val} {st0 st' : FlatSt Val}
    {m : SimTime} {roots : List Comp} (h : TickRun w dev st0 m roots st') {c : Comp}
    (hc : c ∈ roots) :
    ∃ given, st'.obsOf c = st0.obsOf c ++ [(m, given)] ∧
        alookup st'.wake c =
          match (dev c m given).callAt with
          | some x => some x
          | none => alookup st0.wake c := by
  obtain ⟨U, hown, _, heq, _⟩ := h.elim
  have := hown c
  cases hU : U c with
  | none => exact absurd hc ((heq hw).idle c hU).1
  | some ins => rw [hU] at this; exact ⟨_, congrArg Own.ob this, congrArg Own.wk this⟩

/-- `tickRun_cases` in the shape `Callback.Requested.step` takes it. -/
theorem tickRun_entry_cases {w : Wiring} {dev : DevFn Val} {st0 st' : FlatSt Val} {m : SimTime}
    {roots : List Comp} (h : TickRun w dev st0 m roots st') (c : Comp) :
    ∃ new, st'.obsOf c = st0.obsOf c ++ new ∧
      ((alookup st'.wake c = alookup st0.wake c ∧
          ∀ o ∈ new, o.1 = m ∧ (dev c o.1 o.2).callAt = none) ∨
        ∃ given x, new = [(m, given)] ∧ (dev c m given).callAt = some x ∧
          alookup st'.wake c = some x) := by
  rcases tickRun_cases h c with ⟨hob, hwk⟩ | ⟨given, hob, hwk⟩
  · exact ⟨[], by rw [hob, List.append_nil], Or.inl ⟨hwk, fun _ h => nomatch h⟩⟩
  · refine ⟨_, hob, ?_⟩
    cases hcall : (dev c m given).callAt with
    | none =>
      rw [hcall] at hwk
      exact Or.inl ⟨hwk, fun o ho => by cases List.mem_singleton.1 ho; exact ⟨rfl, hcall⟩⟩
    | some x =>
      rw [hcall] at hwk
      exact Or.inr ⟨given, x, rfl, hcall, hwk⟩

theorem obsOf_mono_tick {w : Wiring} {dev : DevFn Val} {st0 st' : FlatSt Val} {m : SimTime}
    {roots : List Comp} (h : TickRun w dev st0 m roots st') (c : Comp) :
    ∃ new, st'.obsOf c = st0.obsOf c ++ new :=
  (tickRun_entry_cases h c).imp fun _ h => h.1

theorem tickRun_wake_cases {w : Wiring} {dev : DevFn Val} {st st' : FlatSt Val} {t : SimTime}
    {roots : List Comp} (hrun : TickRun w dev st t roots st') {c : Comp} {x : SimTime}
    (h : alookup st'.wake c = some x) :
    alookup st.wake c = some x ∨ ∃ given, (dev c t given).callAt = some x := by
  obtain ⟨_, _, ⟨hwk, _⟩ | ⟨given, x', _, hcall, hwk⟩⟩ := tickRun_entry_cases hrun c
  · exact Or.inl (hwk ▸ h)
  · exact Or.inr ⟨given, hcall.trans (hwk.symm.trans h)⟩

theorem tickRun_uniqueKeys {w : Wiring} {dev : DevFn Val} {st st' : FlatSt Val} {t : SimTime}
    {roots : List Comp} (hrun : TickRun w dev st t roots st') (h : UniqueKeys st.wake) :
    UniqueKeys st'.wake := by
  obtain ⟨_, _, _, _, hu⟩ := hrun.elim
  exact hu h

/-- `hroots`, the hypothesis under which a complete tick exists (`Lemmas/TickComplete.lean`) and
which the statements of `Props/C03.lean` carry, from roots that are components. -/
theorem extent_ups_isSome {w : Wiring} {roots : List Comp} (hr : ∀ r ∈ roots, r ∈ w.components) :
    ∀ c ∈ extent w roots, (w.ups c).isSome :=
  fun c hc => (Wiring.ups_isSome_iff' w c).2 (extent_sub_components hr hc)

/-- wakeups are only added for updated components, all in the extent of the tick. -/
theorem tickRun_wake_keys {w : Wiring} {dev : DevFn Val} {st st' : FlatSt Val} {t : SimTime}
    {roots : List Comp} (h : TickRun w dev st t roots st') (hr : ∀ r ∈ roots, r ∈ w.components)
    (hk : ∀ c ∈ akeys st.wake, c ∈ w.components) : ∀ c ∈ akeys st'.wake, c ∈ w.components := by
  obtain ⟨U, hown, hext, _⟩ := h.elim
  intro c hc
  have := congrArg Own.wk (hown c)
  cases hU : U c with
  | some ins => exact extent_sub_components hr (hext c ins hU)
  | none =>
    rw [hU] at this
    refine hk c (Classical.byContradiction fun hn => ?_)
    exact alookup_eq_none_iff.1 (this.trans (alookup_eq_none_iff.2 hn)) hc

theorem obsEq_refl (l : List (SimTime × List (Port × Val))) : ObsEq l l := by
  induction l with
  | nil => trivial
  | cons x l ih => exact ⟨rfl, fun _ => rfl, ih⟩

theorem obsEq_trans {a b c : List (SimTime × List (Port × Val))} (h1 : ObsEq a b)
    (h2 : ObsEq b c) : ObsEq a c := by
  induction a generalizing b c with
  | nil =>
    cases b with
    | nil => exact h2
    | cons y b => exact h1.elim
  | cons x a ih =>
    cases b with
    | nil => exact h1.elim
    | cons y b =>
      cases c with
      | nil => exact h2.elim
      | cons z c => exact ⟨h1.1.trans h2.1, fun k => (h1.2.1 k).trans (h2.2.1 k), ih h1.2.2 h2.2.2⟩

theorem obsEq_symm {a b : List (SimTime × List (Port × Val))} (h : ObsEq a b) : ObsEq b a := by
  induction a generalizing b with
  | nil =>
    cases b with
    | nil => trivial
    | cons y b => exact h.elim
  | cons x a ih =>
    cases b with
    | nil => exact h.elim
    | cons y b => exact ⟨h.1.symm, fun k => (h.2.1 k).symm, ih h.2.2⟩

theorem obsEq_append {a b a' b' : List (SimTime × List (Port × Val))} (h : ObsEq a b)
    (h' : ObsEq a' b') : ObsEq (a ++ a') (b ++ b') := by
  induction a generalizing b with
  | nil =>
    cases b with
    | nil => exact h'
    | cons y b => exact h.elim
  | cons x a ih =>
    cases b with
    | nil => exact h.elim
    | cons y b => exact ⟨h.1, h.2.1, ih h.2.2⟩

structure Loc.Equiv (L1 L2 : Loc Val) : Prop where
  ins : MapEq L1.dc.deviceInputs L2.dc.deviceInputs
  outs : MapEq L1.dc.lastOutputs L2.dc.lastOutputs
  wk : L1.wk = L2.wk
  ob : ObsEq L1.ob L2.ob

theorem Loc.Equiv.refl (L : Loc Val) : L.Equiv L := ⟨fun _ => rfl, fun _ => rfl, rfl, obsEq_refl _⟩

theorem Loc.Equiv.with_wake {L1 L2 : Loc Val} (h : L1.Equiv L2) {wk1 wk2 : Option SimTime}
    (hwk : wk1 = wk2) : ({ L1 with wk := wk1 } : Loc Val).Equiv { L2 with wk := wk2 } :=
  ⟨h.ins, h.outs, hwk, h.ob⟩

theorem react_eq_of_equiv {dev : DevFn Val} (hdev : DevExt dev) (t : SimTime) {a b : FlatSt Val}
    {c : Comp} (h : (loc a c).Equiv (loc b c)) {i1 i2 : List (Port × Val)}
    (h1 : (akeys i1).Nodup) (h2 : (akeys i2).Nodup) (hi : MapEq i1 i2) :
    a.react dev t c i1 = b.react dev t c i2 := by
  have hins : MapEq (a.comp c).deviceInputs (b.comp c).deviceInputs := h.ins
  have houts : MapEq (a.comp c).lastOutputs (b.comp c).lastOutputs := h.outs
  simp only [FlatSt.react, DevComp.merge]
  rw [hdev c t _ _ (mapEq_aupdate hins h1 h2 hi), outChanges_congr houts]

theorem react_extN (st : FlatSt Val) {dev : DevFn Val} (hdev : DevExt dev) (t : SimTime) :
    ReactExtN (st.react dev t) :=
  fun _ _ _ h1 h2 hi => react_eq_of_equiv hdev t (Loc.Equiv.refl _) h1 h2 hi

theorem Own.upd_equiv {dev : DevFn Val} (hdev : DevExt dev) (c : Comp) (t : SimTime)
    {L1 L2 : Own Val} (h : (Loc.mk L1.dc L1.wk L1.ob).Equiv ⟨L2.dc, L2.wk, L2.ob⟩)
    {o1 o2 : Option (List (Port × Val))} (ho : UpdEq o1 o2)
    (hn1 : ∀ i, o1 = some i → (akeys i).Nodup) (hn2 : ∀ i, o2 = some i → (akeys i).Nodup) :
    (Loc.mk (L1.upd dev c t o1).dc (L1.upd dev c t o1).wk (L1.upd dev c t o1).ob).Equiv
      ⟨(L2.upd dev c t o2).dc, (L2.upd dev c t o2).wk, (L2.upd dev c t o2).ob⟩ := by
  cases o1 <;> cases o2
  · exact h
  · exact ho.elim
  · exact ho.elim
  · next i1 i2 =>
    have hg : MapEq (L1.dc.merge i1) (L2.dc.merge i2) :=
      mapEq_aupdate h.ins (hn1 i1 rfl) (hn2 i2 rfl) ho
    have hr := hdev c t _ _ hg
    refine ⟨hg, ?_, ?_, obsEq_append h.ob ⟨rfl, hg, trivial⟩⟩
    · show MapEq (normDict _) (normDict _)
      rw [hr]
      exact fun _ => rfl
    · show (match (dev c t (L1.dc.merge i1)).callAt with | some x => some x | none => L1.wk) =
        match (dev c t (L2.dc.merge i2)).callAt with | some x => some x | none => L2.wk
      rw [hr, show L1.wk = L2.wk from h.wk]

/-- **one tick**, on a set `A` of components closed under sources: whatever the answer orders, and
whatever happens outside `A` (the two wirings need only have the same wires into `A`). -/
theorem tickRun_loc_equiv_on {w w' : Wiring} (hw : RouterOK w) (hw' : RouterOK w')
    {A : Comp → Prop} {rank : Comp → Nat}
    (hrank : ∀ a p c q, A c → w'.Conn a p c q → rank a < rank c)
    (hconn : ∀ a p c q, A c → (w.Conn a p c q ↔ w'.Conn a p c q))
    (hsrc : ∀ a p c q, A c → w'.Conn a p c q → A a) {dev : DevFn Val} (hdev : DevExt dev)
    {a b a' b' : FlatSt Val} {t : SimTime} {roots roots' : List Comp}
    (hroots : ∀ c, A c → (c ∈ roots ↔ c ∈ roots'))
    (hab : ∀ c, A c → (loc a c).Equiv (loc b c))
    (ha : TickRun w dev a t roots a') (hb : TickRun w' dev b t roots' b') (c : Comp) (hc : A c) :
    (loc a' c).Equiv (loc b' c) := by
  obtain ⟨U, hU, _, hE, _⟩ := ha.elim
  obtain ⟨U', hU', _, hE', _⟩ := hb.elim
  have hsame := UpdEqs.unique_on hrank hconn hsrc
    (fun x _ _ hx => react_eq_of_equiv hdev t (hab x hx)) hroots (hE hw) (hE' hw') c hc
  rw [loc_eq_own, loc_eq_own, hU c, hU' c]
  exact Own.upd_equiv hdev c t (hab c hc) hsame (fun i h => ((hE hw).upd c i h).1)
    (fun i h => ((hE' hw').upd c i h).1)

/-- **one tick** of one acyclic wiring: `tickRun_loc_equiv_on` with `A` everything. -/
theorem tickRun_loc_equiv {w : Wiring} (hw : RouterOK w) (hacyc : w.Acyclic) {dev : DevFn Val}
    (hdev : DevExt dev) {a b a' b' : FlatSt Val} {t : SimTime} {roots roots' : List Comp}
    (hroots : ∀ c, c ∈ roots ↔ c ∈ roots')
    (hab : ∀ c, (loc a c).Equiv (loc b c)) (ha : TickRun w dev a t roots a')
    (hb : TickRun w dev b t roots' b') (c : Comp) : (loc a' c).Equiv (loc b' c) := by
  obtain ⟨rank, hrank⟩ := hacyc.rank_conn hw
  exact tickRun_loc_equiv_on (A := fun _ => True) hw hw (fun a p c q _ => hrank a p c q)
    (fun _ _ _ _ _ => Iff.rfl) (fun _ _ _ _ _ _ => trivial) hdev (fun c _ => hroots c)
    (fun c _ => hab c) ha hb c trivial

theorem flatRunI_uniqueKeys {w : Wiring} {devs : DevSeq Val} {t0 : SimTime} {sc : List FAct}
    {n : Nat} {st : FlatSt Val} {times : List SimTime} (h : FlatRunI w devs t0 sc n st times) :
    UniqueKeys st.wake := by
  induction h with
  | initial h => exact tickRun_uniqueKeys h (by simp [UniqueKeys])
  | tick _ _ h ih => exact tickRun_uniqueKeys h (delWakeups_unique _ ih _)
  | interrupt _ _ ih => exact FlatInt.intWake_unique ih _ _

theorem flatRunI_wake_keys {w : Wiring} {devs : DevSeq Val} {t0 : SimTime} {sc : List FAct} {n : Nat}
    {st : FlatSt Val} {times : List SimTime} (hrun : FlatRunI w devs t0 sc n st times) :
    ∀ c ∈ akeys st.wake, c ∈ w.components := by
  induction hrun with
  | initial htick => exact tickRun_wake_keys htick (fun _ h => h) (fun _ h => (nomatch h))
  | tick _ hfw htick ih =>
    exact tickRun_wake_keys htick (fun r h => ih r (firstWakeups_sub hfw r h))
      (fun c h => ih c (((delWakeups_sublist _ _).map _).subset h))
  | interrupt _ hc ih =>
    intro c' hc'
    rcases FlatInt.mem_akeys_intWake hc' with rfl | h
    · exact hc
    · exact ih c' h

theorem flatRun_uniqueKeys {w : Wiring} {devs : DevSeq Val} {t0 : SimTime} {n : Nat}
    {st : FlatSt Val} {times : List SimTime} (hrun : FlatRun w devs t0 n st times) :
    UniqueKeys st.wake :=
  flatRunI_uniqueKeys (FlatInt.of_flatRun hrun)

theorem flatRun_wake_keys {w : Wiring} {devs : DevSeq Val} {t0 : SimTime} {n : Nat}
    {st : FlatSt Val} {times : List SimTime} (hrun : FlatRun w devs t0 n st times) :
    ∀ c ∈ akeys st.wake, c ∈ w.components :=
  flatRunI_wake_keys (FlatInt.of_flatRun hrun)

theorem flatExtI_uniqueKeys {w : Wiring} {devs : DevSeq Val} {n n' : Nat} {st st' : FlatSt Val}
    {times times' : List SimTime} {sc : List FAct}
    (h : FlatExtI w devs n st times sc n' st' times') (huk : UniqueKeys st.wake) :
    UniqueKeys st'.wake := by
  induction h with
  | refl => exact huk
  | tick _ _ h ih => exact tickRun_uniqueKeys h (delWakeups_unique _ ih _)
  | interrupt _ _ ih => exact FlatInt.intWake_unique ih _ _

def _root_.Tickit.NoPastCallbacks (devs : DevSeq Val) : Prop :=
  ∀ k c t ins w, ((devs k) c t ins).callAt = some w → t ≤ w

/-- the strict form, for callback ticks only and under `StrictFuture`, is
`Callback.flatRun_wake_gt`. -/
theorem flatRunI_wake_ge {w : Wiring} {devs : DevSeq Val} (hpast : NoPastCallbacks devs)
    {t0 : SimTime} {sc : List FAct} {n : Nat} {st : FlatSt Val} {times : List SimTime}
    (hrun : FlatRunI w devs t0 sc n st times) (htimely : StampsTimely sc times) :
    ∃ tl rest, times = tl :: rest ∧ ∀ c t, alookup st.wake c = some t → tl ≤ t := by
  induction hrun with
  | initial h =>
    refine ⟨t0, [], rfl, fun c t hc => ?_⟩
    rcases tickRun_wake_cases h hc with h' | ⟨g, h'⟩
    · cases h'
    · exact hpast 0 _ _ _ _ h'
  | @tick sc n st0 _ times0 cs m hprev hf h _ =>
    refine ⟨m, times0, rfl, fun c t hc => ?_⟩
    rcases tickRun_wake_cases h hc with h' | ⟨g, h'⟩
    · exact Int.le_of_lt (served_then_later _ (flatRunI_uniqueKeys hprev) cs m hf c t h')
    · exact hpast (n + 1) _ _ _ _ h'
  | @interrupt sc n st0 times0 c stamp hprev _ ih =>
    obtain ⟨hst, hrest⟩ := FlatInt.stampsTimely_snoc_interrupt.1 htimely
    obtain ⟨tl, rest, rfl, hge⟩ := ih hrest
    refine ⟨tl, rest, rfl, fun c' t hc' => ?_⟩
    have hc'' : alookup (intWake st0.wake c stamp) c' = some t := hc'
    by_cases hcc : c' = c
    · subst hcc
      obtain ⟨e, he, _, hor⟩ := FlatInt.intWake_self st0.wake c' stamp
      cases he.symm.trans hc''
      rcases hor with rfl | hold
      · exact hst tl rfl
      · exact hge c' _ hold
    · rw [FlatInt.intWake_lookup, if_neg hcc] at hc''
      exact hge c' t hc''

theorem flatRunI_time_monotone {w : Wiring} {devs : DevSeq Val} (hpast : NoPastCallbacks devs)
    {t0 : SimTime} {sc : List FAct} {n : Nat} {st : FlatSt Val} {times : List SimTime}
    (hrun : FlatRunI w devs t0 sc n st times) (htimely : StampsTimely sc times) :
    times.Pairwise (fun later earlier => earlier ≤ later) := by
  induction hrun with
  | initial _ => exact List.pairwise_singleton _ _
  | @tick sc n st0 st1 times0 cs m hprev hf _ ih =>
    have hti : StampsTimely sc times0 := FlatInt.stampsTimely_snoc_tick.1 htimely
    obtain ⟨tl, rest, rfl, hge⟩ := flatRunI_wake_ge hpast hprev hti
    obtain ⟨_, _, ⟨c, hc⟩, _⟩ := firstWakeups_spec _ (flatRunI_uniqueKeys hprev) cs m hf
    have htl : tl ≤ m := hge c m hc
    refine List.pairwise_cons.2 ⟨fun t' ht' => ?_, ih hti⟩
    rcases List.mem_cons.1 ht' with rfl | ht'
    · exact htl
    · exact Int.le_trans ((List.pairwise_cons.1 (ih hti)).1 t' ht') htl
  | interrupt _ _ ih => exact ih (FlatInt.stampsTimely_snoc_interrupt.1 htimely).2

theorem Loc.Equiv.delWakeups {a b : FlatSt Val} {c : Comp} (h : (loc a c).Equiv (loc b c))
    (hua : UniqueKeys a.wake) (hub : UniqueKeys b.wake) {csa csb : List Comp}
    (hcs : c ∈ csa ↔ c ∈ csb) :
    (loc { a with wake := delWakeups a.wake csa } c).Equiv
      (loc { b with wake := delWakeups b.wake csb } c) := by
  exact h.with_wake (delWakeups_lookup_congr hua hub h.wk hcs)

/-- **C08 with stimuli**, local form: two runs with the same script. -/
theorem flatRunI_loc_equiv {w : Wiring} (hw : RouterOK w) (hacyc : w.Acyclic) {devs : DevSeq Val}
    (hdev : ∀ k, DevExt (devs k)) {t0 : SimTime} {sc : List FAct} {n1 : Nat} {st1 : FlatSt Val}
    {times1 : List SimTime} (h1 : FlatRunI w devs t0 sc n1 st1 times1) :
    ∀ {n2 : Nat} {st2 : FlatSt Val} {times2 : List SimTime}, FlatRunI w devs t0 sc n2 st2 times2 →
      n1 = n2 ∧ times1 = times2 ∧ ∀ c, (loc st1 c).Equiv (loc st2 c) := by
  induction h1 with
  | initial hr1 =>
    intro n2 st2 times2 h2
    obtain ⟨rfl, rfl, hr2⟩ := FlatInt.inv_nil h2
    exact ⟨rfl, rfl, tickRun_loc_equiv hw hacyc (hdev 0) (fun _ => Iff.rfl)
      (fun c => Loc.Equiv.refl _) hr1 hr2⟩
  | @tick sc n sa sa' timesa csa ma hpa hfa hra ih =>
    intro n2 st2 times2 h2
    obtain ⟨nb, sb, timesb, csb, mb, rfl, rfl, hpb, hfb, hrb⟩ := FlatInt.inv_tick h2
    obtain ⟨rfl, rfl, hloc⟩ := ih hpb
    have hua := flatRunI_uniqueKeys hpa
    have hub := flatRunI_uniqueKeys hpb
    obtain ⟨rfl, hcs⟩ := firstWakeups_congr hua hub (fun c => (hloc c).wk) hfa hfb
    exact ⟨rfl, rfl, tickRun_loc_equiv hw hacyc (hdev (n + 1)) hcs
      (fun c => (hloc c).delWakeups hua hub (hcs c)) hra hrb⟩
  | @interrupt sc n sa timesa c stamp hpa _ ih =>
    intro n2 st2 times2 h2
    obtain ⟨sb, rfl, _, hpb⟩ := FlatInt.inv_interrupt h2
    obtain ⟨hn, hti, hloc⟩ := ih hpb
    refine ⟨hn, hti, fun c' => (hloc c').with_wake ?_⟩
    have h1 : alookup sa.wake c' = alookup sb.wake c' := (hloc c').wk
    have h2 : alookup sa.wake c = alookup sb.wake c := (hloc c).wk
    show alookup (intWake sa.wake c stamp) c' = alookup (intWake sb.wake c stamp) c'
    rw [FlatInt.intWake_lookup, FlatInt.intWake_lookup, h1, h2]

end Tickit.Det
