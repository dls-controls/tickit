/-
Any-order nested tick: determinism.  Two executions of the same tick of a level — any answer
orders at the level and at every level below, started in states that are equivalent on what lies
at or below the level — end in states that are equivalent there, with output changes that are
equal as mappings.

`LevelDet` is a property of ONE execution and quantifies over every second one.  Hence the
asymmetry of the lemmas about two loops (`AnsP.det`, `Inv2.recs_det`, `level_sameDispatch`,
`level_det`): the inner ticks of the first (`inner1`) come with `LevelDet`, the induction
hypothesis, and those of the second (`inner2`) only have to BE executions.  That is what lets
`Lemmas/AnyLive.lean` take the FIFO model (`fifoRel`) as the second side.
-/
import TickitModel.Lemmas.AnyTrace
import TickitModel.Lemmas.AnyInv

namespace Tickit

def LevelDet (S : Static) (orc : Oracle) : LevelRel := fun lvl t roots inCh st r =>
  ∀ (roots' : List Comp) (inCh' : List (Port × V)) (st' : SimSt) (r' : SimSt × List (Port × V)),
    (∀ c, c ∈ roots ↔ c ∈ roots') → MapEq inCh inCh' → (akeys inCh).Nodup → (akeys inCh').Nodup →
    EqOn (AtOrBelow S lvl) st st' →
    TickLevelAny S orc lvl t roots' inCh' st' r' →
    EqOn (AtOrBelow S lvl) r.1 r'.1 ∧ MapEq r.2 r'.2

theorem Dispatch.Equiv.symm' {d1 d2 : Dispatch V} (h : Dispatch.Equiv d1 d2) : Dispatch.Equiv d2 d1 := by
  cases d1 <;> cases d2 <;> simp only [Dispatch.Equiv] at h ⊢
  · exact ⟨h.1.symm, h.2.1.symm, fun q => (h.2.2 q).symm⟩
  · exact ⟨h.1.symm, h.2.symm⟩

theorem Dispatch.Equiv.input_inv {c : Comp} {t : SimTime} {ins : List (Port × V)} {d2 : Dispatch V}
    (h : Dispatch.Equiv (.input c t ins) d2) :
    ∃ ins2, d2 = .input c t ins2 ∧ ∀ q, alookup ins q = alookup ins2 q := by
  cases d2 with
  | skip c' t' => exact h.elim
  | input c' t' i' =>
    obtain ⟨rfl, rfl, hi⟩ := h
    exact ⟨i', rfl, hi⟩

theorem exposeIns_equiv {L : Level} {d d' : Dispatch V} (he : Dispatch.Equiv d d')
    {ins : List (Port × V)} (h : exposeIns L d = some ins) :
    ∃ ins', exposeIns L d' = some ins' ∧ ∀ q, alookup ins q = alookup ins' q := by
  obtain ⟨hne, t, rfl⟩ := exposeIns_eq_some.1 h
  obtain ⟨ins', rfl, hi⟩ := he.input_inv
  exact ⟨ins', exposeIns_eq_some.2 ⟨hne, t, rfl⟩, hi⟩

section

variable {S : Static} {orc : Oracle}

theorem AnsP.det (hS : S.Valid) {inner1 inner2 : LevelRel}
    (hi1 : ∀ c t ro i s r, inner1 c t ro i s r → LevelDet S orc c t ro i s r)
    (hi2 : ∀ c t ro i s r, inner2 c t ro i s r → TickLevelAny S orc c t ro i s r)
    {L : Level} (hL : L ∈ S.levels) {inCh1 inCh2 : List (Port × V)} (hin : MapEq inCh1 inCh2)
    {σ1 σ2 : SimSt} {d1 d2 : Dispatch V} (hd : Dispatch.Equiv d1 d2)
    (hn1 : Det.InsNodup d1) (hn2 : Det.InsNodup d2) (hdc : d1.comp ∈ L.wiring.components)
    (hσ : ∀ x, Foot S L d1.comp x → (σ1.loc x).Equiv (σ2.loc x))
    {res1 res2 : SimSt × List (Port × V) × Option SimTime}
    (a1 : AnsP S orc inner1 L inCh1 σ1 d1 res1) (a2 : AnsP S orc inner2 L inCh2 σ2 d2 res2) :
    (∀ x, Foot S L d1.comp x → (res1.1.loc x).Equiv (res2.1.loc x)) ∧ MapEq res1.2.1 res2.2.1 ∧
      res1.2.2 = res2.2.2 := by
  cases d1 with
  | skip c t =>
    cases d2 with
    | input c' t' i' => exact hd.elim
    | skip c' t' =>
      cases a1
      cases a2
      exact ⟨hσ, MapEq.refl _, rfl⟩
  | input c t i1 =>
    obtain ⟨i2, rfl, hi⟩ := hd.input_inv
    simp only [Dispatch.comp] at hdc hσ ⊢
    -- both answers are of the kind that the flags of `c` select
    cases a1 with
    | external e1 =>
      cases a2 with
      | external _ => exact ⟨hσ, hin, rfl⟩
      | expose e1' _ => cases e1.symm.trans e1'
      | sys e1' _ _ _ => cases e1.symm.trans e1'
      | dev e1' _ _ _ _ => cases e1.symm.trans e1'
    | expose e1 e2 =>
      cases a2 with
      | external e1' => cases e1.symm.trans e1'
      | expose _ _ => exact ⟨hσ, MapEq.refl _, rfl⟩
      | sys _ e2' _ _ => cases e2.symm.trans e2'
      | dev _ e2' _ _ _ => cases e2.symm.trans e2'
    | @sys _ _ _ st2 outCh e1 e2 e3 e4 =>
      -- the inner ticks start from equivalent states with the same roots: induction hypothesis
      obtain ⟨e4', hca⟩ := a2.sys_inv e1 e2 e3
      obtain ⟨hsch, hpre⟩ := sysPre_eqOn hS (hS.toWF.parent_of_member hL hdc e1 e2) hσ t
      obtain ⟨r1, r2⟩ := hi1 _ _ _ _ _ _ e4 _ _ _ _ (mem_sysRoots_congr hsch t) hi hn1 hn2 hpre
        (hi2 _ _ _ _ _ _ e4')
      exact ⟨fun x hx => r1 x hx.atOrBelow, r2,
        hca ▸ sysCallAt_congr (r1 c (Or.inl rfl)).sch t⟩
    | @dev _ _ _ resp e1 e2 e3 e4 e5 =>
      cases a2 with
      | external e1' => cases e1'.symm.trans e1
      | expose _ e2' => cases e2'.symm.trans e2
      | sys _ _ e3' _ => cases e3'.symm.trans e3
      | @dev _ _ _ resp' _ _ _ e4' _ =>
        -- the same update count selects the same response of the oracle
        have hc := hσ c ⟨hS.toWF.parent_of_member hL hdc e1 e2, Or.inl rfl⟩
        have hcnt : agetD σ1.count c 0 = agetD σ2.count c 0 := hc.cnt
        rw [hcnt, e4'] at e4
        cases e4
        have hg : MapEq ((agetD σ1.devs c {}).merge i1) ((agetD σ2.devs c {}).merge i2) :=
          Det.mapEq_aupdate hc.ins hn1 hn2 hi
        refine ⟨fun x hx => ?_, ?_, rfl⟩
        · by_cases hxc : x = c
          · subst hxc
            rw [loc_devAfter_self, loc_devAfter_self]
            exact ⟨hg, MapEq.refl _, congrArg (· + 1) hcnt, hc.sch,
              Det.obsEq_append hc.ob ⟨rfl, hg, trivial⟩⟩
          · rw [loc_devAfter_ne _ _ _ _ _ hxc, loc_devAfter_ne _ _ _ _ _ hxc]
            exact hσ x hx
        · show MapEq (devAfter σ1 c t i1 resp).2 (devAfter σ2 c t i2 resp).2
          have houts : MapEq (agetD σ1.devs c {}).lastOutputs (agetD σ2.devs c {}).lastOutputs :=
            hc.outs
          rw [devAfter_changes, devAfter_changes, Det.outChanges_congr houts]
          exact MapEq.refl _

theorem Inv2.recs_det (hS : S.Valid) {inner1 inner2 : LevelRel}
    (hi1 : ∀ c t ro i s r, inner1 c t ro i s r → LevelDet S orc c t ro i s r)
    (hi2 : ∀ c t ro i s r, inner2 c t ro i s r → TickLevelAny S orc c t ro i s r)
    {L : Level} (hL : L ∈ S.levels) {inCh1 inCh2 : List (Port × V)} (hin : MapEq inCh1 inCh2)
    {t : SimTime} {roots1 roots2 : List Comp}
    {st1 st2 : SimSt} (hst : EqOn (AtOrBelow S L.name) st1 st2)
    {ls1 ls2 : LoopSt} {tr1 tr2 : List (Ev V)} {recs1 recs2 : List AnsRec}
    (inv1 : Inv2 S orc inner1 L inCh1 t roots1 st1 ls1 tr1 recs1)
    (inv2 : Inv2 S orc inner2 L inCh2 t roots2 st2 ls2 tr2 recs2) :
    ∀ r1 ∈ recs1, ∀ r2 ∈ recs2, r1.d.comp = r2.d.comp → Dispatch.Equiv r1.d r2.d →
      (∀ x, Foot S L r1.d.comp x → (r1.post.loc x).Equiv (r2.post.loc x)) ∧ MapEq r1.ch r2.ch ∧
        r1.ca = r2.ca := by
  intro r1 hr1 r2 hr2 hc he
  obtain ⟨hd1, ha1, hp1, _, _⟩ := inv1.recs_ok r1 hr1
  obtain ⟨hd2, ha2, hp2, _, _⟩ := inv2.recs_ok r2 hr2
  have hdc : r1.d.comp ∈ L.wiring.components :=
    (Wiring.ups_isSome_iff' L.wiring _).1 (inv1.eq.ups _ hd1)
  refine AnsP.det hS hi1 hi2 hL hin he (inv1.ins.2 _ hd1) (inv2.ins.2 _ hd2) hdc ?_ ha1 ha2
  intro x hx
  rw [hp1 x hx, hp2 x (hc ▸ hx)]
  exact hst x (Or.inr hx.below)

/-- the hypothesis `hans` of `sameDispatch_part` / `sameDispatch_traces` (`Lemmas/AnyTrace.lean`),
read off the ghost records of the two loops -/
theorem Inv2.answers_agree (hS : S.Valid) {inner1 inner2 : LevelRel}
    (hi1 : ∀ c t ro i s r, inner1 c t ro i s r → LevelDet S orc c t ro i s r)
    (hi2 : ∀ c t ro i s r, inner2 c t ro i s r → TickLevelAny S orc c t ro i s r)
    {L : Level} (hL : L ∈ S.levels) {inCh1 inCh2 : List (Port × V)} (hin : MapEq inCh1 inCh2)
    {t : SimTime} {roots1 roots2 : List Comp}
    {st1 st2 : SimSt} (hst : EqOn (AtOrBelow S L.name) st1 st2)
    {ls1 ls2 : LoopSt} {tr1 tr2 : List (Ev V)} {recs1 recs2 : List AnsRec}
    (inv1 : Inv2 S orc inner1 L inCh1 t roots1 st1 ls1 tr1 recs1)
    (inv2 : Inv2 S orc inner2 L inCh2 t roots2 st2 ls2 tr2 recs2) :
    ∀ a d1 d2 ch1 ch2, dispatchOf tr1 a = some d1 → dispatchOf tr2 a = some d2 →
      Dispatch.Equiv d1 d2 → Ev.answer a ch1 ∈ tr1 → Ev.answer a ch2 ∈ tr2 →
      ∀ p, alookup ch1 p = alookup ch2 p := by
  intro a d1 d2 ch1 ch2 h1 h2 he hm1 hm2
  obtain ⟨r1, hr1, hc1, rfl, hdo1⟩ := inv1.rec_of_answer hm1
  obtain ⟨r2, hr2, hc2, rfl, hdo2⟩ := inv2.rec_of_answer hm2
  rw [h1] at hdo1
  rw [h2] at hdo2
  cases hdo1
  cases hdo2
  exact (inv1.recs_det hS hi1 hi2 hL hin hst inv2 r1 hr1 r2 hr2 (hc1.trans hc2.symm) he).2.1

theorem level_sameDispatch (hS : S.Valid) {inner1 inner2 : LevelRel}
    (hi1 : ∀ c t ro i s r, inner1 c t ro i s r → LevelDet S orc c t ro i s r)
    (hi2 : ∀ c t ro i s r, inner2 c t ro i s r → TickLevelAny S orc c t ro i s r)
    {L : Level} (hL : L ∈ S.levels) {inCh1 inCh2 : List (Port × V)} (hin : MapEq inCh1 inCh2)
    {t : SimTime} {roots1 roots2 : List Comp} (hroots : ∀ c, c ∈ roots1 ↔ c ∈ roots2)
    {st1 st2 : SimSt} (hst : EqOn (AtOrBelow S L.name) st1 st2)
    {ls1 ls2 : LoopSt} {tr1 tr2 : List (Ev V)} {recs1 recs2 : List AnsRec}
    (inv1 : Inv2 S orc inner1 L inCh1 t roots1 st1 ls1 tr1 recs1)
    (inv2 : Inv2 S orc inner2 L inCh2 t roots2 st2 ls2 tr2 recs2)
    (hf1 : ls1.tk.toUpdate = []) (hf2 : ls2.tk.toUpdate = []) :
    (∀ c, SameDispatch (dispatchOf tr1 c) (dispatchOf tr2 c)) ∧
      (∀ r1 ∈ recs1, ∃ r2 ∈ recs2, r1.d.comp = r2.d.comp ∧ Dispatch.Equiv r1.d r2.d) ∧
      ∀ r2 ∈ recs2, ∃ r1 ∈ recs1, r1.d.comp = r2.d.comp ∧ Dispatch.Equiv r1.d r2.d := by
  have hw := hS.routerOK hL
  have hsame := sameDispatch_traces hw (hS.acyclic L hL) hroots
    (TraceFin.of_inv hw (hf1 ▸ inv1.pre) inv1.eq) (hf2 ▸ inv2.pre) inv2.eq
    (inv1.answers_agree hS hi1 hi2 hL hin hst inv2)
  refine ⟨hsame, fun r1 hr1 => ?_, fun r2 hr2 => ?_⟩
  · have hs := hsame r1.d.comp
    rw [inv1.rec_dispatch hr1] at hs
    cases hd2 : dispatchOf tr2 r1.d.comp with
    | none => rw [hd2] at hs; exact hs.elim
    | some d2 =>
      rw [hd2] at hs
      obtain ⟨r2, hr2, rfl⟩ := inv2.rec_of_dispatched hf2 hd2
      exact ⟨r2, hr2, (dispatchOf_eq_some hd2).2.symm, hs⟩
  · have hs := hsame r2.d.comp
    rw [inv2.rec_dispatch hr2] at hs
    cases hd1 : dispatchOf tr1 r2.d.comp with
    | none => rw [hd1] at hs; exact hs.elim
    | some d1 =>
      rw [hd1] at hs
      obtain ⟨r1, hr1, rfl⟩ := inv1.rec_of_dispatched hf1 hd1
      exact ⟨r1, hr1, (dispatchOf_eq_some hd1).2, hs⟩

theorem level_det (hS : S.Valid) {inner1 inner2 : LevelRel}
    (hi1 : ∀ c t ro i s r, inner1 c t ro i s r → LevelDet S orc c t ro i s r)
    (hi2 : ∀ c t ro i s r, inner2 c t ro i s r → TickLevelAny S orc c t ro i s r)
    {L : Level} (hL : L ∈ S.levels) {inCh1 inCh2 : List (Port × V)} (hin : MapEq inCh1 inCh2)
    {t : SimTime} {roots1 roots2 : List Comp} (hroots : ∀ c, c ∈ roots1 ↔ c ∈ roots2)
    {st1 st2 : SimSt} (hst : EqOn (AtOrBelow S L.name) st1 st2)
    {ls1 ls2 : LoopSt} {tr1 tr2 : List (Ev V)} {recs1 recs2 : List AnsRec}
    (inv1 : Inv2 S orc inner1 L inCh1 t roots1 st1 ls1 tr1 recs1)
    (inv2 : Inv2 S orc inner2 L inCh2 t roots2 st2 ls2 tr2 recs2)
    (hf1 : ls1.tk.toUpdate = []) (hf2 : ls2.tk.toUpdate = []) :
    EqOn (AtOrBelow S L.name) ls1.st ls2.st ∧ MapEq ls1.outCh ls2.outCh := by
  have hrec := inv1.recs_det hS hi1 hi2 hL hin hst inv2
  obtain ⟨_, hcorr, hcorr'⟩ := level_sameDispatch hS hi1 hi2 hL hin hroots hst inv1 inv2 hf1 hf2
  have hnone : ∀ c, (∀ r ∈ recs1, r.d.comp ≠ c) → ∀ r ∈ recs2, r.d.comp ≠ c := by
    intro c h1 r2 hr2 h
    obtain ⟨r1, hr1, hc, _⟩ := hcorr' r2 hr2
    exact h1 r1 hr1 (hc.trans h)
  refine ⟨?_, ?_⟩
  · rintro x (rfl | hb)
    · -- the level's own key: only the wakeups changed
      have h0 := hst L.name (Or.inl rfl)
      obtain ⟨a1, a2, a3, a4, a5⟩ := inv1.own
      obtain ⟨b1, b2, b3, b4, b5⟩ := inv2.own
      have hwake : MapEq (ls1.st.sched L.name).wake (ls2.st.sched L.name).wake := by
        intro a
        by_cases hex : ∃ r1 ∈ recs1, r1.d.comp = a
        · obtain ⟨r1, hr1, rfl⟩ := hex
          obtain ⟨r2, hr2, hc, he⟩ := hcorr r1 hr1
          have hw0 : alookup (st1.sched L.name).wake r2.d.comp = alookup (st2.sched L.name).wake r2.d.comp :=
            h0.sch.wake _
          obtain ⟨_, _, _, _, hwake1⟩ := inv1.recs_ok r1 hr1
          obtain ⟨_, _, _, _, hwake2⟩ := inv2.recs_ok r2 hr2
          obtain ⟨_, _, hca⟩ := hrec r1 hr1 r2 hr2 hc he
          rw [hwake1, hc, hwake2, hca, hw0]
        · have hno1 : ∀ r ∈ recs1, r.d.comp ≠ a := fun r hr h => hex ⟨r, hr, h⟩
          rw [inv1.wake_other a hno1, inv2.wake_other a (hnone a hno1)]
          exact h0.sch.wake a
      refine ⟨?_, ?_, a2.trans (h0.cnt.trans b2.symm), ⟨hwake, inv1.own_unique h0.sch.ua,
        inv2.own_unique h0.sch.ub, fun c => ?_, a5.trans (h0.sch.first.trans b5.symm)⟩, ?_⟩
      · rw [a1, b1]; exact h0.ins
      · rw [a1, b1]; exact h0.outs
      · show c ∈ (ls1.st.sched L.name).interrupts ↔ c ∈ (ls2.st.sched L.name).interrupts
        rw [a4, b4]; exact h0.sch.ints c
      · rw [a3, b3]; exact h0.ob
    · -- something below the level: it belongs to exactly one child
      obtain ⟨c, hc, hown⟩ := hb.top
      have hfoot : Foot S L c x := ⟨hc, hown⟩
      by_cases hex : ∃ r1 ∈ recs1, r1.d.comp = c
      · obtain ⟨r1, hr1, rfl⟩ := hex
        obtain ⟨r2, hr2, hcc, he⟩ := hcorr r1 hr1
        obtain ⟨_, _, _, hpost1, _⟩ := inv1.recs_ok r1 hr1
        obtain ⟨_, _, _, hpost2, _⟩ := inv2.recs_ok r2 hr2
        rw [hpost1 x hfoot, hpost2 x (hcc ▸ hfoot)]
        exact (hrec r1 hr1 r2 hr2 hcc he).1 x hfoot
      · have hno1 : ∀ r ∈ recs1, r.d.comp ≠ c := fun r hr h => hex ⟨r, hr, h⟩
        rw [inv1.untouched x (Foot.ne_level hS hfoot) fun r hr h => hno1 r hr (Foot.unique hS h hfoot),
          inv2.untouched x (Foot.ne_level hS hfoot) fun r hr h =>
            hnone c hno1 r hr (Foot.unique hS h hfoot)]
        exact hst x (Or.inr hb)
  · -- the exposed output changes: what `expose` was given
    rw [inv1.outch, inv2.outch]
    rcases outOf_cases L recs1 with ⟨e1, n1⟩ | ⟨r1, hr1, e1⟩
    · rcases outOf_cases L recs2 with ⟨e2, _⟩ | ⟨r2, hr2, e2⟩
      · rw [e1, e2]; exact MapEq.refl _
      · exfalso
        obtain ⟨r1, hr1, _, he⟩ := hcorr' r2 hr2
        obtain ⟨ins', hins', _⟩ := exposeIns_equiv (L := L) he.symm' e2
        rw [n1 r1 hr1] at hins'
        cases hins'
    · obtain ⟨r2, hr2, hc, he⟩ := hcorr r1 hr1
      obtain ⟨ins', hins', hm⟩ := exposeIns_equiv he e1
      rcases outOf_cases L recs2 with ⟨_, n2⟩ | ⟨r2', hr2', e2⟩
      · rw [n2 r2 hr2] at hins'; cases hins'
      · -- both records of `expose` in the second execution are the same dispatch
        obtain ⟨t2, ht2⟩ := (exposeIns_eq_some.1 hins').2
        obtain ⟨t2', ht2'⟩ := (exposeIns_eq_some.1 e2).2
        have hd := inv2.rec_dispatch hr2
        have hd' := inv2.rec_dispatch hr2'
        have hcc : r2.d.comp = r2'.d.comp := by rw [ht2, ht2']; rfl
        rw [hcc, hd'] at hd
        have : r2'.d = r2.d := Option.some.inj hd
        rw [this, hins'] at e2
        cases e2
        exact hm

theorem tickLevelAny_det (hS : S.Valid) {lvl : Comp} {t : SimTime} {roots : List Comp}
    {inCh : List (Port × V)} {st : SimSt} {r : SimSt × List (Port × V)}
    (h : TickLevelAny S orc lvl t roots inCh st r) : LevelDet S orc lvl t roots inCh st r := by
  refine TickLevelAny.strong_induct (Q := LevelDet S orc) ?_ h
  intro lvl t roots inCh st r hl roots' inCh' st' r' hroots hin hn hn' hst h2
  obtain ⟨L, ls1, tr1, recs1, hLv, hL, rfl, inv1, hf1, rfl⟩ :=
    hl.fin_inv2 hS (fun _ _ _ _ _ _ h => tickLevelAny_post1 hS h.1) hn
  obtain ⟨L', ls2, tr2, recs2, hLv', _, _, inv2, hf2, rfl⟩ :=
    (tickLevelAny_iff.1 h2).fin_inv2 hS (fun _ _ _ _ _ _ h => tickLevelAny_post1 hS h) hn'
  rw [hLv] at hLv'
  cases hLv'
  exact level_det hS (fun _ _ _ _ _ _ h => h.2) (fun _ _ _ _ _ _ h => h) hL hin hroots hst inv1 inv2
    hf1 hf2

/-- what lies neither at nor below the level is not touched -/
theorem tickLevelAny_det_equiv (hS : S.Valid) {lvl : Comp} {t : SimTime} {roots roots' : List Comp}
    {inCh inCh' : List (Port × V)} {st st' : SimSt} {r r' : SimSt × List (Port × V)}
    (hroots : ∀ c, c ∈ roots ↔ c ∈ roots') (hin : MapEq inCh inCh')
    (hn : (akeys inCh).Nodup) (hn' : (akeys inCh').Nodup) (hst : st.Equiv st')
    (h1 : TickLevelAny S orc lvl t roots inCh st r)
    (h2 : TickLevelAny S orc lvl t roots' inCh' st' r') : r.1.Equiv r'.1 ∧ MapEq r.2 r'.2 := by
  obtain ⟨hd, hout⟩ := tickLevelAny_det hS h1 roots' inCh' st' r' hroots hin hn hn'
    (fun x _ => hst x) h2
  refine ⟨fun x => ?_, hout⟩
  by_cases hx : AtOrBelow S lvl x
  · exact hd x hx
  · rw [(tickLevelAny_post1 hS h1).frame' hx, (tickLevelAny_post1 hS h2).frame' hx]
    exact hst x

end

end Tickit
