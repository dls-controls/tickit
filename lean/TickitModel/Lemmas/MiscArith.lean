/-
Pacing arithmetic for C12 on plain integers: `ceilDiv`, the wait before a tick, `dueReal` as
`now + wait` and as a `max` (`dueReal_eq_max`), the sleep after the end of a tick
(`CostRun.sleepFor`, for C07 with costs), `interruptStamp` as a floor, and how the inequalities of
consecutive ticks add up (`omega` with products as atoms).
-/
import TickitModel.Core.Sim
namespace Tickit

theorem ceilDiv_mul_ge (N n : Int) (hn : 0 < n) : N ≤ ceilDiv N n * n := by
  unfold ceilDiv
  have h := Int.ediv_mul_le (-N) (Int.ne_of_gt hn)
  rw [Int.neg_mul]; omega

theorem ceilDiv_mul_lt (N n : Int) (hn : 0 < n) : ceilDiv N n * n < N + n := by
  unfold ceilDiv
  have h := Int.lt_ediv_add_one_mul_self (-N) hn
  rw [Int.add_mul, Int.one_mul] at h
  rw [Int.neg_mul]; omega

theorem ceilDiv_mul_eq (N n : Int) (hd : n ∣ N) : ceilDiv N n * n = N := by
  unfold ceilDiv
  have h := Int.ediv_mul_cancel (Int.dvd_neg.mpr hd)
  rw [Int.neg_mul]; omega

theorem ceilDiv_le_iff (N n k : Int) (hn : 0 < n) : ceilDiv N n ≤ k ↔ N ≤ k * n := by
  unfold ceilDiv
  have := @Int.le_ediv_iff_mul_le (-k) (-N) n hn
  rw [Int.neg_mul] at this
  omega

theorem ceilDiv_nonneg (N n : Int) (hn : 0 < n) (hN : 0 ≤ N) : 0 ≤ ceilDiv N n :=
  Int.not_lt.1 fun h => by have := (ceilDiv_le_iff N n (-1) hn).1 (by omega); omega

theorem ceilDiv_mono (N N' n : Int) (hn : 0 < n) (h : N ≤ N') : ceilDiv N n ≤ ceilDiv N' n :=
  (ceilDiv_le_iff N n _ hn).2 (Int.le_trans h (ceilDiv_mul_ge N' n hn))

theorem ceilDiv_sub_mul (N k n : Int) (hn : 0 < n) : ceilDiv (N - k * n) n = ceilDiv N n - k := by
  unfold ceilDiv
  have e : -(N - k * n) = -N + k * n := by omega
  rw [e, Int.add_mul_ediv_right _ _ (Int.ne_of_gt hn)]
  omega

/-! the wait before a tick: `⌈X / n⌉` units, none when `X ≤ 0` (`CostRun.sleepFor sp Δ`, below, is
this wait for `X = Δ * sp.den`, `n = sp.num`) -/

theorem wait_mul_ge (X n : Int) (hn : 0 < n) :
    0 ≤ (if X ≤ 0 then 0 else ceilDiv X n) ∧ X ≤ (if X ≤ 0 then 0 else ceilDiv X n) * n := by
  split
  · omega
  · exact ⟨ceilDiv_nonneg X n hn (by omega), ceilDiv_mul_ge X n hn⟩

theorem wait_mul_le (X n : Int) (hn : 0 < n) (hX : 0 ≤ X) :
    (if X ≤ 0 then 0 else ceilDiv X n) * n ≤ X + (n - 1) := by
  split
  · omega
  · have := ceilDiv_mul_lt X n hn
    omega

theorem wait_mul_eq (X n : Int) (hX : 0 ≤ X) (hd : n ∣ X) :
    (if X ≤ 0 then 0 else ceilDiv X n) * n = X := by
  split
  · omega
  · exact ceilDiv_mul_eq X n hd

theorem dueReal_eq (m : MasterSt) (s : Speed) (W : SimTime) :
    dueReal m s W =
      if sleepNumer W m.tickerTime m.now m.lastReal s ≤ 0 then m.now
      else m.now + ceilDiv (sleepNumer W m.tickerTime m.now m.lastReal s) s.num := rfl

theorem sleepNumer_eq (W T : SimTime) (now last : Int) (s : Speed) :
    sleepNumer W T now last s = (W - T) * (s.den : Int) - (now - last) * (s.num : Int) := rfl

theorem dueReal_wait (m : MasterSt) (s : Speed) (W : SimTime) :
    dueReal m s W = m.now + (if sleepNumer W m.tickerTime m.now m.lastReal s ≤ 0 then 0
      else ceilDiv (sleepNumer W m.tickerTime m.now m.lastReal s) s.num) := by
  rw [dueReal_eq]
  split
  · rw [Int.add_zero]
  · rfl

theorem dueReal_free (m : MasterSt) (s : Speed) (W : SimTime) (h : m.now = m.lastReal) :
    dueReal m s W = m.lastReal +
      (if (W - m.tickerTime) * s.den ≤ 0 then 0 else ceilDiv ((W - m.tickerTime) * s.den) s.num) := by
  rw [dueReal_wait, sleepNumer_eq, h, Int.sub_self, Int.zero_mul, Int.sub_zero]

namespace CostRun

/-- the sleep, in whole nanoseconds of real time, for `Δ` ns of simulation time:
`max 0 ⌈Δ·den/num⌉` (`sleep_time` evaluated at the very end of the previous tick) -/
def sleepFor (sp : Speed) (Δ : Int) : Int :=
  if Δ * sp.den ≤ 0 then 0 else ceilDiv (Δ * sp.den) sp.num

theorem sleepFor_nonneg (sp : Speed) (hn : 0 < sp.num) (Δ : Int) : 0 ≤ sleepFor sp Δ :=
  (wait_mul_ge _ _ (Int.natCast_pos.2 hn)).1

theorem sleepFor_mono (sp : Speed) (hn : 0 < sp.num) (a b : Int) (h : a ≤ b) :
    sleepFor sp a ≤ sleepFor sp b := by
  have hm := Int.mul_le_mul_of_nonneg_right h (Int.natCast_nonneg sp.den)
  by_cases ha : a * sp.den ≤ 0
  · rw [sleepFor, if_pos ha]
    exact sleepFor_nonneg sp hn b
  · rw [sleepFor, sleepFor, if_neg ha, if_neg (fun hb => ha (Int.le_trans hm hb))]
    exact ceilDiv_mono _ _ _ (Int.natCast_pos.2 hn) hm

theorem sleepFor_nonpos (sp : Speed) (Δ : Int) (h : Δ ≤ 0) : sleepFor sp Δ = 0 := by
  unfold sleepFor
  rw [if_pos]
  exact Int.mul_nonpos_of_nonpos_of_nonneg h (Int.natCast_nonneg _)

theorem sleepFor_floor_le (sp : Speed) (hn : 0 < sp.num) (hd : 0 < sp.den) (r : Int) (hr : 0 ≤ r) :
    sleepFor sp ((r * sp.num) / sp.den) ≤ r := by
  unfold sleepFor
  split
  · exact hr
  · exact (ceilDiv_le_iff _ _ _ (Int.natCast_pos.2 hn)).2
      (Int.ediv_mul_le _ (Int.ne_of_gt (Int.natCast_pos.2 hd)))

theorem dueReal_after_tick (sim : SimSt) (w : SimTime) (e : Int) (sp : Speed) (B : SimTime) :
    dueReal { sim := sim, tickerTime := w, lastReal := e, now := e } sp B =
      e + (if (B - w) * sp.den ≤ 0 then 0 else ceilDiv ((B - w) * sp.den) sp.num) :=
  dueReal_free _ sp B rfl

end CostRun

private theorem elapsed_mul (now last w n : Int) : (now + w - last) * n = (now - last) * n + w * n := by
  rw [← Int.add_mul]
  congr 1
  omega

/-- **never early**: the real time at which the tick for `whenT` is started is never before
`now`, and real time elapsed since the previous tick ended is at least
`(whenT - m.tickerTime)/speed`, whatever time processing has already cost (`now - lastReal`). -/
theorem never_early (m : MasterSt) (s : Speed) (hs : 0 < s.num) (whenT : SimTime) :
    m.now ≤ dueReal m s whenT ∧
    (whenT - m.tickerTime) * s.den ≤ (dueReal m s whenT - m.lastReal) * s.num := by
  obtain ⟨h1, h2⟩ := wait_mul_ge (sleepNumer whenT m.tickerTime m.now m.lastReal s) s.num
    (Int.natCast_pos.2 hs)
  rw [dueReal_wait, elapsed_mul]
  exact ⟨Int.le_add_of_nonneg_right h1, Int.le_add_of_sub_left_le h2⟩

/-- in this form the due time depends on `now` only through the `max`. -/
theorem dueReal_eq_max (m : MasterSt) (sp : Speed) (hn : 0 < sp.num) (W : SimTime) :
    dueReal m sp W =
      max m.now (m.lastReal + ceilDiv ((W - m.tickerTime) * (sp.den : Int)) sp.num) := by
  have hnum : (0 : Int) < sp.num := Int.natCast_pos.2 hn
  rw [dueReal_eq, sleepNumer_eq, ceilDiv_sub_mul _ _ _ hnum]
  have := ceilDiv_le_iff ((W - m.tickerTime) * (sp.den : Int)) sp.num (m.now - m.lastReal) hnum
  by_cases h : (W - m.tickerTime) * (sp.den : Int) ≤ (m.now - m.lastReal) * sp.num
  · have := this.2 h
    rw [if_pos (Int.sub_nonpos_of_le h), Int.max_eq_left]
    omega
  · have := mt this.1 h
    rw [if_neg (fun h' => h (Int.le_of_sub_nonpos h')), Int.max_eq_right]
    · omega
    · omega

theorem dueReal_mono_when (m : MasterSt) (sp : Speed) (hn : 0 < sp.num) (w B : SimTime)
    (h : w ≤ B) : dueReal m sp w ≤ dueReal m sp B := by
  have := ceilDiv_mono _ _ sp.num (Int.natCast_pos.2 hn) (Int.mul_le_mul_of_nonneg_right
    (Int.sub_le_sub_right h m.tickerTime) (Int.natCast_nonneg sp.den))
  rw [dueReal_eq_max m sp hn, dueReal_eq_max m sp hn]
  exact Int.max_le.2 ⟨Int.le_max_left _ _,
    Int.le_trans (Int.add_le_add_left this _) (Int.le_max_right _ _)⟩

theorem dueReal_now_shift (m m' : MasterSt) (sp : Speed) (hn : 0 < sp.num) (B : SimTime)
    (hT : m'.tickerTime = m.tickerTime) (hL : m'.lastReal = m.lastReal)
    (h1 : m.now ≤ m'.now) (h2 : m'.now ≤ dueReal m sp B) : dueReal m' sp B = dueReal m sp B := by
  rw [dueReal_eq_max m sp hn] at h2 ⊢
  rw [dueReal_eq_max m' sp hn, hT, hL]
  exact Int.le_antisymm (Int.max_le.2 ⟨h2, Int.le_max_right _ _⟩)
    (Int.max_le.2 ⟨Int.le_trans h1 (Int.le_max_left _ _), Int.le_max_right _ _⟩)

/-- **exact when free**: if the wait is a whole number of nanoseconds and not already
overdue, the tick starts exactly `(whenT - m.tickerTime)/speed` after the previous one ended. -/
theorem exact_when_free (m : MasterSt) (s : Speed) (hs : 0 < s.num) (whenT : SimTime)
    (hnn : 0 ≤ sleepNumer whenT m.tickerTime m.now m.lastReal s)
    (hdiv : (s.num : Int) ∣ sleepNumer whenT m.tickerTime m.now m.lastReal s) :
    (dueReal m s whenT - m.lastReal) * s.num = (whenT - m.tickerTime) * s.den := by
  -- `hs` is not needed: with `hdiv` the rounded-up wait is exact for any `num`
  have _ := hs
  rw [dueReal_wait, elapsed_mul, wait_mul_eq _ _ hnn hdiv, sleepNumer_eq]
  omega

/-! the real time `max st.real m.now` at which a stimulus is handled, as `masterRun` writes it
(`a = st.real`, `b = m.now`) -/

theorem le_stimNow (a b : Int) : b ≤ (if a < b then b else a) := by
  split <;> omega

theorem stimNow_eq {a b : Int} (h : a ≤ b) : (if a < b then b else a) = b := by
  split <;> omega

theorem stimNow_le {a b e : Int} (ha : a ≤ e) (hb : b ≤ e) : (if a < b then b else a) ≤ e := by
  split <;> assumption

theorem stimNow_lt {a b e : Int} (ha : a < e) (hb : b < e) : (if a < b then b else a) < e := by
  split <;> assumption

private theorem sub_split (a b c : Int) : a - c = (b - c) + (a - b) := by omega

/-- not ahead at `(t, r)`, counted from `(t0, r0)`, and a wait from `(t, l)` to `(w, D)` with
`l ≥ r`: not ahead at `(w, D)` -/
theorem ahead_next {t0 t w r0 r l D d n : Int} (hn : 0 ≤ n) (hr : r ≤ l)
    (hinv : (t - t0) * d ≤ (r - r0) * n) (h1 : (w - t) * d ≤ (D - l) * n) :
    (w - t0) * d ≤ (D - r0) * n := by
  have h2 : 0 ≤ (l - r) * n := Int.mul_nonneg (Int.sub_nonneg_of_le hr) hn
  rw [sub_split w t t0, sub_split D l r0, sub_split l r r0, Int.add_mul, Int.add_mul, Int.add_mul]
  omega

theorem linear_next {t0 t w r0 l D d n : Int} (hinv : (t - t0) * d = (l - r0) * n)
    (h1 : (w - t) * d = (D - l) * n) : (w - t0) * d = (D - r0) * n := by
  rw [sub_split w t t0, sub_split D l r0, Int.add_mul, Int.add_mul, hinv, h1]

/-- never ahead after one more tick (`B`: processing time so far, `c`: that of the last tick): the
inequalities of the ticks so far and of the last link add up -/
theorem ahead_step {t0 ty tx r0 ry rx B c d n : Int} (ih : (ty - t0) * d ≤ (ry - r0 - B) * n)
    (hl : (tx - ty) * d ≤ (rx - (ry + c)) * n) : (tx - t0) * d ≤ (rx - r0 - (B + c)) * n := by
  have e2 : rx - r0 - (B + c) = (ry - r0 - B) + (rx - (ry + c)) := by omega
  rw [sub_split tx ty t0, e2, Int.add_mul, Int.add_mul]
  exact Int.add_le_add ih hl

theorem lag_step {t0 ty tx r0 ry rx B c d n K e : Int}
    (ih : (ry - r0 - B) * n ≤ (ty - t0) * d + K)
    (hl : (rx - (ry + c)) * n ≤ (tx - ty) * d + e) :
    (rx - r0 - (B + c)) * n ≤ (tx - t0) * d + (K + e) := by
  have e2 : rx - r0 - (B + c) = (ry - r0 - B) + (rx - (ry + c)) := by omega
  rw [sub_split tx ty t0, e2, Int.add_mul, Int.add_mul]
  have := Int.add_le_add ih hl
  omega

theorem floor_lag_le {t0 T R K d : Int} (hd : 0 < d) (h : R - (T - t0) * d ≤ K) :
    t0 + R / d - T ≤ K / d := by
  have := Int.ediv_le_ediv hd (Int.le_add_of_sub_right_le h)
  rw [Int.add_mul_ediv_right _ _ (Int.ne_of_gt hd)] at this
  omega

theorem truncDiv_nonneg_eq (X d : Int) (hX : 0 ≤ X) : truncDiv X d = X / d := by
  unfold truncDiv
  exact Int.tdiv_eq_ediv_of_nonneg hX

theorem interruptStamp_eq (t : SimTime) (now last : Int) (s : Speed) (hnow : last ≤ now) :
    interruptStamp t now last s = t + ((now - last) * (s.num : Int)) / (s.den : Int) := by
  unfold interruptStamp
  rw [truncDiv_nonneg_eq _ _ (Int.mul_nonneg (by omega) (by omega))]

theorem interruptStamp_sub (t : SimTime) (now last : Int) (s : Speed) (hnow : last ≤ now) :
    interruptStamp t now last s - t = ((now - last) * (s.num : Int)) / (s.den : Int) := by
  rw [interruptStamp_eq t now last s hnow]
  exact Int.sub_eq_iff_eq_add'.mpr rfl

/-- **stamp law**: an interrupt arriving at real time `now ≥ lastReal` is stamped with the
simulation time corresponding to that real time: `t + ⌊(now - lastReal)·speed⌋`. -/
theorem stamp_law (t : SimTime) (now last : Int) (s : Speed) (hs : 0 < s.den) (hnow : last ≤ now) :
    (interruptStamp t now last s - t) * s.den ≤ (now - last) * s.num ∧
    (now - last) * s.num < (interruptStamp t now last s - t + 1) * s.den := by
  have hd : (0 : Int) < s.den := by omega
  rw [interruptStamp_sub t now last s hnow]
  exact ⟨Int.ediv_mul_le _ (Int.ne_of_gt hd), Int.lt_ediv_add_one_mul_self _ hd⟩

theorem stamp_not_ahead (t t0 : SimTime) (now last now0 r : Int) (s : Speed) (hd : 0 < s.den)
    (hnow : last ≤ now) (hr : r ≤ last) (hinv : (t - t0) * s.den ≤ (r - now0) * s.num) :
    (interruptStamp t now last s - t0) * s.den ≤ (now - now0) * s.num :=
  ahead_next (Int.natCast_nonneg _) hr hinv (stamp_law t now last s hd hnow).1

theorem interruptStamp_ge (t : SimTime) (now last : Int) (s : Speed) (h : last ≤ now) :
    t ≤ interruptStamp t now last s := by
  rw [interruptStamp_eq t now last s h]
  exact Int.le_add_of_nonneg_right (Int.ediv_nonneg
    (Int.mul_nonneg (Int.sub_nonneg_of_le h) (Int.natCast_nonneg _)) (Int.natCast_nonneg _))

theorem dueReal_now_of_reached (m : MasterSt) (sp : Speed) (w v : SimTime) (hwv : w ≤ v)
    (hv : (v - m.tickerTime) * sp.den ≤ (m.now - m.lastReal) * sp.num) : dueReal m sp w = m.now := by
  rw [dueReal_eq, if_pos]
  rw [sleepNumer_eq]
  exact Int.sub_nonpos_of_le (Int.le_trans
    (Int.mul_le_mul_of_nonneg_right (Int.sub_le_sub_right hwv _) (Int.natCast_nonneg _)) hv)

end Tickit
