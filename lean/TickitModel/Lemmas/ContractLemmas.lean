import TickitModel.Core.Contract
import TickitModel.Lemmas.BusBasics
import TickitModel.Lemmas.DictLemmas

namespace Tickit

theorem CBus.deliveredTo_eq_recvOf (b : CBus) (k : Nat) (T : CTopic) :
    b.deliveredTo k T = recvOf b.delivered k T := rfl

theorem CBus.step_subscribe_of {b : CBus} {k : Nat} {T : CTopic} (h : alookup b.cursors (k, T) = none) :
    b.step (.subscribe k T) = some { b with cursors := upsert b.cursors (k, T) 0 } := by
  rw [CBus.step, h]

theorem CBus.step_subscribe_inv {b b' : CBus} {k : Nat} {T : CTopic}
    (hs : b.step (.subscribe k T) = some b') :
    alookup b.cursors (k, T) = none ∧ b' = { b with cursors := upsert b.cursors (k, T) 0 } := by
  rw [CBus.step] at hs
  split at hs
  · cases hs
  · next h => exact ⟨h, (Option.some.inj hs).symm⟩

theorem CBus.step_deliver_of {b : CBus} {k : Nat} {T : CTopic} {i : Nat} {v : Int}
    (hi : alookup b.cursors (k, T) = some i) (hv : (b.log T)[i]? = some v) :
    b.step (.deliver k T) = some { b with cursors := upsert b.cursors (k, T) (i + 1),
                                          delivered := b.delivered ++ [(k, T, v)] } := by
  simp only [CBus.step, hi, hv]

theorem CBus.step_deliver_inv {b b' : CBus} {k : Nat} {T : CTopic}
    (hs : b.step (.deliver k T) = some b') :
    ∃ i v, alookup b.cursors (k, T) = some i ∧ (b.log T)[i]? = some v ∧
      b' = { b with cursors := upsert b.cursors (k, T) (i + 1),
                    delivered := b.delivered ++ [(k, T, v)] } := by
  rw [CBus.step] at hs
  split at hs
  · cases hs
  · next i hi =>
    split at hs
    · cases hs
    · next v hv => exact ⟨i, v, hi, hv, (Option.some.inj hs).symm⟩

theorem CBus.log_produce (b : CBus) (T' : CTopic) (v : Int) (T : CTopic) :
    ({ b with logs := upsert b.logs T' (b.log T' ++ [v]) } : CBus).log T =
      if T' = T then b.log T ++ [v] else b.log T := by
  simp only [CBus.log, agetD_upsert]
  split
  · next h => subst h; rfl
  · rfl

/-- a pair that has not subscribed counts as cursor 0. -/
def CBus.Inv (b : CBus) : Prop :=
  ∀ k T, agetD b.cursors (k, T) 0 ≤ (b.log T).length ∧
    b.deliveredTo k T = (b.log T).take (agetD b.cursors (k, T) 0)

theorem CBus.Inv.empty : CBus.Inv {} :=
  fun _ _ => ⟨Nat.zero_le _, rfl⟩

theorem CBus.Inv.step {b b' : CBus} {a : CAct} (hI : b.Inv) (hs : b.step a = some b') : b'.Inv := by
  intro k T
  obtain ⟨hle, hd⟩ := hI k T
  cases a with
  | produce T' v =>
    cases hs
    rw [CBus.log_produce]
    split
    · exact ⟨Nat.le_trans hle (by simp), by rw [List.take_append_of_le_length hle]; exact hd⟩
    · exact ⟨hle, hd⟩
  | subscribe k' T' =>
    -- a fresh pair gets cursor 0, which is what it counted as before
    obtain ⟨hnone, rfl⟩ := CBus.step_subscribe_inv hs
    have hcur : agetD (upsert b.cursors (k', T') 0) (k, T) 0 = agetD b.cursors (k, T) 0 := by
      rw [agetD_upsert]
      split
      · next h => rw [← h, agetD, hnone]; rfl
      · rfl
    exact hcur ▸ ⟨hle, hd⟩
  | deliver k' T' =>
    obtain ⟨i, v, hi, hv, rfl⟩ := CBus.step_deliver_inv hs
    rw [CBus.deliveredTo_eq_recvOf] at hd ⊢
    show agetD (upsert b.cursors (k', T') (i + 1)) (k, T) 0 ≤ (b.log T).length ∧
      recvOf (b.delivered ++ [(k', T', v)]) k T =
        (b.log T).take (agetD (upsert b.cursors (k', T') (i + 1)) (k, T) 0)
    rw [agetD_upsert, recvOf_append, recvOf_singleton]
    by_cases hkt : (k', T') = (k, T)
    · cases hkt
      have hcur : agetD b.cursors (k, T) 0 = i := by rw [agetD, hi]; rfl
      rw [hcur] at hd
      rw [if_pos rfl, if_pos ⟨rfl, rfl⟩, List.take_add_one, hv]
      exact ⟨(List.getElem?_eq_some_iff.1 hv).1, congrArg (· ++ [v]) hd⟩
    · rw [if_neg hkt, if_neg (fun h => hkt (by rw [h.1, h.2])), List.append_nil]
      exact ⟨hle, hd⟩

theorem CExec.inv {b b' : CBus} {acts : List CAct} (h : CExec b acts b') (hI : b.Inv) : b'.Inv := by
  induction h with
  | nil => exact hI
  | cons hs _ ih => exact ih (hI.step hs)

theorem CExec.append {b b' b'' : CBus} {as bs : List CAct} (h1 : CExec b as b') (h2 : CExec b' bs b'') :
    CExec b (as ++ bs) b'' := by
  induction h1 with
  | nil => exact h2
  | cons hs _ ih => exact .cons hs (ih h2)

theorem CBus.step_swap_subscribe {b b₁ b₂ : CBus} {a : CAct} {k : Nat} {T : CTopic}
    (ha : a.isSubscribe = false) (h1 : b.step a = some b₁) (h2 : b₁.step (.subscribe k T) = some b₂) :
    ∃ c₁, b.step (.subscribe k T) = some c₁ ∧ c₁.step a = some b₂ := by
  cases a with
  | subscribe _ _ => cases ha
  | produce T' v =>
    cases h1
    obtain ⟨hnone, rfl⟩ := CBus.step_subscribe_inv h2
    exact ⟨_, CBus.step_subscribe_of hnone, rfl⟩
  | deliver k' T' =>
    obtain ⟨i, v, hi, hv, rfl⟩ := CBus.step_deliver_inv h1
    obtain ⟨hnone, rfl⟩ := CBus.step_subscribe_inv h2
    rw [alookup_upsert] at hnone
    have hne : (k', T') ≠ (k, T) := fun h => by rw [if_pos h] at hnone; cases hnone
    rw [if_neg hne] at hnone
    have hi' : alookup (upsert b.cursors (k, T) 0) (k', T') = some i := by
      rw [alookup_upsert, if_neg (Ne.symm hne)]; exact hi
    refine ⟨_, CBus.step_subscribe_of hnone, ?_⟩
    rw [CBus.step_deliver_of (b := { b with cursors := upsert b.cursors (k, T) 0 }) hi' hv]
    dsimp only
    rw [upsert_comm_of_mem _ _ _ (mem_akeys_of_alookup_eq_some hi) hne]

theorem CExec.move_past_subscribes {a : CAct} (ha : a.isSubscribe = false) (N : List CAct) :
    ∀ (S : List CAct), (∀ s ∈ S, s.isSubscribe = true) → ∀ {b b₁ b' : CBus},
      b.step a = some b₁ → CExec b₁ (S ++ N) b' → CExec b (S ++ a :: N) b' := by
  intro S
  induction S with
  | nil => intro _ b b₁ b' h1 h2; exact .cons h1 h2
  | cons s S ih =>
    intro hS b b₁ b' h1 h2
    cases h2 with
    | cons hs hrest =>
      have hsub : s.isSubscribe = true := hS s (List.mem_cons_self ..)
      cases s with
      | subscribe k T =>
        obtain ⟨c₁, hc1, hc2⟩ := CBus.step_swap_subscribe ha h1 hs
        exact .cons hc1 (ih (fun s hs => hS s (List.mem_cons_of_mem _ hs)) hc2 hrest)
      | produce _ _ => simp [CAct.isSubscribe] at hsub
      | deliver _ _ => simp [CAct.isSubscribe] at hsub

theorem CExec.subscribes_first {b b' : CBus} {acts : List CAct} (h : CExec b acts b') :
    CExec b (acts.filter CAct.isSubscribe ++ acts.filter (fun a => !a.isSubscribe)) b' := by
  induction h with
  | nil b => exact .nil b
  | @cons b b₁ b'' a as hs _ ih =>
    cases ha : a.isSubscribe with
    | true =>
      simp only [List.filter_cons, ha, if_true, Bool.not_true, Bool.false_eq_true, if_false, List.cons_append]
      exact .cons hs ih
    | false =>
      simp only [List.filter_cons, ha, Bool.false_eq_true, if_false, Bool.not_false, if_true]
      exact CExec.move_past_subscribes ha _ _ (fun s hs => (List.mem_filter.1 hs).2) hs ih

theorem CompSt.not_crashed_of_hasProducer (evs : List CompEv) (c : CompSt) (hc : c.crashed = false)
    (hp : c.hasProducer = true) : (evs.foldl CompSt.step c).crashed = false := by
  refine (foldl_inv (fun c => c.crashed = false ∧ c.hasProducer = true) CompSt.step evs
    (fun e _ c h => ?_) c ⟨hc, hp⟩).1
  rcases e with (_ | _) | _
  · exact ⟨h.1, rfl⟩
  · exact h
  · simp only [CompSt.step, h.2, if_true]
    split
    · exact h
    · exact ⟨h.1, rfl⟩

theorem CompSt.not_crashed_of_startOrder (evs : List CompEv) :
    ∀ c : CompSt, c.crashed = false → c.subscribed = false → RespectsStartOrder evs →
      (evs.foldl CompSt.step c).crashed = false := by
  induction evs with
  | nil => intro c h _ _; exact h
  | cons e evs ih =>
    intro c hc hs hr
    rw [List.foldl_cons]
    cases e with
    | input =>
      have : c.step .input = c := by simp [CompSt.step, hs]
      rw [this]
      exact ih c hc hs (by simpa [RespectsStartOrder] using hr)
    | start s =>
      cases s with
      | createProducer => exact CompSt.not_crashed_of_hasProducer evs _ hc rfl
      | subscribe =>
        simp [RespectsStartOrder, startOrder, List.cons_prefix_cons] at hr

end Tickit
