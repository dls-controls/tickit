/-
Helper lemmas for C10: a part of a simulation that no wire connects to the rest.  In one tick (for
`Props/C10.lean`), and over many ticks (`Tickit.PartRun`, for `Props/C10Run.lean`): the part
observes, in every run of the whole, exactly what it observes in a run of the part alone.

The invariant carried between a state `st` of the whole and a state `sa` of the part is
`(loc st c).Equiv (loc sa c)` for every `c` of the part and `alookup sa.wake c = none` for every
`c` outside it.
-/
import TickitModel.Lemmas.FlatDetLemmas
import TickitModel.Lemmas.TickComplete

namespace Tickit

/-- no wire of `w` crosses the border of the component set `A` (in either direction), and `wa` has
exactly the wires of `w` inside `A`.  Nothing ties the COMPONENTS of `wa` to `A` (`wa` may list
further, unwired ones: the hypothesis `hA` of `part_run_same`, `Props/C10Run.lean`).  For well-formed
wirings `extent_iff` follows from the other fields (`IsPart.of_wf`); it is a field because
`part_tick_same` (`Props/C10.lean`) is to hold without `WF`. -/
structure IsPart (w wa : Wiring) (A : Comp → Prop) : Prop where
  conn_iff : ∀ a p b q, A b → (w.Conn a p b q ↔ wa.Conn a p b q)
  closed : ∀ a p b q, w.Conn a p b q → (A a ↔ A b)
  inside : ∀ a p b q, wa.Conn a p b q → A a ∧ A b
  ups_some : ∀ c, A c → ((w.ups c).isSome ↔ (wa.ups c).isSome)
  extent_iff : ∀ roots rootsA c, A c → (∀ r, r ∈ rootsA ↔ r ∈ roots ∧ A r) →
    (c ∈ extent w roots ↔ c ∈ extent wa rootsA)

theorem extent_inside {w : Wiring} (hwf : w.WF) {A : Comp → Prop}
    (hcl : ∀ a p b q, w.Conn a p b q → A a → A b) {roots : List Comp} (hroots : ∀ r ∈ roots, A r)
    {c : Comp} (hc : c ∈ extent w roots) : A c := by
  obtain ⟨r, hr, hcr⟩ := (mem_extent_iff w roots c).1 hc
  exact Wiring.dependants_sound hwf r A (hroots r hr) (fun a b ha ⟨p, q, h⟩ => hcl a p b q h ha) c hcr

theorem IsPart.extent_inside {w wa : Wiring} {A : Comp → Prop} (hp : IsPart w wa A) (hwf : w.WF)
    {rootsA : List Comp} (hA : ∀ r ∈ rootsA, A r) {c : Comp} (hc : c ∈ extent w rootsA) : A c :=
  Tickit.extent_inside hwf (fun a p b q h ha => (hp.closed a p b q h).1 ha) hA hc

theorem IsPart.of_wf {w wa : Wiring} {A : Comp → Prop} (hw : w.WF) (hwa : wa.WF)
    (conn_iff : ∀ a p b q, A b → (w.Conn a p b q ↔ wa.Conn a p b q))
    (closed : ∀ a p b q, w.Conn a p b q → (A a ↔ A b))
    (inside : ∀ a p b q, wa.Conn a p b q → A a ∧ A b)
    (ups_some : ∀ c, A c → ((w.ups c).isSome ↔ (wa.ups c).isSome)) : IsPart w wa A where
  conn_iff := conn_iff
  closed := closed
  inside := inside
  ups_some := ups_some
  extent_iff := by
    intro roots rootsA c hc hroots
    rw [mem_extent_iff, mem_extent_iff]
    constructor
    · rintro ⟨r, hr, hcr⟩
      have key : ∀ x ∈ w.dependants r, A x → A r ∧ x ∈ wa.dependants r := by
        refine Wiring.dependants_sound hw r _ (fun h => ⟨h, (Wiring.dependants_closed wa r).1⟩) ?_
        rintro a b ih ⟨p, q, hconn⟩ hb
        obtain ⟨hAr, har⟩ := ih ((closed a p b q hconn).2 hb)
        exact ⟨hAr, (Wiring.dependants_closed wa r).2 a har b ⟨p, q, (conn_iff a p b q hb).1 hconn⟩⟩
      obtain ⟨hAr, hcr'⟩ := key c hcr hc
      exact ⟨r, (hroots r).2 ⟨hr, hAr⟩, hcr'⟩
    · rintro ⟨r, hr, hcr⟩
      refine ⟨r, ((hroots r).1 hr).1, ?_⟩
      refine Wiring.dependants_sound hwa r (fun x => x ∈ w.dependants r)
        (Wiring.dependants_closed w r).1 ?_ c hcr
      rintro a b ha ⟨p, q, hconn⟩
      exact (Wiring.dependants_closed w r).2 a ha b
        ⟨p, q, (conn_iff a p b q (inside a p b q hconn).2).2 hconn⟩

theorem Wiring.conn_append {wa wb : Wiring} {a : Comp} {p : Port} {b : Comp} {q : Port} :
    (wa ++ wb).Conn a p b q ↔ wa.Conn a p b q ∨ (a ∉ akeys wa ∧ wb.Conn a p b q) := by
  unfold Wiring.Conn
  rw [alookup_append]
  cases h : alookup wa a with
  | none =>
    exact ⟨fun hc => Or.inr ⟨alookup_eq_none_iff.1 h, hc⟩, fun hc => hc.elim
      (fun ⟨_, _, h1, _⟩ => nomatch h1) (·.2)⟩
  | some ports =>
    exact ⟨Or.inl, fun hc => hc.elim id (fun hn => absurd (mem_akeys_of_alookup_eq_some h) hn.1)⟩

theorem Wiring.mem_components_of_mem_akeys {w : Wiring} {c : Comp} (h : c ∈ akeys w) :
    c ∈ w.components := (Wiring.mem_components w c).2 (Or.inr h)

theorem Wiring.WF_append {wa wb : Wiring} (hwa : wa.WF) (hwb : wb.WF)
    (hdisj : ∀ c, c ∈ akeys wa → c ∉ akeys wb) : (wa ++ wb).WF := by
  refine ⟨?_, ?_⟩
  · unfold DictWF
    rw [akeys_append, List.nodup_append]
    exact ⟨hwa.1, hwb.1, fun a ha b hb hab => hdisj a ha (hab ▸ hb)⟩
  · intro e he
    rcases List.mem_append.1 he with h | h
    · exact hwa.2 e h
    · exact hwb.2 e h

theorem Wiring.mem_components_append_left {wa wb : Wiring} {c : Comp} (h : c ∈ wa.components) :
    c ∈ (wa ++ wb).components := by
  rw [Wiring.mem_components] at h ⊢
  rcases h with h | h
  · rw [Wiring.mem_inputComponents] at h ⊢
    obtain ⟨ent, hent, rest⟩ := h
    exact Or.inl ⟨ent, List.mem_append_left _ hent, rest⟩
  · exact Or.inr (by rw [akeys_append]; exact List.mem_append_left _ h)

theorem Wiring.oneSource_append {wa wb : Wiring} (hwb : wb.WF) (hwaf : wa.WF)
    (hdisj : ∀ c, c ∈ wa.components → c ∉ wb.components)
    (h1a : wa.OneSource) (h1b : wb.OneSource) : (wa ++ wb).OneSource := by
  intro a p a' p' b q h h'
  rcases Wiring.conn_append.1 h with h | ⟨_, h⟩ <;> rcases Wiring.conn_append.1 h' with h' | ⟨_, h'⟩
  · exact h1a a p a' p' b q h h'
  · exact absurd (conn_mem_components hwb h').2 (hdisj b (conn_mem_components hwaf h).2)
  · exact absurd (conn_mem_components hwb h).2 (hdisj b (conn_mem_components hwaf h').2)
  · exact h1b a p a' p' b q h h'

theorem IsPart.append (wa wb : Wiring) (hwa : wa.WF) (hwb : wb.WF)
    (hdisj : ∀ c, c ∈ wa.components → c ∉ wb.components) :
    IsPart (wa ++ wb) wa (fun c => c ∈ wa.components) := by
  have hkeys : ∀ c, c ∈ akeys wa → c ∉ akeys wb := fun c hc hc' =>
    hdisj c (Wiring.mem_components_of_mem_akeys hc) (Wiring.mem_components_of_mem_akeys hc')
  have hwf : (wa ++ wb).WF := Wiring.WF_append hwa hwb hkeys
  have hsrc : ∀ {w : Wiring} {a p b q}, w.Conn a p b q → a ∈ w.components := fun h =>
    Wiring.mem_components_of_mem_akeys (Wiring.mem_akeys_of_conn h)
  refine IsPart.of_wf hwf hwa ?_ ?_ ?_ ?_
  · intro a p b q hb
    rw [Wiring.conn_append]
    constructor
    · rintro (h | ⟨_, h⟩)
      · exact h
      · exact absurd (Wiring.conn_mem_components hwb h).2 (hdisj b hb)
    · exact Or.inl
  · intro a p b q h
    rcases Wiring.conn_append.1 h with h | ⟨_, h⟩
    · exact ⟨fun _ => (Wiring.conn_mem_components hwa h).2, fun _ => hsrc h⟩
    · exact ⟨fun ha => absurd (hsrc h) (hdisj a ha), fun hb => absurd (Wiring.conn_mem_components hwb h).2 (hdisj b hb)⟩
  · intro a p b q h
    exact ⟨hsrc h, (Wiring.conn_mem_components hwa h).2⟩
  · intro c hc
    rw [Wiring.ups_isSome_iff', Wiring.ups_isSome_iff']
    exact ⟨fun _ => hc, fun _ => Wiring.mem_components_append_left hc⟩

end Tickit

namespace Tickit.PartRun

open Tickit Tickit.Det

set_option linter.unusedSectionVars false

variable {Val : Type} [DecidableEq Val]

theorem tick_step {w wa : Wiring} {A : Comp → Prop} (hp : IsPart w wa A)
    (hw : RouterOK w) (hwa : RouterOK wa) (hwfa : wa.WF) (hacyca : wa.Acyclic)
    (hupsA : ∀ c, A c → (wa.ups c).isSome)
    {dev : DevFn Val} (hdev : DevExt dev) {a b a' : FlatSt Val} {t : SimTime}
    {roots rootsA : List Comp} (hroots : ∀ r, r ∈ rootsA ↔ r ∈ roots ∧ A r)
    (hab : ∀ c, A c → (loc a c).Equiv (loc b c))
    (hnb : ∀ c, ¬ A c → alookup b.wake c = none)
    (ha : TickRun w dev a t roots a') :
    ∃ b', TickRun wa dev b t rootsA b' ∧ (∀ c, A c → (loc a' c).Equiv (loc b' c)) ∧
      (∀ c, ¬ A c → alookup b'.wake c = none) := by
  have hin : ∀ c ∈ extent wa rootsA, A c := fun c hc =>
    extent_inside hwfa (fun a p b q h _ => (hp.inside a p b q h).2)
      (fun r hr => ((hroots r).1 hr).2) hc
  obtain ⟨b', hb⟩ := tickRun_exists wa hacyca dev b t rootsA (fun c hc => hupsA c (hin c hc))
  obtain ⟨rank, hrank⟩ := hacyca.rank_conn hwa
  refine ⟨b', hb, fun c hc => ?_, fun c hc => ?_⟩
  · exact tickRun_loc_equiv_on hw hwa (fun a p c q _ => hrank a p c q)
      (fun a p c q => hp.conn_iff a p c q) (fun a p c q _ h' => (hp.inside a p c q h').1) hdev
      (fun c hc => ⟨fun h' => (hroots c).2 ⟨h', hc⟩, fun h' => ((hroots c).1 h').1⟩) hab ha hb c hc
  · obtain ⟨U, hown, hext, _⟩ := hb.elim
    have := congrArg Own.wk (hown c)
    cases hU : U c with
    | none => rw [hU] at this; exact this.trans (hnb c hc)
    | some ins => exact absurd (hin c (hext c ins hU)) hc

theorem tick_stutter {w wa : Wiring} {A : Comp → Prop} (hp : IsPart w wa A)
    (hwf : w.WF) {dev : DevFn Val} {a a' : FlatSt Val} {t : SimTime}
    {roots : List Comp} (hroots : ∀ r ∈ roots, ¬ A r) (ha : TickRun w dev a t roots a')
    {c : Comp} (hc : A c) : loc a' c = loc a c := by
  obtain ⟨U, hown, hext, _⟩ := ha.elim
  have hU : U c = none := by
    cases hU : U c with
    | none => rfl
    | some ins =>
      exact absurd hc (extent_inside (A := fun x => ¬ A x) hwf
        (fun a p b q h ha hb => ha ((hp.closed a p b q h).2 hb)) hroots (hext c ins hU))
  rw [loc_eq_own, loc_eq_own, hown c, hU]
  rfl

theorem firstWakeups_part {A : Comp → Prop} {wk wkA : Wakeups} (hu : UniqueKeys wk)
    (huA : UniqueKeys wkA) (hA : ∀ c, A c → alookup wk c = alookup wkA c)
    (hnA : ∀ c, ¬ A c → alookup wkA c = none) {cs : List Comp} {m : SimTime}
    (hf : firstWakeups wk = (cs, some m)) {r : Comp} (hr : r ∈ cs) (hAr : A r) :
    ∃ csA, firstWakeups wkA = (csA, some m) ∧ ∀ c, c ∈ csA ↔ c ∈ cs ∧ A c := by
  have hin : ∀ c v, alookup wkA c = some v → A c := fun c v h =>
    Classical.byContradiction fun hn => nomatch (hnA c hn).symm.trans h
  obtain ⟨hcs, hle, _, _⟩ := firstWakeups_spec wk hu cs m hf
  have hfA : firstWakeups wkA = ((firstWakeups wkA).1, some m) :=
    Prod.ext rfl ((firstWakeups_snd_eq_some_iff_lookup huA m).mpr
      ⟨⟨r, (hA r hAr).symm.trans ((hcs r).1 hr)⟩,
        fun c t hc => hle c t ((hA c (hin c t hc)).trans hc)⟩)
  refine ⟨_, hfA, fun c => ?_⟩
  rw [(firstWakeups_spec wkA huA _ m hfA).1, hcs]
  exact ⟨fun h => ⟨(hA c (hin c _ h)).trans h, hin c _ h⟩, fun ⟨h, hAc⟩ => (hA c hAc).symm.trans h⟩

/-- **the multi-tick invariant**: the run of the part has the ticks of the whole in which the part
had a root; `idx j` is the tick of the whole that is its `j`th. -/
theorem run_inv_components {w wa : Wiring} {A : Comp → Prop} (hp : IsPart w wa A)
    (hw : RouterOK w) (hwa : RouterOK wa) (hwf : w.WF) (hwfa : wa.WF) (hacyca : wa.Acyclic)
    (hA : ∀ c, A c ↔ c ∈ wa.components)
    {devs : DevSeq Val} (hext : ∀ k, DevExt (devs k)) {t0 : SimTime} {n : Nat} {st : FlatSt Val}
    {times : List SimTime} (h : FlatRun w devs t0 n st times) :
    ∃ (idx : Nat → Nat) (m : Nat) (sa : FlatSt Val) (timesA : List SimTime),
      idx 0 = 0 ∧ (∀ j, j < m → idx j < idx (j + 1)) ∧ idx m ≤ n ∧
      FlatRun wa (fun j => devs (idx j)) t0 m sa timesA ∧
      timesA.Sublist times ∧
      (∀ c, A c → (loc st c).Equiv (loc sa c)) ∧
      (∀ c, ¬ A c → alookup sa.wake c = none) := by
  have hupsA : ∀ c, A c → (wa.ups c).isSome := fun c hc =>
    (Wiring.ups_isSome_iff' wa c).2 ((hA c).1 hc)
  have hcomp : ∀ c, c ∈ wa.components ↔ c ∈ w.components ∧ A c := by
    intro c
    constructor
    · intro hc
      have hAc := (hA c).2 hc
      exact ⟨(Wiring.ups_isSome_iff' w c).1 ((hp.ups_some c hAc).2 (hupsA c hAc)), hAc⟩
    · exact fun h => (hA c).1 h.2
  induction h with
  | @initial st hr =>
    obtain ⟨sa, hra, hloc, hnone⟩ := tick_step hp hw hwa hwfa hacyca hupsA (hext 0)
      (a := {}) (b := {}) hcomp
      (fun c _ => Loc.Equiv.refl _) (fun c _ => rfl) hr
    exact ⟨fun j => j, 0, sa, [t0], rfl, fun j hj => absurd hj (Nat.not_lt_zero _),
      Nat.le_refl _, .initial hra, List.Sublist.refl _, hloc, hnone⟩
  | @tick n st st' times cs mt hprev hf hr ih =>
    obtain ⟨idx, m, sa, timesA, h0, hmono, hle, hrunA, hsub, hloc, hnone⟩ := ih
    have hu := flatRun_uniqueKeys hprev
    have huA := flatRun_uniqueKeys hrunA
    by_cases hex : ∃ r, r ∈ cs ∧ A r
    · -- some first wakeup belongs to the part: the part ticks too, with the devices of tick `n + 1`
      obtain ⟨r, hr_cs, hAr⟩ := hex
      obtain ⟨csA, hfA, hcsA⟩ := firstWakeups_part hu huA (fun c hc => (hloc c hc).wk) hnone
        hf hr_cs hAr
      have hnb : ∀ c, ¬ A c → alookup (delWakeups sa.wake csA) c = none := by
        intro c hc
        rw [delWakeups_lookup _ huA]
        split
        · rfl
        · exact hnone c hc
      obtain ⟨sa', hra, hloc', hnone'⟩ := tick_step hp hw hwa hwfa hacyca hupsA (hext (n + 1))
        (b := { sa with wake := delWakeups sa.wake csA }) hcsA
        (fun c hc => (hloc c hc).delWakeups hu huA
          ⟨fun h => (hcsA c).2 ⟨h, hc⟩, fun h => ((hcsA c).1 h).1⟩) hnb hr
      have hlow : ∀ j, j ≤ m → (if j ≤ m then idx j else n + 1) = idx j := fun j hj => if_pos hj
      have hnew : (if m + 1 ≤ m then idx (m + 1) else n + 1) = n + 1 :=
        if_neg (Nat.not_succ_le_self m)
      refine ⟨fun j => if j ≤ m then idx j else n + 1, m + 1, sa', mt :: timesA,
        (hlow 0 (Nat.zero_le m)).trans h0, fun j hj => ?_, Nat.le_of_eq hnew,
        .tick (FlatInt.flatRun_congr hrunA fun j hj => congrArg devs (hlow j hj)) hfA
          (congrArg devs hnew ▸ hra), hsub.cons_cons _, hloc', hnone'⟩
      show (if j ≤ m then idx j else n + 1) < if j + 1 ≤ m then idx (j + 1) else n + 1
      rw [hlow j (Nat.le_of_lt_succ hj)]
      rcases Nat.lt_succ_iff_lt_or_eq.1 hj with hjm | rfl
      · rw [hlow (j + 1) hjm]
        exact hmono j hjm
      · rw [hnew]
        exact Nat.lt_succ_of_le hle
    · -- no first wakeup belongs to the part: the part stutters
      have hroots : ∀ r ∈ cs, ¬ A r := fun r hr hA => hex ⟨r, hr, hA⟩
      refine ⟨idx, m, sa, timesA, h0, hmono, Nat.le_succ_of_le hle, hrunA, hsub.cons _,
        fun c hc => ?_, hnone⟩
      rw [tick_stutter hp hwf hroots hr hc]
      exact (hloc c hc).with_wake
        ((delWakeups_lookup _ hu cs c).trans (if_neg fun h => hroots c h hc) ▸ (hloc c hc).wk)

end Tickit.PartRun
