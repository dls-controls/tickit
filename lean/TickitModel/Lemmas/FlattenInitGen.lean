/-
C09: the initial tick as a tick.  The vocabulary of the initial tick (`ValAt`, `AnsOK`, `PendOK`,
`ObsOK` of `Lemmas/FlattenInit.lean`) as the instance of the general one (`ValG`, `AnsOKG`,
`PendOKG`, `DevValOK`) at the empty start state with every component a root, where "decided"
means "already observed"; and `InitInv` from `GenVal` plus the two facts `GenVal` does not carry
(the order of the observations, the frame), which have a case analysis of their own
(`AnsP.init_order`); `tickLevel_init`, and `masterInitial_facts`, the statement for the master.
-/
import TickitModel.Lemmas.FlattenInit
import TickitModel.Lemmas.FlattenGenLevel

namespace Tickit

/-! at the empty start state the general vocabulary computes with `outC`: both by unfolding -/

theorem stepResp_empty (orc : Oracle) (c : Comp) : stepResp orc {} c = (agetD orc c [])[0]? := rfl

theorem stepChg_empty (orc : Oracle) (c : Comp) : stepChg orc {} c = outC orc c := rfl

theorem Static.ValG.iff_valAt {S : Static} {orc : Oracle} {n : Nat} {mobs : List Obs} {lvl a : Comp}
    {p : Port} (hs : S.SeenAt n mobs lvl a p) (v : V) :
    S.ValG orc n {} mobs lvl a p v ↔ S.ValAt orc n lvl a p v :=
  -- `stepChg orc {} a₀` is `outC orc a₀` (`stepChg_empty`), by unfolding
  exists_congr fun a₀ => exists_congr fun p₀ => and_congr_right fun hr =>
    ⟨fun h => h.2, fun h => ⟨hs a₀ p₀ hr, h⟩⟩

theorem Static.SrcDec.seen {S : Static} (hS : S.Valid) {n : Nat} {Dec : Comp → Prop} {L : Level}
    (hL : L ∈ S.levels) {mobs : List Obs}
    (hseen : ∀ y, S.isDevice y → Dec y → y ∈ mobs.map Obs.comp) {a : Comp} {p : Port} {b : Comp}
    {q : Port} (hc : L.wiring.Conn a p b q) (h : S.SrcDec n Dec L.name a p) :
    S.SeenAt n mobs L.name a p :=
  fun a₀ p₀ hr => hseen a₀ (hS.resolves_of_conn hL hc hr).isDevice (h a₀ p₀ hr)

theorem Static.AnsOKG.toInit {S : Static} (hS : S.Valid) {orc : Oracle} {n : Nat}
    {Dec : Comp → Prop} {L : Level} (hL : L ∈ S.levels) {mobs : List Obs}
    (hseen : ∀ y, S.isDevice y → Dec y → y ∈ mobs.map Obs.comp) {a : Comp} {chs : List (Port × V)}
    (h : S.AnsOKG orc n {} Dec L mobs a chs) : S.AnsOK orc n L mobs a chs :=
  ⟨h.1, fun p b q hc =>
    have hs := (h.2 p b q hc).2.seen hS hL hseen hc
    ⟨fun v => ((h.2 p b q hc).1 v).trans (Static.ValG.iff_valAt hs v), hs⟩⟩

theorem Static.PendOKG.toInit {S : Static} (hS : S.Valid) {orc : Oracle} {n : Nat}
    {Dec : Comp → Prop} {L : Level} (hL : L ∈ S.levels) {mobs : List Obs}
    (hseen : ∀ y, S.isDevice y → Dec y → y ∈ mobs.map Obs.comp) {c : Comp} {ins : List (Port × V)}
    (h : S.PendOKG orc n {} Dec L mobs c ins) : S.PendOK orc n L mobs c ins :=
  have hs := fun q a p (hc : L.wiring.Conn a p c q) => (h.2.2 q a p hc).seen hS hL hseen hc
  ⟨h.1, fun q v => (h.2.1 q v).trans (exists_congr fun a => exists_congr fun p =>
    and_congr_right fun hc => Static.ValG.iff_valAt (hs q a p hc) v), hs⟩

theorem DevValOK.obsOK {S : Static} (hS : S.Valid) {orc : Oracle} {n : Nat} {Root Dec : Comp → Prop}
    {mobs : List Obs} (hseen : ∀ y, S.isDevice y → Dec y → y ∈ mobs.map Obs.comp) {st : SimSt}
    {o : Obs} (ho : o ∈ mobs) (h : DevValOK S orc n {} Root Dec mobs st o.comp) : S.ObsOK orc n o := by
  obtain ⟨ins, r, hn, hin, hiv, hr, hra, -, -⟩ := h.upd o ho rfl
  -- `hr` is about `stepResp orc {}`, which is the first response (`stepResp_empty`); below, the
  -- `stepChg orc {}` of `DevIn` is `outC` (`stepChg_empty`): both by unfolding
  refine ⟨⟨r, hr, hra⟩, fun q v => ?_⟩
  rw [hin, show agetD ({} : SimSt).devs o.comp {} = ({} : DevComp V) from rfl,
    flt_alookup_merge_empty hn, hiv]
  exact exists_congr fun a₀ => exists_congr fun p₀ => and_congr_right fun hfi =>
    ⟨fun h' => h'.2, fun h' => ⟨hseen a₀ (Static.mem_devices_iff.1 (hS.flatInputs_device hfi))
      (h.src q a₀ p₀ hfi), h'⟩⟩

theorem GenVal.dec_seen {S : Static} {orc : Oracle} {n : Nat} {t : SimTime} {D₀ : Comp → Prop}
    {L : Level} {roots : List Comp} {st0 : SimSt} {mobs0 : List Obs} {ls : LoopSt}
    {trace : List (Ev V)} {new : List Obs}
    (iv : GenVal S orc n {} t (fun _ => True) D₀ L roots st0 mobs0 ls trace new)
    (hd0 : ∀ y, S.isDevice y → D₀ y → y ∈ mobs0.map Obs.comp) (y : Comp) (hy : S.isDevice y)
    (h : S.DecG D₀ L ls.tk.toUpdate y) : y ∈ (mobs0 ++ new).map Obs.comp := by
  rcases h with h | ⟨hb, hcl⟩
  · rw [List.map_append]
    exact List.mem_append_left _ (hd0 y hy h)
  · obtain ⟨c, hc, hown⟩ := hb.top
    exact (iv.closed_dev c hc (hcl c hc hown) y hy hown).upd_iff.2 (Or.inl trivial)

theorem InitInv.of_genVal {S : Static} (hS : S.Valid) {orc : Oracle} {n : Nat} {t : SimTime}
    {D₀ : Comp → Prop} {L : Level} (hL : L ∈ S.levels) {roots : List Comp} {st0 : SimSt}
    {ls : LoopSt} {tr_ trace : List (Ev V)} {new : List Obs}
    (linv : LoopInv S L t roots st0 ls tr_ new)
    (iv : GenVal S orc n {} t (fun _ => True) D₀ L roots st0 st0.obs ls trace new)
    (hd0 : ∀ y, S.isDevice y → D₀ y → y ∈ st0.obs.map Obs.comp)
    (hord : S.Ordered n st0.obs new) (hfr : DevFrame st0 ls.st new) :
    InitInv S orc n L t roots st0 ls trace new := by
  have hseen := iv.dec_seen hd0
  rw [← iv.obs_eq] at hseen
  exact
    { pre := iv.pre
      obs_eq := iv.obs_eq
      inputs := iv.inputs
      ins_nodup := iv.ins_nodup
      ans_ok := fun a chs hm => (iv.obs_eq ▸ iv.ans_ok a chs hm).toInit hS hL hseen
      pend_ok := fun d hd ins hdi =>
        (iv.obs_eq ▸ ((iv.pend_ok d hd).1 ins hdi).1).toInit hS hL hseen
      obs_ok := fun o ho => by
        obtain ⟨-, hdev, c, hc, hcl, hown⟩ := linv.obs_own o ho
        have := iv.closed_dev c hc hcl o.comp hdev hown
        rw [← iv.obs_eq] at this
        exact this.obsOK hS hseen (iv.obs_eq ▸ List.mem_append_right _ ho)
      ordered := hord
      frame := hfr
      out_none := iv.out_none
      out_ok := fun hex => (iv.obs_eq ▸ iv.out_exp hex).toInit hS hL hseen }

def Static.InitIH (S : Static) (orc : Oracle) (n : Nat) (t : SimTime) (fuel : Nat) : Prop :=
  ∀ D₀ lvl L roots inCh st st' out, tickLevel S orc fuel lvl t roots inCh st = .ok (st', out) →
    S.level lvl = some L → GenPre S orc n {} (fun _ => True) D₀ lvl L roots inCh st st.obs →
    (∀ y, S.isDevice y → D₀ y → y ∈ st.obs.map Obs.comp) → S.InitPost orc n L st st' out

theorem AnsP.init_order {S : Static} (hS : S.Valid) {orc : Oracle} {n : Nat}
    (hst : S.ResolveStable n) {t : SimTime} {fuel : Nat} (IH : S.InitIH orc n t fuel)
    {D₀ : Comp → Prop} {L : Level} (hL : L ∈ S.levels) (hd0 : ∀ x, D₀ x → ¬ S.Below L.name x)
    {tu : List (Comp × Bool)} {inCh : List (Port × V)} {st : SimSt}
    (hseen : ∀ y, S.isDevice y → S.DecG D₀ L tu y → y ∈ st.obs.map Obs.comp)
    {c : Comp} {ins : List (Port × V)} (hc : c ∈ L.wiring.components) (hopen : alookup tu c ≠ none)
    (hfresh : alookup S.parent c = some L.name →
      (∀ x, S.Own c x → x ∉ st.obs.map Obs.comp ∧
        agetD st.devs x {} = agetD ({} : SimSt).devs x {} ∧
        agetD st.count x 0 = agetD ({} : SimSt).count x 0) ∧
      (∀ s, S.Own c s → st.sched s = ({} : SimSt).sched s))
    (hpend : S.PendOKG orc n {} (S.DecG D₀ L tu) L st.obs c ins)
    {st' : SimSt} {changes : List (Port × V)} {callAt : Option SimTime}
    (h : AnsP S orc (fifoRel S orc fuel) L inCh st (.input c t ins) (st', changes, callAt)) :
    ∃ new1, st'.obs = st.obs ++ new1 ∧ S.Ordered n st.obs new1 ∧ DevFrame st st' new1 := by
  cases h with
  | external => exact ⟨[], (List.append_nil _).symm, Static.Ordered.nil _ _ _, DevFrame.refl _⟩
  | expose => exact ⟨[], (List.append_nil _).symm, Static.Ordered.nil _ _ _, DevFrame.refl _⟩
  | sys h1 h2 hsys hr =>
    have hpar := hS.toWF.parent_of_member hL hc h1 h2
    obtain ⟨Lc, hLc, _⟩ := tickLevel_ok_roots hr
    obtain ⟨hf, hfs⟩ := hfresh hpar
    obtain ⟨new1, hobs, -, hord, hframe, -⟩ := IH _ _ _ _ _ _ _ _ hr hLc
      (GenPre.sys hS hst (TickCtx.initial S t) hL hd0 rfl hpar hsys hLc hopen
        (fun x hx => (hf x hx).1) (fun x hx => (hf x hx).2) hfs hpend) hseen
    exact ⟨new1, hobs, hord, hframe⟩
  | @dev _ _ _ resp h1 h2 hsys hresp hraise =>
    have hpar := hS.toWF.parent_of_member hL hc h1 h2
    have hflat := hS.flatInputs_child hL hpar n
    refine ⟨[⟨c, t, (agetD st.devs c {}).merge ins⟩], rfl, ?_, ?_⟩
    · refine Static.Ordered.singleton (fun q a₀ p₀ hfi => ?_)
      obtain ⟨a, p, hconn, hr0⟩ := (hflat q _).1 hfi
      exact (hpend.2.2 q a p hconn).seen hS hL hseen hconn a₀ p₀ hr0
    · intro x hx
      have hxc : c ≠ x := fun h' => hx (by simp [h'])
      exact ⟨devAfter_devs_ne st hxc t ins resp, devAfter_count_ne st hxc t ins resp⟩

theorem tickLevel_init {S : Static} (hS : S.Valid) (orc : Oracle) {n : Nat} (hst : S.ResolveStable n)
    (t : SimTime) : ∀ fuel, S.InitIH orc n t fuel := by
  intro fuel
  induction fuel with
  | zero =>
    intro D₀ lvl L roots inCh st st' out h
    obtain ⟨_, _, _, _, hf, _⟩ := tickLevel_eq_ok h
    cases hf
  | succ fuel IH =>
    intro D₀ lvl L roots inCh st st' out h hLv hpre0 hd0
    obtain ⟨_, hf, L', tk, ds, hLv', hcall, hloop⟩ := tickLevel_levelP h
    cases hf
    cases hLv.symm.trans hLv'
    obtain ⟨hL, rfl⟩ := Static.level_some hLv
    have ctx := TickCtx.initial S t
    have hall : ∀ c ∈ L.wiring.components, c ∈ roots := fun c hc =>
      (Classical.em (c = pseudoExternal)).elim
        (fun he => he ▸ hpre0.ext_root (hS.toWF.mock_nested hL (he ▸ hc) hS.pseudo_fresh.1))
        (fun hne => (hpre0.hroots c hc hne).2 trivial)
    obtain ⟨ls', ⟨tr_, trace, new, linv, iv, hord, hfr⟩, -, he, hr⟩ := hloop.invariant
      (I := fun ls => ∃ tr_ trace new, LoopInv S L t roots st ls tr_ new ∧
        GenVal S orc n {} t (fun _ => True) D₀ L roots st st.obs ls trace new ∧
        S.Ordered n st.obs new ∧ DevFrame st ls.st new)
      (fun {ls _ d _ _ _ _ _} ⟨tr_, trace, new, linv, iv, hord, hfr⟩ hd hA hprop => by
        have hdm : d ∈ ls.pending := List.mem_of_getElem? hd
        have hdc : d.comp ∈ L.wiring.components := linv.pend_comp d hdm
        have hopen : alookup ls.tk.toUpdate d.comp ≠ none := by
          rw [(iv.pre.pend_flag _).1 ⟨d, hdm, rfl⟩]; nofun
        obtain ⟨ins, hdi⟩ := linv.pend_input d hdm (hall _ hdc)
        obtain ⟨tr_', new_', linv'⟩ := linv.step hS.toWF (fun _ _ _ _ _ _ h =>
          (levelPost_hereditary hS.toWF orc).tickLevel fuel _ _ _ _ _ _ h) hL hd hA hprop
        obtain ⟨new1, iv'⟩ := iv.step hS hst ctx (tickLevel_gen hS orc hst ctx fuel) hL hpre0 linv
          hd hA hprop
        rw [hdi] at hA
        have hseen := iv.dec_seen hd0
        rw [← iv.obs_eq] at hseen
        obtain ⟨new1', hobs1, hord1, hfr1⟩ := hA.init_order hS hst IH hL hpre0.d0_out hseen hdc hopen
          (fun hpar => iv.obs_eq ▸ iv.open_fresh _ hpar hopen)
          (iv.obs_eq ▸ ((iv.pend_ok d hdm).1 ins hdi).1)
        have e1 : new_' = new ++ new1' := List.append_cancel_left
          (linv'.obs_eq.symm.trans (hobs1.trans (iv.obs_eq ▸ List.append_assoc ..)))
        have e2 : new ++ new1 = new ++ new1' := List.append_cancel_left
          (iv'.obs_eq.symm.trans (hobs1.trans (iv.obs_eq ▸ List.append_assoc ..)))
        rw [e1] at linv'
        rw [e2] at iv'
        exact ⟨_, _, _, linv', iv', hord.append (iv.obs_eq ▸ hord1), hfr.trans hfr1⟩)
      ⟨_, _, _, LoopInv.start hcall st, GenVal.start hS hst ctx hL hpre0 hcall,
        Static.Ordered.nil _ _ _, DevFrame.refl _⟩
    cases hr
    exact (InitInv.of_genVal hS hL linv iv hd0 hord hfr).finish hS hL hall he

theorem masterInitial_facts {S : Static} (hS : S.Valid) {orc : Oracle} {n : Nat}
    (hst : S.ResolveStable n) {fuel : Nat} {t0 : SimTime} {now : Int} {m : MasterSt} {tr : TickRec}
    (h : masterInitial S orc fuel t0 now = .ok (m, tr)) : InitFacts S orc n t0 m.sim := by
  obtain ⟨L, st, out, hL, hr, rfl, rfl⟩ := masterInitial_eq_ok h
  obtain ⟨new, hobs, hnd, hown, _, hdone⟩ := tickLevel_post hS.toWF orc _ _ _ _ _ _ _ _ hr
  obtain ⟨hdev, _⟩ := hdone
    (fun L' hL' c hc => by rw [hL] at hL'; cases hL'; exact hc)
    (fun s _ _ => SimSt.sched_empty_firstDone s)
  obtain ⟨new', hobs', hok, hord, _, _⟩ := tickLevel_init hS orc hst t0 _ _ _ _ _ _ _ _ _ hr hL
    (GenPre.initial S orc n L) (fun _ _ h => h.elim)
  obtain rfl : st.obs = new := by simpa using hobs
  obtain rfl : st.obs = new' := by simpa using hobs'
  exact ⟨hnd, fun o ho => ⟨(hown o ho).1, (hown o ho).2.1, hok o ho⟩,
    fun d hd => hdev d (Static.below_master hS.toWF hd.1) hd, hord⟩

end Tickit
