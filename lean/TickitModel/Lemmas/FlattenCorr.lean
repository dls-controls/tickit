/-
C09: the step "one tick of the master" of the correspondence between the nested run and the run of
the flattening (the step "one stimulus" is `Lemmas/FlattenStim.lean`; the definitions are in
`Lemmas/FlattenCorrDef.lean`).  The initial tick of the flattening completes if that of the
configuration does, and a flat tick exists whenever the tick equations of a nested one hold.  With
interrupts pending, both sides pick the same next tick time (`CorrP.firstWakeups_eq`), and that tick
on both sides restores the plain correspondence (`CorrP.tick`).
-/
import TickitModel.Lemmas.FlattenRunGen
import TickitModel.Lemmas.FlattenGen
import TickitModel.Lemmas.FlattenStim

namespace Tickit

theorem stepResp_mem {orc : Oracle} {σ : SimSt} {d : Comp} {r : DevResp}
    (h : stepResp orc σ d = some r) : r ∈ agetD orc d [] := by
  unfold stepResp at h
  exact List.mem_of_getElem? h

/-- every device is updated in the nested initial tick, so the oracle has a first response for it -/
theorem flat_initial_ok {S : Static} (hS : S.Valid) {orc : Oracle} {fuel n : Nat}
    (hst : S.ResolveStable n) {t0 : SimTime} {now : Int} {m : MasterSt} {tr : TickRec}
    (h : masterInitial S orc fuel t0 now = .ok (m, tr)) :
    ∃ m' tr', masterInitial (S.flatten n) orc 1 t0 now = .ok (m', tr') := by
  have hS' : (S.flatten n).Valid := hS.flatten_valid n
  obtain ⟨L, out, hL, ht⟩ := masterInitial_tick h
  obtain ⟨new, E, -⟩ := tick_eqs_initial hS hst hL ht
  have hmemL : (⟨"", S.flatW n⟩ : Level) ∈ (S.flatten n).levels := List.mem_singleton_self _
  obtain ⟨⟨st', out'⟩, hr⟩ := flat_tickLevel_gen (S := S.flatten n) (S.flatten_isSys n)
    (S.flatten_level n) (hS'.routerOK hmemL) (hS'.acyclic _ hmemL) t0
    (roots := (S.flatW n).components) (fun r hr => hr) {} (· ∈ (S.flatW n).components)
    (fun c hc => by
      have hd := Static.mem_devices_iff.1 ((S.flatW_components hS n c).1 hc)
      obtain ⟨o, ho, rfl⟩ := List.mem_map.1 ((E.val c hd).upd_iff.2 (Or.inl trivial))
      obtain ⟨_, r, _, _, _, hr, hra, _⟩ := (E.val _ hd).upd o ho rfl
      exact ⟨r, hr, hra⟩)
    (fun c hc => hc)
    (fun c a p q v hconn _ _ =>
      (S.flatW_components hS n c).2 ((S.flatW_conn hS n _ _ _ _).1 hconn).1)
    0 -- the tick fuel less one: a level without systems needs `1`
  refine ⟨{ sim := st', tickerTime := t0, lastReal := now, now := now },
    ⟨t0, now, (S.flatW n).components⟩, ?_⟩
  unfold masterInitial
  rw [S.flatten_level]
  simp only [hr]

/-- the `2` is a resolution fuel that suffices for a flattening (`Static.flatten_resolveStable`) -/
theorem flat_tick_of_tickEqs {S : Static} (hS : S.Valid) {orc : Oracle} {n : Nat}
    {st st' : SimSt} (hc : DevCorr S st st') (hflat : SchedOK (S.flatten 0) st') {w : SimTime}
    {comps' : List Comp} (hfw' : firstWakeups (st'.sched "").wake = (comps', some w))
    {Root Due : Comp → Prop} {st2 : SimSt} {new : List Obs} (E : TickEqs S orc n st w Root Due st2 new)
    (hroot : ∀ d, S.isDevice d → (Root d ↔ (S.flatten n).DueAt st' w d)) :
    ∃ st2' out' new',
      tickLevel (S.flatten n) orc 1 "" w comps' [] (st'.delWake comps') = .ok (st2', out') ∧
      TickEqs (S.flatten n) orc 2 st' w ((S.flatten n).DueAt st' w) ((S.flatten n).DueAt st' w)
        st2' new' ∧ SchedOK (S.flatten n) st2' := by
  have hS' : (S.flatten n).Valid := hS.flatten_valid n
  have hmemL : (⟨"", S.flatW n⟩ : Level) ∈ (S.flatten n).levels := List.mem_singleton_self _
  have hsch0' : SchedOK (S.flatten n) st' := hflat.flatten_fuel n
  obtain ⟨hcs', _, _, _⟩ := firstWakeups_spec _ (hsch0'.wake_unique "") comps' w hfw'
  have hcomps : ∀ c ∈ comps', S.isDevice c ∧ (S.flatten n).DueAt st' w c := by
    intro c hcm
    have hl := (hcs' c).1 hcm
    have hk := mem_akeys_of_alookup_eq_some hl
    exact ⟨hflat.flat_keys hk, "", w, hsch0'.wake_keys "" c hk, hl, Int.le_refl _⟩
  -- the flat tick cannot fail: it updates the devices the nested tick updates
  obtain ⟨⟨st2', out'⟩, hr⟩ := flat_tickLevel_gen (S := S.flatten n) (S.flatten_isSys n)
    (S.flatten_level n) (hS'.routerOK hmemL) (hS'.acyclic _ hmemL) w (roots := comps')
    (fun r hr => (S.flatW_components hS n r).2 (Static.mem_devices_iff.2 (hcomps r hr).1))
    (st'.delWake comps') (fun c => c ∈ new.map Obs.comp)
    (by
      intro c hcm
      obtain ⟨o, ho, rfl⟩ := List.mem_map.1 hcm
      obtain ⟨_, r, _, _, _, hr, hra, _⟩ := (E.val _ (E.dev o ho).2).upd o ho rfl
      exact ⟨r, (hc.stepResp_eq orc (E.dev o ho).2).symm.trans hr, hra⟩)
    (fun c hcm => (E.val c (hcomps c hcm).1).upd_iff.2
      (Or.inl ((hroot c (hcomps c hcm).1).2 (hcomps c hcm).2)))
    (by
      intro c a p q v hconn ha hv
      obtain ⟨hcd, hfi⟩ := (S.flatW_conn hS n _ _ _ _).1 hconn
      have hd := Static.mem_devices_iff.1 hcd
      have had := Static.mem_devices_iff.1 (hS.flatInputs_device hfi)
      exact (E.val c hd).upd_iff.2 (Or.inr ⟨q, v, a, p, hfi, ha, (hc.stepChg_eq orc had).symm ▸ hv⟩))
    0 -- tick fuel `0 + 1`
  obtain ⟨new', E', hsch'⟩ := tick_eqs hS' (S.flatten_resolveStable n) hsch0' hfw' hr
  exact ⟨st2', out', new', hr, E', hsch'⟩

theorem CorrP.exists_top {S : Static} (hS : S.Valid) {orc : Oracle} {I : List Comp} {τ : SimTime}
    {st st' : SimSt} (hc : CorrP S orc I τ st st') (hI : I ≠ []) :
    ∃ x c, x ∈ I ∧ alookup S.parent c = some "" ∧ S.OnPath I c := by
  obtain ⟨x, hx⟩ := List.exists_mem_of_ne_nil I hI
  obtain ⟨c, hcp, hown⟩ := (Static.below_master hS.toWF (hc.int_dev x hx).1).top
  exact ⟨x, c, hx, hcp, x, hx, hown⟩

theorem CorrP.first_eq {S : Static} (hS : S.Valid) {orc : Oracle} {I : List Comp} {τ : SimTime}
    {st st' : SimSt} (hc : CorrP S orc I τ st st') (hI : I ≠ []) :
    (firstWakeups (st.sched "").wake).2 = some τ := by
  obtain ⟨_, c, _, hcp, hon⟩ := hc.exists_top hS hI
  exact (firstWakeups_snd_eq_some_iff_lookup (hc.sched.wake_unique "") τ).mpr
    ⟨⟨c, hc.sched.wake_top c hcp hon⟩, hc.sched.ge c hon ""⟩

theorem tick_eqsP {S : Static} (hS : S.Valid) {orc : Oracle} {n : Nat} (hst : S.ResolveStable n)
    {fuel : Nat} {I : List Comp} {τ : SimTime} {σ₀ σ₀' : SimSt} (hc : CorrP S orc I τ σ₀ σ₀')
    {t : SimTime} {comps : List Comp}
    (hfw : firstWakeups (σ₀.sched "").wake = (comps, some t)) {σ' : SimSt} {out : List (Port × V)}
    (ht : tickLevel S orc fuel "" t comps [] (σ₀.delWake comps) = .ok (σ', out)) :
    ∃ new, TickEqs S orc n σ₀ t (fun c => S.DueAt σ₀ t c ∨ S.OnPath I c) (S.DueAt σ₀ t) σ' new ∧
      SchedOK S σ' := by
  have htτ : ∀ c, S.OnPath I c → t = τ := by
    rintro c ⟨x, hx, _⟩
    exact Option.some.inj ((congrArg (·.2) hfw).symm.trans (hc.first_eq hS (List.ne_nil_of_mem hx)))
  exact tick_eqs_path hS hst (hc.sched.congr (fun _ => Iff.rfl) htτ)
    (fun c P hP hPne hon => hon.up hP hPne (hS.child_ne_master hP))
    (fun c hon => hS.onPath_parent hc.int_dev hon) hfw ht

/-- `Corr.firstWakeups_eq` without interrupts pending, their stamp on both sides with -/
theorem CorrP.firstWakeups_eq {S : Static} (hS : S.Valid) {orc : Oracle} {I : List Comp}
    {τ : SimTime} {st st' : SimSt} (hc : CorrP S orc I τ st st') :
    (firstWakeups (st.sched "").wake).2 = (firstWakeups (st'.sched "").wake).2 := by
  by_cases hI : I = []
  · subst hI
    exact hc.toCorr.firstWakeups_eq hS
  · obtain ⟨x, c, hx, _, hon⟩ := hc.exists_top hS hI
    rw [hc.first_eq hS hI, (firstWakeups_snd_eq_some_iff_lookup (hc.flat_sched.wake_unique "") τ).mpr
        ⟨⟨x, hc.wake_int x hx⟩, ?_⟩]
    intro d w hw
    have hd := hc.flat_sched.flat_keys (mem_akeys_of_alookup_eq_some hw)
    by_cases hdI : d ∈ I
    · rw [hc.wake_int d hdI] at hw
      cases hw
      exact Int.le_refl _
    · obtain ⟨P, hP⟩ := Option.isSome_iff_exists.1 hd.1
      rw [hc.wake_dev d P hd hdI hP] at hw
      exact hc.sched.ge c hon P d w hw

theorem CorrP.root_iff {S : Static} (hS : S.Valid) {orc : Oracle} {I : List Comp} {τ : SimTime}
    {st st' : SimSt} (hc : CorrP S orc I τ st st') (n : Nat) {t : SimTime} (htτ : I ≠ [] → t = τ)
    {d : Comp} (hd : S.isDevice d) :
    (S.DueAt st t d ∨ S.OnPath I d) ↔ (S.flatten n).DueAt st' t d := by
  have hp' := S.flatten_parent_device n hd
  by_cases hdI : d ∈ I
  · have ht := htτ (List.ne_nil_of_mem hdI)
    constructor
    · intro _
      exact ⟨"", τ, hp', hc.wake_int d hdI, by rw [ht]; exact Int.le_refl _⟩
    · intro _
      exact Or.inr ⟨d, hdI, Static.Own.refl S d⟩
  · constructor
    · rintro (⟨P, w', hP, hw', hle⟩ | ⟨x, hx, ho⟩)
      · exact ⟨"", w', hp', by rw [hc.wake_dev d P hd hdI hP]; exact hw', hle⟩
      · rw [hS.toWF.own_of_not_sys hd.2 ho] at hx
        exact absurd hx hdI
    · rintro ⟨P', w', hP', hw', hle⟩
      rw [hp'] at hP'; cases hP'
      obtain ⟨P, hP⟩ := Option.isSome_iff_exists.1 hd.1
      exact Or.inl ⟨P, w', hP, by rw [← hc.wake_dev d P hd hdI hP]; exact hw', hle⟩

theorem corrP_of_tickEqs {S : Static} (hS : S.Valid) {orc : Oracle} {n : Nat}
    {I : List Comp} {τ : SimTime}
    {σ₀ σ₀' σ' σ'' : SimSt} (hc : CorrP S orc I τ σ₀ σ₀') {t : SimTime} (htτ : I ≠ [] → t = τ)
    (hsafe : ∀ x ∈ I, orc.Quiet x ∨ orc.Periodic x) {new new' : List Obs}
    (E : TickEqs S orc n σ₀ t (fun c => S.DueAt σ₀ t c ∨ S.OnPath I c) (S.DueAt σ₀ t) σ' new)
    (E' : TickEqs (S.flatten n) orc 2 σ₀' t ((S.flatten n).DueAt σ₀' t) ((S.flatten n).DueAt σ₀' t)
      σ'' new')
    (hsch : SchedOK S σ') (hsch' : SchedOK (S.flatten n) σ'') : CorrP S orc [] τ σ' σ'' := by
  have hroot : ∀ d, S.isDevice d →
      ((S.DueAt σ₀ t d ∨ S.OnPath I d) ↔ (S.flatten n).DueAt σ₀' t d) :=
    fun d hd => hc.root_iff hS n htτ hd
  have hon : ∀ d, d ∈ I → S.OnPath I d := fun d hdI => ⟨d, hdI, Static.Own.refl S d⟩
  have hIn : ∀ d, S.isDevice d → d ∈ I → d ∈ new.map Obs.comp :=
    fun d hd hdI => (E.val d hd).upd_iff.2 (Or.inl (Or.inr (hon d hdI)))
  have hqold : ∀ d P, S.isDevice d → orc.Quiet d → alookup S.parent d = some P →
      ¬ S.DueAt σ₀ t d → alookup (σ₀.sched P).wake d = none := by
    intro d P hd hq hP hnd
    refine hc.quiet d P hd hq hP ?_
    rintro ⟨rfl, hdI⟩
    exact hnd ⟨"", τ, hP, hc.sched.wake_top d hP (hon d hdI),
      by rw [htτ (List.ne_nil_of_mem hdI)]; exact Int.le_refl _⟩
  have hcorr : Corr S σ' σ'' := by
    refine corr_of_tickEqs hS hc.dev hroot E E' (fun d P hd hP => ?_) hsch hsch'
    by_cases hdI : d ∈ I
    · -- an interrupted device that does not re-request a callback never requests one
      refine Or.inr ⟨hIn d hd hdI, (hroot d hd).1 (Or.inr (hon d hdI)), fun r hr hca hdu => ?_⟩
      refine hqold d P hd ((hsafe d hdI).resolve_right (fun h => ?_)) hP hdu
      have := h r (stepResp_mem hr)
      rw [hca] at this
      cases this
    · refine Or.inl ⟨?_, hc.wake_dev d P hd hdI hP⟩
      rw [← hroot d hd]
      refine ⟨Or.inl, fun h => h.resolve_right ?_⟩
      rintro ⟨x, hx, ho'⟩
      rw [hS.toWF.own_of_not_sys hd.2 ho'] at hx
      exact hdI hx
  refine hcorr.toCorrP τ ?_
  intro d P hd hq hP
  by_cases hm : d ∈ new.map Obs.comp
  · obtain ⟨o, ho, rfl⟩ := List.mem_map.1 hm
    obtain ⟨_, r, _, _, _, hr, _⟩ := (E.val _ hd).upd o ho rfl
    obtain ⟨_, w2, w3⟩ := (E.wake _ P hd hP).1 hm r hr
    have hca : r.callAt = none := hq r (stepResp_mem hr)
    by_cases hdu : S.DueAt σ₀ t o.comp
    · exact w2 hca hdu
    · rw [w3 hca hdu]
      exact hqold _ P hd hq hP hdu
  · rw [E.frame_wake hd hP hm]
    exact hc.quiet d P hd hq hP (fun h => hm (hIn d hd h.2))

/-- `SimSt.delWake` is `TimeMono.delMaster`, by `rfl`. -/
theorem CorrP.tick {S : Static} (hS : S.Valid) {orc : Oracle} {n : Nat} (hst : S.ResolveStable n)
    {fuel : Nat} {I : List Comp} {τ : SimTime} {st st' : SimSt}
    (hc : CorrP S orc I τ st st') (hsafe : ∀ x ∈ I, orc.Quiet x ∨ orc.Periodic x) {w : SimTime}
    {comps comps' : List Comp}
    (hfw : firstWakeups (st.sched "").wake = (comps, some w))
    (hfw' : firstWakeups (st'.sched "").wake = (comps', some w))
    {st2 : SimSt} {out : List (Port × V)}
    (ht : tickLevel S orc fuel "" w comps [] (st.delWake comps) = .ok (st2, out)) :
    ∃ st2' out', tickLevel (S.flatten n) orc 1 "" w comps' [] (st'.delWake comps') = .ok (st2', out') ∧
      CorrP S orc [] τ st2 st2' := by
  have htτ : I ≠ [] → w = τ := fun hI =>
    Option.some.inj ((congrArg (·.2) hfw).symm.trans (hc.first_eq hS hI))
  obtain ⟨new, E, hsch⟩ := tick_eqsP hS hst hc hfw ht
  obtain ⟨st2', out', new', hr, E', hsch'⟩ := flat_tick_of_tickEqs hS hc.dev hc.flat_sched
    hfw' E (fun d hd => hc.root_iff hS n htτ hd)
  exact ⟨st2', out', hr, corrP_of_tickEqs hS hc htτ hsafe E E' hsch hsch'⟩

end Tickit
