/-
The invariant of C03 for the flat multi-tick system (M8); its lemmas are in
`Lemmas/FlatSyncLemmas.lean`.
-/
import TickitModel.Core.Flat

namespace Tickit

variable {Val : Type} [DecidableEq Val]

/-- the component states agree with the ghost log of reported values along every wire, carry
nothing that is not wired, and `last_outputs` is part of what was reported. -/
structure Synced (w : Wiring) (st : FlatSt Val) : Prop where
  wired : ∀ a p c q, w.Conn a p c q → alookup (st.comp c).deviceInputs q = alookup st.reported (a, p)
  noExtra : ∀ c q v, alookup (st.comp c).deviceInputs q = some v → ∃ a p, w.Conn a p c q
  lastSub : ∀ c p v, alookup (st.comp c).lastOutputs p = some v → alookup st.reported (c, p) = some v

end Tickit
