/-
C09: the correspondence between the state of a nested simulation and the state of its flattening,
between ticks.  `Corr` = `DevCorr` (the devices agree) + `SchedOK` of the nested state + `wake_dev` +
`SchedOK` of the flat state.  With external stimuli, interrupts can be pending between ticks:
`SchedP` is `SchedOK` with the components that satisfy `Path` queued, `Static.OnPath I` is the `Path`
of the interrupted devices `I`, and `CorrP` is `Corr` with `SchedP` along `OnPath I`.
-/
import TickitModel.Core.Flat
import TickitModel.Lemmas.FlattenFlat
import TickitModel.Lemmas.FlattenStimDefs

namespace Tickit

/-- the schedulers between ticks: a system's pending callback at its parent is the minimum of its
inner wakeups (`wake_sys`) -/
structure SchedOK (S : Static) (σ : SimSt) : Prop where
  started : ∀ s, S.isSys s = true → (σ.sched s).firstDone = true ∧ (σ.sched s).interrupts = []
  wake_sys : ∀ s P, S.isSys s = true → alookup S.parent s = some P →
    alookup (σ.sched P).wake s = (firstWakeups (σ.sched s).wake).2
  wake_keys : ∀ L c, c ∈ akeys (σ.sched L).wake → alookup S.parent c = some L
  wake_unique : ∀ L, UniqueKeys (σ.sched L).wake

theorem SchedOK.flatten_fuel {S : Static} {σ : SimSt} {n : Nat} (h : SchedOK (S.flatten n) σ) (m : Nat) :
    SchedOK (S.flatten m) σ := by
  -- stated as equations: letting the unifier find them by unfolding `flatten` is slow
  have hs : ∀ c, (S.flatten m).isSys c = (S.flatten n).isSys c :=
    fun c => by rw [S.flatten_isSys, S.flatten_isSys]
  have hp : (S.flatten m).parent = (S.flatten n).parent := rfl
  constructor
  · simp only [hs]; exact h.started
  · simp only [hs, hp]; exact h.wake_sys
  · rw [hp]; exact h.wake_keys
  · exact h.wake_unique

/-- `SchedOK` with interrupts pending: the components that satisfy `Path` are queued as interrupting
in the scheduler of their level; the top-level ones have the stamp `τ` of the interrupts as wakeup
at the master (in place of the minimum of their inner wakeups), and, if anything satisfies `Path`
at all (field `ge`: its `c` is only a witness of that), no wakeup at any level is earlier than `τ`.
So `τ` means nothing while no interrupt is pending (`SchedOK.toSchedP`, for any `τ`). -/
structure SchedP (S : Static) (Path : Comp → Prop) (τ : SimTime) (σ : SimSt) : Prop where
  first_done : ∀ s, S.isSys s = true → (σ.sched s).firstDone = true
  ints : ∀ s c, S.isSys s = true →
    (c ∈ (σ.sched s).interrupts ↔ alookup S.parent c = some s ∧ Path c)
  wake_sys : ∀ s P, S.isSys s = true → alookup S.parent s = some P → ¬ (P = "" ∧ Path s) →
    alookup (σ.sched P).wake s = (firstWakeups (σ.sched s).wake).2
  wake_top : ∀ c, alookup S.parent c = some "" → Path c → alookup (σ.sched "").wake c = some τ
  ge : ∀ c, Path c → ∀ L c' w, alookup (σ.sched L).wake c' = some w → τ ≤ w
  wake_keys : ∀ L c, c ∈ akeys (σ.sched L).wake → alookup S.parent c = some L
  wake_unique : ∀ L, UniqueKeys (σ.sched L).wake

theorem SchedOK.toSchedP {S : Static} {σ : SimSt} (h : SchedOK S σ) (τ : SimTime) :
    SchedP S (fun _ => False) τ σ :=
  ⟨fun s hs => (h.started s hs).1,
    fun s c hs => by rw [(h.started s hs).2]; exact ⟨nofun, fun h' => h'.2.elim⟩,
    fun s P hs hP _ => h.wake_sys s P hs hP, fun _ _ h' => h'.elim, fun _ h' => h'.elim,
    h.wake_keys, h.wake_unique⟩

theorem SchedP.toSchedOK {S : Static} {Path : Comp → Prop} {τ : SimTime} {σ : SimSt}
    (h : SchedP S Path τ σ) (hP : ∀ c, ¬ Path c) : SchedOK S σ :=
  ⟨fun s hs => ⟨h.first_done s hs, List.eq_nil_iff_forall_not_mem.2 fun c hc =>
      hP c ((h.ints s c hs).1 hc).2⟩,
    fun s P hs hP' => h.wake_sys s P hs hP' (fun h' => hP s h'.2), h.wake_keys, h.wake_unique⟩

theorem SchedP.congr {S : Static} {Path Path' : Comp → Prop} {τ τ' : SimTime} {σ : SimSt}
    (h : SchedP S Path τ σ) (hp : ∀ c, Path' c ↔ Path c) (hτ : ∀ c, Path c → τ' = τ) :
    SchedP S Path' τ' σ :=
  ⟨h.first_done, fun s c hs => by rw [hp]; exact h.ints s c hs,
    fun s P hs hP hex => h.wake_sys s P hs hP (fun h' => hex ⟨h'.1, (hp s).2 h'.2⟩),
    fun c hc hpc => by rw [hτ c ((hp c).1 hpc)]; exact h.wake_top c hc ((hp c).1 hpc),
    fun c hpc => by rw [hτ c ((hp c).1 hpc)]; exact h.ge c ((hp c).1 hpc), h.wake_keys, h.wake_unique⟩

structure DevCorr (S : Static) (st st' : SimSt) : Prop where
  devs : ∀ d, S.isDevice d →
    (agetD st.devs d {}).lastOutputs = (agetD st'.devs d {}).lastOutputs ∧
    MapEq (agetD st.devs d {}).deviceInputs (agetD st'.devs d {}).deviceInputs
  count : ∀ d, S.isDevice d → agetD st.count d 0 = agetD st'.count d 0
  obs : ∀ d, ObsEq (st.obsOf d) (st'.obsOf d)

theorem DevCorr.empty (S : Static) : DevCorr S {} {} :=
  ⟨fun _ _ => ⟨rfl, fun _ => rfl⟩, fun _ _ => rfl, fun _ => trivial⟩

theorem DevCorr.congr {S : Static} {st st' σ σ' : SimSt} (h : DevCorr S st st')
    (h1 : σ.devs = st.devs) (h2 : σ.count = st.count) (h3 : σ.obs = st.obs)
    (h1' : σ'.devs = st'.devs) (h2' : σ'.count = st'.count) (h3' : σ'.obs = st'.obs) :
    DevCorr S σ σ' := by
  have ho : ∀ d, σ.obsOf d = st.obsOf d := fun d => by unfold SimSt.obsOf; rw [h3]
  have ho' : ∀ d, σ'.obsOf d = st'.obsOf d := fun d => by unfold SimSt.obsOf; rw [h3']
  exact ⟨by rw [h1, h1']; exact h.devs, by rw [h2, h2']; exact h.count,
    fun d => by rw [ho, ho']; exact h.obs d⟩

/-- the nested state `st` and the flat state `st'` correspond: same device states, same update
counts, same observations, same pending callbacks — a callback requested inside a system is
represented upwards, level by level, by the minimum of the inner wakeups.  The fields are those of
`DevCorr S st st'` (`Corr.devCorr`) and `SchedOK S st` (`Corr.schedOK`), `wake_dev` and `flat_sched`. -/
structure Corr (S : Static) (st st' : SimSt) : Prop where
  devs : ∀ d, S.isDevice d →
    (agetD st.devs d {}).lastOutputs = (agetD st'.devs d {}).lastOutputs ∧
    MapEq (agetD st.devs d {}).deviceInputs (agetD st'.devs d {}).deviceInputs
  count : ∀ d, S.isDevice d → agetD st.count d 0 = agetD st'.count d 0
  obs : ∀ d, ObsEq (st.obsOf d) (st'.obsOf d)
  started : ∀ s, S.isSys s = true → (st.sched s).firstDone = true ∧ (st.sched s).interrupts = []
  wake_dev : ∀ d P, S.isDevice d → alookup S.parent d = some P →
    alookup (st'.sched "").wake d = alookup (st.sched P).wake d
  wake_sys : ∀ s P, S.isSys s = true → alookup S.parent s = some P →
    alookup (st.sched P).wake s = (firstWakeups (st.sched s).wake).2
  wake_keys : ∀ L c, c ∈ akeys (st.sched L).wake → alookup S.parent c = some L
  wake_unique : ∀ L, UniqueKeys (st.sched L).wake
  /-- `parent` and `isSys` of a flattening do not depend on its fuel (`SchedOK.flatten_fuel`); `0`
  stands for any. -/
  flat_sched : SchedOK (S.flatten 0) st'

theorem Corr.schedOK {S : Static} {st st' : SimSt} (hc : Corr S st st') : SchedOK S st :=
  ⟨hc.started, hc.wake_sys, hc.wake_keys, hc.wake_unique⟩

theorem SchedOK.flat_keys {S : Static} {σ : SimSt} {n : Nat} (h : SchedOK (S.flatten n) σ) {c : Comp}
    (hc : c ∈ akeys (σ.sched "").wake) : S.isDevice c := by
  have := h.wake_keys "" c hc
  rw [S.flatten_parent] at this
  split at this
  · rename_i hcd; exact Static.mem_devices_iff.1 hcd
  · cases this

theorem Corr.devCorr {S : Static} {st st' : SimSt} (hc : Corr S st st') : DevCorr S st st' :=
  ⟨hc.devs, hc.count, hc.obs⟩

/-- component `c` lies on the way from an interrupted device up to the master -/
def Static.OnPath (S : Static) (I : List Comp) (c : Comp) : Prop := ∃ x ∈ I, S.Own c x

theorem Static.onPath_nil (S : Static) (c : Comp) : ¬ S.OnPath [] c := by
  rintro ⟨x, hx, _⟩; cases hx

theorem Static.onPath_cons (S : Static) (x : Comp) (I : List Comp) (c : Comp) :
    S.OnPath (x :: I) c ↔ S.Own c x ∨ S.OnPath I c := by
  simp [Static.OnPath]

theorem Static.Valid.onPath_parent {S : Static} (hS : S.Valid) {I : List Comp}
    (hI : ∀ x ∈ I, S.isDevice x) {c : Comp} (h : S.OnPath I c) : (alookup S.parent c).isSome = true := by
  obtain ⟨x, hx, ho⟩ := h
  rcases ho with rfl | ⟨hne, hb⟩
  · exact (hI _ hx).1
  · rcases hb.isSys hS.toWF with h' | h'
    · exact absurd h' hne
    · exact hS.sys_parent c h'

theorem Static.OnPath.up {S : Static} {I : List Comp} {c P : Comp} (hP : alookup S.parent c = some P)
    (hPne : P ≠ "") (hcne : c ≠ "") (h : S.OnPath I c) : S.OnPath I P := by
  obtain ⟨x, hx, ho⟩ := h
  refine ⟨x, hx, Or.inr ⟨hPne, ?_⟩⟩
  rcases ho with rfl | ⟨_, hb⟩
  · exact .direct hP
  · exact hb.lift hP hcne

/-- the correspondence with pending interrupts `I`, all stamped `τ`: the nested state has the
interrupted devices queued level by level and the stamp as wakeup of their top-level components
(`SchedP` along `S.OnPath I`); the flat state has the stamp as wakeup of the devices themselves
(`flat_sched`: as in `Corr`).  `quiet` (the only use of `orc`): a device that never requests a
callback has no wakeup entry, the stamp of a top-level interrupted one apart; without it the flat
master, which writes the stamp over the device's own entry, would lose an entry that the nested
device's scheduler keeps (`corrP_of_tickEqs`). -/
structure CorrP (S : Static) (orc : Oracle) (I : List Comp) (τ : SimTime) (st st' : SimSt) : Prop where
  dev : DevCorr S st st'
  sched : SchedP S (S.OnPath I) τ st
  flat_sched : SchedOK (S.flatten 0) st'
  int_dev : ∀ x ∈ I, S.isDevice x
  wake_dev : ∀ d P, S.isDevice d → d ∉ I → alookup S.parent d = some P →
    alookup (st'.sched "").wake d = alookup (st.sched P).wake d
  wake_int : ∀ x ∈ I, alookup (st'.sched "").wake x = some τ
  quiet : ∀ d P, S.isDevice d → orc.Quiet d → alookup S.parent d = some P → ¬ (P = "" ∧ d ∈ I) →
    alookup (st.sched P).wake d = none

theorem CorrP.toCorr {S : Static} {orc : Oracle} {τ : SimTime} {st st' : SimSt}
    (h : CorrP S orc [] τ st st') : Corr S st st' :=
  have hs := h.sched.toSchedOK S.onPath_nil
  { devs := h.dev.devs, count := h.dev.count, obs := h.dev.obs, started := hs.started
    wake_dev := fun d P hd hP => h.wake_dev d P hd (by simp) hP
    wake_sys := hs.wake_sys, wake_keys := hs.wake_keys, wake_unique := hs.wake_unique
    flat_sched := h.flat_sched }

theorem Corr.toCorrP {S : Static} {orc : Oracle} {st st' : SimSt} (h : Corr S st st') (τ : SimTime)
    (hq : ∀ d P, S.isDevice d → orc.Quiet d → alookup S.parent d = some P →
      alookup (st.sched P).wake d = none) : CorrP S orc [] τ st st' :=
  { dev := h.devCorr
    sched := (h.schedOK.toSchedP τ).congr (fun c => ⟨fun h' => S.onPath_nil c h', False.elim⟩) nofun
    flat_sched := h.flat_sched
    int_dev := by simp
    wake_dev := fun d P hd _ hP => h.wake_dev d P hd hP
    wake_int := by simp
    quiet := fun d P hd hqd hP _ => hq d P hd hqd hP }

end Tickit
