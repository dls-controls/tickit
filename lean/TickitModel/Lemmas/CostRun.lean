/-
The runs of the master loop with costs `masterRunC`, for C12 and C07 with processing costs and, as
the instance `cost = 0`, for C12 at zero cost (`Props/C12Run.lean`).

* `RunC`: the branches of `masterRunC` as an inductive relation, with the log of the stimuli handled
  between ticks and in the middle of a tick; a `RunC`, and the initial tick followed by a run, are
  traces (`RunC.trace`, `initial_traceC`).
* `LinkC`: how the real time of a tick record follows from the previous record and its cost; never
  ahead, the lag, exactness for any list of records so linked (`paced_*`).
* `Synced`: the invariant of configurations that ties the master state to the last tick record;
  `Linked` adds the links.  `TraceC.events` reads it at every handled stimulus: the properties with
  costs start from it.
* A zero-cost `Pacing.Run` is a `RunC` whose stimuli are all handled between ticks (`Run.toRunC`):
  `RunC.events`, `RunC.served` are there for `Pacing.Run.events`, `Run.served` only.
-/
import TickitModel.Lemmas.CostTrace

namespace Tickit
namespace CostRun

open TimeMono Pacing

/-- the events of the stimuli that `midTick` handles -/
def midLog (S : Static) (fuel : Nat) (s : Speed) (e : Int) (k : Nat) :
    MasterSt → List Stim → List StimEvC
  | _, [] => []
  | m, st :: rest =>
    if m.lastReal < st.real ∧ st.real < e then
      ⟨⟨m, st, k⟩, true⟩ :: midLog S fuel s e k (stimStepC S fuel s m st) rest
    else []

def endLog (S : Static) (fuel : Nat) (s : Speed) (sim : SimSt) (w : SimTime) (d e : Int) (k : Nat)
    (stims : List Stim) : List StimEvC :=
  midLog S fuel s e k { sim := sim, tickerTime := w, lastReal := d, now := d } stims

theorem endLog_zero (S : Static) (fuel : Nat) (s : Speed) (sim : SimSt) (w : SimTime) (d : Int)
    (k : Nat) (stims : List Stim) : endLog S fuel s sim w d d k stims = [] := by
  cases stims with
  | nil => rfl
  | cons st rest =>
    rw [endLog, midLog, if_neg]
    show ¬(d < st.real ∧ st.real < d)
    omega

theorem midLog_mid (S : Static) (fuel : Nat) (s : Speed) (e : Int) (k : Nat) (m : MasterSt)
    (stims : List Stim) : ∀ ev ∈ midLog S fuel s e k m stims, ev.mid = true := by
  induction stims generalizing m with
  | nil => intro ev hev; cases hev
  | cons st rest ih =>
    intro ev hev
    rw [midLog] at hev
    split at hev
    · rcases List.mem_cons.1 hev with hev | hev
      · rw [hev]
      · exact ih _ ev hev
    · cases hev

theorem midLog_stims (S : Static) (fuel : Nat) (s : Speed) (e : Int) (k : Nat) (m : MasterSt)
    (stims : List Stim) :
    stims = (midLog S fuel s e k m stims).map (·.st) ++ (midTick S fuel s e m stims).2 := by
  induction stims generalizing m with
  | nil => rfl
  | cons st rest ih =>
    rw [midTick, midLog]
    split
    · simp only [List.map_cons, List.cons_append]
      rw [← ih]
    · rfl

theorem midTick_suffix (S : Static) (fuel : Nat) (s : Speed) (e : Int) (m : MasterSt)
    (stims : List Stim) : ∃ pre, stims = pre ++ (midTick S fuel s e m stims).2 :=
  ⟨_, midLog_stims S fuel s e 0 m stims⟩

/-- `RunC S orc fuel sp cost m stims acc m2 ticks log`: started in master state `m` with pending
stimuli `stims` and tick records `acc`, the loop stops in `m2` with tick records `ticks`, having
handled the stimuli recorded in `log` (in this order).  The constructors are the branches of
`masterRunC`; `stop` stands for both ways the loop returns (budget used up, no wakeup left). -/
inductive RunC (S : Static) (orc : Oracle) (fuel : Nat) (sp : Speed) (cost : Nat → Nat) :
    MasterSt → List Stim → List TickRec → MasterSt → List TickRec → List StimEvC → Prop
  | stop (m : MasterSt) (stims : List Stim) (acc : List TickRec) :
      RunC S orc fuel sp cost m stims acc m acc []
  | stim {m : MasterSt} {stims : List Stim} {acc : List TickRec} {st : Stim} {rest : List Stim}
      {m2 : MasterSt} {ticks : List TickRec} {log : List StimEvC}
      (hsel : stimFirstC m sp (firstWakeups (m.sim.sched "").wake).2 stims = some (st, rest))
      (hrun : RunC S orc fuel sp cost (stimStepC S fuel sp m st) rest acc m2 ticks log) :
      RunC S orc fuel sp cost m stims acc m2 ticks (⟨⟨m, st, acc.length⟩, false⟩ :: log)
  | tick {m : MasterSt} {stims : List Stim} {acc : List TickRec} {comps : List Comp} {w : SimTime}
      {sim2 : SimSt} {out : List (Port × V)}
      {m2 : MasterSt} {ticks : List TickRec} {log : List StimEvC}
      (hsel : stimFirstC m sp (firstWakeups (m.sim.sched "").wake).2 stims = none)
      (hfw : firstWakeups (m.sim.sched "").wake = (comps, some w))
      (htick : tickLevel S orc fuel "" w comps [] (delMasterC m.sim comps) = .ok (sim2, out))
      (hrun : RunC S orc fuel sp cost
        (endTick S fuel sp sim2 w (dueReal m sp w) (dueReal m sp w + cost acc.length) stims).1
        (endTick S fuel sp sim2 w (dueReal m sp w) (dueReal m sp w + cost acc.length) stims).2
        (acc ++ [⟨w, dueReal m sp w, comps⟩]) m2 ticks log) :
      RunC S orc fuel sp cost m stims acc m2 ticks
        (endLog S fuel sp sim2 w (dueReal m sp w) (dueReal m sp w + cost acc.length)
          (acc.length + 1) stims ++ log)

/-- the log of `masterRunC`; `k` is `acc.length` there -/
def runLogC (S : Static) (orc : Oracle) (fuel : Nat) (sp : Speed) (cost : Nat → Nat) :
    Nat → Nat → MasterSt → List Stim → Nat → List StimEvC
  | 0, _, _, _, _ => []
  | steps + 1, nTicks, m, stims, k =>
    match nTicks with
    | 0 => []
    | nTicks + 1 =>
      match stimFirstC m sp (firstWakeups (m.sim.sched "").wake).2 stims with
      | some (st, rest) =>
        ⟨⟨m, st, k⟩, false⟩ ::
          runLogC S orc fuel sp cost steps (nTicks + 1) (stimStepC S fuel sp m st) rest k
      | none =>
        match firstWakeups (m.sim.sched "").wake with
        | (comps, some w) =>
          match tickLevel S orc fuel "" w comps [] (delMasterC m.sim comps) with
          | .error _ => []
          | .ok (sim2, _) =>
            endLog S fuel sp sim2 w (dueReal m sp w) (dueReal m sp w + cost k) (k + 1) stims ++
            runLogC S orc fuel sp cost steps nTicks
              (endTick S fuel sp sim2 w (dueReal m sp w) (dueReal m sp w + cost k) stims).1
              (endTick S fuel sp sim2 w (dueReal m sp w) (dueReal m sp w + cost k) stims).2
              (k + 1)
        | (_, none) => []

/-- The case `idle` hands out less than `idle` of `TimeMono.masterRun_elim`
(`Lemmas/MasterRun.lean`): only that no wakeup is left, not that no stimulus is selected (i.e. that
`stims = []`). -/
theorem masterRunC_induct {S : Static} {orc : Oracle} {fuel : Nat} {sp : Speed} {cost : Nat → Nat}
    {P : Nat → Nat → MasterSt → List Stim → List TickRec → MasterSt → List TickRec →
      List StimEvC → Prop}
    (out : ∀ steps nTicks m stims acc, steps = 0 ∨ nTicks = 0 → P steps nTicks m stims acc m acc [])
    (idle : ∀ steps nTicks m stims acc, (firstWakeups (m.sim.sched "").wake).2 = none →
      P (steps + 1) (nTicks + 1) m stims acc m acc [])
    (stim : ∀ steps nTicks m stims acc st rest m2 ticks log,
      stimFirstC m sp (firstWakeups (m.sim.sched "").wake).2 stims = some (st, rest) →
      P steps (nTicks + 1) (stimStepC S fuel sp m st) rest acc m2 ticks log →
      P (steps + 1) (nTicks + 1) m stims acc m2 ticks (⟨⟨m, st, acc.length⟩, false⟩ :: log))
    (tick : ∀ steps nTicks m stims acc comps w sim2 out m2 ticks log,
      stimFirstC m sp (firstWakeups (m.sim.sched "").wake).2 stims = none →
      firstWakeups (m.sim.sched "").wake = (comps, some w) →
      tickLevel S orc fuel "" w comps [] (delMasterC m.sim comps) = .ok (sim2, out) →
      P steps nTicks
        (endTick S fuel sp sim2 w (dueReal m sp w) (dueReal m sp w + cost acc.length) stims).1
        (endTick S fuel sp sim2 w (dueReal m sp w) (dueReal m sp w + cost acc.length) stims).2
        (acc ++ [⟨w, dueReal m sp w, comps⟩]) m2 ticks log →
      P (steps + 1) (nTicks + 1) m stims acc m2 ticks
        (endLog S fuel sp sim2 w (dueReal m sp w) (dueReal m sp w + cost acc.length)
          (acc.length + 1) stims ++ log)) :
    ∀ (steps nTicks : Nat) (m : MasterSt) (stims : List Stim) (acc : List TickRec)
      (m2 : MasterSt) (ticks : List TickRec),
      masterRunC S orc fuel sp cost steps nTicks m stims acc = .ok (m2, ticks) →
      P steps nTicks m stims acc m2 ticks
        (runLogC S orc fuel sp cost steps nTicks m stims acc.length) := by
  intro steps
  induction steps with
  | zero =>
    intro nTicks m stims acc m2 ticks h
    rw [masterRunC] at h
    cases h
    exact out 0 nTicks m stims acc (Or.inl rfl)
  | succ steps ih =>
    intro nTicks m stims acc m2 ticks h
    cases nTicks with
    | zero =>
      rw [masterRunC_zero_ticks] at h
      cases h
      exact out (steps + 1) 0 m stims acc (Or.inr rfl)
    | succ nTicks =>
      rw [masterRunC_unfold] at h
      rw [runLogC]
      split at h
      · rename_i st rest hsel
        rw [hsel]
        exact stim steps nTicks m stims acc st rest m2 ticks _ hsel (ih _ _ _ _ _ _ h)
      · rename_i hsel
        rw [hsel]
        simp only []
        split at h
        · rename_i comps w hfw
          rw [hfw]
          simp only []
          split at h
          · cases h
          · rename_i sim2 out hr
            rw [hr]
            have := ih _ _ _ _ _ _ h
            rw [List.length_append] at this
            exact tick steps nTicks m stims acc comps w sim2 out m2 ticks _ hsel hfw hr this
        · rename_i hnone
          rw [hnone]
          cases h
          exact idle steps nTicks m stims acc (by rw [hnone])

theorem masterRunC_runLogC (S : Static) (orc : Oracle) (fuel : Nat) (sp : Speed) (cost : Nat → Nat) :
    ∀ (steps nTicks : Nat) (m : MasterSt) (stims : List Stim) (acc : List TickRec)
      (m2 : MasterSt) (ticks : List TickRec),
      masterRunC S orc fuel sp cost steps nTicks m stims acc = .ok (m2, ticks) →
      RunC S orc fuel sp cost m stims acc m2 ticks
        (runLogC S orc fuel sp cost steps nTicks m stims acc.length) :=
  masterRunC_induct (P := fun _ _ m stims acc m2 ticks log =>
      RunC S orc fuel sp cost m stims acc m2 ticks log)
    (fun _ _ _ _ _ _ => RunC.stop _ _ _) (fun _ _ _ _ _ _ => RunC.stop _ _ _)
    (fun _ _ _ _ _ _ _ _ _ _ hsel ih => RunC.stim hsel ih)
    (fun _ _ _ _ _ _ _ _ _ _ _ _ hsel hfw htick ih => RunC.tick hsel hfw htick ih)

/-- each stimulus handled between ticks takes one iteration of the master loop, those handled inside
a tick take none -/
def betweenCount (log : List StimEvC) : Nat := (log.filter (fun ev => !ev.mid)).length

theorem betweenCount_append (a b : List StimEvC) :
    betweenCount (a ++ b) = betweenCount a + betweenCount b := by
  simp [betweenCount, List.filter_append]

theorem betweenCount_midLog (S : Static) (fuel : Nat) (sp : Speed) (e : Int) (k : Nat) (m : MasterSt)
    (stims : List Stim) : betweenCount (midLog S fuel sp e k m stims) = 0 := by
  unfold betweenCount
  rw [List.length_eq_zero_iff, List.filter_eq_nil_iff]
  intro ev hev
  rw [midLog_mid S fuel sp e k m stims ev hev]
  exact Bool.false_ne_true

/-- counted from `a` tick records, a run that ends with `t` records and has spent `b` iterations
on stimuli has kept within its budget of `n` ticks and `s` iterations, and `P` holds if it has used
up neither -/
def WithinBudget (P : Prop) (a t b n s : Nat) : Prop :=
  t ≤ a + n ∧ t + b ≤ a + s ∧ (t < a + n → t + b < a + s → P)

theorem WithinBudget.stop {P : Prop} (a n s : Nat) (h : 0 < n → 0 < s → P) :
    WithinBudget P a a 0 n s :=
  ⟨Nat.le_add_right a n, Nat.le_add_right a s, fun h1 h2 =>
    h (Nat.lt_add_right_iff_pos.1 h1) (Nat.lt_add_right_iff_pos.1 h2)⟩

theorem WithinBudget.stim {P : Prop} {a t b n s : Nat} (h : WithinBudget P a t b n s) :
    WithinBudget P a t (b + 1) n (s + 1) :=
  ⟨h.1, Nat.succ_le_succ h.2.1, fun h1 h2 => h.2.2 h1 (Nat.lt_of_succ_lt_succ h2)⟩

theorem WithinBudget.tick {P : Prop} {a t b n s : Nat} (h : WithinBudget P (a + 1) t b n s) :
    WithinBudget P a t b (n + 1) (s + 1) := by
  unfold WithinBudget at h
  rwa [Nat.add_right_comm a 1 n, Nat.add_right_comm a 1 s] at h

theorem masterRunC_budget (S : Static) (orc : Oracle) (fuel : Nat) (sp : Speed) (cost : Nat → Nat) :
    ∀ (steps nTicks : Nat) (m : MasterSt) (stims : List Stim) (acc : List TickRec)
      (m2 : MasterSt) (ticks : List TickRec),
      masterRunC S orc fuel sp cost steps nTicks m stims acc = .ok (m2, ticks) →
      WithinBudget ((firstWakeups (m2.sim.sched "").wake).2 = none) acc.length ticks.length
        (betweenCount (runLogC S orc fuel sp cost steps nTicks m stims acc.length)) nTicks steps :=
  masterRunC_induct (P := fun steps nTicks _ _ acc m2 ticks log =>
      WithinBudget ((firstWakeups (m2.sim.sched "").wake).2 = none) acc.length ticks.length
        (betweenCount log) nTicks steps)
    (fun _ _ _ _ _ h0 => .stop _ _ _ fun hn hs => by omega)
    (fun _ _ _ _ _ hnone => .stop _ _ _ fun _ _ => hnone)
    (fun _ _ _ _ _ _ _ _ _ _ _ ih => ih.stim)
    (fun _ _ _ _ _ _ _ _ _ _ _ _ _ _ _ ih => by
      rw [betweenCount_append, endLog, betweenCount_midLog, Nat.zero_add]
      rw [List.length_append] at ih
      exact ih.tick)

def initLogC (S : Static) (orc : Oracle) (fuel : Nat) (sp : Speed) (cost : Nat → Nat)
    (t0 : SimTime) (now0 : Int) (stims0 : List Stim) : List StimEvC :=
  match S.level "" with
  | none => []
  | some L =>
    match tickLevel S orc fuel "" t0 L.wiring.components [] {} with
    | .error _ => []
    | .ok (st, _) => endLog S fuel sp st t0 now0 (now0 + cost 0) 1 stims0

theorem masterInitialC_inv {S : Static} {orc : Oracle} {fuel : Nat} {sp : Speed}
    {cost : Nat → Nat} {t0 : SimTime} {now0 : Int} {stims0 stims : List Stim}
    {m : MasterSt} {tr : TickRec}
    (h : masterInitialC S orc fuel sp cost t0 now0 stims0 = .ok (m, tr, stims)) :
    ∃ (L : Level) (sim : SimSt) (out : List (Port × V)),
      tickLevel S orc fuel "" t0 L.wiring.components [] {} = .ok (sim, out) ∧
      tr = ⟨t0, now0, L.wiring.components⟩ ∧
      m = (endTick S fuel sp sim t0 now0 (now0 + cost 0) stims0).1 ∧
      stims = (endTick S fuel sp sim t0 now0 (now0 + cost 0) stims0).2 ∧
      initLogC S orc fuel sp cost t0 now0 stims0 =
        endLog S fuel sp sim t0 now0 (now0 + cost 0) 1 stims0 := by
  unfold masterInitialC at h
  unfold initLogC
  cases hL : S.level "" with
  | none => rw [hL] at h; cases h
  | some L =>
    rw [hL] at h
    simp only [] at h ⊢
    cases hT : tickLevel S orc fuel "" t0 L.wiring.components [] {} with
    | error e => rw [hT] at h; cases h
    | ok r =>
      rw [hT] at h
      simp only [Except.ok.injEq, Prod.mk.injEq] at h
      obtain ⟨rfl, rfl, rfl⟩ := h
      exact ⟨L, r.1, r.2, hT, rfl, rfl, rfl, rfl⟩

section
variable {S : Static} {orc : Oracle} {fuel : Nat} {sp : Speed} {cost : Nat → Nat}

theorem midTick_trace (e : Int) (acc : List TickRec) (m : MasterSt) (stims : List Stim) :
    TraceC S orc fuel sp cost ⟨some e, m, stims, acc⟩ (midLog S fuel sp e acc.length m stims)
      ⟨none, { (midTick S fuel sp e m stims).1 with lastReal := e, now := e },
        (midTick S fuel sp e m stims).2, acc⟩ := by
  induction stims generalizing m with
  | nil => exact .step (.endT (fun _ h => by cases h)) (.done _)
  | cons st rest ih =>
    rw [midTick, midLog]
    split
    · rename_i hin
      exact .step (.mid hin) (ih _)
    · rename_i hin
      exact .step (.endT (fun st' h => by cases h; exact hin)) (.done _)

theorem RunC.trace {m : MasterSt} {stims : List Stim} {acc : List TickRec} {m2 : MasterSt}
    {ticks : List TickRec} {log : List StimEvC}
    (h : RunC S orc fuel sp cost m stims acc m2 ticks log) :
    ∃ stims2, TraceC S orc fuel sp cost ⟨none, m, stims, acc⟩ log ⟨none, m2, stims2, ticks⟩ := by
  induction h with
  | stop m stims acc => exact ⟨stims, .done _⟩
  | stim hsel _ ih =>
    obtain ⟨s2, ih⟩ := ih
    exact ⟨s2, .step (.stim hsel) ih⟩
  | @tick m stims acc comps w sim2 out m2 ticks log hsel hfw htick _ ih =>
    obtain ⟨s2, ih⟩ := ih
    -- `endTick` / `endLog` unfold to `midTick` / `midLog` from the master state during the tick
    have := midTick_trace (S := S) (orc := orc) (fuel := fuel) (sp := sp) (cost := cost)
      (dueReal m sp w + cost acc.length) (acc ++ [⟨w, dueReal m sp w, comps⟩])
      { sim := sim2, tickerTime := w, lastReal := dueReal m sp w, now := dueReal m sp w } stims
    rw [List.length_append, List.length_singleton] at this
    have h3 := TraceC.step (.tick hsel hfw htick) (this.append ih)
    exact ⟨s2, h3⟩

theorem initial_traceC {t0 : SimTime} {now0 : Int} {steps nTicks : Nat} {stims0 stims : List Stim}
    {m m2 : MasterSt} {tr : TickRec} {ticks : List TickRec}
    (h : masterInitialC S orc fuel sp cost t0 now0 stims0 = .ok (m, tr, stims))
    (h2 : masterRunC S orc fuel sp cost steps nTicks m stims [tr] = .ok (m2, ticks)) :
    ∃ (L : Level) (sim : SimSt) (out : List (Port × V)) (stims2 : List Stim),
      tickLevel S orc fuel "" t0 L.wiring.components [] {} = .ok (sim, out) ∧
      tr = ⟨t0, now0, L.wiring.components⟩ ∧
      TraceC S orc fuel sp cost
        ⟨some (now0 + cost 0), { sim := sim, tickerTime := t0, lastReal := now0, now := now0 }, stims0, [tr]⟩
        (initLogC S orc fuel sp cost t0 now0 stims0 ++ runLogC S orc fuel sp cost steps nTicks m stims 1)
        ⟨none, m2, stims2, ticks⟩ := by
  obtain ⟨s2, hrun⟩ := (masterRunC_runLogC S orc fuel sp cost steps nTicks m stims [tr] m2 ticks h2).trace
  obtain ⟨L, sim, out, hT, rfl, rfl, rfl, hlog⟩ := masterInitialC_inv h
  rw [hlog]
  exact ⟨L, sim, out, s2, hT, rfl, (midTick_trace (now0 + cost 0) [_] _ stims0).append hrun⟩

end

theorem RunC.prefix {S : Static} {orc : Oracle} {fuel : Nat} {sp : Speed} {cost : Nat → Nat}
    {m : MasterSt} {stims : List Stim} {acc : List TickRec} {m2 : MasterSt} {ticks : List TickRec}
    {log : List StimEvC} (h : RunC S orc fuel sp cost m stims acc m2 ticks log) :
    ∃ tail, ticks = acc ++ tail :=
  h.trace.elim fun _ htr => htr.prefix

/-- `Pacing.Consec R l` unfolds to `ConsecI (fun _ => R) l`, so a `Consec` fact such as
`pairwise_consec` is applied to `i a b` like a `ConsecI` one. -/
def ConsecI (R : Nat → TickRec → TickRec → Prop) (l : List TickRec) : Prop :=
  ∀ (i : Nat) (a b : TickRec), l[i]? = some a → l[i + 1]? = some b → R i a b

theorem consecI_snoc {R : Nat → TickRec → TickRec → Prop} {l : List TickRec} {x : TickRec}
    (h : ConsecI R l) (hx : ∀ z, l.getLast? = some z → R (l.length - 1) z x) :
    ConsecI R (l ++ [x]) := by
  intro i a b ha hb
  rcases getElem?_append_singleton_some.1 hb with hb | ⟨hi, rfl⟩
  · rw [List.getElem?_append_left (Nat.lt_of_succ_lt (lt_length_of_getElem?_eq_some hb))] at ha
    exact h i a b ha hb
  · rw [List.getElem?_append_left (hi ▸ Nat.lt_succ_self i)] at ha
    have := hx a (by rw [List.getLast?_eq_getElem?, ← hi]; exact ha)
    rwa [← hi, Nat.add_sub_cancel] at this

theorem ConsecI.induct {R : Nat → TickRec → TickRec → Prop} {l : List TickRec} {x0 : TickRec}
    {P : Nat → TickRec → Prop} (h : ConsecI R l) (h0 : l[0]? = some x0) (base : P 0 x0)
    (step : ∀ (i : Nat) (a b : TickRec), l[i]? = some a → l[i + 1]? = some b → R i a b →
      P i a → P (i + 1) b) :
    ∀ (k : Nat) (x : TickRec), l[k]? = some x → P k x := by
  intro k
  induction k with
  | zero =>
    intro x hk
    rw [h0] at hk
    cases hk
    exact base
  | succ k ih =>
    intro x hk
    have hy := List.getElem?_eq_getElem (Nat.lt_of_succ_lt (List.getElem?_eq_some_iff.1 hk).1)
    exact step k _ _ hy hk (h k _ _ hy hk) (ih _ hy)

/-- `N` is the real time at which the sleep for `b.time` is computed for the last time: stimuli move
it forward from the end `a.real + cost i` of tick number `i`; with callbacks only (`cb`) nothing
happens in between.
The body is that of `Pacing.Link sp cb ⟨a.time, a.real + cost i, _⟩ b`: a link with costs is a
zero-cost link from the END of the previous tick. -/
def LinkC (sp : Speed) (cost : Nat → Nat) (cb : Prop) (i : Nat) (a b : TickRec) : Prop :=
  ∃ N : Int, a.real + cost i ≤ N ∧ (cb → N = a.real + cost i) ∧
    b.real = dueReal { tickerTime := a.time, lastReal := a.real + cost i, now := N } sp b.time

/-- `h` is handed to `Link.never_early` as it is: `LinkC` and `Link` at the record moved to the end
of the tick unfold to the same `∃ N, …` -/
theorem LinkC.never_early {sp : Speed} {cost : Nat → Nat} {cb : Prop} {i : Nat} {a b : TickRec}
    (hs : 0 < sp.num) (h : LinkC sp cost cb i a b) :
    a.real + cost i ≤ b.real ∧ (b.time - a.time) * sp.den ≤ (b.real - (a.real + cost i)) * sp.num :=
  Link.never_early (a := ⟨a.time, a.real + cost i, a.roots⟩) hs h

/-- the start of the next tick as the code computes it: the sleep `(b.time - a.time)/speed` is
rounded up to a whole nanosecond, and there is none when that is not positive. -/
theorem LinkC.computed {sp : Speed} {cost : Nat → Nat} {cb : Prop} {i : Nat} {a b : TickRec}
    (hcb : cb) (h : LinkC sp cost cb i a b) :
    b.real = a.real + cost i +
      (if (b.time - a.time) * sp.den ≤ 0 then 0 else ceilDiv ((b.time - a.time) * sp.den) sp.num) := by
  obtain ⟨N, _, h2, h3⟩ := h
  cases h2 hcb
  rw [h3]
  exact dueReal_free _ sp b.time rfl

/-- late by less than one nanosecond of real time: `sp.num - 1` is in units of `1/sp.num` ns. -/
theorem LinkC.lag {sp : Speed} {cost : Nat → Nat} {cb : Prop} {i : Nat} {a b : TickRec}
    (hs : 0 < sp.num) (hcb : cb) (h : LinkC sp cost cb i a b) (hm : a.time ≤ b.time) :
    (b.real - (a.real + cost i)) * sp.num ≤ (b.time - a.time) * sp.den + (sp.num - 1) := by
  rw [h.computed hcb, Int.add_comm (a.real + cost i), Int.add_sub_cancel]
  exact wait_mul_le _ _ (Int.natCast_pos.2 hs)
    (Int.mul_nonneg (Int.sub_nonneg_of_le hm) (Int.natCast_nonneg _))

theorem LinkC.exact {sp : Speed} {cost : Nat → Nat} {cb : Prop} {i : Nat} {a b : TickRec}
    (hcb : cb) (h : LinkC sp cost cb i a b) (hm : a.time ≤ b.time)
    (hdiv : (sp.num : Int) ∣ (b.time - a.time) * sp.den) :
    (b.real - (a.real + cost i)) * sp.num = (b.time - a.time) * sp.den := by
  rw [h.computed hcb, Int.add_comm (a.real + cost i), Int.add_sub_cancel]
  exact wait_mul_eq _ _ (Int.mul_nonneg (Int.sub_nonneg_of_le hm) (Int.natCast_nonneg _)) hdiv

theorem busy_zero (k : Nat) : busy (fun _ => 0) k = 0 := by
  induction k with
  | zero => rfl
  | succ k ih => rw [busy, ih]

theorem paced_never_ahead {sp : Speed} {cost : Nat → Nat} {cb : Prop} {ticks : List TickRec}
    {tr : TickRec} (hn : 0 < sp.num) (hl : ConsecI (LinkC sp cost cb) ticks)
    (h0 : ticks[0]? = some tr) :
    ∀ (k : Nat) (x : TickRec), ticks[k]? = some x →
      tr.real + busy cost k ≤ x.real ∧
      (x.time - tr.time) * sp.den ≤ (x.real - tr.real - busy cost k) * sp.num := by
  refine hl.induct h0 ⟨by simp [busy], by simp [busy]⟩ (fun i a b _ _ hab ih => ?_)
  obtain ⟨l1, l2⟩ := hab.never_early hn
  rw [busy, Int.natCast_add]
  exact ⟨by omega, ahead_step ih.2 l2⟩

theorem paced_lag {sp : Speed} {cost : Nat → Nat} {ticks : List TickRec} {tr : TickRec} {e : Int}
    (hl : ConsecI (fun i a b =>
      (b.real - (a.real + cost i)) * sp.num ≤ (b.time - a.time) * sp.den + e) ticks)
    (h0 : ticks[0]? = some tr) :
    ∀ (k : Nat) (x : TickRec), ticks[k]? = some x →
      (x.real - tr.real - busy cost k) * sp.num ≤ (x.time - tr.time) * sp.den + k * e := by
  refine hl.induct h0 (by simp [busy]) (fun i a b _ _ hab ih => ?_)
  rw [busy, Int.natCast_add, Int.natCast_succ, Int.add_mul, Int.one_mul]
  exact lag_step ih hab

theorem paced_exact {sp : Speed} {cost : Nat → Nat} {cb : Prop} {ticks : List TickRec}
    {tr : TickRec} (hn : 0 < sp.num) (hcb : cb) (hl : ConsecI (LinkC sp cost cb) ticks)
    (hmono : (ticks.map (·.time)).Pairwise (· ≤ ·))
    (hdiv : ∀ (i : Nat) (a b : TickRec), ticks[i]? = some a → ticks[i + 1]? = some b →
      (sp.num : Int) ∣ (b.time - a.time) * sp.den)
    (h0 : ticks[0]? = some tr) :
    ∀ (k : Nat) (x : TickRec), ticks[k]? = some x →
      (x.time - tr.time) * sp.den = (x.real - tr.real - busy cost k) * sp.num := by
  intro k x hk
  have h3 := paced_lag (e := 0) (fun i a b ha hb => Int.le_of_eq (by
    rw [Int.add_zero]
    exact (hl i a b ha hb).exact hcb (pairwise_consec ticks hmono i a b ha hb)
      (hdiv i a b ha hb))) h0 k x hk
  rw [Int.mul_zero, Int.add_zero] at h3
  exact Int.le_antisymm (paced_never_ahead hn hl h0 k x hk).2 h3

section
variable {S : Static} {orc : Oracle} {fuel : Nat} {sp : Speed} {cost : Nat → Nat}

/-- the master agrees with the last tick record `z` (number `acc.length - 1`): it has its time,
and as `lastReal` its END `z.real + cost` between ticks, its START while it is in progress (then
`e` is its end, and `now < e` unless the tick takes no time); `z` is not ahead of real time
counted from `(t0, now0)`. -/
structure Synced (sp : Speed) (cost : Nat → Nat) (t0 : SimTime) (now0 : Int) (c : Cfg) : Prop where
  last : ∃ z, c.acc.getLast? = some z ∧ z.time = c.m.tickerTime ∧
    (z.time - t0) * sp.den ≤ (z.real - now0) * sp.num ∧
    match c.tickEnd with
    | none => c.m.lastReal = z.real + cost (c.acc.length - 1)
    | some e => c.m.lastReal = z.real ∧ e = z.real + cost (c.acc.length - 1) ∧
      (c.m.lastReal < e → c.m.now < e)
  real : c.m.lastReal ≤ c.m.now

theorem StepC.lastReal_le_now {c c' : Cfg} {l : List StimEvC}
    (hs : StepC S orc fuel sp cost c l c') (h : c.m.lastReal ≤ c.m.now) :
    c'.m.lastReal ≤ c'.m.now := by
  cases hs with
  | stim => exact Int.le_trans h (le_stimNow _ _)
  | tick => exact Int.le_refl _
  | mid => exact Int.le_trans h (le_stimNow _ _)
  | endT => exact Int.le_refl _

theorem Synced.step {t0 : SimTime} {now0 : Int} (hn : 0 < sp.num) {c c' : Cfg}
    {l : List StimEvC} (h : Synced sp cost t0 now0 c) (hs : StepC S orc fuel sp cost c l c') :
    Synced sp cost t0 now0 c' := by
  obtain ⟨⟨z, hz, hzt, hinv, hph⟩, hLN⟩ := h
  refine ⟨?_, hs.lastReal_le_now hLN⟩
  cases hs with
  | stim hsel => exact ⟨z, hz, hzt, hinv, hph⟩
  | @tick m stims acc comps w sim2 out hsel hfw htick =>
    have hzl : m.lastReal = z.real + cost (acc.length - 1) := hph
    refine ⟨⟨w, dueReal m sp w, comps⟩, by simp, rfl, ?_, rfl, ?_, id⟩
    · refine ahead_next (Int.natCast_nonneg _) ?_ hinv (hzt ▸ (never_early m sp hn w).2)
      rw [hzl]
      exact Int.le_add_of_nonneg_right (Int.natCast_nonneg _)
    · rw [List.length_append, List.length_singleton, Nat.add_sub_cancel]
  | @mid e m st rest acc hin =>
    obtain ⟨hzl, hze, hlt⟩ := hph
    exact ⟨z, hz, hzt, hinv, hzl, hze,
      fun _ => stimNow_lt hin.2 (hlt (Int.lt_trans hin.1 hin.2))⟩
  | @endT e m stims acc hout => exact ⟨z, hz, hzt, hinv, hph.2.1⟩

/-- `quiet`: with callbacks only (`cb`) there are no stimuli, so real time stands where `lastReal`
was last set. -/
structure Linked (sp : Speed) (cost : Nat → Nat) (cb : Prop) (t0 : SimTime) (now0 : Int) (c : Cfg) :
    Prop where
  sync : Synced sp cost t0 now0 c
  links : ConsecI (LinkC sp cost cb) c.acc
  quiet : cb → c.stims = [] ∧ c.m.now = c.m.lastReal

theorem Linked.step {cb : Prop} {t0 : SimTime} {now0 : Int} (hn : 0 < sp.num) {c c' : Cfg}
    {l : List StimEvC} (h : Linked sp cost cb t0 now0 c) (hs : StepC S orc fuel sp cost c l c') :
    Linked sp cost cb t0 now0 c' := by
  refine ⟨h.sync.step hn hs, ?_, ?_⟩
  all_goals obtain ⟨⟨⟨z, hz, hzt, _, hph⟩, hLN⟩, hlinks, hq⟩ := h
  · cases hs with
    | stim => exact hlinks
    | mid => exact hlinks
    | endT => exact hlinks
    | @tick m stims acc comps w sim2 out hsel hfw htick =>
      have hzl' : m.lastReal = z.real + cost (acc.length - 1) := hph
      refine consecI_snoc hlinks fun z' hz' => ?_
      rw [hz] at hz'
      cases hz'
      refine ⟨m.now, hzl' ▸ hLN, fun hc => by rw [(hq hc).2, hzl'], ?_⟩
      show dueReal m sp w =
        dueReal { tickerTime := z.time, lastReal := z.real + cost (acc.length - 1), now := m.now } sp w
      rw [hzt, ← hzl']
      rfl
  · intro hc
    cases hs with
    | stim hsel =>
      have := (hq hc).1
      rw [stimSel_mem ((stimFirstC_eq _ _ _ _).symm.trans hsel)] at this
      cases this
    | tick => exact ⟨(hq hc).1, rfl⟩
    | mid => exact nomatch (hq hc).1
    | endT => exact ⟨(hq hc).1, rfl⟩

theorem Linked.initial (sp : Speed) (cost : Nat → Nat) (t0 : SimTime) (now0 : Int)
    (roots : List Comp) (sim : SimSt) (stims0 : List Stim) :
    Linked sp cost (stims0 = []) t0 now0
      ⟨some (now0 + cost 0), { sim := sim, tickerTime := t0, lastReal := now0, now := now0 },
        stims0, [⟨t0, now0, roots⟩]⟩ := by
  refine ⟨⟨⟨⟨t0, now0, roots⟩, rfl, rfl, ?_, rfl, rfl, id⟩, Int.le_refl _⟩,
    (fun _ _ _ _ hb => nomatch hb), fun hc => ⟨hc, rfl⟩⟩
  rw [Int.sub_self, Int.sub_self, Int.zero_mul, Int.zero_mul]
  exact Int.le_refl _

/-- `Synced` read at every handled stimulus `ev` (`z` is the last tick record before it), and the
trace that goes on from the step that handles it. -/
theorem TraceC.events {t0 : SimTime} {now0 : Int} (hn : 0 < sp.num) {c c2 : Cfg}
    {log : List StimEvC} (h : TraceC S orc fuel sp cost c log c2)
    (h0 : Synced sp cost t0 now0 c) :
    ∀ pre ev post, log = pre ++ ev :: post →
      (ev.m.lastReal ≤ ev.m.now ∧ 1 ≤ ev.k ∧ ∃ z : TickRec, c2.acc[ev.k - 1]? = some z ∧
        z.time = ev.m.tickerTime ∧ (z.time - t0) * sp.den ≤ (z.real - now0) * sp.num ∧
        ev.m.lastReal = (if ev.mid then z.real else z.real + cost (ev.k - 1)) ∧
        (ev.mid = true → z.real < ev.st.real ∧ ev.st.real < z.real + cost (ev.k - 1) ∧
          ev.now < z.real + cost (ev.k - 1))) ∧
      ∃ rest acc1, acc1.length = ev.k ∧ TraceC S orc fuel sp cost
        ⟨if ev.mid then some (ev.m.lastReal + cost (ev.k - 1)) else none,
          stimStepC S fuel sp ev.m ev.st, rest, acc1⟩ post c2 := by
  intro pre ev post hlog
  obtain ⟨c1, c1', ⟨⟨z, hz, hzt, hinv, hph⟩, hLN⟩, s1, t1⟩ :=
    h.at_event (fun _ _ _ => Synced.step hn) h0 pre ev post hlog
  obtain ⟨e1, e2, _, e5, hmid⟩ := s1.event
  obtain ⟨tail, htail⟩ := t1.prefix
  rw [e5] at htail t1
  rw [e1] at t1
  have hlen : 1 ≤ c1.acc.length := by
    cases hc : c1.acc with
    | nil => rw [hc] at hz; cases hz
    | cons _ _ => exact Nat.succ_le_succ (Nat.zero_le _)
  have hzk : c2.acc[ev.k - 1]? = some z := by
    rw [htail, e2, List.getElem?_append_left (Nat.sub_lt hlen Nat.one_pos),
      ← List.getLast?_eq_getElem?]
    exact hz
  rw [e1, e2]
  cases he : c1.tickEnd with
  | none =>
    rw [he] at hph hmid t1
    rw [show ev.mid = false from hmid]
    exact ⟨⟨hLN, hlen, z, e2 ▸ hzk, hzt, hinv, hph, fun hm => nomatch hm⟩,
      c1'.stims, c1.acc, rfl, t1⟩
  | some e =>
    rw [he] at hph hmid t1
    obtain ⟨hzl, hze, hlt⟩ := hph
    obtain ⟨hm, h1, h2⟩ := hmid
    rw [hm]
    refine ⟨⟨hLN, hlen, z, e2 ▸ hzk, hzt, hinv, hzl, fun _ => ?_⟩, c1'.stims, c1.acc, rfl, ?_⟩
    · rw [← hze, ← hzl]
      exact ⟨h1, h2, stimNow_lt h2 (e1 ▸ hlt (Int.lt_trans h1 h2))⟩
    · rw [hzl, ← hze]
      exact t1

theorem TraceC.next_real {c c2 : Cfg} {log : List StimEvC}
    (h : TraceC S orc fuel sp cost c log c2) (top : Comp) (bound : SimTime) :
    c.tickEnd = none → Reached sp c.m top bound →
    ∀ x, c2.acc[c.acc.length]? = some x →
      x.real = c.m.now ∧ x.time ≤ bound ∧ (x.time = bound → top ∈ x.roots) := by
  induction h with
  | done c =>
    intro _ _ x hx
    exact absurd (List.getElem?_eq_some_iff.1 hx).1 (Nat.lt_irrefl _)
  | step hs ht ih =>
    intro hph hre x hx
    cases hs with
    | stim hsel =>
      have hst := hre.sel ((stimFirstC_eq _ _ _ _).symm.trans hsel)
      have := ih rfl (hre.stimStep S fuel _ hst) x hx
      rw [stimStepC_now, stimNow_eq hst] at this
      exact this
    | tick hsel hfw htick =>
      obtain ⟨t, ht'⟩ := ht.prefix
      rw [ht', List.append_assoc, List.getElem?_append_right (Nat.le_refl _), Nat.sub_self] at hx
      cases hx
      exact hre.first hfw
    | mid => cases hph
    | endT => cases hph

theorem RunC.events {S : Static} {orc : Oracle} {fuel : Nat} {sp : Speed} {cost : Nat → Nat}
    {m : MasterSt} {stims : List Stim} {acc : List TickRec} {m2 : MasterSt} {ticks : List TickRec}
    {log : List StimEvC} (h : RunC S orc fuel sp cost m stims acc m2 ticks log) (hs : 0 < sp.num)
    (t0 : SimTime) (now0 : Int) :
    ∀ z, acc.getLast? = some z → z.time = m.tickerTime →
      z.real + cost (acc.length - 1) = m.lastReal →
      m.lastReal ≤ m.now →
      (z.time - t0) * sp.den ≤ (z.real - now0) * sp.num →
      ∀ ev ∈ log, ev.m.lastReal ≤ ev.m.now ∧
        1 ≤ ev.k ∧ ∃ z', ticks[ev.k - 1]? = some z' ∧ z'.time = ev.m.tickerTime ∧
          (z'.time - t0) * sp.den ≤ (z'.real - now0) * sp.num ∧
          (ev.mid = false → z'.real + cost (ev.k - 1) = ev.m.lastReal) ∧
          (ev.mid = true → z'.real = ev.m.lastReal ∧ z'.real < ev.st.real ∧
            ev.st.real < z'.real + cost (ev.k - 1) ∧ ev.now < z'.real + cost (ev.k - 1)) := by
  intro z hz hzt hzr hLN hinv ev hev
  obtain ⟨s2, htr⟩ := h.trace
  obtain ⟨pre, post, hsplit⟩ := List.append_of_mem hev
  obtain ⟨⟨e1, e2, z', ez, ezt, ezi, ezl, et⟩, _⟩ := htr.events hs
    ⟨⟨z, hz, hzt, hinv, hzr.symm⟩, hLN⟩ pre ev post hsplit
  refine ⟨e1, e2, z', ez, ezt, ezi, fun hm => ?_, fun hm => ?_⟩
  · rw [hm] at ezl; exact ezl.symm
  · rw [hm] at ezl; exact ⟨ezl.symm, et hm⟩

theorem RunC.served {S : Static} {orc : Oracle} {fuel : Nat} {sp : Speed} {cost : Nat → Nat}
    {m : MasterSt} {stims : List Stim} {acc : List TickRec} {m2 : MasterSt} {ticks : List TickRec}
    {log : List StimEvC} (h : RunC S orc fuel sp cost m stims acc m2 ticks log) (hd : 0 < sp.den) :
    m.lastReal ≤ m.now →
    ∀ ev ∈ log, ev.mid = false → ∀ x, ticks[ev.k]? = some x →
      x.real = ev.now ∧ x.time ≤ ev.when S fuel sp ∧
        (x.time = ev.when S fuel sp → ev.top S fuel ∈ x.roots) := by
  intro hLN ev hev hm x hx
  obtain ⟨s2, htr⟩ := h.trace
  obtain ⟨pre, post, hsplit⟩ := List.append_of_mem hev
  obtain ⟨c1, c1', i1, s1, t1⟩ := htr.at_event
    (I := fun c => c.m.lastReal ≤ c.m.now) (fun _ _ _ hc hs => hs.lastReal_le_now hc) hLN
    pre ev post hsplit
  obtain ⟨e1, e2, _, e5, hmid⟩ := s1.event
  rw [e5] at t1
  cases he : c1.tickEnd with
  | some e =>
    rw [he, hm] at hmid
    exact nomatch hmid.1
  | none =>
    rw [he] at t1
    exact t1.next_real _ _ rfl (reached_stimStep S fuel hd ev.m ev.st (e1 ▸ i1)) x (e2 ▸ hx)

theorem initial_linksC {t0 : SimTime} {now0 : Int} {steps nTicks : Nat} {stims0 stims : List Stim}
    {m m2 : MasterSt} {tr : TickRec} {ticks : List TickRec}
    (h : masterInitialC S orc fuel sp cost t0 now0 stims0 = .ok (m, tr, stims))
    (h2 : masterRunC S orc fuel sp cost steps nTicks m stims [tr] = .ok (m2, ticks)) (hn : 0 < sp.num) :
    ConsecI (LinkC sp cost (stims0 = [])) ticks ∧ ticks[0]? = some tr ∧ tr.time = t0 ∧
      tr.real = now0 := by
  obtain ⟨L, sim, out, s2, _, rfl, htr⟩ := initial_traceC h h2
  obtain ⟨t, ht⟩ := htr.prefix
  refine ⟨(htr.inv_end (fun _ _ _ => Linked.step hn) (Linked.initial sp cost t0 now0 L.wiring.components sim stims0)).links,
    ?_, rfl, rfl⟩
  rw [show ticks = [_] ++ t from ht]
  rfl

end

end CostRun

namespace Pacing

open TimeMono CostRun

theorem Run.toRunC {S : Static} {orc : Oracle} {fuel : Nat} {sp : Speed} {m : MasterSt}
    {stims : List Stim} {acc : List TickRec} {m2 : MasterSt} {ticks : List TickRec}
    {log : List StimEv} (h : Run S orc fuel sp m stims acc m2 ticks log) :
    RunC S orc fuel sp (fun _ => 0) m stims acc m2 ticks (log.map (⟨·, false⟩)) := by
  induction h with
  | stop => exact RunC.stop _ _ _
  | stim hsel _ ih => exact RunC.stim ((stimFirstC_eq _ _ _ _).trans hsel) ih
  | @tick m stims acc comps w sim2 out m2 ticks log hsel hfw htick _ ih =>
    have := RunC.tick (cost := fun _ => 0) (stims := stims) (acc := acc) (m2 := m2) (ticks := ticks)
      (log := log.map (⟨·, false⟩)) ((stimFirstC_eq _ _ _ _).trans hsel) hfw htick
    simp only [Int.natCast_zero, Int.add_zero, endTick_zero, endLog_zero, List.nil_append] at this
    exact this ih

theorem Run.prefix {S : Static} {orc : Oracle} {fuel : Nat} {sp : Speed} {m : MasterSt}
    {stims : List Stim} {acc : List TickRec} {m2 : MasterSt} {ticks : List TickRec}
    {log : List StimEv} (h : Run S orc fuel sp m stims acc m2 ticks log) :
    ∃ tail, ticks = acc ++ tail :=
  h.toRunC.prefix

theorem Run.served {S : Static} {orc : Oracle} {fuel : Nat} {sp : Speed} {m : MasterSt}
    {stims : List Stim} {acc : List TickRec} {m2 : MasterSt} {ticks : List TickRec}
    {log : List StimEv} (h : Run S orc fuel sp m stims acc m2 ticks log) (hd : 0 < sp.den) :
    m.lastReal ≤ m.now →
    ∀ ev ∈ log, ∀ x, ticks[ev.k]? = some x →
      x.real = ev.now ∧ x.time ≤ ev.when S fuel sp ∧ (x.time = ev.when S fuel sp → ev.top S fuel ∈ x.roots) :=
  fun hLN ev hev => h.toRunC.served hd hLN ⟨ev, false⟩ (List.mem_map_of_mem hev) rfl

theorem Run.events {S : Static} {orc : Oracle} {fuel : Nat} {sp : Speed} {m : MasterSt}
    {stims : List Stim} {acc : List TickRec} {m2 : MasterSt} {ticks : List TickRec}
    {log : List StimEv} (h : Run S orc fuel sp m stims acc m2 ticks log) (hs : 0 < sp.num)
    (t0 : SimTime) (now0 : Int) :
    ∀ z, acc.getLast? = some z → z.time = m.tickerTime → z.real = m.lastReal →
      m.lastReal ≤ m.now →
      (m.tickerTime - t0) * sp.den ≤ (m.lastReal - now0) * sp.num →
      ∀ ev ∈ log, ev.m.lastReal ≤ ev.m.now ∧
        (ev.m.tickerTime - t0) * sp.den ≤ (ev.m.lastReal - now0) * sp.num ∧
        1 ≤ ev.k ∧ ∃ z', ticks[ev.k - 1]? = some z' ∧ z'.time = ev.m.tickerTime ∧
          z'.real = ev.m.lastReal := by
  intro z hz hzt hzr hLN hinv ev hev
  rw [← hzt, ← hzr] at hinv
  obtain ⟨e1, e2, z', ez, ezt, ezi, ef, _⟩ := h.toRunC.events hs t0 now0 z hz hzt
    (by rw [← hzr]; exact Int.add_zero _) hLN hinv ⟨ev, false⟩ (List.mem_map_of_mem hev)
  have hz' : z'.real = ev.m.lastReal := (Int.add_zero _).symm.trans (ef rfl)
  exact ⟨e1, by rw [← ezt, ← hz']; exact ezi, e2, z', ez, ezt, hz'⟩

theorem initial_links {S : Static} {orc : Oracle} {fuel : Nat} {t0 : SimTime} {now0 : Int}
    {sp : Speed} {steps nTicks : Nat} {stims : List Stim} {m m2 : MasterSt} {tr : TickRec}
    {ticks : List TickRec}
    (h : masterInitial S orc fuel t0 now0 = .ok (m, tr))
    (h2 : masterRun S orc fuel sp steps nTicks m stims [tr] = .ok (m2, ticks))
    (hn : 0 < sp.num) :
    ConsecI (LinkC sp (fun _ => 0) (stims = [])) ticks ∧ ticks[0]? = some tr ∧ tr.time = t0 ∧
      tr.real = now0 :=
  initial_linksC (cost := fun _ => 0) (stims0 := stims)
    (by rw [masterInitialC_zero _ _ _ _ _ rfl, h]; rfl)
    (by rw [masterRunC_zero _ _ _ _ _ (fun _ => rfl)]; exact h2) hn

end Pacing
end Tickit
