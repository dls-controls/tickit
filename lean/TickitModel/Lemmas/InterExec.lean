/-
Executions of the relations `TickLevelAny` and `TickInter` for CONCRETE configurations: the relations
as functions of a schedule (which pending dispatch is answered next, which level moves next), so that
a concrete execution is found by evaluation (`execAny_sound`, `execInter_sound`).  Both evaluators
answer everything but a system component by `answerNow?`, the function form of `AnswerNow`
(`Core/SimInter.lean`); that is why the any-order evaluator stands in this file too.
-/
import TickitModel.Lemmas.InterBasic

namespace Tickit

-- so that the state an execution ends in can be compared with the expected one by evaluation
deriving instance DecidableEq for DevComp, SchedSt, Obs, SimSt

variable (S : Static) (orc : Oracle)

def answerNow? (L : Level) (inCh : List (Port × V)) (st : SimSt) (o : List (Port × V)) :
    Dispatch V → Option (SimSt × List (Port × V) × List (Port × V) × Option SimTime)
  | .skip _ _ => some (st, o, [], none)
  | .input c t ins =>
    if (L.name != "" && c == pseudoExternal) = true then some (st, o, inCh, none)
    else if (L.name != "" && c == pseudoExpose) = true then some (st, ins, [], none)
    else if S.isSys c = true then none
    else (agetD orc c [])[agetD st.count c 0]?.bind fun resp =>
      if resp.raises = true then none
      else some ((devAfter st c t ins resp).1, o, (devAfter st c t ins resp).2, resp.callAt)

variable {S orc}

theorem answerNow?_sound {L : Level} {inCh : List (Port × V)} {st : SimSt} {o : List (Port × V)}
    {d : Dispatch V} {r : SimSt × List (Port × V) × List (Port × V) × Option SimTime}
    (h : answerNow? S orc L inCh st o d = some r) : AnswerNow S orc L inCh st o d r := by
  cases d with
  | skip c t => exact Option.some.inj h ▸ .skip
  | input c t ins =>
    rw [answerNow?] at h
    by_cases e1 : (L.name != "" && c == pseudoExternal) = true
    · rw [if_pos e1] at h
      exact Option.some.inj h ▸ .external e1
    rw [if_neg e1] at h
    by_cases e2 : (L.name != "" && c == pseudoExpose) = true
    · rw [if_pos e2] at h
      exact Option.some.inj h ▸ .expose (Bool.eq_false_iff.2 e1) e2
    rw [if_neg e2] at h
    by_cases e3 : S.isSys c = true
    · rw [if_pos e3] at h
      cases h
    rw [if_neg e3] at h
    obtain ⟨resp, e4, h⟩ := Option.bind_eq_some_iff.1 h
    by_cases e5 : resp.raises = true
    · rw [if_pos e5] at h
      cases h
    rw [if_neg e5] at h
    exact Option.some.inj h ▸ .dev (Bool.eq_false_iff.2 e1) (Bool.eq_false_iff.2 e2)
      (Bool.eq_false_iff.2 e3) e4 (Bool.eq_false_iff.2 e5)

/-- a schedule of one tick of a level: `step i inner rest` answers the `i`-th pending dispatch (if it
is a system component's, its inner tick follows `inner`), then goes on with `rest` -/
inductive Sched where
  | done
  | step (i : Nat) (inner rest : Sched)

variable (S) in
/-- `TickLevelAny.mk` as a function of the loop `run` -/
def tickWith (run : Level → List (Port × V) → LoopSt → Option (SimSt × List (Port × V)))
    (lvl : Comp) (t : SimTime) (roots : List Comp) (inCh : List (Port × V)) (st : SimSt) :
    Option (SimSt × List (Port × V)) :=
  match S.level lvl with
  | none => none
  | some L =>
    match (Ticker.call L.wiring t roots : Except TickErr (Ticker V × List (Dispatch V))) with
    | .error _ => none
    | .ok (tk, ds) => run L inCh ⟨tk, ds, [], st⟩

theorem tickWith_sound {run : Level → List (Port × V) → LoopSt → Option (SimSt × List (Port × V))}
    (hrun : ∀ L inCh ls r, run L inCh ls = some r → TickLoopAny S orc L inCh ls r)
    {lvl : Comp} {t : SimTime} {roots : List Comp} {inCh : List (Port × V)} {st : SimSt}
    {r : SimSt × List (Port × V)} (h : tickWith S run lvl t roots inCh st = some r) :
    TickLevelAny S orc lvl t roots inCh st r := by
  unfold tickWith at h
  split at h
  · cases h
  · split at h
    · cases h
    · exact .mk ‹_› ‹_› (hrun _ _ _ _ h)

variable (S orc) in
/-- `TickLoopAny` as a function of the schedule -/
def loopAny : Sched → Level → List (Port × V) → LoopSt → Option (SimSt × List (Port × V))
  | .done, _, _, ls =>
    if ls.pending = [] ∧ ls.tk.toUpdate.isEmpty = true then some (ls.st, ls.outCh) else none
  | .step i inner rest, L, inCh, ls =>
    match ls.pending[i]? with
    | none => none
    | some d =>
      let ans :=
        match d with
        | .input c t ins =>
          if (L.name != "" && c == pseudoExternal) = false ∧
              (L.name != "" && c == pseudoExpose) = false ∧ S.isSys c = true then
            (tickWith S (loopAny inner) c t (sysRoots S ls.st c t) ins (sysPre ls.st c t)).map
              fun r => (r.1, ls.outCh, r.2, sysCallAt r.1 c t)
          else answerNow? S orc L inCh ls.st ls.outCh d
        | .skip _ _ => answerNow? S orc L inCh ls.st ls.outCh d
      match ans with
      | none => none
      | some (st', outCh', changes, callAt) =>
        match ls.tk.propagate L.wiring d.comp d.time changes with
        | .error _ => none
        | .ok (tk', ds) =>
          loopAny rest L inCh
            ⟨tk', ls.pending.eraseIdx i ++ ds, outCh', anyWake st' L.name d.comp callAt⟩

theorem loopAny_sound (s : Sched) : ∀ (L : Level) (inCh : List (Port × V)) (ls : LoopSt)
    (r : SimSt × List (Port × V)), loopAny S orc s L inCh ls = some r →
      TickLoopAny S orc L inCh ls r := by
  induction s with
  | done =>
    intro L inCh ls r h
    simp only [loopAny] at h
    split at h
    · exact Option.some.inj h ▸ .done ‹_ ∧ _›.1 ‹_ ∧ _›.2
    · cases h
  | step i inner rest ih1 ih2 =>
    intro L inCh ls r h
    simp only [loopAny] at h
    split at h
    · cases h
    · rename_i d hd
      split at h
      · cases h
      · rename_i st' outCh' changes callAt hans
        split at h
        · cases h
        · rename_i tk' ds hprop
          refine .step hd ?_ hprop (ih2 _ _ _ _ h)
          split at hans
          · split at hans
            · rename_i c t ins hc
              obtain ⟨r2, hr2, e⟩ := Option.map_eq_some_iff.1 hans
              cases e
              exact .sys hc.1 hc.2.1 hc.2.2 (tickWith_sound ih1 hr2)
            · exact (answerNow?_sound hans).answerAny
          · exact (answerNow?_sound hans).answerAny

theorem execAny_sound (s : Sched) {lvl : Comp} {t : SimTime} {roots : List Comp}
    {inCh : List (Port × V)} {st : SimSt} {P : SimSt × List (Port × V) → Prop}
    (h : ∃ r ∈ tickWith S (loopAny S orc s) lvl t roots inCh st, P r) :
    ∃ r, TickLevelAny S orc lvl t roots inCh st r ∧ P r := by
  obtain ⟨r, hr, hp⟩ := h
  exact ⟨r, tickWith_sound (loopAny_sound s) hr, hp⟩

/-- one move of the interleaved semantics: the rule of `IStep` and the active level that takes it -/
inductive Move where
  | answer (i : Nat)
  | opn (i : Nat)
  | close (j i : Nat)
  | inner (j : Nat) (m : Move)

variable (S orc) in
def istep? : Move → SimSt → ITree → Option (SimSt × ITree)
  | .answer i, st, .node fr kids =>
    match fr.pending[i]? with
    | none => none
    | some d =>
      match answerNow? S orc fr.L fr.inCh st fr.outCh d with
      | none => none
      | some (st', outCh', changes, callAt) =>
        match fr.tk.propagate fr.L.wiring d.comp d.time changes with
        | .error _ => none
        | .ok (tk', ds) =>
          some (anyWake st' fr.L.name d.comp callAt,
            .node { fr with tk := tk', pending := fr.pending.eraseIdx i ++ ds, outCh := outCh' } kids)
  | .opn i, st, .node fr kids =>
    match fr.pending[i]? with
    | some (.input c t ins) =>
      if (fr.L.name != "" && c == pseudoExternal) = false ∧
          (fr.L.name != "" && c == pseudoExpose) = false ∧ S.isSys c = true ∧
          ∀ k ∈ kids, k.name ≠ c then
        match S.level c with
        | none => none
        | some Lc =>
          match (Ticker.call Lc.wiring t (sysRoots S st c t) :
            Except TickErr (Ticker V × List (Dispatch V))) with
          | .error _ => none
          | .ok (tk, ds) =>
            some (sysPre st c t, .node fr (kids ++ [.node ⟨Lc, t, ins, tk, ds, []⟩ []]))
      else none
    | _ => none
  | .close j i, st, .node fr kids =>
    match kids[j]? with
    | some (.node g []) =>
      if g.pending = [] ∧ g.tk.toUpdate.isEmpty = true ∧
          fr.pending[i]? = some (.input g.L.name g.t g.inCh) then
        match fr.tk.propagate fr.L.wiring g.L.name g.t g.outCh with
        | .error _ => none
        | .ok (tk', ds) =>
          some (anyWake st fr.L.name g.L.name (sysCallAt st g.L.name g.t),
            .node { fr with tk := tk', pending := fr.pending.eraseIdx i ++ ds } (kids.eraseIdx j))
      else none
    | _ => none
  | .inner j m, st, .node fr kids =>
    match kids[j]? with
    | none => none
    | some k => (istep? m st k).map fun r => (r.1, .node fr (kids.set j r.2))

theorem istep?_sound (m : Move) : ∀ (st : SimSt) (T : ITree) (r : SimSt × ITree),
    istep? S orc m st T = some r → IStep S orc (st, T) r := by
  induction m with
  | answer i =>
    rintro st ⟨fr, kids⟩ r h
    simp only [istep?] at h
    split at h
    · cases h
    · split at h
      · cases h
      · split at h
        · cases h
        · exact Option.some.inj h ▸ .answer ‹_› (answerNow?_sound ‹_›) ‹_›
  | opn i =>
    rintro st ⟨fr, kids⟩ r h
    simp only [istep?] at h
    split at h
    · split at h
      · rename_i hc
        split at h
        · cases h
        · split at h
          · cases h
          · exact Option.some.inj h ▸ .opn ‹_› hc.1 hc.2.1 hc.2.2.1 hc.2.2.2 ‹_› ‹_›
      · cases h
    · cases h
  | close j i =>
    rintro st ⟨fr, kids⟩ r h
    simp only [istep?] at h
    split at h
    · split at h
      · rename_i hc
        split at h
        · cases h
        · exact Option.some.inj h ▸ .close ‹_› hc.1 hc.2.1 hc.2.2 ‹_›
      · cases h
    · cases h
  | inner j m ih =>
    rintro st ⟨fr, kids⟩ r h
    simp only [istep?] at h
    split at h
    · cases h
    · obtain ⟨r', hr', e⟩ := Option.map_eq_some_iff.1 h
      exact e ▸ .inner ‹_› (ih _ _ _ hr')

variable (S orc) in
def irun? : List Move → SimSt × ITree → Option (SimSt × ITree)
  | [], a => some a
  | m :: ms, a => (istep? S orc m a.1 a.2).bind (irun? ms)

theorem irun?_sound (ms : List Move) : ∀ (a b : SimSt × ITree),
    irun? S orc ms a = some b → IRun S orc a b := by
  induction ms with
  | nil => intro a b h; exact Option.some.inj h ▸ .refl
  | cons m ms ih =>
    intro a b h
    obtain ⟨c, hc, h'⟩ := Option.bind_eq_some_iff.1 h
    exact .step (istep?_sound m _ _ _ hc) (ih _ _ h')

variable (S orc) in
def tickInter? (ms : List Move) (lvl : Comp) (t : SimTime) (roots : List Comp)
    (inCh : List (Port × V)) (st : SimSt) : Option (SimSt × List (Port × V)) :=
  match S.level lvl with
  | none => none
  | some L =>
    match (Ticker.call L.wiring t roots : Except TickErr (Ticker V × List (Dispatch V))) with
    | .error _ => none
    | .ok (tk, ds) =>
      match irun? S orc ms (st, .node ⟨L, t, inCh, tk, ds, []⟩ []) with
      | some (st', .node fr []) =>
        if fr.pending = [] ∧ fr.tk.toUpdate.isEmpty = true then some (st', fr.outCh) else none
      | _ => none

theorem execInter_sound (ms : List Move) {lvl : Comp} {t : SimTime} {roots : List Comp}
    {inCh : List (Port × V)} {st : SimSt} {P : SimSt × List (Port × V) → Prop}
    (h : ∃ r ∈ tickInter? S orc ms lvl t roots inCh st, P r) :
    ∃ r, TickInter S orc lvl t roots inCh st r ∧ P r := by
  obtain ⟨r, hr, hp⟩ := h
  refine ⟨r, ?_, hp⟩
  simp only [tickInter?, Option.mem_def] at hr
  split at hr
  · cases hr
  · split at hr
    · cases hr
    · split at hr
      · split at hr
        · rename_i hc
          exact Option.some.inj hr ▸ .mk ‹_› ‹_› (irun?_sound ms _ _ ‹_›) hc.1 hc.2
        · cases hr
      · cases hr

end Tickit
