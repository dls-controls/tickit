/-
C09: the device-level tick equations of one tick of the master (initial, callback, or with queued
interrupts: the equations take the set `Root` of components that are roots of their level's tick and
the set `Due` of those whose own wakeup entry is served as parameters), the uniqueness of their
solution along the acyclic device-level graph, and the preservation of the nested/flat correspondence
`Corr` by two ticks that both satisfy the equations.  The equations (`TickEqs`) are stated device by
device with the two predicates that the loop invariants of the nested tick (`Lemmas/FlattenGen*.lean`)
keep for a device whose part in the tick is over: `DevValOK` (update, inputs, new state) and `WakeRes`
(wakeup entry).
-/
import TickitModel.Lemmas.FlatDetLemmas
import TickitModel.Lemmas.AnyLoc
import TickitModel.Lemmas.FlattenCorrDef

namespace Tickit

-- the prefix `flt_`, here and in the other `Flatten*` files, marks an auxiliary fact of the flattening proofs
theorem flt_filter_comp_singleton {obs : List Obs} (hn : (obs.map Obs.comp).Nodup) {o : Obs}
    (ho : o ∈ obs) : obs.filter (fun o' => o'.comp == o.comp) = [o] := by
  obtain ⟨x, hx⟩ := List.length_eq_one_iff.1 (sim_filter_comp_eq_one hn (List.mem_map_of_mem ho))
  have hm : o ∈ obs.filter (fun o' => o'.comp == o.comp) := List.mem_filter.2 ⟨ho, beq_self_eq_true _⟩
  rw [hx] at hm ⊢
  rw [List.mem_singleton.1 hm]

theorem flt_filter_comp_nil {obs : List Obs} {c : Comp} (h : c ∉ obs.map Obs.comp) :
    obs.filter (fun o => o.comp == c) = [] := by
  rw [List.filter_eq_nil_iff]
  intro o ho h'
  exact h (List.mem_map.2 ⟨o, ho, by simpa using h'⟩)

theorem SimSt.obsOf_of_mem {st : SimSt} (hn : (st.obs.map Obs.comp).Nodup) {o : Obs}
    (ho : o ∈ st.obs) : st.obsOf o.comp = [(o.time, o.inputs)] := by
  unfold SimSt.obsOf
  rw [flt_filter_comp_singleton hn ho]
  rfl

theorem SimSt.obsOf_of_not_mem {st : SimSt} {c : Comp} (h : c ∉ st.obs.map Obs.comp) :
    st.obsOf c = [] := by
  unfold SimSt.obsOf
  rw [flt_filter_comp_nil h]
  rfl

def stepResp (orc : Oracle) (σ : SimSt) (c : Comp) : Option DevResp :=
  (agetD orc c [])[agetD σ.count c 0]?

/-- the `Output.changes` of device `c` updated from state `σ` do not depend on the inputs it is given:
responses are indexed by the update count -/
def stepChg (orc : Oracle) (σ : SimSt) (c : Comp) : List (Port × V) :=
  match stepResp orc σ c with
  | some r => outChanges (agetD σ.devs c {}).lastOutputs (normDict r.outs)
  | none => []

theorem flt_nodup_stepChg (orc : Oracle) (σ : SimSt) (c : Comp) : (akeys (stepChg orc σ c)).Nodup := by
  unfold stepChg
  split
  · exact nodup_akeys_filter (Det.nodup_akeys_normDict _) _
  · exact List.nodup_nil

def Static.DevIn (S : Static) (orc : Oracle) (n : Nat) (σ : SimSt) (new : List Obs) (d : Comp)
    (q : Port) (v : V) : Prop :=
  ∃ a₀ p₀, alookup (S.flatInputs n d) q = some (a₀, p₀) ∧ a₀ ∈ new.map Obs.comp ∧
    alookup (stepChg orc σ a₀) p₀ = some v

/-- what `Due` of `TickEqs` is for a tick that the master starts from a state between ticks
(`Lemmas/FlattenGen.lean`) -/
def Static.DueAt (S : Static) (σ : SimSt) (t : SimTime) (c : Comp) : Prop :=
  ∃ P w, alookup S.parent c = some P ∧ alookup (σ.sched P).wake c = some w ∧ w ≤ t

/-- what is known about a device `x` whose part in this tick is over.  `σ₀`: the state before the
tick; `mobs`: the observations of the tick so far; `Dec y`: whether `y` is updated in this tick can no
longer change.  That this holds of every device driving an input of `x` (`src`) is what makes the other
clauses stable (`DevValOK.transport`). -/
structure DevValOK (S : Static) (orc : Oracle) (n : Nat) (σ₀ : SimSt) (Root : Comp → Prop)
    (Dec : Comp → Prop) (mobs : List Obs) (st : SimSt) (x : Comp) : Prop where
  upd_iff : x ∈ mobs.map Obs.comp ↔ Root x ∨ ∃ q v, S.DevIn orc n σ₀ mobs x q v
  src : ∀ q a₀ p₀, alookup (S.flatInputs n x) q = some (a₀, p₀) → Dec a₀
  upd : ∀ o ∈ mobs, o.comp = x → ∃ ins r, (akeys ins).Nodup ∧
    o.inputs = (agetD σ₀.devs x {}).merge ins ∧
    (∀ q v, alookup ins q = some v ↔ S.DevIn orc n σ₀ mobs x q v) ∧
    stepResp orc σ₀ x = some r ∧ r.raises = false ∧
    agetD st.devs x {} = ⟨o.inputs, normDict r.outs⟩ ∧
    agetD st.count x 0 = agetD σ₀.count x 0 + 1
  frame : x ∉ mobs.map Obs.comp →
    agetD st.devs x {} = agetD σ₀.devs x {} ∧ agetD st.count x 0 = agetD σ₀.count x 0

theorem DevValOK.transport {S : Static} {orc : Oracle} {n : Nat} {σ₀ : SimSt} {Root : Comp → Prop}
    {Dec Dec' : Comp → Prop} {mobs mobs' : List Obs} {st st' : SimSt} {x : Comp}
    (h : DevValOK S orc n σ₀ Root Dec mobs st x) (hdec : ∀ y, Dec y → Dec' y)
    (hsub : ∀ o ∈ mobs, o ∈ mobs')
    (hnew : ∀ o ∈ mobs', o ∉ mobs → o.comp ≠ x ∧ ¬ Dec o.comp)
    (hst : agetD st'.devs x {} = agetD st.devs x {} ∧ agetD st'.count x 0 = agetD st.count x 0) :
    DevValOK S orc n σ₀ Root Dec' mobs' st' x := by
  have hmem : ∀ y, (y = x ∨ Dec y) → (y ∈ mobs.map Obs.comp ↔ y ∈ mobs'.map Obs.comp) := by
    intro y hy
    constructor
    · intro hm
      obtain ⟨o, ho, rfl⟩ := List.mem_map.1 hm
      exact List.mem_map.2 ⟨o, hsub o ho, rfl⟩
    · intro hm
      obtain ⟨o, ho, rfl⟩ := List.mem_map.1 hm
      by_cases hom : o ∈ mobs
      · exact List.mem_map.2 ⟨o, hom, rfl⟩
      · obtain ⟨h1, h2⟩ := hnew o ho hom
        rcases hy with hy | hy
        · exact absurd hy h1
        · exact absurd hy h2
  have hdi : ∀ q v, S.DevIn orc n σ₀ mobs x q v ↔ S.DevIn orc n σ₀ mobs' x q v :=
    fun q v => exists_congr fun a₀ => exists_congr fun p₀ => and_congr_right fun hfi =>
      and_congr_left' (hmem a₀ (Or.inr (h.src q a₀ p₀ hfi)))
  exact
    { upd_iff := by
        rw [← hmem x (Or.inl rfl), h.upd_iff]
        exact or_congr Iff.rfl (exists_congr fun q => exists_congr fun v => hdi q v)
      src := fun q a₀ p₀ hfi => hdec _ (h.src q a₀ p₀ hfi)
      upd := by
        intro o ho hox
        have hom : o ∈ mobs := by
          apply Classical.byContradiction
          intro hom
          exact (hnew o ho hom).1 hox
        obtain ⟨ins, r, h1, h2, h3, h4, h5, h6, h7⟩ := h.upd o hom hox
        exact ⟨ins, r, h1, h2, fun q v => (h3 q v).trans (hdi q v), h4, h5,
          hst.1.trans h6, hst.2.trans h7⟩
      frame := by
        intro hx
        obtain ⟨f1, f2⟩ := h.frame (fun hm => hx ((hmem x (Or.inl rfl)).1 hm))
        exact ⟨hst.1.trans f1, hst.2.trans f2⟩ }

/-- the wakeup entry `val` of device `d` in its scheduler `P` after the tick.  The parameter
called `Root` here (and in `LvlOK`, `SchedPost`, `ChildOK`, `GenSched` of
`Lemmas/FlattenGenSched.lean`) stands for "the own entry of the component is served (removed) in this
tick": every user passes the `Due` of `TickEqs`/`SchedCtx` for it, never their `Root`. -/
def WakeRes (S : Static) (orc : Oracle) (σ₀ : SimSt) (Root : Comp → Prop) (P d : Comp)
    (inNew : Prop) (val : Option SimTime) : Prop :=
  (inNew → ∀ r, stepResp orc σ₀ d = some r →
    (∀ w, r.callAt = some w → val = some w) ∧ (r.callAt = none → Root d → val = none) ∧
    (r.callAt = none → ¬ Root d → val = alookup (σ₀.sched P).wake d)) ∧
  (¬ inNew → (Root d → val = none) ∧ (¬ Root d → val = alookup (σ₀.sched P).wake d))

theorem WakeRes.congr {S : Static} {orc : Oracle} {σ₀ : SimSt} {Root : Comp → Prop} {P d : Comp}
    {p1 p2 : Prop} {val : Option SimTime} (h : WakeRes S orc σ₀ Root P d p1 val) (hp : p1 ↔ p2) :
    WakeRes S orc σ₀ Root P d p2 val :=
  ⟨fun h2 => h.1 (hp.2 h2), fun h2 => h.2 (fun h1 => h2 (hp.1 h1))⟩

/-- the device-level tick equations: `σ₀` is the state before the tick (before the master
removes the served wakeups), `σ'` the state after it, `new` the observations made.  Every device's
part in the tick is over: `DevValOK` with every source decided, `WakeRes` for its entry in its own
scheduler. -/
structure TickEqs (S : Static) (orc : Oracle) (n : Nat) (σ₀ : SimSt) (t : SimTime)
    (Root Due : Comp → Prop) (σ' : SimSt) (new : List Obs) : Prop where
  obs_eq : σ'.obs = σ₀.obs ++ new
  nodup : (new.map Obs.comp).Nodup
  dev : ∀ o ∈ new, o.time = t ∧ S.isDevice o.comp
  due_sub : ∀ d, Due d → Root d
  val : ∀ d, S.isDevice d → DevValOK S orc n σ₀ Root (fun _ => True) new σ' d
  wake : ∀ d P, S.isDevice d → alookup S.parent d = some P →
    WakeRes S orc σ₀ Due P d (d ∈ new.map Obs.comp) (alookup (σ'.sched P).wake d)

/-- a device that is not updated keeps its wakeup entry: it is no root, so its entry was not served -/
theorem TickEqs.frame_wake {S : Static} {orc : Oracle} {n : Nat} {σ₀ : SimSt} {t : SimTime}
    {Root Due : Comp → Prop} {σ' : SimSt} {new : List Obs} (E : TickEqs S orc n σ₀ t Root Due σ' new)
    {d P : Comp} (hd : S.isDevice d) (hP : alookup S.parent d = some P) (hnm : d ∉ new.map Obs.comp) :
    alookup (σ'.sched P).wake d = alookup (σ₀.sched P).wake d :=
  ((E.wake d P hd hP).2 hnm).2 fun hdd => hnm ((E.val d hd).upd_iff.2 (Or.inl (E.due_sub d hdd)))

theorem DevCorr.stepResp_eq {S : Static} {st st' : SimSt} (hc : DevCorr S st st') (orc : Oracle) {d : Comp}
    (hd : S.isDevice d) : stepResp orc st d = stepResp orc st' d := by
  unfold stepResp
  rw [hc.count d hd]

theorem DevCorr.stepChg_eq {S : Static} {st st' : SimSt} (hc : DevCorr S st st') (orc : Oracle) {d : Comp}
    (hd : S.isDevice d) : stepChg orc st d = stepChg orc st' d := by
  unfold stepChg
  rw [hc.stepResp_eq orc hd, (hc.devs d hd).1]

theorem tickEqs_devIn_iff {S : Static} (hS : S.Valid) {orc : Oracle} {n : Nat} {σ₀ σ₀' : SimSt}
    (hchg : ∀ d, S.isDevice d → stepChg orc σ₀ d = stepChg orc σ₀' d) {new new' : List Obs}
    {d : Comp} (hd : S.isDevice d)
    (hsame : ∀ q a₀ p₀, alookup (S.flatInputs n d) q = some (a₀, p₀) →
      (a₀ ∈ new.map Obs.comp ↔ a₀ ∈ new'.map Obs.comp)) (q : Port) (v : V) :
    S.DevIn orc n σ₀ new d q v ↔ (S.flatten n).DevIn orc 2 σ₀' new' d q v := by
  unfold Static.DevIn
  rw [hS.flatten_flatInputs (Static.mem_devices_iff.2 hd) q]
  refine exists_congr fun a₀ => exists_congr fun p₀ => and_congr_right fun hfi =>
    and_congr (hsame q a₀ p₀ hfi) ?_
  rw [hchg a₀ (Static.mem_devices_iff.1 (hS.flatInputs_device hfi))]

/-- The same rank induction as `UpdEqs.unique_on` of `Lemmas/TickUpd.lean` (on which the one-ticker
and flat results rest), but no instance of it: those equations are over the components of one `Wiring`,
these over the devices of a nested configuration, with `flatInputs` for the wires, on one side and its
flattening on the other. -/
theorem tickEqs_same_updates {S : Static} (hS : S.Valid) {orc : Oracle} {n : Nat} {σ₀ σ₀' σ' σ'' : SimSt}
    (hchg : ∀ d, S.isDevice d → stepChg orc σ₀ d = stepChg orc σ₀' d)
    {t : SimTime} {Root Root' Due Due' : Comp → Prop} (hroot : ∀ d, S.isDevice d → (Root d ↔ Root' d))
    {new new' : List Obs} (E : TickEqs S orc n σ₀ t Root Due σ' new)
    (E' : TickEqs (S.flatten n) orc 2 σ₀' t Root' Due' σ'' new') :
    ∀ d, S.isDevice d → (d ∈ new.map Obs.comp ↔ d ∈ new'.map Obs.comp) := by
  obtain ⟨rank, hr⟩ := hS.flatRank n
  have key : ∀ k d, rank d < k → S.isDevice d → (d ∈ new.map Obs.comp ↔ d ∈ new'.map Obs.comp) := by
    intro k
    induction k with
    | zero => intro d h; omega
    | succ k ih =>
      intro d hk hd
      have hdm := Static.mem_devices_iff.2 hd
      rw [(E.val d hd).upd_iff, (E'.val d ((S.flatten_isDevice n d).2 hd)).upd_iff, hroot d hd]
      refine or_congr Iff.rfl (exists_congr fun q => exists_congr fun v =>
        tickEqs_devIn_iff hS hchg hd (fun q a₀ p₀ hfi => ?_) q v)
      have := hr d q a₀ p₀ hdm hfi
      exact ih a₀ (by omega) (Static.mem_devices_iff.1 (hS.flatInputs_device hfi))
  exact fun d hd => key (rank d + 1) d (Nat.lt_succ_self _) hd

/-- `hkeep`, about the pending callbacks before the ticks: for every device either both sides agree
on whether its callback is due and on its entry, or the device is updated and its callback is due in
the flat tick, while in the nested tick it is due or the device has no entry unless it requests one. -/
theorem corr_of_tickEqs {S : Static} (hS : S.Valid) {orc : Oracle} {n : Nat}
    {σ₀ σ₀' σ' σ'' : SimSt} (hc : DevCorr S σ₀ σ₀')
    {t : SimTime} {Root Root' Due Due' : Comp → Prop}
    (hroot : ∀ d, S.isDevice d → (Root d ↔ Root' d))
    {new new' : List Obs} (E : TickEqs S orc n σ₀ t Root Due σ' new)
    (E' : TickEqs (S.flatten n) orc 2 σ₀' t Root' Due' σ'' new')
    (hkeep : ∀ d P, S.isDevice d → alookup S.parent d = some P →
      ((Due d ↔ Due' d) ∧ alookup (σ₀'.sched "").wake d = alookup (σ₀.sched P).wake d) ∨
      (d ∈ new.map Obs.comp ∧ Due' d ∧ ∀ r, stepResp orc σ₀ d = some r → r.callAt = none →
        ¬ Due d → alookup (σ₀.sched P).wake d = none))
    (hsch : SchedOK S σ') (hsch' : SchedOK (S.flatten n) σ'') : Corr S σ' σ'' := by
  have hchg : ∀ d, S.isDevice d → stepChg orc σ₀ d = stepChg orc σ₀' d :=
    fun d hd => hc.stepChg_eq orc hd
  have hsame := tickEqs_same_updates hS hchg hroot E E'
  have key : ∀ d, S.isDevice d →
      ((agetD σ'.devs d {}).lastOutputs = (agetD σ''.devs d {}).lastOutputs ∧
        MapEq (agetD σ'.devs d {}).deviceInputs (agetD σ''.devs d {}).deviceInputs) ∧
      agetD σ'.count d 0 = agetD σ''.count d 0 ∧
      ObsEq ((new.filter (fun o => o.comp == d)).map (fun o => (o.time, o.inputs)))
        ((new'.filter (fun o => o.comp == d)).map (fun o => (o.time, o.inputs))) ∧
      ∀ P, alookup S.parent d = some P →
        alookup (σ''.sched "").wake d = alookup (σ'.sched P).wake d := by
    intro d hd
    by_cases hm : d ∈ new.map Obs.comp
    · obtain ⟨o, ho, rfl⟩ := List.mem_map.1 hm
      obtain ⟨o', ho', hoo⟩ := List.mem_map.1 ((hsame _ hd).1 hm)
      obtain ⟨ht, _⟩ := E.dev o ho
      obtain ⟨ht', hd'⟩ := E'.dev o' ho'
      obtain ⟨ins, r, hn, hin, hiv, hr, _, hdv, hcn⟩ := (E.val _ hd).upd o ho rfl
      obtain ⟨ins', r', hn', hin', hiv', hr', _, hdv', hcn'⟩ := (E'.val _ hd').upd o' ho' rfl
      have hwk := fun P hP => (E.wake _ P hd hP).1 hm r hr
      have hwk' := fun P hP => (E'.wake _ P hd' hP).1 (List.mem_map.2 ⟨o', ho', rfl⟩) r' hr'
      rw [hoo] at hin' hiv' hr' hdv' hcn' hwk'
      have hrr : r = r' := by
        rw [hc.stepResp_eq orc hd, hr'] at hr
        exact (Option.some.inj hr).symm
      subst hrr
      have hmo : MapEq o.inputs o'.inputs := by
        rw [hin, hin']
        refine Det.mapEq_aupdate (hc.devs _ hd).2 hn hn' (fun q => Option.ext (fun v => ?_))
        rw [hiv q v, hiv' q v]
        exact tickEqs_devIn_iff hS hchg hd
          (fun _ a₀ _ hfi => hsame a₀ (Static.mem_devices_iff.1 (hS.flatInputs_device hfi))) q v
      refine ⟨⟨by rw [hdv, hdv'], by rw [hdv, hdv']; exact hmo⟩, by rw [hcn, hcn', hc.count _ hd],
        ?_, fun P hP => ?_⟩
      · rw [flt_filter_comp_singleton E.nodup ho, ← hoo, flt_filter_comp_singleton E'.nodup ho']
        exact ⟨ht.trans ht'.symm, hmo, trivial⟩
      · obtain ⟨w1, w2, w3⟩ := hwk P hP
        obtain ⟨w1', w2', w3'⟩ := hwk' "" (S.flatten_parent_device n hd)
        cases hca : r.callAt with
        | some w => rw [w1 w hca, w1' w hca]
        | none =>
          rcases hkeep _ P hd hP with ⟨hdue, hold⟩ | ⟨_, hdue', hq⟩
          · by_cases hdu : Due o.comp
            · rw [w2 hca hdu, w2' hca (hdue.1 hdu)]
            · rw [w3 hca hdu, w3' hca (fun h => hdu (hdue.2 h))]
              exact hold
          · rw [w2' hca hdue']
            by_cases hdu : Due o.comp
            · rw [w2 hca hdu]
            · rw [w3 hca hdu, hq r hr hca hdu]
    · have hm' : d ∉ new'.map Obs.comp := fun h => hm ((hsame d hd).2 h)
      have hd' := (S.flatten_isDevice n d).2 hd
      obtain ⟨f1, f2⟩ := (E.val d hd).frame hm
      obtain ⟨f1', f2'⟩ := (E'.val d hd').frame hm'
      refine ⟨by rw [f1, f1']; exact hc.devs d hd, by rw [f2, f2']; exact hc.count d hd,
        by rw [flt_filter_comp_nil hm, flt_filter_comp_nil hm']; trivial, fun P hP => ?_⟩
      rw [E.frame_wake hd hP hm, E'.frame_wake hd' (S.flatten_parent_device n hd) hm']
      rcases hkeep d P hd hP with ⟨_, hold⟩ | ⟨h, _⟩
      · exact hold
      · exact absurd h hm
  exact
    { devs := fun d hd => (key d hd).1
      count := fun d hd => (key d hd).2.1
      obs := by
        intro d
        rw [SimSt.obsOf_append E.obs_eq d, SimSt.obsOf_append E'.obs_eq d]
        refine Det.obsEq_append (hc.obs d) ?_
        by_cases hd : S.isDevice d
        · exact (key d hd).2.2.1
        · rw [flt_filter_comp_nil, flt_filter_comp_nil]
          · trivial
          · intro hm
            obtain ⟨o, ho, rfl⟩ := List.mem_map.1 hm
            exact hd ((S.flatten_isDevice n _).1 (E'.dev o ho).2)
          · intro hm
            obtain ⟨o, ho, rfl⟩ := List.mem_map.1 hm
            exact hd (E.dev o ho).2
      started := hsch.started
      wake_dev := fun d P hd hP => (key d hd).2.2.2 P hP
      wake_sys := hsch.wake_sys
      wake_keys := hsch.wake_keys
      wake_unique := hsch.wake_unique
      flat_sched := hsch'.flatten_fuel 0 }

end Tickit
