/-
Any-order nested tick: the DISPATCHES, at every depth (for C02).

`Lemmas/AnyDet.lean` proves on the way (`level_sameDispatch`) that two executions of a tick hand every
component of the level equivalent dispatches, but its final theorem only states the end states.
Here the ghost trace of a level's ticker and the ghost records of the answers are made part of a
relation (`LoopTr`, `LevelExec`: the loop of `Core/SimAny.lean` with trace and records threaded
through, exactly as `Inv2.step` extends them), "component `c`, at whatever depth, is handed dispatch
`d` in an execution" is defined on top of it (`Recv`), and the trace-level statements are proved: C02
for the trace of every level of every execution (`LevelExec.dispatch_spec`), and that what `c`
receives in one execution it receives, up to the order of the changes inside an `Input`, in every
other execution of the same tick from an equivalent state (`recv_det`).
-/
import TickitModel.Lemmas.AnyDet

namespace Tickit

/-- `LoopP` of `Lemmas/OneLevel.lean` (inner ticks: any-order executions) with trace and records as
ARGUMENTS, so that statements (`Recv`, `LevelExec.dispatch_spec`) can speak of them;
`LoopP.invariant` only yields their existence (`LevelP.fin_inv2`), hence the induction is done once
more for this relation (`LoopTr.run_inv2`). -/
inductive LoopTr (S : Static) (orc : Oracle) (L : Level) (inCh : List (Port × V)) :
    LoopSt → List (Ev V) → List AnsRec → SimSt × List (Port × V) → List (Ev V) → List AnsRec → Prop
  | done {ls : LoopSt} {tr : List (Ev V)} {recs : List AnsRec} :
      ls.pending = [] → ls.tk.toUpdate.isEmpty = true →
      LoopTr S orc L inCh ls tr recs (ls.st, ls.outCh) tr recs
  | step {ls : LoopSt} {tr : List (Ev V)} {recs : List AnsRec} {i : Nat} {d : Dispatch V}
      {st' : SimSt} {changes : List (Port × V)} {callAt : Option SimTime} {tk' : Ticker V}
      {ds : List (Dispatch V)} {r : SimSt × List (Port × V)} {trf : List (Ev V)}
      {recsf : List AnsRec} :
      ls.pending[i]? = some d →
      AnsP S orc (TickLevelAny S orc) L inCh ls.st d (st', changes, callAt) →
      ls.tk.propagate L.wiring d.comp d.time changes = .ok (tk', ds) →
      LoopTr S orc L inCh
        ⟨tk', ls.pending.eraseIdx i ++ ds, (exposeIns L d).getD ls.outCh,
          anyWake st' L.name d.comp callAt⟩
        (tr ++ [Ev.answer d.comp changes] ++ ds.map Ev.dispatch)
        (recs ++ [⟨d, ls.st, st', changes, callAt⟩]) r trf recsf →
      LoopTr S orc L inCh ls tr recs r trf recsf

def LevelExec (S : Static) (orc : Oracle) (lvl : Comp) (t : SimTime) (roots : List Comp)
    (inCh : List (Port × V)) (st : SimSt) (r : SimSt × List (Port × V)) (L : Level)
    (tr : List (Ev V)) (recs : List AnsRec) : Prop :=
  ∃ tk ds, S.level lvl = some L ∧
    (Ticker.call L.wiring t roots : Except TickErr (Ticker V × List (Dispatch V))) = .ok (tk, ds) ∧
    LoopTr S orc L inCh ⟨tk, ds, [], st⟩ (ds.map Ev.dispatch) [] r tr recs

section

variable {S : Static} {orc : Oracle}

theorem LoopTr.toLoopP {L : Level} {inCh : List (Port × V)} {ls : LoopSt} {tr trf : List (Ev V)}
    {recs recsf : List AnsRec} {r : SimSt × List (Port × V)}
    (a : LoopTr S orc L inCh ls tr recs r trf recsf) :
    LoopP S orc (TickLevelAny S orc) L inCh ls r := by
  induction a with
  | done h1 h2 => exact .done h1 h2
  | step h1 h2 h3 _ ih => exact .step h1 h2 h3 ih

theorem LoopP.toLoopTr {L : Level} {inCh : List (Port × V)} {ls : LoopSt}
    {r : SimSt × List (Port × V)} (a : LoopP S orc (TickLevelAny S orc) L inCh ls r) :
    ∀ (tr : List (Ev V)) (recs : List AnsRec), ∃ trf recsf, LoopTr S orc L inCh ls tr recs r trf recsf := by
  induction a with
  | done h1 h2 => exact fun tr recs => ⟨tr, recs, .done h1 h2⟩
  | step h1 h2 h3 _ ih =>
    intro tr recs
    obtain ⟨trf, recsf, h⟩ := ih _ _
    exact ⟨trf, recsf, .step h1 h2 h3 h⟩

theorem LevelExec.toAny {lvl : Comp} {t : SimTime} {roots : List Comp} {inCh : List (Port × V)}
    {st : SimSt} {r : SimSt × List (Port × V)} {L : Level} {tr : List (Ev V)} {recs : List AnsRec}
    (h : LevelExec S orc lvl t roots inCh st r L tr recs) : TickLevelAny S orc lvl t roots inCh st r := by
  obtain ⟨tk, ds, hL, hcall, hl⟩ := h
  exact tickLevelAny_iff.2 ⟨L, tk, ds, hL, hcall, hl.toLoopP⟩

theorem TickLevelAny.levelExec {lvl : Comp} {t : SimTime} {roots : List Comp} {inCh : List (Port × V)}
    {st : SimSt} {r : SimSt × List (Port × V)} (h : TickLevelAny S orc lvl t roots inCh st r) :
    ∃ L tr recs, LevelExec S orc lvl t roots inCh st r L tr recs := by
  obtain ⟨L, tk, ds, hL, hcall, hl⟩ := tickLevelAny_iff.1 h
  obtain ⟨trf, recsf, h'⟩ := hl.toLoopTr (ds.map Ev.dispatch) []
  exact ⟨L, trf, recsf, tk, ds, hL, hcall, h'⟩

theorem LevelExec.level_eq {lvl : Comp} {t : SimTime} {roots : List Comp} {inCh : List (Port × V)}
    {st : SimSt} {r : SimSt × List (Port × V)} {L : Level} {tr : List (Ev V)} {recs : List AnsRec}
    (h : LevelExec S orc lvl t roots inCh st r L tr recs) : S.level lvl = some L :=
  let ⟨_, _, hL, _⟩ := h
  hL

theorem TickLevelAny.levelExec_of {lvl : Comp} {t : SimTime} {roots : List Comp}
    {inCh : List (Port × V)} {st : SimSt} {r : SimSt × List (Port × V)}
    (h : TickLevelAny S orc lvl t roots inCh st r) {L : Level} (hL : S.level lvl = some L) :
    ∃ tr recs, LevelExec S orc lvl t roots inCh st r L tr recs := by
  obtain ⟨L', tr, recs, he⟩ := h.levelExec
  cases hL.symm.trans he.level_eq
  exact ⟨tr, recs, he⟩

theorem LoopTr.run_inv2 (hS : S.Valid) {L : Level} (hL : L ∈ S.levels) {inCh : List (Port × V)}
    (hinCh : (akeys inCh).Nodup) {t : SimTime} {roots : List Comp} {st0 : SimSt} {ls : LoopSt}
    {tr trf : List (Ev V)} {recs recsf : List AnsRec} {r : SimSt × List (Port × V)}
    (a : LoopTr S orc L inCh ls tr recs r trf recsf) :
    Inv2 S orc (TickLevelAny S orc) L inCh t roots st0 ls tr recs →
      ∃ ls', Inv2 S orc (TickLevelAny S orc) L inCh t roots st0 ls' trf recsf ∧ ls'.pending = [] ∧
        ls'.tk.toUpdate = [] ∧ r = (ls'.st, ls'.outCh) := by
  have hp : ∀ c t ro i s r, TickLevelAny S orc c t ro i s r → LevelPost1 S c s r :=
    fun _ _ _ _ _ _ h => tickLevelAny_post1 hS h
  induction a with
  | @done ls tr recs h1 h2 =>
    intro inv
    exact ⟨ls, inv, h1, by simpa using h2, rfl⟩
  | step h1 h2 h3 _ ih =>
    intro inv
    exact ih (inv.step hS hp hL hinCh h1 h2 h3)

theorem LevelExec.fin (hS : S.Valid) {lvl : Comp} {t : SimTime} {roots : List Comp}
    {inCh : List (Port × V)} (hinCh : (akeys inCh).Nodup) {st : SimSt} {r : SimSt × List (Port × V)}
    {L : Level} {tr : List (Ev V)} {recs : List AnsRec}
    (h : LevelExec S orc lvl t roots inCh st r L tr recs) :
    L ∈ S.levels ∧ L.name = lvl ∧
      ∃ ls, Inv2 S orc (TickLevelAny S orc) L inCh t roots st ls tr recs ∧ ls.tk.toUpdate = [] ∧
        r = (ls.st, ls.outCh) := by
  obtain ⟨tk, ds, hLv, hcall, hl⟩ := h
  obtain ⟨hL, hname⟩ := Static.level_some hLv
  obtain ⟨ls, inv, _, hf, hr⟩ := hl.run_inv2 hS hL hinCh (t := t) (roots := roots) (st0 := st)
    (Inv2.init hcall)
  exact ⟨hL, hname, ls, inv, hf, hr⟩

/-- C02 for the trace of a level of an any-order execution: a component of the level gets no
dispatch iff it is outside the extent of the roots; otherwise it gets an `Input` — carrying exactly
the wired ports that the answers of this tick report as changed — if it is a root or one of its
wired ports changed, and a `Skip` if not. -/
theorem LevelExec.dispatch_spec (hS : S.Valid) {lvl : Comp} {t : SimTime} {roots : List Comp}
    {inCh : List (Port × V)} (hinCh : (akeys inCh).Nodup) {st : SimSt} {r : SimSt × List (Port × V)}
    {L : Level} {tr : List (Ev V)} {recs : List AnsRec}
    (h : LevelExec S orc lvl t roots inCh st r L tr recs) :
    (∀ c, dispatchOf tr c = none ↔ c ∉ extent L.wiring roots) ∧
    (∀ c d, dispatchOf tr c = some d → DispatchSpec t roots (Changed L.wiring tr c) c d) ∧
    (∀ a ch, Ev.answer a ch ∈ tr ↔ ∃ rec ∈ recs, rec.d.comp = a ∧ rec.ch = ch) ∧
    (∀ rec ∈ recs, dispatchOf tr rec.d.comp = some rec.d ∧
      AnsP S orc (TickLevelAny S orc) L inCh rec.pre rec.d (rec.post, rec.ch, rec.ca)) := by
  obtain ⟨hL, _, ls, inv, hf, _⟩ := h.fin hS hinCh
  have F := TraceFin.of_inv (hS.routerOK hL) (hf ▸ inv.pre) inv.eq
  refine ⟨F.none_iff, F.spec, inv.recs_tr, fun rec hrec => ?_⟩
  obtain ⟨_, hans, _⟩ := inv.recs_ok rec hrec
  exact ⟨inv.rec_dispatch hrec, hans⟩

inductive Recv (S : Static) (orc : Oracle) :
    Comp → SimTime → List Comp → List (Port × V) → SimSt → SimSt × List (Port × V) → Comp →
      Dispatch V → Prop
  | here {lvl : Comp} {t : SimTime} {roots : List Comp} {inCh : List (Port × V)} {st : SimSt}
      {r : SimSt × List (Port × V)} {L : Level} {tr : List (Ev V)} {recs : List AnsRec} {c : Comp}
      {d : Dispatch V} :
      LevelExec S orc lvl t roots inCh st r L tr recs → dispatchOf tr c = some d →
      Recv S orc lvl t roots inCh st r c d
  | inside {lvl : Comp} {t : SimTime} {roots : List Comp} {inCh : List (Port × V)} {st : SimSt}
      {r : SimSt × List (Port × V)} {L : Level} {tr : List (Ev V)} {recs : List AnsRec}
      {rec : AnsRec} {s : Comp} {t' : SimTime} {ins : List (Port × V)} {c : Comp} {d : Dispatch V} :
      LevelExec S orc lvl t roots inCh st r L tr recs → rec ∈ recs → rec.d = .input s t' ins →
      (L.name != "" && s == pseudoExternal) = false → (L.name != "" && s == pseudoExpose) = false →
      S.isSys s = true →
      Recv S orc s t' (sysRoots S rec.pre s t') ins (sysPre rec.pre s t') (rec.post, rec.ch) c d →
      Recv S orc lvl t roots inCh st r c d

theorem Recv.toAny {lvl : Comp} {t : SimTime} {roots : List Comp} {inCh : List (Port × V)} {st : SimSt}
    {r : SimSt × List (Port × V)} {c : Comp} {d : Dispatch V}
    (h : Recv S orc lvl t roots inCh st r c d) : TickLevelAny S orc lvl t roots inCh st r := by
  cases h with
  | here he _ => exact he.toAny
  | inside he _ _ _ _ _ _ => exact he.toAny

theorem recv_det (hS : S.Valid) {lvl : Comp} {t : SimTime} {roots : List Comp} {inCh : List (Port × V)}
    {st : SimSt} {r : SimSt × List (Port × V)} {c : Comp} {d : Dispatch V}
    (h : Recv S orc lvl t roots inCh st r c d) :
    ∀ (roots' : List Comp) (inCh' : List (Port × V)) (st' : SimSt) (r' : SimSt × List (Port × V)),
      (∀ x, x ∈ roots ↔ x ∈ roots') → MapEq inCh inCh' → (akeys inCh).Nodup → (akeys inCh').Nodup →
      EqOn (AtOrBelow S lvl) st st' → TickLevelAny S orc lvl t roots' inCh' st' r' →
      ∃ d', Recv S orc lvl t roots' inCh' st' r' c d' ∧ Dispatch.Equiv d d' := by
  induction h with
  | @here lvl t roots inCh st r L tr recs c d he hd =>
    intro roots' inCh' st' r' hroots hin hn hn' hst h2
    obtain ⟨tr2, recs2, he2⟩ := h2.levelExec_of he.level_eq
    obtain ⟨hL, rfl, ls1, inv1, hf1, _⟩ := he.fin hS hn
    obtain ⟨_, _, ls2, inv2, hf2, _⟩ := he2.fin hS hn'
    have hs := (level_sameDispatch hS (fun _ _ _ _ _ _ h => tickLevelAny_det hS h)
      (fun _ _ _ _ _ _ h => h) hL hin hroots hst inv1 inv2 hf1 hf2).1 c
    rw [hd] at hs
    cases hd2 : dispatchOf tr2 c with
    | none => rw [hd2] at hs; exact hs.elim
    | some d2 =>
      rw [hd2] at hs
      exact ⟨d2, .here he2 hd2, hs⟩
  | @inside lvl t roots inCh st r L tr recs rec s t' ins c d he hrec hrd e1 e2 e3 _ ih =>
    -- as above up to `level_sameDispatch`, which here gives the record `rec2` of `s` in the second
    -- execution; its inner tick starts in an equivalent `sysPre` with the same roots
    -- (`sysPre_eqOn`), so the induction hypothesis applies to it
    intro roots' inCh' st' r' hroots hin hn hn' hst h2
    obtain ⟨tr2, recs2, he2⟩ := h2.levelExec_of he.level_eq
    obtain ⟨hL, rfl, ls1, inv1, hf1, _⟩ := he.fin hS hn
    obtain ⟨_, _, ls2, inv2, hf2, _⟩ := he2.fin hS hn'
    obtain ⟨rec2, hrec2, hcc, hde⟩ := (level_sameDispatch hS (fun _ _ _ _ _ _ h => tickLevelAny_det hS h)
      (fun _ _ _ _ _ _ h => h) hL hin hroots hst inv1 inv2 hf1 hf2).2.1 rec hrec
    obtain ⟨d2, pre2, post2, ch2, ca2⟩ := rec2
    simp only at hcc hde
    rw [hrd] at hde hcc
    obtain ⟨ins2, hd2, hi⟩ := hde.input_inv
    subst hd2
    obtain ⟨hdt1, ha1, hp1, _, _⟩ := inv1.recs_ok rec hrec
    obtain ⟨hdt2, ha2, hp2, _, _⟩ := inv2.recs_ok _ hrec2
    simp only at hdt2 ha2 hp2
    rw [hrd] at hdt1 hp1
    simp only [Dispatch.comp] at hp1 hp2
    have hdc : s ∈ L.wiring.components :=
      (Wiring.ups_isSome_iff' L.wiring _).1 (inv1.eq.ups _ hdt1)
    have hn1 : (akeys ins).Nodup := inv1.ins.2 _ hdt1
    have hn2 : (akeys ins2).Nodup := inv2.ins.2 _ hdt2
    have hσ : ∀ x, Foot S L s x → (rec.pre.loc x).Equiv (pre2.loc x) := by
      intro x hx
      rw [hp1 x hx, hp2 x hx]
      exact hst x (Or.inr hx.below)
    obtain ⟨hsch, hpre⟩ := sysPre_eqOn hS (hS.toWF.parent_of_member hL hdc e1 e2) hσ t'
    have hinner := (ha2.sys_inv e1 e2 e3).1
    obtain ⟨d', hr', hdd⟩ := ih _ _ _ _ (mem_sysRoots_congr hsch t') hi hn1 hn2 hpre hinner
    exact ⟨d', .inside (rec := ⟨.input s t' ins2, pre2, post2, ch2, ca2⟩) he2 hrec2 rfl e1 e2 e3 hr', hdd⟩

theorem Recv.of_extent (hS : S.Valid) {lvl : Comp} {t : SimTime} {roots : List Comp}
    {inCh : List (Port × V)} (hinCh : (akeys inCh).Nodup) {st : SimSt} {r : SimSt × List (Port × V)}
    (h : TickLevelAny S orc lvl t roots inCh st r) {L : Level} (hL : S.level lvl = some L) {c : Comp}
    (hc : c ∈ extent L.wiring roots) : ∃ d, Recv S orc lvl t roots inCh st r c d := by
  obtain ⟨tr, recs, he⟩ := h.levelExec_of hL
  cases hd : dispatchOf tr c with
  | none => exact absurd hc (((he.dispatch_spec hS hinCh).1 c).1 hd)
  | some d => exact ⟨d, .here he hd⟩

theorem Recv.time_eq (hS : S.Valid) {lvl : Comp} {t : SimTime} {roots : List Comp}
    {inCh : List (Port × V)} (hinCh : (akeys inCh).Nodup) {st : SimSt} {r : SimSt × List (Port × V)}
    {c : Comp} {d : Dispatch V} (h : Recv S orc lvl t roots inCh st r c d) : d.time = t ∧ d.comp = c := by
  induction h with
  | here he hd =>
    rcases (he.dispatch_spec hS hinCh).2.1 _ _ hd with ⟨ins, rfl, _⟩ | ⟨rfl, _⟩ <;> exact ⟨rfl, rfl⟩
  | @inside lvl t roots inCh st r L tr recs rec s t' ins c d he hrec hrd _ _ _ _ ih =>
    obtain ⟨_, _, ls, inv, _, _⟩ := he.fin hS hinCh
    have hdt := (inv.recs_ok rec hrec).1
    have h1 := (inv.pre.disp_ext _ hdt).2
    have hn1 : Det.InsNodup rec.d := inv.ins.2 _ hdt
    rw [hrd] at h1 hn1
    obtain ⟨i1, i2⟩ := ih hn1
    exact ⟨i1.trans h1, i2⟩

theorem Recv.inside_of_root (hS : S.Valid) {lvl : Comp} {t : SimTime} {roots : List Comp}
    {inCh : List (Port × V)} (hinCh : (akeys inCh).Nodup) {st : SimSt} {r : SimSt × List (Port × V)}
    (h : TickLevelAny S orc lvl t roots inCh st r) {L : Level} (hL : S.level lvl = some L) {s : Comp}
    (hs : s ∈ roots) (e1 : (L.name != "" && s == pseudoExternal) = false)
    (e2 : (L.name != "" && s == pseudoExpose) = false) (e3 : S.isSys s = true)
    {Ls : Level} (hLs : S.level s = some Ls) {x : Comp}
    (hx : x ∈ extent Ls.wiring (sysRoots S st s t)) : ∃ d, Recv S orc lvl t roots inCh st r x d := by
  obtain ⟨tr, recs, he⟩ := h.levelExec_of hL
  obtain ⟨hLm, hname, ls, inv, hf, _⟩ := he.fin hS hinCh
  obtain ⟨ch, hch⟩ := (inv.pre.resolved s (mem_extent_of_mem_roots hs)).1 (by rw [hf]; rfl)
  obtain ⟨rec, hrec, hrc, _, hrd⟩ := inv.rec_of_answer hch
  obtain ⟨hdt, ha, hp1, _, _⟩ := inv.recs_ok rec hrec
  obtain ⟨ins, hins⟩ : ∃ ins, rec.d = .input s t ins := by
    rcases (he.dispatch_spec hS hinCh).2.1 s rec.d hrd with ⟨ins, h1, _⟩ | ⟨_, hnr, _⟩
    · exact ⟨ins, h1⟩
    · exact absurd hs hnr
  obtain ⟨d0, pre, post, ch0, ca⟩ := rec
  simp only at hins hp1 ha hrc
  subst hins
  simp only [Dispatch.comp] at hp1
  have hdc : s ∈ L.wiring.components := (Wiring.ups_isSome_iff' L.wiring _).1 (inv.eq.ups _ hdt)
  have hpar := hS.toWF.parent_of_member hLm hdc e1 e2
  have hloc := hp1 s ⟨hpar, Or.inl rfl⟩
  have hsch : pre.sched s = st.sched s := congrArg SLoc.sch hloc
  have hinner := (ha.sys_inv e1 e2 e3).1
  have hn1 : (akeys ins).Nodup := inv.ins.2 _ hdt
  rw [← sysRoots_of_sched hsch t] at hx
  obtain ⟨d, hd⟩ := Recv.of_extent hS hn1 hinner hLs hx
  exact ⟨d, .inside (rec := ⟨.input s t ins, pre, post, ch0, ca⟩) he hrec rfl e1 e2 e3 hd⟩

end

end Tickit
