/-
Completion of a message-level tick (C13): from every reachable state some continuation
(starting whoever has not started, delivering what is in flight) completes the tick; at completion
every component has handled exactly the `Input`s it was sent.  The three theorems `msg_…'` at the
end are the property theorems of the same names without the prime in `Props/C08Msg.lean`; they are
proved here so that `Lemmas/MsgRun*.lean` can use them without importing a property file.
-/
import TickitModel.Lemmas.MsgFlatInv
import TickitModel.Lemmas.TickEqLemmas
import TickitModel.Lemmas.ListLemmas

set_option autoImplicit false

namespace Tickit

variable {Val : Type}

instance (m : MsgSt Val) : Decidable m.Complete :=
  inferInstanceAs (Decidable (∃ tk, m.tk = some tk ∧ tk.toUpdate = []))

@[simp] theorem MsgSt.run_nil {w : Wiring} {rx : MsgReact Val} {t : SimTime} {roots : List Comp}
    (m : MsgSt Val) : MsgSt.run w rx t roots m [] = some m := rfl

theorem MsgSt.run_cons_ok {w : Wiring} {rx : MsgReact Val} {t : SimTime} {roots : List Comp}
    {m m1 : MsgSt Val} {a : MsgAct} (h : m.step w rx t roots a = some (.ok m1))
    (as : List MsgAct) :
    MsgSt.run w rx t roots m (a :: as) = MsgSt.run w rx t roots m1 as := by
  rw [MsgSt.run, h]

theorem MsgSt.run_cons_eq_some {w : Wiring} {rx : MsgReact Val} {t : SimTime} {roots : List Comp}
    {m m' : MsgSt Val} {a : MsgAct} {as : List MsgAct}
    (h : MsgSt.run w rx t roots m (a :: as) = some m') :
    ∃ m1, m.step w rx t roots a = some (.ok m1) ∧ MsgSt.run w rx t roots m1 as = some m' := by
  rw [MsgSt.run] at h
  split at h
  · exact ⟨_, ‹_›, h⟩
  · cases h

theorem MsgSt.run_append {w : Wiring} {rx : MsgReact Val} {t : SimTime} {roots : List Comp}
    {m m1 m' : MsgSt Val} {as bs : List MsgAct} (h1 : MsgSt.run w rx t roots m as = some m1)
    (h2 : MsgSt.run w rx t roots m1 bs = some m') :
    MsgSt.run w rx t roots m (as ++ bs) = some m' := by
  induction as generalizing m with
  | nil => cases h1; exact h2
  | cons a as ih =>
    obtain ⟨m2, hstep, hrun⟩ := MsgSt.run_cons_eq_some h1
    rw [List.cons_append, MsgSt.run_cons_ok hstep]
    exact ih hrun

theorem MsgSt.run_induction {w : Wiring} {rx : MsgReact Val} {t : SimTime} {roots : List Comp}
    {P : MsgSt Val → Prop}
    (hP : ∀ m a m', P m → m.step w rx t roots a = some (.ok m') → P m')
    {m m' : MsgSt Val} {acts : List MsgAct} (h : P m)
    (hr : MsgSt.run w rx t roots m acts = some m') : P m' := by
  induction acts generalizing m with
  | nil => cases hr; exact h
  | cons a as ih =>
    obtain ⟨m1, hstep, hrun⟩ := MsgSt.run_cons_eq_some hr
    exact ih (hP m a m1 h hstep) hrun

theorem MsgSt.Reach.run {w : Wiring} {rx : MsgReact Val} {t : SimTime} {roots : List Comp}
    {m0 m m' : MsgSt Val} (h : MsgSt.Reach w rx t roots m0 m) {acts : List MsgAct}
    (hr : MsgSt.run w rx t roots m acts = some m') : MsgSt.Reach w rx t roots m0 m' :=
  MsgSt.run_induction (fun _ _ _ h hstep => h.step hstep) h hr

theorem MsgSt.step_hist_extends {w : Wiring} {rx : MsgReact Val} {t : SimTime} {roots : List Comp}
    {m m' : MsgSt Val} {a : MsgAct} (h : m.step w rx t roots a = some (.ok m')) :
    ∃ post, m'.hist = m.hist ++ post := by
  cases a with
  | startSched =>
    obtain ⟨_, r, _, rfl⟩ := MsgSt.step_startSched_ok h
    exact ⟨_, MsgSt.hist_sendAll _ _⟩
  | startComp c =>
    obtain ⟨_, rfl⟩ := MsgSt.step_startComp_ok h
    exact ⟨[], (List.append_nil _).symm⟩
  | deliverIn c =>
    obtain ⟨_, _, _, hr | ⟨_, _, _, _, hr⟩⟩ := MsgSt.step_deliverIn_cases h
    · cases hr; exact ⟨[], (List.append_nil _).symm⟩
    · cases hr; exact ⟨_, rfl⟩
  | deliverOut c =>
    obtain ⟨_, _, _, _, ⟨src, ch, ca, r, rfl⟩ | rfl⟩ := MsgSt.step_deliverOut_ok h
    · exact ⟨_, by rw [MsgSt.hist_noteWakeup, MsgSt.hist_sendAll, MsgSt.hist_setTk,
        MsgSt.hist_record, MsgSt.hist_advance, List.append_assoc]⟩
    · exact ⟨[], (List.append_nil _).symm⟩

theorem MsgSt.run_hist_extends {w : Wiring} {rx : MsgReact Val} {t : SimTime} {roots : List Comp}
    {m m' : MsgSt Val} {acts : List MsgAct}
    (hr : MsgSt.run w rx t roots m acts = some m') : ∃ post, m'.hist = m.hist ++ post := by
  refine MsgSt.run_induction (P := fun m' => ∃ post, m'.hist = m.hist ++ post) ?_
    ⟨[], (List.append_nil _).symm⟩ hr
  rintro m1 a m2 ⟨p1, h1⟩ hstep
  obtain ⟨p2, h2⟩ := MsgSt.step_hist_extends hstep
  exact ⟨p1 ++ p2, by rw [h2, h1, List.append_assoc]⟩

theorem MsgSt.startSched_enabled {w : Wiring} (rx : MsgReact Val) (t : SimTime) {roots : List Comp}
    (hroots : ∀ c ∈ extent w roots, (w.ups c).isSome) {m : MsgSt Val} (htk : m.tk = none) :
    ∃ m', m.step w rx t roots .startSched = some (.ok m') := by
  obtain ⟨s, hs⟩ := TickSys.init_ok_of (Val := Val) t hroots
  obtain ⟨r, hr, _⟩ := Except.map_eq_ok_iff.1 hs
  exact ⟨_, by rw [MsgSt.step_startSched_eq htk, hr]; rfl⟩

theorem MsgSim.deliverOut_ok {w : Wiring} {rx : MsgReact Val} {t : SimTime} {roots : List Comp}
    (hroots : ∀ c ∈ extent w roots, (w.ups c).isSome)
    {m : MsgSt Val} {s : TickSys Val} (hs : MsgSim rx m s) (hr : s.Reachable w (rx.at t) t roots)
    {c : Comp} {μ : BusMsg Val} (hμ : m.next (.outT c) = some μ) :
    ∃ m', m.step w rx t roots (.deliverOut c) = some (.ok m') := by
  obtain ⟨d, i, hi, _, rfl, _⟩ := hs.slot.deliverOut hr.inv.pre.pend_nodup hμ
  -- a pending dispatch was dispatched in this tick, so it carries the tick's time
  have hdt : d.time = t :=
    (hr.inv.pre.disp_ext d (hr.inv.pre.pend_trace d (List.mem_of_getElem? hi))).2
  -- the atomic model can answer `d`, so `propagate` does not fail
  obtain ⟨tk', ds, hprop⟩ := hr.inv.pre.propagate_ok hroots hr.inv.time (List.mem_of_getElem? hi)
    (answerOf (rx.at t) d)
  rw [hdt] at hprop
  rw [MsgSt.step_deliverOut_answer hs.tk hμ, MsgSt.absorb, hdt, hprop]
  exact ⟨_, rfl⟩

/-- one round: starting the component of a pending dispatch `d` if necessary and delivering what is in
flight for it answers `d`. -/
theorem MsgSim.round {w : Wiring} {rx : MsgReact Val} {t : SimTime} {roots : List Comp}
    (hroots : ∀ c ∈ extent w roots, (w.ups c).isSome)
    {m : MsgSt Val} {s : TickSys Val} (hs : MsgSim rx m s) (hr : s.Reachable w (rx.at t) t roots)
    {d : Dispatch Val} (hd : d ∈ s.pending) :
    ∃ acts m' i s', MsgSt.run w rx t roots m acts = some m' ∧
      s.step w (rx.at t) i = some (.ok s') ∧ MsgSim rx m' s' := by
  -- once something waits in `out c`: deliver it
  have finish : ∀ {c : Comp} {m1 : MsgSt Val} {μ : BusMsg Val}, MsgSim rx m1 s →
      m1.next (.outT c) = some μ →
      ∃ m' i s', MsgSt.run w rx t roots m1 [.deliverOut c] = some m' ∧
        s.step w (rx.at t) i = some (.ok s') ∧ MsgSim rx m' s' := by
    intro c m1 μ hs1 hμ
    obtain ⟨m', hstep⟩ := hs1.deliverOut_ok hroots hr hμ
    obtain ⟨s', hmove, hs'⟩ := hs1.step_cases hr hstep
    obtain ⟨i, hst⟩ := hmove.abs.resolve_left fun h => h.2 c rfl
    exact ⟨m', i, s', MsgSt.run_cons_ok hstep [], hst, hs'⟩
  -- once the component has started and its `Input` waits: it reacts, then as above
  have deliver : ∀ {c : Comp} {m1 : MsgSt Val} {t' : SimTime} {ins : List (Port × Val)},
      MsgSim rx m1 s → c ∈ m1.started → m1.next (.inT c) = some (.disp (.input c t' ins)) →
      m1.cur (.outT c) = (m1.log (.outT c)).length →
      ∃ m' i s', MsgSt.run w rx t roots m1 [.deliverIn c, .deliverOut c] = some m' ∧
        s.step w (rx.at t) i = some (.ok s') ∧ MsgSim rx m' s' := by
    intro c m1 t' ins hs1 hst hμ e
    have hstep := MsgSt.step_deliverIn_input (w := w) (rx := rx) (t := t) (roots := roots) hst hμ
    obtain ⟨m', i, s', h1, h2, h3⟩ := finish (c := c) (hs1.step_stutter hr (fun _ => MsgAct.noConfusion) hstep)
      (μ := .output c t' (rx c t' ins).1 (rx c t' ins).2) (by simp [MsgSt.next, e])
    exact ⟨m', i, s', (MsgSt.run_cons_ok hstep _).trans h1, h2, h3⟩
  obtain ⟨o, ho, hp⟩ := hs.slot d.comp
  obtain rfl : o = some d := (hp d).1 ⟨hd, rfl⟩
  generalize d.comp = c at ho
  cases ho with
  | outputWaiting _ _ _ _ _ e | skipWaiting _ _ _ e =>
    obtain ⟨m', i, s', h⟩ := finish hs e
    exact ⟨_, m', i, s', h⟩
  | inputWaiting t' ins a b e =>
    by_cases hst : c ∈ m.started
    · obtain ⟨m', i, s', h⟩ := deliver hs hst b e
      exact ⟨_, m', i, s', h⟩
    · have hstart : m.step w rx t roots (.startComp c) =
          some (.ok { m with started := c :: m.started }) := by simp only [MsgSt.step, if_neg hst]
      obtain ⟨m', i, s', h1, h⟩ := deliver (hs.step_stutter hr (fun _ => MsgAct.noConfusion) hstart)
        List.mem_cons_self b e
      exact ⟨.startComp c :: _, m', i, s', (MsgSt.run_cons_ok hstart _).trans h1, h⟩

theorem MsgSim.can_complete {w : Wiring} (hacyc : w.Acyclic) {rx : MsgReact Val} {t : SimTime}
    {roots : List Comp} (hroots : ∀ c ∈ extent w roots, (w.ups c).isSome) :
    ∀ (n : Nat) {m : MsgSt Val} {s : TickSys Val}, MsgSim rx m s →
      s.Reachable w (rx.at t) t roots → s.tk.toUpdate.length = n →
      ∃ acts m', MsgSt.run w rx t roots m acts = some m' ∧ m'.Complete := by
  intro n
  induction n with
  | zero =>
    intro m s hs _ hn
    exact ⟨[], m, rfl, s.tk, hs.tk, List.eq_nil_of_length_eq_zero hn⟩
  | succ n ih =>
    intro m s hs hr hn
    have hne : s.tk.toUpdate ≠ [] := fun h => by rw [h] at hn; cases hn
    obtain ⟨d, hd⟩ := List.exists_mem_of_ne_nil _ (hr.inv.progress hacyc hne)
    obtain ⟨acts, m1, i, s1, hrun, hstep, hs1⟩ := hs.round hroots hr hd
    have hm := TickSys.step_measure' hstep
    obtain ⟨acts', m', hrun', hc⟩ := ih hs1 (hr.step hstep) (by omega)
    exact ⟨acts ++ acts', m', MsgSt.run_append hrun hrun', hc⟩

def obsOfDispatch : Option (Dispatch Val) → List (SimTime × List (Port × Val))
  | some (.input _ t ins) => [(t, ins)]
  | _ => []

theorem length_obsOfDispatch_le (o : Option (Dispatch Val)) : (obsOfDispatch o).length ≤ 1 := by
  unfold obsOfDispatch; split <;> simp

theorem inputsTo_eq_nil {c : Comp} {tr : List (Ev Val)} (h : tr.filter (Ev.isDispatchOf c) = []) :
    inputsTo c tr = [] := by
  refine List.filterMap_eq_nil_iff.2 fun e he => ?_
  cases e with
  | answer a ch => rfl
  | dispatch d =>
    have hne : d.comp ≠ c := fun hc =>
      List.filter_eq_nil_iff.1 h _ he (by simp [Ev.isDispatchOf, hc])
    exact if_neg (Dispatch.topic_ne hne).1

theorem inputsTo_eq_map_obs {c : Comp} {tr : List (Ev Val)}
    (hcount : (tr.filter (Ev.isDispatchOf c)).length ≤ 1) :
    inputsTo c tr = (obsOfDispatch (dispatchOf tr c)).map
      (fun p => BusMsg.disp (.input c p.1 p.2)) := by
  induction tr with
  | nil => rfl
  | cons e tr ih =>
    cases e with
    | answer a ch => rw [dispatchOf_cons_answer]; exact ih hcount
    | dispatch d =>
      rw [dispatchOf_cons_dispatch, ← List.singleton_append, inputsTo_append]
      by_cases hc : d.comp = c
      · have hd : Ev.isDispatchOf c (Ev.dispatch d) = true := by simp [Ev.isDispatchOf, hc]
        rw [List.filter_cons_of_pos hd, List.length_cons] at hcount
        rw [inputsTo_eq_nil (List.eq_nil_of_length_eq_zero (Nat.le_zero.1
          (Nat.le_of_succ_le_succ hcount))), if_pos hc, List.append_nil]
        subst hc
        cases d <;> simp [inputsTo, Dispatch.topic, Dispatch.comp, obsOfDispatch]
      · have hd : ¬ Ev.isDispatchOf c (Ev.dispatch d) = true := by simp [Ev.isDispatchOf, hc]
        rw [List.filter_cons_of_neg hd] at hcount
        rw [if_neg hc, ← ih hcount]
        simp [inputsTo, (Dispatch.topic_ne hc).1]

/-- C01, through the simulation. -/
theorem MsgSt.Reach.dispatch_count {w : Wiring} {rx : MsgReact Val} {t : SimTime}
    {roots : List Comp} {m0 m : MsgSt Val} (h0 : m0.Idle) (h : MsgSt.Reach w rx t roots m0 m)
    (c : Comp) : (m.trace.filter (Ev.isDispatchOf c)).length ≤ 1 := by
  rcases h.sim h0 with ⟨hI, _, _⟩ | ⟨s, hr, hs⟩
  · rw [hI.trace_eq_nil]; exact Nat.zero_le _
  · rw [hs.trace]; exact (hr.inv.pre.count c).1

theorem MsgSt.Reach.log_length {w : Wiring} {rx : MsgReact Val} {t : SimTime}
    {roots : List Comp} {m0 m : MsgSt Val} (h0 : m0.Idle) (h : MsgSt.Reach w rx t roots m0 m)
    (c : Comp) : (m.log (.inT c)).length =
      (m0.log (.inT c)).length + (obsOfDispatch (dispatchOf m.trace c)).length := by
  rw [(h.inv h0).inLog c, inputsTo_eq_map_obs (h.dispatch_count h0 c), List.length_append,
    List.length_map]

theorem MsgSt.Reach.reactsOf_eq_take {w : Wiring} {rx : MsgReact Val} {t : SimTime}
    {roots : List Comp} {m0 m : MsgSt Val} (h0 : m0.Idle) (h : MsgSt.Reach w rx t roots m0 m)
    (c : Comp) : reactsOf c m.hist = (obsOfDispatch (dispatchOf m.trace c)).take
      (m.cur (.inT c) - (m0.log (.inT c)).length) := by
  have hinv := h.inv h0
  have h1 := hinv.handled c
  rw [hinv.inLog c, List.take_append, inputsTo_eq_map_obs (h.dispatch_count h0 c),
    ← List.map_take] at h1
  -- the cursor is past the old log, so the first part is all of it
  have hle : (m0.log (.inT c)).length ≤ m.cur (.inT c) := by
    have := congrArg List.length h1
    simp only [List.length_append, List.length_take, List.length_map, reactMsgs] at this
    omega
  rw [List.take_of_length_le hle] at h1
  exact (List.map_inj_right fun p q hpq => by cases p; cases q; cases hpq; rfl).1
    (List.append_cancel_left h1).symm

theorem MsgSt.Reach.no_react_before_input {w : Wiring} {rx : MsgReact Val} {t : SimTime}
    {roots : List Comp} {m0 m : MsgSt Val} (h0 : m0.Idle) (h : MsgSt.Reach w rx t roots m0 m)
    {c : Comp} {μ : BusMsg Val} (hμ : m.next (.inT c) = some μ) : reactsOf c m.hist = [] := by
  have hlt := MsgSt.cur_lt_of_next hμ
  have hlog := h.log_length h0 c
  have hobs := length_obsOfDispatch_le (dispatchOf m.trace c)
  rw [h.reactsOf_eq_take h0 c, Nat.sub_eq_zero_of_le (by omega)]
  rfl

theorem msg_complete_all_consumed' (w : Wiring) (rx : MsgReact Val) (t : SimTime)
    (roots : List Comp) (m : MsgSt Val) (s : TickSys Val) (hs : MsgSim rx m s)
    (hr : s.Reachable w (rx.at t) t roots) (hc : s.tk.toUpdate = []) (c : Comp) :
    m.cur (.inT c) = (m.log (.inT c)).length ∧ m.cur (.outT c) = (m.log (.outT c)).length := by
  obtain ⟨o, ho, hpo⟩ := hs.slot c
  cases o with
  | some d =>
    -- the component of a pending dispatch is flagged in `to_update`, which is empty
    have := (hr.inv.pre.pend_flag d.comp).1 ⟨d, ((hpo d).2 rfl).1, rfl⟩
    simp [hc] at this
  | none => cases ho with | idle a b => exact ⟨a, b⟩

theorem MsgSt.Complete.sim {w : Wiring} {rx : MsgReact Val} {t : SimTime} {roots : List Comp}
    {m0 m : MsgSt Val} (h0 : m0.Idle) (h : MsgSt.Reach w rx t roots m0 m) (hc : m.Complete) :
    ∃ s, s.Reachable w (rx.at t) t roots ∧ MsgSim rx m s ∧ s.tk.toUpdate = [] := by
  obtain ⟨tk, htk, hnil⟩ := hc
  rcases h.sim h0 with ⟨hI, _, _⟩ | ⟨s, hr, hs⟩
  · rw [hI.1] at htk; cases htk
  · refine ⟨s, hr, hs, ?_⟩
    have := hs.tk
    rw [htk] at this
    cases this
    exact hnil

theorem msg_observations_exact' (w : Wiring) (rx : MsgReact Val) (t : SimTime) (roots : List Comp)
    (m0 m : MsgSt Val) (h0 : m0.Idle) (h : MsgSt.Reach w rx t roots m0 m) (hc : m.Complete)
    (c : Comp) : reactsOf c m.hist = obsOfDispatch (dispatchOf m.trace c) := by
  obtain ⟨s, hr, hs, hnil⟩ := hc.sim h0 h
  rw [h.reactsOf_eq_take h0 c, List.take_of_length_le]
  rw [(msg_complete_all_consumed' w rx t roots m s hs hr hnil c).1, h.log_length h0 c,
    Nat.add_sub_cancel_left]
  exact Nat.le_refl _

theorem msg_tick_can_complete' (w : Wiring) (hacyc : w.Acyclic) (rx : MsgReact Val) (t : SimTime)
    (roots : List Comp) (hroots : ∀ c ∈ extent w roots, (w.ups c).isSome)
    (m0 m : MsgSt Val) (h0 : m0.Idle) (h : MsgSt.Reach w rx t roots m0 m) :
    ∃ acts m', MsgSt.run w rx t roots m acts = some m' ∧ m'.Complete ∧
      MsgSt.Reach w rx t roots m0 m' ∧ ∃ post, m'.hist = m.hist ++ post := by
  suffices hsuf : ∃ acts m', MsgSt.run w rx t roots m acts = some m' ∧ m'.Complete by
    obtain ⟨acts, m', hrun, hc⟩ := hsuf
    exact ⟨acts, m', hrun, hc, h.run hrun, MsgSt.run_hist_extends hrun⟩
  rcases h.sim h0 with ⟨hI, _, _⟩ | ⟨s, hr, hs⟩
  ·
    obtain ⟨m1, hm1⟩ := MsgSt.startSched_enabled rx t hroots hI.1
    obtain ⟨s1, hinit, hs1⟩ := MsgSim.start hI hm1
    obtain ⟨acts, m', hrun, hc⟩ := MsgSim.can_complete hacyc hroots _ hs1 (.init hinit) rfl
    exact ⟨.startSched :: acts, m', (MsgSt.run_cons_ok hm1 _).trans hrun, hc⟩
  · exact MsgSim.can_complete hacyc hroots _ hs hr rfl

end Tickit
