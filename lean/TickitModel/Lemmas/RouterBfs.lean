/-
Lemmas about the router model (`Core/Router`): the fuelled BFS `bfs` and `Wiring.dependants`.
-/
import TickitModel.Lemmas.RouterTree
import TickitModel.Lemmas.ListLemmas

namespace Tickit

theorem unvisited_lt (U vis : List Comp) (d : Comp) (hd : d ∈ U) (hv : d ∉ vis) :
    (U.filter (fun x => decide (x ∉ vis ++ [d]))).length <
      (U.filter (fun x => decide (x ∉ vis))).length := by
  have e : U.filter (fun x => decide (x ∉ vis ++ [d])) =
      (U.filter (fun x => decide (x ∉ vis))).filter (fun x => decide (x ≠ d)) := by
    rw [List.filter_filter]
    refine List.filter_congr fun x _ => ?_
    simp only [List.mem_append, List.mem_singleton, not_or, Bool.decide_and, Bool.and_comm]
  rw [e]
  exact List.length_filter_lt_length_iff_exists.2
    ⟨d, List.mem_filter.2 ⟨hd, decide_eq_true hv⟩, by simp⟩

theorem bfs_zero (children : Comp → Option (List Comp)) (q vis : List Comp) :
    bfs children 0 q vis = vis := rfl

theorem bfs_nil (children : Comp → Option (List Comp)) (fuel : Nat) (vis : List Comp) :
    bfs children fuel [] vis = vis := by
  cases fuel <;> rfl

theorem bfs_cons (children : Comp → Option (List Comp)) (fuel : Nat) (d : Comp) (q vis : List Comp) :
    bfs children (fuel + 1) (d :: q) vis =
      if d ∈ vis then bfs children fuel q vis
      else match children d with
        | some ch => bfs children fuel (q ++ ch.filter (fun x => decide (x ∉ vis ++ [d]))) (vis ++ [d])
        | none => bfs children fuel q (vis ++ [d]) := rfl

theorem bfs_nodup (children : Comp → Option (List Comp)) (fuel : Nat) :
    ∀ (q vis : List Comp), vis.Nodup → (bfs children fuel q vis).Nodup := by
  induction fuel with
  | zero => intro q vis h; rw [bfs_zero]; exact h
  | succ n ih =>
    intro q vis h
    cases q with
    | nil => rw [bfs_nil]; exact h
    | cons d q =>
      rw [bfs_cons]
      by_cases hd : d ∈ vis
      · simp only [hd, if_true]
        exact ih _ _ h
      · simp only [hd, if_false]
        cases children d <;> exact ih _ _ (nodup_snoc h hd)

theorem bfs_sound (children : Comp → Option (List Comp)) (P : Comp → Prop)
    (hch : ∀ d ch, P d → children d = some ch → ∀ b ∈ ch, P b) (fuel : Nat) :
    ∀ (q vis : List Comp), (∀ x ∈ q, P x) → (∀ x ∈ vis, P x) →
      ∀ x ∈ bfs children fuel q vis, P x := by
  induction fuel with
  | zero => intro q vis _ hv; rw [bfs_zero]; exact hv
  | succ n ih =>
    intro q vis hq hv
    cases q with
    | nil => rw [bfs_nil]; exact hv
    | cons d q =>
      have hPd : P d := hq d List.mem_cons_self
      have hq' : ∀ x ∈ q, P x := fun x hx => hq x (List.mem_cons_of_mem _ hx)
      have hv' : ∀ x ∈ vis ++ [d], P x := by
        intro x hx
        rcases List.mem_append.1 hx with hx | hx
        · exact hv x hx
        · rw [List.mem_singleton] at hx
          exact hx ▸ hPd
      rw [bfs_cons]
      by_cases hd : d ∈ vis
      · simp only [hd, if_true]
        exact ih _ _ hq' hv
      · simp only [hd, if_false]
        cases hc : children d with
        | none => exact ih _ _ hq' hv'
        | some ch =>
          refine ih _ _ ?_ hv'
          intro x hx
          rcases List.mem_append.1 hx with hx | hx
          · exact hq' x hx
          · exact hch d ch hPd hc x (List.mem_filter.1 hx).1

/-- the fuel measure: an unvisited node of the universe `U` costs `n + 1` (its visit, and at most
`n` children put on the queue), a queued node 1. -/
theorem bfs_closed (children : Comp → Option (List Comp)) (E : Comp → Comp → Prop)
    (U : List Comp) (n : Nat)
    (hE : ∀ d b, E d b → ∃ ch, children d = some ch ∧ b ∈ ch)
    (hU : ∀ d ch, children d = some ch → (∀ b ∈ ch, b ∈ U) ∧ ch.length ≤ n) (fuel : Nat) :
    ∀ (q vis : List Comp), (∀ x ∈ q, x ∈ U) →
      (U.filter (fun x => decide (x ∉ vis))).length * (n + 1) + q.length ≤ fuel →
      (∀ d ∈ vis, ∀ b, E d b → b ∈ vis ∨ b ∈ q) →
      (∀ x, x ∈ vis ∨ x ∈ q → x ∈ bfs children fuel q vis) ∧
        (∀ d ∈ bfs children fuel q vis, ∀ b, E d b → b ∈ bfs children fuel q vis) := by
  have hnil : ∀ vis : List Comp, (∀ d ∈ vis, ∀ b, E d b → b ∈ vis ∨ b ∈ []) →
      (∀ x, x ∈ vis ∨ x ∈ [] → x ∈ vis) ∧ (∀ d ∈ vis, ∀ b, E d b → b ∈ vis) :=
    fun vis hcl => ⟨fun x hx => hx.elim id (nomatch ·),
      fun d hd b hb => (hcl d hd b hb).elim id (nomatch ·)⟩
  induction fuel with
  | zero =>
    intro q vis _ hf hcl
    obtain rfl : q = [] :=
      List.eq_nil_of_length_eq_zero (Nat.eq_zero_of_le_zero (Nat.le_trans (Nat.le_add_left _ _) hf))
    rw [bfs_zero]
    exact hnil vis hcl
  | succ f ih =>
    intro q vis hqU hf hcl
    cases q with
    | nil =>
      rw [bfs_nil]
      exact hnil vis hcl
    | cons d q =>
      have hqU' : ∀ x ∈ q, x ∈ U := fun x hx => hqU x (List.mem_cons_of_mem _ hx)
      rw [List.length_cons] at hf
      rw [bfs_cons]
      by_cases hd : d ∈ vis
      · rw [if_pos hd]
        have hsub : ∀ x, x ∈ vis ∨ x ∈ d :: q → x ∈ vis ∨ x ∈ q := fun x hx =>
          hx.elim Or.inl fun h => (List.mem_cons.1 h).elim (fun e => Or.inl (e ▸ hd)) Or.inr
        obtain ⟨h1, h3⟩ := ih q vis hqU' (Nat.le_of_succ_le_succ hf) fun d' hd' b hb =>
          hsub b (hcl d' hd' b hb)
        exact ⟨fun x hx => h1 x (hsub x hx), h3⟩
      · rw [if_neg hd]
        -- visiting `d` pays for a queue `q'` that is longer than `q` by at most `n`
        have hmul := Nat.mul_le_mul_right (n + 1) (unvisited_lt U vis d (hqU d List.mem_cons_self) hd)
        rw [Nat.succ_mul] at hmul
        have step : ∀ q' : List Comp, (∀ x ∈ q, x ∈ q') → (∀ x ∈ q', x ∈ U) →
            q'.length ≤ q.length + n → (∀ b, E d b → b ∈ vis ++ [d] ∨ b ∈ q') →
            (∀ x, x ∈ vis ∨ x ∈ d :: q → x ∈ bfs children f q' (vis ++ [d])) ∧
              (∀ a ∈ bfs children f q' (vis ++ [d]), ∀ b, E a b →
                b ∈ bfs children f q' (vis ++ [d])) := by
          intro q' hsub hq'U hlen hdq'
          have hin : ∀ x, x ∈ vis ∨ x ∈ d :: q → x ∈ vis ++ [d] ∨ x ∈ q' := fun x hx =>
            hx.elim (fun h => Or.inl (List.mem_append_left _ h)) fun h =>
              (List.mem_cons.1 h).elim (fun e => Or.inl (e ▸ List.mem_append_right _ List.mem_cons_self))
                fun h => Or.inr (hsub x h)
          -- the fuel suffices by `hmul`, `hlen`, `hf`
          obtain ⟨h1, h3⟩ := ih q' (vis ++ [d]) hq'U (by omega) fun d' hd' b hb =>
            (List.mem_append.1 hd').elim (fun hd' => hin b (hcl d' hd' b hb))
              fun hd' => List.mem_singleton.1 hd' ▸ hdq' b (List.mem_singleton.1 hd' ▸ hb)
          exact ⟨fun x hx => h1 x (hin x hx), h3⟩
        cases hc : children d with
        | none =>
          refine step q (fun _ h => h) hqU' (Nat.le_add_right _ _) fun b hb => ?_
          obtain ⟨ch, hch, _⟩ := hE d b hb
          rw [hc] at hch
          cases hch
        | some ch =>
          obtain ⟨hchU, hchn⟩ := hU d ch hc
          refine step _ (fun _ h => List.mem_append_left _ h) ?_ ?_ fun b hb => ?_
          · exact fun x hx => (List.mem_append.1 hx).elim (hqU' x) fun h => hchU x (List.mem_filter.1 h).1
          · rw [List.length_append]
            exact Nat.add_le_add_left (Nat.le_trans (List.length_filter_le _ _) hchn) _
          · obtain ⟨ch', hch', hb'⟩ := hE d b hb
            rw [hc] at hch'
            cases hch'
            by_cases hbv : b ∈ vis ++ [d]
            · exact Or.inl hbv
            · exact Or.inr (List.mem_append_right _ (List.mem_filter.2 ⟨hb', decide_eq_true hbv⟩))

/-- soundness of `dependants`, phrased without mentioning reachability. -/
theorem Wiring.dependants_sound {w : Wiring} (h : w.WF) (r : Comp) (P : Comp → Prop) (hr : P r)
    (hstep : ∀ a b, P a → w.Edge a b → P b) : ∀ c ∈ w.dependants r, P c := by
  unfold Wiring.dependants
  apply bfs_sound w.children P
  · intro d ch hPd hch b hb
    exact hstep d b hPd ((Wiring.mem_children_iff' h hch b).1 hb)
  · intro x hx
    rw [List.mem_singleton] at hx
    exact hx ▸ hr
  · simp

theorem Wiring.dependants_closed (w : Wiring) (r : Comp) :
    r ∈ w.dependants r ∧ ∀ d ∈ w.dependants r, ∀ b, w.Edge d b → b ∈ w.dependants r := by
  -- universe: the root, the keys and the wired-to components; no node has more children than that
  have hlen : (r :: (akeys w ++ w.inputComponents)).length =
      (akeys w).length + w.inputComponents.length + 1 := by
    rw [List.length_cons, List.length_append]
  obtain ⟨h2, h3⟩ := bfs_closed w.children w.Edge (r :: (akeys w ++ w.inputComponents))
    ((akeys w).length + w.inputComponents.length + 1)
    (fun d b he => Wiring.children_of_edge he)
    (fun d ch hch =>
      ⟨fun b hb => List.mem_cons_of_mem _ (List.mem_append_right _
          (Wiring.children_subset_inputs hch b hb)),
        Nat.le_trans (List.Nodup.length_le_of_subset (Wiring.children_nodup hch)
          (Wiring.children_subset_inputs hch)) (by omega)⟩)
    w.bfsFuel [r] [] (fun x hx => List.mem_singleton.1 hx ▸ List.mem_cons_self)
    (Nat.add_le_add (Nat.mul_le_mul_right _
      (Nat.le_trans (List.length_filter_le _ _) (Nat.le_of_eq hlen))) (Nat.le_succ 1))
    (fun _ hd => nomatch hd)
  exact ⟨h2 r (Or.inr (List.mem_singleton.2 rfl)), h3⟩

end Tickit
