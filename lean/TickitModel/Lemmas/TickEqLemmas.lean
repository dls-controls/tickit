/-
The tick equations: what a tick computes (C02), as statements about one trace: every dispatch is
decided from the answers before it (`TrPre`, `trace_dispatch_spec`), and in run-independent terms
from the reactions of its sources (`dispatch_spec`).  That these equations have one solution, so
that the result does not depend on the answer order (C08), is `Lemmas/TickUpd.lean`; the relation
`SameDispatch` asserted there is defined at the end of this file.
-/
import TickitModel.Lemmas.TickerLemmas
import TickitModel.Lemmas.ListLemmas

namespace Tickit

variable {Val : Type}

/-- the facts about the router that the ticker relies on, proved for every well-formed one-source
wiring in `Lemmas/RouterOK` (`routerOK_of_wf`).  The fields are spelt out (`oneSource` is
`Wiring.OneSource`; `route_wf` is `Wiring.route_wf2` with `Wiring.route_noEmpty`) so that this file
and `TickerLemmas` need none of the router lemma files. -/
structure RouterOK (w : Wiring) : Prop where
  oneSource : ∀ a p a' p' b q, w.Conn a p b q → w.Conn a' p' b q → a = a' ∧ p = p'
  route_exact : ∀ {Val : Type} (a : Comp) (ch : List (Port × Val)), (akeys ch).Nodup → ∀ b q v,
    (∃ m, alookup (w.route a ch) b = some m ∧ alookup m q = some v) ↔
      ∃ p, alookup ch p = some v ∧ w.Conn a p b q
  route_wf : ∀ {Val : Type} (a : Comp) (ch : List (Port × Val)),
    (akeys (w.route a ch)).Nodup ∧ ∀ e ∈ w.route a ch, (akeys e.2).Nodup ∧ e.2 ≠ []
  ups_edge : ∀ b us, w.ups b = some us → ∀ a, a ∈ us ↔ w.Edge a b

/-- reactions are Python dicts (unique keys) -/
def ReactWF (react : React Val) : Prop := ∀ c ins, (akeys (react c ins)).Nodup

/-- reactions depend on the input changes as a *mapping* (not on the order in which the
changes happened to arrive) -/
def ReactExt (react : React Val) : Prop :=
  ∀ c i1 i2, (∀ q, alookup i1 q = alookup i2 q) → react c i1 = react c i2

def dispatchOf (trace : List (Ev Val)) (c : Comp) : Option (Dispatch Val) :=
  trace.findSome? (fun e => match e with
    | .dispatch d => if d.comp = c then some d else none
    | .answer _ _ => none)

def Dispatch.Equiv : Dispatch Val → Dispatch Val → Prop
  | .input c t i1, .input c' t' i2 => c = c' ∧ t = t' ∧ ∀ q, alookup i1 q = alookup i2 q
  | .skip c t, .skip c' t' => c = c' ∧ t = t'
  | _, _ => False

@[simp] theorem dispatchOf_nil (c : Comp) : dispatchOf ([] : List (Ev Val)) c = none := rfl

theorem dispatchOf_cons_dispatch (d : Dispatch Val) (tr : List (Ev Val)) (c : Comp) :
    dispatchOf (Ev.dispatch d :: tr) c = if d.comp = c then some d else dispatchOf tr c := by
  by_cases h : d.comp = c <;> simp [dispatchOf, h]

theorem dispatchOf_cons_answer (a : Comp) (ch : List (Port × Val)) (tr : List (Ev Val)) (c : Comp) :
    dispatchOf (Ev.answer a ch :: tr) c = dispatchOf tr c := by
  simp [dispatchOf]

theorem dispatchOf_eq_none_iff {tr : List (Ev Val)} {c : Comp} :
    dispatchOf tr c = none ↔ ∀ d, Ev.dispatch d ∈ tr → d.comp ≠ c := by
  unfold dispatchOf
  rw [List.findSome?_eq_none_iff]
  constructor
  · intro h d hd hc
    have : (if d.comp = c then some d else none) = none := h _ hd
    rw [if_pos hc] at this
    cases this
  · intro h e he
    cases e with
    | dispatch d => exact if_neg (h d he)
    | answer a ch => rfl

theorem dispatchOf_eq_some {tr : List (Ev Val)} {c : Comp} {d : Dispatch Val}
    (h : dispatchOf tr c = some d) : Ev.dispatch d ∈ tr ∧ d.comp = c := by
  obtain ⟨e, he, hf⟩ := List.exists_of_findSome?_eq_some h
  cases e with
  | dispatch d' =>
    replace hf : (if d'.comp = c then some d' else none) = some d := hf
    by_cases hc : d'.comp = c
    · rw [if_pos hc] at hf
      cases hf
      exact ⟨he, hc⟩
    · rw [if_neg hc] at hf
      cases hf
  | answer a ch => cases hf

theorem dispatchOf_eq_of_mem {tr : List (Ev Val)} {d : Dispatch Val}
    (hcount : (tr.filter (Ev.isDispatchOf d.comp)).length ≤ 1) (hd : Ev.dispatch d ∈ tr) :
    dispatchOf tr d.comp = some d := by
  cases h : dispatchOf tr d.comp with
  | none => exact absurd rfl (dispatchOf_eq_none_iff.1 h d hd)
  | some d' =>
    obtain ⟨hd', hc⟩ := dispatchOf_eq_some h
    have := eq_of_filter_length_le_one hcount hd' hd (by simp [Ev.isDispatchOf, hc])
      (by simp [Ev.isDispatchOf])
    cases this; rfl

theorem addInputs_cons (inputs : List (Comp × List (Port × Val))) (e : Comp × List (Port × Val))
    (routed : List (Comp × List (Port × Val))) :
    addInputs inputs (e :: routed) =
      addInputs (upsert inputs e.1 (aupdate (agetD inputs e.1 []) e.2)) routed := rfl

/-- `self.inputs[c].update(change)` for every routed `(c, change)`: per component. -/
theorem alookup_addInputs (inputs : List (Comp × List (Port × Val)))
    {routed : List (Comp × List (Port × Val))} (hn : (akeys routed).Nodup) (c : Comp) :
    alookup (addInputs inputs routed) c =
      match alookup routed c with
      | some ch => some (aupdate (agetD inputs c []) ch)
      | none => alookup inputs c := by
  induction routed generalizing inputs with
  | nil => rfl
  | cons e routed ih =>
    obtain ⟨k, ch⟩ := e
    simp only [akeys_cons, List.nodup_cons] at hn
    rw [addInputs_cons, ih _ hn.2, alookup_cons]
    by_cases hk : k = c
    · subst hk
      rw [alookup_eq_none_iff.2 hn.1]
      simp [alookup_upsert]
    · simp only [hk, if_false, agetD, alookup_upsert]

theorem agetD_addInputs (inputs : List (Comp × List (Port × Val)))
    {routed : List (Comp × List (Port × Val))} (hn : (akeys routed).Nodup) (c : Comp) :
    agetD (addInputs inputs routed) c [] = aupdate (agetD inputs c []) (agetD routed c []) := by
  rw [agetD, alookup_addInputs inputs hn]
  cases h : alookup routed c with
  | none => simp [agetD, h, aupdate]
  | some ch => simp [agetD, h]

theorem RouterOK.alookup_agetD_route {w : Wiring} (hw : RouterOK w) (a : Comp)
    (ch : List (Port × Val)) (hch : (akeys ch).Nodup) (c : Comp) (q : Port) (v : Val) :
    alookup (agetD (w.route a ch) c []) q = some v ↔ ∃ p, alookup ch p = some v ∧ w.Conn a p c q := by
  rw [← hw.route_exact a ch hch c q v]
  cases h : alookup (w.route a ch) c with
  | none => simp [agetD, h]
  | some m => simp [agetD, h]

theorem RouterOK.nodup_agetD_route {w : Wiring} (hw : RouterOK w) (a : Comp)
    (ch : List (Port × Val)) (c : Comp) : (akeys (agetD (w.route a ch) c [])).Nodup := by
  cases h : alookup (w.route a ch) c with
  | none => simp [agetD, h]
  | some m =>
    simp only [agetD, h, Option.getD_some]
    exact ((hw.route_wf a ch).2 (c, m) (mem_of_alookup_eq_some h)).1

def Changed (w : Wiring) (tr : List (Ev Val)) (c : Comp) (q : Port) (v : Val) : Prop :=
  ∃ a chs p, Ev.answer a chs ∈ tr ∧ w.Conn a p c q ∧ alookup chs p = some v

def InputsInv (w : Wiring) (inputs : List (Comp × List (Port × Val))) (tr : List (Ev Val)) : Prop :=
  ∀ c q v, alookup (agetD inputs c []) q = some v ↔ Changed w tr c q v

theorem InputsInv.congr {w : Wiring} {inputs : List (Comp × List (Port × Val))}
    {tr tr' : List (Ev Val)} (h : InputsInv w inputs tr)
    (he : ∀ a chs, Ev.answer a chs ∈ tr ↔ Ev.answer a chs ∈ tr') : InputsInv w inputs tr' := by
  intro c q v
  rw [h c q v]
  constructor <;> rintro ⟨a, chs, p, h1, h2⟩
  · exact ⟨a, chs, p, (he _ _).1 h1, h2⟩
  · exact ⟨a, chs, p, (he _ _).2 h1, h2⟩

theorem InputsInv.nil (w : Wiring) : InputsInv (Val := Val) w [] [] := by
  intro c q v
  simp [agetD, Changed]

theorem InputsInv.answer {w : Wiring} (hw : RouterOK w) {inputs : List (Comp × List (Port × Val))}
    {tr : List (Ev Val)} (h : InputsInv w inputs tr) {src : Comp} {chs : List (Port × Val)}
    (hch : (akeys chs).Nodup) (hfresh : ∀ ch', Ev.answer src ch' ∉ tr) :
    InputsInv w (addInputs inputs (w.route src chs)) (tr ++ [Ev.answer src chs]) := by
  intro c q v
  have hR := hw.alookup_agetD_route src chs hch c q
  rw [agetD_addInputs _ (hw.route_wf src chs).1,
    alookup_aupdate_of_nodup _ (hw.nodup_agetD_route src chs c), Option.orElse_eq_or,
    Option.or_eq_some_iff, hR v, h c q v]
  constructor
  · rintro (⟨p, hp, hc⟩ | ⟨_, a, chs', p, h1, h2⟩)
    · exact ⟨src, chs, p, answer_mem_append_answer.2 (Or.inr ⟨rfl, rfl⟩), hc, hp⟩
    · exact ⟨a, chs', p, List.mem_append_left _ h1, h2⟩
  · rintro ⟨a, chs', p, h1, hc, hp⟩
    rcases answer_mem_append_answer.1 h1 with hm | ⟨rfl, rfl⟩
    · refine Or.inr ⟨?_, a, chs', p, hm, hc, hp⟩
      -- a value routed from `src` to the same port would make `src` the port's one source,
      -- but `src` has not answered before
      cases hRc : alookup (agetD (w.route src chs) c []) q with
      | none => rfl
      | some v' =>
        obtain ⟨p', _, hc'⟩ := (hR v').1 hRc
        obtain ⟨rfl, _⟩ := hw.oneSource _ _ _ _ _ _ hc hc'
        exact absurd hm (hfresh _)
    · exact Or.inl ⟨p, hp, hc⟩

def DecidedFrom (w : Wiring) (t : SimTime) (roots : List Comp) (pre : List (Ev Val))
    (d : Dispatch Val) : Prop :=
  ∃ tk : Ticker Val, tk.roots = roots ∧ tk.time = t ∧ InputsInv w tk.inputs pre ∧
    d = tk.decide d.comp

/-- `R q v`: input port `q` of `c` changed to `v`. -/
def DispatchSpec (t : SimTime) (roots : List Comp) (R : Port → Val → Prop) (c : Comp)
    (d : Dispatch Val) : Prop :=
  (∃ ins, d = .input c t ins ∧ (c ∈ roots ∨ ∃ q v, R q v) ∧
      ∀ q v, alookup ins q = some v ↔ R q v) ∨
    (d = .skip c t ∧ c ∉ roots ∧ ∀ q v, ¬ R q v)

theorem DispatchSpec.congr {t : SimTime} {roots : List Comp} {R R' : Port → Val → Prop} {c : Comp}
    {d : Dispatch Val} (h : DispatchSpec t roots R c d) (hR : ∀ q v, R q v ↔ R' q v) :
    DispatchSpec t roots R' c d := by
  have : R = R' := funext fun q => funext fun v => propext (hR q v)
  exact this ▸ h

theorem DispatchSpec.equiv {t : SimTime} {roots roots' : List Comp} {R R' : Port → Val → Prop}
    {c : Comp} {d d' : Dispatch Val} (h : DispatchSpec t roots R c d)
    (h' : DispatchSpec t roots' R' c d') (hroots : c ∈ roots ↔ c ∈ roots')
    (hR : ∀ q v, R q v ↔ R' q v) : Dispatch.Equiv d d' := by
  rcases h with ⟨i, rfl, hr, hi⟩ | ⟨rfl, hn, hno⟩ <;>
    rcases h' with ⟨i', rfl, hr', hi'⟩ | ⟨rfl, hn', hno'⟩
  · exact ⟨rfl, rfl, fun q => Option.ext fun v =>
      (hi q v).trans ((hR q v).trans (hi' q v).symm)⟩
  · rcases hr with hr | ⟨q, v, hr⟩
    · exact absurd (hroots.1 hr) hn'
    · exact absurd ((hR q v).1 hr) (hno' q v)
  · rcases hr' with hr' | ⟨q, v, hr'⟩
    · exact absurd (hroots.2 hr') hn
    · exact absurd ((hR q v).2 hr') (hno q v)
  · exact ⟨rfl, rfl⟩

theorem DecidedFrom.spec {w : Wiring} {t : SimTime} {roots : List Comp} {pre : List (Ev Val)}
    {d : Dispatch Val} (h : DecidedFrom w t roots pre d) :
    DispatchSpec t roots (Changed w pre d.comp) d.comp d := by
  obtain ⟨tk, rfl, rfl, hin, hd⟩ := h
  rcases tk.decide_cases d.comp with ⟨h1, h2⟩ | ⟨h1, h2, h3⟩
  · rw [h1] at hd
    refine Or.inl ⟨_, hd, ?_, fun q v => hin _ q v⟩
    rcases h2 with h2 | h2
    · obtain ⟨q, v, hq⟩ := ne_nil_iff_exists_alookup.1 h2
      exact Or.inr ⟨q, v, (hin _ q v).1 hq⟩
    · exact Or.inl h2
  · rw [h1] at hd
    refine Or.inr ⟨hd, h3, fun q v hc => ?_⟩
    have := (hin _ q v).2 hc
    rw [h2] at this
    simp at this

/-- whatever the answers are; `EqPre` below adds that every answer is the reaction to its dispatch -/
structure TrPre (w : Wiring) (t : SimTime) (roots : List Comp)
    (inputs : List (Comp × List (Port × Val))) (trace : List (Ev Val)) : Prop where
  inputs : InputsInv w inputs trace
  dec : ∀ pre d post, trace = pre ++ Ev.dispatch d :: post → DecidedFrom w t roots pre d
  ups : ∀ d, Ev.dispatch d ∈ trace → (w.ups d.comp).isSome = true

theorem TrPre.start (w : Wiring) (t : SimTime) (roots : List Comp) :
    TrPre (Val := Val) w t roots [] [] :=
  { inputs := InputsInv.nil w
    dec := by simp
    ups := by simp }

theorem TrPre.answer {w : Wiring} (hw : RouterOK w) {t : SimTime} {roots : List Comp}
    {inputs : List (Comp × List (Port × Val))} {tu : List (Comp × Bool)}
    {pending : List (Dispatch Val)} {trace : List (Ev Val)}
    (h : TrPre w t roots inputs trace) (hp : PreInv w t roots tu pending trace)
    {d : Dispatch Val} (hd : d ∈ pending) {chs : List (Port × Val)} (hch : (akeys chs).Nodup) :
    TrPre w t roots (addInputs inputs (w.route d.comp chs)) (trace ++ [Ev.answer d.comp chs]) :=
  { inputs := h.inputs.answer hw hch (hp.not_answered hd)
    dec := fun pre d' post htr => by
      obtain ⟨post', h1⟩ := dispatch_split_append_answer htr
      exact h.dec pre d' post' h1
    ups := fun d' hd' => h.ups d' (dispatch_mem_append_answer.1 hd') }

theorem TrPre.schedule {w : Wiring} {t : SimTime} {roots : List Comp}
    {tk : Ticker Val} {trace : List (Ev Val)} {l : List (Comp × Bool)} {ds : List (Dispatch Val)}
    (h : TrPre w t roots tk.inputs trace) (hroots : tk.roots = roots) (ht : tk.time = t)
    (hs : Ticker.scheduleLoop w tk l = .ok ds) :
    TrPre w t roots tk.inputs (trace ++ ds.map Ev.dispatch) :=
  { inputs := h.inputs.congr fun _ _ => answer_mem_append_dispatches.symm
    dec := fun pre d post htr => by
      rcases dispatch_split_append_dispatches htr with ⟨post', h1⟩ | ⟨hd, hpre⟩
      · exact h.dec _ _ _ h1
      · exact ⟨tk, hroots, ht, h.inputs.congr fun a chs => (hpre a chs).symm,
          (of_mem_scheduleLoop hs hd).1⟩
    ups := fun d hd => (dispatch_mem_append_dispatches.1 hd).elim (h.ups d)
      fun hd => (of_mem_scheduleLoop hs hd).2.2 }

/-- `TrPre` (the same first three fields) and `ans`: the answers are the reactions.  Like `PreInv`
it also holds between "answer taken in" and the following `schedule_possible_updates`. -/
structure EqPre (w : Wiring) (react : React Val) (t : SimTime) (roots : List Comp)
    (inputs : List (Comp × List (Port × Val))) (trace : List (Ev Val)) : Prop where
  inputs : InputsInv w inputs trace
  dec : ∀ pre d post, trace = pre ++ Ev.dispatch d :: post → DecidedFrom w t roots pre d
  ups : ∀ d, Ev.dispatch d ∈ trace → (w.ups d.comp).isSome = true
  ans : ∀ a chs, Ev.answer a chs ∈ trace →
    ∃ d, Ev.dispatch d ∈ trace ∧ d.comp = a ∧ chs = answerOf react d

theorem EqPre.toTrPre {w : Wiring} {react : React Val} {t : SimTime} {roots : List Comp}
    {inputs : List (Comp × List (Port × Val))} {trace : List (Ev Val)}
    (h : EqPre w react t roots inputs trace) : TrPre w t roots inputs trace :=
  ⟨h.inputs, h.dec, h.ups⟩

theorem TrPre.toEqPre {w : Wiring} {react : React Val} {t : SimTime} {roots : List Comp}
    {inputs : List (Comp × List (Port × Val))} {trace : List (Ev Val)}
    (h : TrPre w t roots inputs trace)
    (ans : ∀ a chs, Ev.answer a chs ∈ trace →
      ∃ d, Ev.dispatch d ∈ trace ∧ d.comp = a ∧ chs = answerOf react d) :
    EqPre w react t roots inputs trace :=
  ⟨h.inputs, h.dec, h.ups, ans⟩

theorem nodup_akeys_answerOf {react : React Val} (hr : ReactWF react) (d : Dispatch Val) :
    (akeys (answerOf react d)).Nodup := by
  cases d with
  | input c t ins => exact hr c ins
  | skip c t => simp [answerOf]

-- `EqPre` is kept by the two halves of a step of the closed system: the form in which a loop of
-- one's own would carry it along.  No proof of the development uses these two:
-- `TickSys.Reachable.eqInv` reads `EqPre` off `TickSys.Run.trPre` and `RunInv.ans`.
theorem EqPre.answer {w : Wiring} (hw : RouterOK w) {react : React Val} (hr : ReactWF react)
    {t : SimTime} {roots : List Comp} {inputs : List (Comp × List (Port × Val))}
    {tu : List (Comp × Bool)} {pending : List (Dispatch Val)} {trace : List (Ev Val)}
    (h : EqPre w react t roots inputs trace) (hp : PreInv w t roots tu pending trace)
    {d : Dispatch Val} (hd : d ∈ pending) :
    EqPre w react t roots (addInputs inputs (w.route d.comp (answerOf react d)))
      (trace ++ [Ev.answer d.comp (answerOf react d)]) := by
  refine (h.toTrPre.answer hw hp hd (nodup_akeys_answerOf hr d)).toEqPre fun a chs hm => ?_
  rcases answer_mem_append_answer.1 hm with hm | ⟨rfl, rfl⟩
  · obtain ⟨d', h1, h2⟩ := h.ans a chs hm
    exact ⟨d', List.mem_append_left _ h1, h2⟩
  · exact ⟨d, List.mem_append_left _ (hp.pend_trace d hd), rfl, rfl⟩

theorem EqPre.schedule {w : Wiring} {react : React Val} {t : SimTime} {roots : List Comp}
    {tk : Ticker Val} {trace : List (Ev Val)} {l : List (Comp × Bool)} {ds : List (Dispatch Val)}
    (h : EqPre w react t roots tk.inputs trace) (hroots : tk.roots = roots) (ht : tk.time = t)
    (hs : Ticker.scheduleLoop w tk l = .ok ds) :
    EqPre w react t roots tk.inputs (trace ++ ds.map Ev.dispatch) :=
  (h.toTrPre.schedule hroots ht hs).toEqPre fun a chs hm => by
    obtain ⟨d', h1, h2⟩ := h.ans a chs (answer_mem_append_dispatches.1 hm)
    exact ⟨d', List.mem_append_left _ h1, h2⟩

theorem TrPre.call {w : Wiring} {t : SimTime} {roots : List Comp} {tk : Ticker Val}
    {ds : List (Dispatch Val)} (hc : Ticker.call w t roots = .ok (tk, ds)) :
    TrPre w t roots tk.inputs (ds.map Ev.dispatch) := by
  obtain ⟨ds', hs, hr⟩ := Ticker.call_eq_ok_iff.1 hc
  cases hr
  exact (TrPre.start (Val := Val) w t roots).schedule
    (tk := (Ticker.startTick w t roots : Ticker Val)) rfl rfl hs

theorem TrPre.propagate {w : Wiring} (hw : RouterOK w) {t : SimTime} {roots : List Comp}
    {tk tk' : Ticker Val} {pending ds : List (Dispatch Val)} {trace : List (Ev Val)}
    {d : Dispatch Val} {ch : List (Port × Val)} (h : TrPre w t roots tk.inputs trace)
    (hp : PreInv w t roots tk.toUpdate pending trace) (ht : tk.time = t) (hr : tk.roots = roots)
    (hd : d ∈ pending) (hch : (akeys ch).Nodup)
    (hprop : tk.propagate w d.comp d.time ch = .ok (tk', ds)) :
    TrPre w t roots tk'.inputs (trace ++ [Ev.answer d.comp ch] ++ ds.map Ev.dispatch) := by
  obtain ⟨_, _, ds', hs, he⟩ := Ticker.propagate_eq_ok_iff.1 hprop
  cases he
  exact (h.answer hw hp hd hch).schedule (tk := tk.afterAnswer w d.comp ch) hr ht hs

/-- C01 along a wire. -/
theorem PreInv.upstream_answered {w : Wiring} (hw : RouterOK w) {t : SimTime} {roots : List Comp}
    {tu : List (Comp × Bool)} {pending : List (Dispatch Val)} {trace : List (Ev Val)}
    (h : PreInv w t roots tu pending trace) {d : Dispatch Val} (hd : Ev.dispatch d ∈ trace)
    (hu : (w.ups d.comp).isSome = true) {a : Comp} {p q : Port} (hc : w.Conn a p d.comp q)
    (hae : a ∈ extent w roots) : ∃ ch, Ev.answer a ch ∈ trace := by
  obtain ⟨us, hus⟩ := Option.isSome_iff_exists.1 hu
  obtain ⟨pre, post, htr⟩ := List.append_of_mem hd
  obtain ⟨ch, hch⟩ := h.order pre d post htr us hus a ((hw.ups_edge _ us hus a).2 ⟨p, q, hc⟩) hae
  exact ⟨ch, htr ▸ List.mem_append_left _ hch⟩

/-- the accumulated inputs of a component `c` all of whose sources are closed: each has answered
(and an answer carries on output `p` of `a` exactly the values `Out a p`, with `Side a p`), or is
known to carry nothing -/
theorem InputsInv.closed_sources {w : Wiring} {inputs : List (Comp × List (Port × Val))}
    {tr : List (Ev Val)} (hin : InputsInv w inputs tr) {Out : Comp → Port → Val → Prop}
    {Side : Comp → Port → Prop}
    (hans : ∀ a chs, Ev.answer a chs ∈ tr → ∀ p b q, w.Conn a p b q →
      (∀ v, alookup chs p = some v ↔ Out a p v) ∧ Side a p)
    {c : Comp} (hsrc : ∀ a p q, w.Conn a p c q →
      (∃ chs, Ev.answer a chs ∈ tr) ∨ ((∀ v, ¬ Out a p v) ∧ Side a p)) :
    (∀ q v, alookup (agetD inputs c []) q = some v ↔ ∃ a p, w.Conn a p c q ∧ Out a p v) ∧
      ∀ q a p, w.Conn a p c q → Side a p := by
  refine ⟨fun q v => (hin c q v).trans ⟨?_, ?_⟩, fun q a p hc => ?_⟩
  · rintro ⟨a, chs, p, hm, hc, hv⟩
    exact ⟨a, p, hc, ((hans a chs hm p c q hc).1 v).1 hv⟩
  · rintro ⟨a, p, hc, hv⟩
    rcases hsrc a p q hc with ⟨chs, hm⟩ | ⟨hno, _⟩
    · exact ⟨a, chs, p, hm, hc, ((hans a chs hm p c q hc).1 v).2 hv⟩
    · exact absurd hv (hno v)
  · rcases hsrc a p q hc with ⟨chs, hm⟩ | ⟨_, hs⟩
    · exact (hans a chs hm p c q hc).2
    · exact hs

theorem Ticker.call_spec {w : Wiring} (hw : RouterOK w) {t : SimTime} {roots : List Comp}
    {tk : Ticker Val} {ds : List (Dispatch Val)} (hcall : Ticker.call w t roots = .ok (tk, ds)) :
    PreInv w t roots tk.toUpdate ds (ds.map Ev.dispatch) ∧ tk.inputs = [] ∧ tk.time = t ∧
      tk.roots = roots ∧ (∀ c, alookup tk.toUpdate c = none ↔ c ∉ extent w roots) ∧
      ∀ d ∈ ds, d = tk.decide d.comp ∧ ∀ a p q, w.Conn a p d.comp q → a ∉ extent w roots := by
  obtain ⟨hpre, _, ht, hr, hin, _⟩ := PreInv.call hcall
  refine ⟨hpre, hin, ht, hr, Ticker.call_resolved hcall, fun d hd =>
    ⟨(Ticker.call_dispatches hcall hd).1, fun a p q hc hae => ?_⟩⟩
  obtain ⟨_, hm⟩ := hpre.upstream_answered hw (hpre.pend_trace d hd)
    (Ticker.call_dispatches hcall hd).2 hc hae
  simp at hm

/-- the ticker's part of one step of a level's loop: the `i`-th pending dispatch `d` is answered
with `changes` and the answer is propagated. -/
theorem Ticker.propagate_spec {w : Wiring} (hw : RouterOK w) {t : SimTime} {roots : List Comp}
    {tk tk' : Ticker Val} {d : Dispatch Val} {pending ds : List (Dispatch Val)} {trace : List (Ev Val)}
    {changes : List (Port × Val)} (hpre : PreInv w t roots tk.toUpdate pending trace) {i : Nat}
    (hd : pending[i]? = some d) (ht : tk.time = t) (hin : InputsInv w tk.inputs trace)
    (hnod : ∀ c, (akeys (agetD tk.inputs c [])).Nodup)
    (hprop : tk.propagate w d.comp d.time changes = .ok (tk', ds)) :
    PreInv w t roots tk'.toUpdate (pending.eraseIdx i ++ ds)
        (trace ++ [Ev.answer d.comp changes] ++ ds.map Ev.dispatch) ∧
      ((akeys changes).Nodup → InputsInv w tk'.inputs (trace ++ [Ev.answer d.comp changes])) ∧
      (∀ c, (akeys (agetD tk'.inputs c [])).Nodup) ∧ tk'.time = t ∧ tk'.roots = tk.roots ∧
      (∀ x, alookup tk'.toUpdate x = none ↔ x = d.comp ∨ alookup tk.toUpdate x = none) ∧
      ∀ d' ∈ ds, d' = tk'.decide d'.comp ∧ ∀ a p q, w.Conn a p d'.comp q → a ∈ extent w roots →
        ∃ ch, Ev.answer a ch ∈ trace ++ [Ev.answer d.comp changes] := by
  obtain ⟨hpre', _, ht', hr'⟩ := hpre.propagate ht hd hprop
  have hin' : tk'.inputs = addInputs tk.inputs (w.route d.comp changes) :=
    (Ticker.propagate_eq_ok hprop).2.2.2.2.1
  refine ⟨hpre', fun hch => hin' ▸ hin.answer hw hch (hpre.not_answered (List.mem_of_getElem? hd)),
    fun c => ?_, ht', hr', Ticker.propagate_resolved hpre.nodup hprop, fun d' hd' =>
      ⟨(Ticker.propagate_dispatches hprop hd').1, fun a p q hc hae => ?_⟩⟩
  · rw [hin', agetD_addInputs _ (hw.route_wf d.comp changes).1]
    exact nodup_akeys_aupdate (hnod c) _
  · obtain ⟨ch, hm⟩ := hpre'.upstream_answered hw
      (hpre'.pend_trace d' (List.mem_append_right _ hd')) (Ticker.propagate_dispatches hprop hd').2 hc hae
    exact ⟨ch, by simpa using hm⟩

theorem TickSys.Run.trPre {w : Wiring} (hw : RouterOK w)
    {P : Dispatch Val → List (Port × Val) → Prop} (hP : ∀ d ch, P d ch → (akeys ch).Nodup)
    {t : SimTime} {roots : List Comp} {s : TickSys Val} (h : s.Run w P t roots) :
    TrPre w t roots s.tk.inputs s.trace := by
  induction h with
  | call hc => exact TrPre.call hc
  | answer hs hd hPd hprop ih =>
    exact ih.propagate hw hs.inv.pre hs.inv.time hs.inv.roots (List.mem_of_getElem? hd)
      (hP _ _ hPd) hprop

theorem TickSys.Run.input_cases {w : Wiring} (hw : RouterOK w)
    {P : Dispatch Val → List (Port × Val) → Prop} (hP : ∀ d ch, P d ch → (akeys ch).Nodup)
    {t : SimTime} {roots : List Comp} {s : TickSys Val} (h : s.Run w P t roots) {d : Dispatch Val}
    (hd : Ev.dispatch d ∈ s.trace) (hi : ∃ ins, d = .input d.comp d.time ins) :
    d.comp ∈ roots ∨ ∃ d' ch p q v, Ev.dispatch d' ∈ s.trace ∧ P d' ch ∧
      w.Conn d'.comp p d.comp q ∧ alookup ch p = some v := by
  obtain ⟨pre, post, htr⟩ := List.append_of_mem hd
  rcases ((h.trPre hw hP).dec pre d post htr).spec with ⟨_, _, hr | ⟨q, v, a, ch, p, hm, hc, hv⟩, _⟩ |
      ⟨hs, _⟩
  · exact Or.inl hr
  · obtain ⟨d', hd', rfl, hP'⟩ := h.inv.ans a ch (htr ▸ List.mem_append_left _ hm)
    exact Or.inr ⟨d', ch, p, q, v, hd', hP', hc, hv⟩
  · obtain ⟨ins, hi⟩ := hi
    exact nomatch hs.symm.trans hi

theorem TickSys.Reachable.eqInv {w : Wiring} (hw : RouterOK w) {react : React Val}
    (hr : ReactWF react) {t : SimTime} {roots : List Comp} {s : TickSys Val}
    (hs : s.Reachable w react t roots) : EqPre w react t roots s.tk.inputs s.trace :=
  (hs.run.trPre hw fun d _ h => h ▸ nodup_akeys_answerOf hr d).toEqPre hs.run.inv.ans

/-- input port `q` of `c` is fed `v` by the reaction of its source to the dispatch the source
received in `tr` (no reference to positions in the trace). -/
def Fed (w : Wiring) (react : React Val) (tr : List (Ev Val)) (c : Comp) (q : Port) (v : Val) :
    Prop :=
  ∃ a p d, w.Conn a p c q ∧ dispatchOf tr a = some d ∧ alookup (answerOf react d) p = some v

theorem PreInv.dispatch_unique {w : Wiring} {t : SimTime} {roots : List Comp}
    {tu : List (Comp × Bool)} {pending : List (Dispatch Val)} {trace : List (Ev Val)}
    (h : PreInv w t roots tu pending trace) {d d' : Dispatch Val} (hd : Ev.dispatch d ∈ trace)
    (hd' : Ev.dispatch d' ∈ trace) (hc : d.comp = d'.comp) : d = d' := by
  have h1 := dispatchOf_eq_of_mem (h.count d.comp).1 hd
  have h2 := dispatchOf_eq_of_mem (h.count d'.comp).1 hd'
  rw [hc, h2] at h1
  exact (Option.some.inj h1).symm

theorem PreInv.answer_dispatched {w : Wiring} {t : SimTime} {roots : List Comp}
    {tu : List (Comp × Bool)} {pending : List (Dispatch Val)} {trace : List (Ev Val)}
    (hp : PreInv w t roots tu pending trace) {a : Comp} {ch : List (Port × Val)}
    (h : Ev.answer a ch ∈ trace) : ∃ d, dispatchOf trace a = some d := by
  cases hd : dispatchOf trace a with
  | some d => exact ⟨d, rfl⟩
  | none =>
    exfalso
    have h1 := (hp.count a).2
    rw [filter_isDispatchOf_eq_nil (dispatchOf_eq_none_iff.1 hd)] at h1
    exact Nat.not_succ_le_zero _ (Nat.le_trans
      (List.length_pos_of_mem (List.mem_filter.2 ⟨h, beq_self_eq_true a⟩)) h1)

theorem PreInv.dispatchOf_eq_none_of_not_mem {w : Wiring} {t : SimTime} {roots : List Comp}
    {tu : List (Comp × Bool)} {pending : List (Dispatch Val)} {trace : List (Ev Val)}
    (hp : PreInv w t roots tu pending trace) {c : Comp} (hc : c ∉ extent w roots) :
    dispatchOf trace c = none :=
  Tickit.dispatchOf_eq_none_iff.2 fun d hd hdc => hc (hdc ▸ (hp.disp_ext d hd).1)

theorem PreInv.dispatchOf_eq_none_iff {w : Wiring} {t : SimTime} {roots : List Comp}
    {pending : List (Dispatch Val)} {trace : List (Ev Val)}
    (hp : PreInv w t roots [] pending trace) (c : Comp) :
    dispatchOf trace c = none ↔ c ∉ extent w roots := by
  constructor
  · intro hn hc
    obtain ⟨ch, hch⟩ := (hp.resolved c hc).1 rfl
    obtain ⟨d, hd⟩ := hp.answer_dispatched hch
    exact nomatch hn.symm.trans hd
  · exact hp.dispatchOf_eq_none_of_not_mem

theorem answer_unique {tr : List (Ev Val)} {a : Comp}
    (hcount : (tr.filter (Ev.isAnswerOf a)).length ≤ 1) {ch ch' : List (Port × Val)}
    (h : Ev.answer a ch ∈ tr) (h' : Ev.answer a ch' ∈ tr) : ch = ch' := by
  have := eq_of_filter_length_le_one hcount h h' (p := Ev.isAnswerOf a) (beq_self_eq_true a)
    (beq_self_eq_true a)
  cases this; rfl

/-- a dispatch in terms of the trace alone: at the dispatch all sources taking part in the tick had
answered, and nobody answers twice, so "changed by an earlier answer" is "changed by an answer". -/
theorem trace_dispatch_spec {w : Wiring} (hw : RouterOK w) {t : SimTime} {roots : List Comp}
    {tu : List (Comp × Bool)} {pending : List (Dispatch Val)}
    {inputs : List (Comp × List (Port × Val))} {tr : List (Ev Val)}
    (hp : PreInv w t roots tu pending tr) (he : TrPre w t roots inputs tr)
    {c : Comp} {d : Dispatch Val} (hd : dispatchOf tr c = some d) :
    DispatchSpec t roots (Changed w tr c) c d := by
  obtain ⟨hm, rfl⟩ := dispatchOf_eq_some hd
  obtain ⟨pre, post, htr⟩ := List.append_of_mem hm
  obtain ⟨us, hus⟩ := Option.isSome_iff_exists.1 (he.ups d hm)
  refine (he.dec pre d post htr).spec.congr fun q v => ?_
  constructor
  · rintro ⟨a, chs, p, h1, h2⟩
    exact ⟨a, chs, p, by rw [htr]; exact List.mem_append_left _ h1, h2⟩
  · rintro ⟨a, chs, p, h1, hconn, hv⟩
    obtain ⟨da, hda⟩ := hp.answer_dispatched h1
    obtain ⟨hdam, hdac⟩ := dispatchOf_eq_some hda
    have hext : a ∈ extent w roots := hdac ▸ (hp.disp_ext da hdam).1
    have hau : a ∈ us := (hw.ups_edge _ us hus _).2 ⟨p, q, hconn⟩
    obtain ⟨ch', hch'⟩ := hp.order pre d post htr us hus a hau hext
    have hch'' : Ev.answer a ch' ∈ tr := by rw [htr]; exact List.mem_append_left _ hch'
    have := answer_unique (Nat.le_trans (hp.count a).2 (hp.count a).1) h1 hch''
    subst this
    exact ⟨a, chs, p, hch', hconn, hv⟩

/-- once `d` has been dispatched all in-extent sources of `d.comp` have answered (C01), and the others
never are dispatched -/
theorem changed_iff_fed {w : Wiring} (hw : RouterOK w) {react : React Val} {t : SimTime}
    {roots : List Comp} {s : TickSys Val} (hi : TickInv w t roots s)
    (he : EqPre w react t roots s.tk.inputs s.trace) {d : Dispatch Val} (hd : Ev.dispatch d ∈ s.trace) (q : Port)
    (v : Val) : Changed w s.trace d.comp q v ↔ Fed w react s.trace d.comp q v := by
  constructor
  · rintro ⟨a, chs, p, hm, hc, hp⟩
    obtain ⟨d', hd', rfl, rfl⟩ := he.ans a chs hm
    exact ⟨_, p, d', hc, dispatchOf_eq_of_mem (hi.pre.count _).1 hd', hp⟩
  · rintro ⟨a, p, d', hc, hdo, hp⟩
    obtain ⟨hd', rfl⟩ := dispatchOf_eq_some hdo
    obtain ⟨ch, hch⟩ := hi.pre.upstream_answered hw hd (he.ups d hd) hc (hi.pre.disp_ext d' hd').1
    obtain ⟨d'', hd'', hc'', rfl⟩ := he.ans _ ch hch
    cases hi.pre.dispatch_unique hd'' hd' hc''
    exact ⟨_, _, p, hch, hc, hp⟩

/-- a dispatch in run-independent terms: `trace_dispatch_spec` for the tick whose answers are the
reactions. -/
theorem dispatch_spec {w : Wiring} (hw : RouterOK w) {react : React Val} (hr : ReactWF react)
    {t : SimTime} {roots : List Comp} {s : TickSys Val} (hs : s.Reachable w react t roots)
    {c : Comp} {d : Dispatch Val} (hd : dispatchOf s.trace c = some d) :
    c ∈ extent w roots ∧ (∃ us, w.ups c = some us) ∧
      ((∃ ins, d = .input c t ins ∧ (c ∈ roots ∨ ∃ q v, Fed w react s.trace c q v) ∧
          ∀ q v, alookup ins q = some v ↔ Fed w react s.trace c q v) ∨
        (d = .skip c t ∧ c ∉ roots ∧ ∀ q v, ¬ Fed w react s.trace c q v)) := by
  have he := hs.eqInv hw hr
  obtain ⟨hm, hc⟩ := dispatchOf_eq_some hd
  refine ⟨hc ▸ (hs.inv.pre.disp_ext d hm).1, hc ▸ Option.isSome_iff_exists.1 (he.ups d hm), ?_⟩
  exact (trace_dispatch_spec hw hs.inv.pre he.toTrPre hd).congr fun q v =>
    hc ▸ changed_iff_fed hw hs.inv he hm q v

theorem dispatchOf_eq_none_iff_of_complete {w : Wiring} {react : React Val} {t : SimTime}
    {roots : List Comp} {s : TickSys Val}
    (hs : s.Reachable w react t roots) (hf : s.tk.toUpdate = []) (c : Comp) :
    dispatchOf s.trace c = none ↔ c ∉ extent w roots :=
  PreInv.dispatchOf_eq_none_iff (hf ▸ hs.inv.pre) c

def SameDispatch (o1 o2 : Option (Dispatch Val)) : Prop :=
  match o1, o2 with
  | some d1, some d2 => Dispatch.Equiv d1 d2
  | none, none => True
  | _, _ => False

/-- the dispatch of `c` is the FIRST one in the trace: it stays when the trace grows. -/
theorem dispatchOf_append_of_some {tr ext : List (Ev Val)} {c : Comp} {d : Dispatch Val}
    (h : dispatchOf tr c = some d) : dispatchOf (tr ++ ext) c = some d := by
  simp only [dispatchOf, List.findSome?_append] at h ⊢
  rw [h]; rfl

end Tickit
