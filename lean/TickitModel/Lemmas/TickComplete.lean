/-
Completing a tick.  From any reachable state of a tick on an acyclic wiring some run reaches a state
with nothing left to update, and its trace extends the trace so far (`TickSys.can_complete_aux`); so
a complete tick `TickRun` of the flat system (`Core/Flat.lean`) exists from every state
(`tickRun_exists`).  For a GIVEN answer order `tickEval` computes the state after the tick and
`tickRun_of_eval` says that this is a `TickRun`: concrete runs are checked by evaluating it, and
compared by `decide` through the `DecidableEq` instances for `DevComp` and `FlatSt` at the end.
-/
import TickitModel.Core.Flat
import TickitModel.Lemmas.TickerLemmas

namespace Tickit

variable {Val : Type}

theorem TickSys.step_trace_extends {w : Wiring} {react : React Val} {s s' : TickSys Val} {i : Nat}
    (h : s.step w react i = some (.ok s')) : ∃ post, s'.trace = s.trace ++ post := by
  obtain ⟨_, _, _, _, _, rfl⟩ := TickSys.step_eq_ok_iff.1 h
  exact ⟨_, List.append_assoc _ _ _⟩

/-- induction on the number of unresolved components: `TickInv.progress` gives a pending dispatch,
`TickInv.step_ok` answers it, `TickSys.step_measure'` says one component fewer is unresolved. -/
theorem TickSys.can_complete_aux (w : Wiring) (hacyc : w.Acyclic) (react : React Val) (t : SimTime)
    (roots : List Comp) (hroots : ∀ c ∈ extent w roots, (w.ups c).isSome) :
    ∀ (n : Nat) (s : TickSys Val), s.Reachable w react t roots → s.tk.toUpdate.length = n →
      ∃ s' : TickSys Val, s'.Reachable w react t roots ∧ s'.tk.toUpdate = [] ∧
        ∃ post, s'.trace = s.trace ++ post := by
  intro n
  induction n with
  | zero =>
    intro s hs hn
    exact ⟨s, hs, List.eq_nil_of_length_eq_zero hn, [], by simp⟩
  | succ n ih =>
    intro s hs hn
    have hne : s.tk.toUpdate ≠ [] := by
      intro h; rw [h] at hn; simp at hn
    have hp := hs.inv.progress hacyc hne
    have hlen : 0 < s.pending.length := List.length_pos_iff.mpr hp
    obtain ⟨s1, h1⟩ := hs.inv.step_ok hroots (i := 0) hlen
    have hm := TickSys.step_measure' h1
    obtain ⟨s', hs', hfin, post, hpost⟩ := ih s1 (.step hs h1) (by omega)
    obtain ⟨p1, hp1⟩ := TickSys.step_trace_extends h1
    exact ⟨s', hs', hfin, p1 ++ post, by rw [hpost, hp1, List.append_assoc]⟩

def TickSys.answerAll (w : Wiring) (react : React Val) (s : TickSys Val) :
    List Nat → Option (TickSys Val)
  | [] => some s
  | i :: order =>
    match s.step w react i with
    | some (.ok s') => s'.answerAll w react order
    | _ => none

theorem TickSys.Reachable.answerAll {w : Wiring} {react : React Val} {t : SimTime}
    {roots : List Comp} {order : List Nat} {s s' : TickSys Val} (hs : s.Reachable w react t roots)
    (h : s.answerAll w react order = some s') : s'.Reachable w react t roots := by
  induction order generalizing s with
  | nil => exact Option.some.inj h ▸ hs
  | cons i order ih =>
    unfold TickSys.answerAll at h
    split at h
    · next hstep => exact ih (hs.step hstep) h
    · cases h

variable [DecidableEq Val]

/-- so `FlatRun` is never blocked inside a tick. -/
theorem tickRun_exists (w : Wiring) (hacyc : w.Acyclic) (dev : DevFn Val) (st : FlatSt Val)
    (t : SimTime) (roots : List Comp) (hroots : ∀ c ∈ extent w roots, (w.ups c).isSome) :
    ∃ st', TickRun w dev st t roots st' := by
  obtain ⟨s0, h0⟩ := TickSys.init_ok_of (Val := Val) t hroots
  obtain ⟨s', hs', hfin, _⟩ :=
    TickSys.can_complete_aux w hacyc (st.react dev t) t roots hroots _ s0 (.init h0) rfl
  exact ⟨_, s', hs', hfin, rfl⟩

def tickEval (w : Wiring) (dev : DevFn Val) (st : FlatSt Val) (t : SimTime) (roots : List Comp)
    (order : List Nat) : Option (FlatSt Val) :=
  match TickSys.init w t roots with
  | .ok s =>
    match s.answerAll w (st.react dev t) order with
    | some s' => if s'.tk.toUpdate.isEmpty then some (st.afterTick dev s'.trace) else none
    | none => none
  | .error _ => none

theorem tickRun_of_eval {w : Wiring} {dev : DevFn Val} {st st' : FlatSt Val} {t : SimTime}
    {roots : List Comp} (order : List Nat) (h : tickEval w dev st t roots order = some st') :
    TickRun w dev st t roots st' := by
  unfold tickEval at h
  split at h
  · next s hinit =>
    split at h
    · next s' hall =>
      split at h
      · next hfin =>
        exact ⟨s', (TickSys.Reachable.init hinit).answerAll hall, List.isEmpty_iff.1 hfin,
          (Option.some.inj h).symm⟩
      · cases h
    · cases h
  · cases h

instance DevComp.decEq : DecidableEq (DevComp Val)
  | ⟨i1, o1⟩, ⟨i2, o2⟩ => decidable_of_iff (i1 = i2 ∧ o1 = o2) (by rw [DevComp.mk.injEq])

instance FlatSt.decEq : DecidableEq (FlatSt Val)
  | ⟨c1, w1, r1, o1⟩, ⟨c2, w2, r2, o2⟩ =>
    decidable_of_iff (c1 = c2 ∧ w1 = w2 ∧ r1 = r2 ∧ o1 = o2) (by rw [FlatSt.mk.injEq])

end Tickit
