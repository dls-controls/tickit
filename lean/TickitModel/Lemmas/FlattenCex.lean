/-
C09: the number of levels is not enough fuel for `Static.resolve`: a configuration on which
`S.flatten S.levels.length` loses a wire (checked at build time with `#guard`).

Three pass-through systems in a row (`external.x → expose.y` inside each) between two devices:
`d0.o → s1.x`, `s1.y → s2.x`, `s2.y → s3.x`, `s3.y → d9.i`.  Resolving the source of `d9.i`
takes two steps per pass-through system (into the system through `expose`, out of it through
`external`) plus one: 7 steps, while the configuration has only 4 levels.  With `rfuel = 4` the
flattening silently drops the wire, and `d9` observes `{}` instead of `{i ↦ 7}`.
-/
import TickitModel.Core.Flatten
import TickitModel.Core.Flat

namespace Tickit.C09Cex

def passW : Wiring := Wiring.fromInverse [("external", []), ("expose", [("y", ("external", "x"))])]

def topW : Wiring := Wiring.fromInverse
  [("d0", []), ("s1", [("x", ("d0", "o"))]), ("s2", [("x", ("s1", "y"))]),
   ("s3", [("x", ("s2", "y"))]), ("d9", [("i", ("s3", "y"))])]

def S0 : Static :=
  { levels := [⟨"", topW⟩, ⟨"s1", passW⟩, ⟨"s2", passW⟩, ⟨"s3", passW⟩]
    systems := ["s1", "s2", "s3"]
    parent := [("d0", ""), ("s1", ""), ("s2", ""), ("s3", ""), ("d9", "")] }

def orc0 : Oracle := [("d0", [⟨[("o", 7)], none, false⟩]), ("d9", [⟨[], none, false⟩])]

def obsAfterInitial (S : Static) (c : Comp) : Option (List (SimTime × List (Port × V))) :=
  match masterInitial S orc0 10 0 0 with
  | .ok (m, _) => some (m.sim.obsOf c)
  | .error _ => none

-- `S0.levels.length = 4`
#guard S0.levels.length == 4
-- nested: `d9` is given `i ↦ 7` in the initial tick
#guard obsAfterInitial S0 "d9" == some [(0, [("i", 7)])]
-- flattened with `rfuel = 4`, and still with `rfuel = 6`: wire lost
#guard obsAfterInitial (S0.flatten 4) "d9" == some [(0, [])]
#guard obsAfterInitial (S0.flatten 6) "d9" == some [(0, [])]
-- flattened with enough fuel: same observation as nested
#guard obsAfterInitial (S0.flatten 7) "d9" == some [(0, [("i", 7)])]
-- the resolution is stable from 7 on, not before
#guard S0.resolve 6 "" "s3" "y" == none
#guard S0.resolve 7 "" "s3" "y" == some ("d0", "o")
#guard S0.resolve 8 "" "s3" "y" == some ("d0", "o")
-- the number of (level, component) pairs: 5 + 2 + 2 + 2 = 11 ≥ 7; this bound (plus slack) is
-- `Static.resolveFuel`, proved sufficient in `Lemmas/FlattenFuel.lean`
#guard (S0.levels.map (fun L => L.wiring.components.length)).sum == 11

end Tickit.C09Cex
