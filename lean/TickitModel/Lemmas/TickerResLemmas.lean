/-
The ticker and the components of the wiring (its resources, `Res`: C14 bounds the ticker's tables
by them): membership in the extent of a tick (closed under wires, inside `Wiring.components`, no
duplicates: `to_update` holds at most one entry per component of the wiring), and what `call` and
`propagate` hand out goes to components of the wiring, as an `Input` if to a root.
-/
import TickitModel.Lemmas.TickerLemmas
import TickitModel.Lemmas.RouterBfs

namespace Tickit

theorem mem_extent_iff (w : Wiring) (roots : List Comp) (c : Comp) :
    c ∈ extent w roots ↔ ∃ r ∈ roots, c ∈ w.dependants r :=
  foldl_prop_iff_of_not (c ∈ akeys ·) _ (c ∈ w.dependants ·) roots
    (fun r _ tu => mem_akeys_foldl_upsert (w.dependants r) false tu c) List.not_mem_nil

theorem mem_extent_of_mem_roots {w : Wiring} {roots : List Comp} {c : Comp} (hc : c ∈ roots) :
    c ∈ extent w roots :=
  (mem_extent_iff w roots c).2 ⟨c, hc, (Wiring.dependants_closed w c).1⟩

theorem extent_closed {w : Wiring} {roots : List Comp} {a b : Comp} (ha : a ∈ extent w roots)
    (he : w.Edge a b) : b ∈ extent w roots := by
  rw [mem_extent_iff] at *
  obtain ⟨r, hr, har⟩ := ha
  exact ⟨r, hr, (Wiring.dependants_closed w r).2 a har b he⟩

theorem extent_sub_components {w : Wiring} {roots : List Comp}
    (hr : ∀ r ∈ roots, r ∈ w.components) {c : Comp} (hc : c ∈ extent w roots) :
    c ∈ w.components := by
  rw [mem_extent_iff] at hc
  obtain ⟨r, hrr, hcr⟩ := hc
  unfold Wiring.dependants at hcr
  refine bfs_sound w.children (· ∈ w.components) ?_ w.bfsFuel [r] [] ?_ (by simp) c hcr
  · intro d ch _ hch b hb
    exact (Wiring.mem_components w b).2 (Or.inl (Wiring.children_subset_inputs hch b hb))
  · intro x hx
    rw [List.mem_singleton] at hx
    exact hx ▸ hr r hrr

theorem extent_nodup (w : Wiring) (roots : List Comp) : (extent w roots).Nodup :=
  (startTick_fresh (Val := Unit) w 0 roots).1

theorem extent_length_le {w : Wiring} {roots : List Comp}
    (hr : ∀ r ∈ roots, r ∈ w.components) : (extent w roots).length ≤ w.components.length :=
  List.Nodup.length_le_of_subset (extent_nodup w roots)
    (fun _ hc => extent_sub_components hr hc)

variable {Val : Type}

theorem Ticker.decided_mem {w : Wiring} {tk : Ticker Val} {d : Dispatch Val}
    (h : d = tk.decide d.comp ∧ (w.ups d.comp).isSome = true) :
    d.comp ∈ w.components ∧ (d.comp ∈ tk.roots → ∃ ins, d = .input d.comp tk.time ins) :=
  ⟨(Wiring.ups_isSome_iff' w _).1 h.2, fun hr => ⟨_, h.1.trans (Ticker.decide_of_root hr)⟩⟩

theorem Ticker.call_mem {w : Wiring} {t : SimTime} {roots : List Comp} {tk : Ticker Val}
    {ds : List (Dispatch Val)} (h : Ticker.call w t roots = .ok (tk, ds)) {d : Dispatch Val}
    (hd : d ∈ ds) : d.comp ∈ w.components ∧ (d.comp ∈ roots → ∃ ins, d = .input d.comp t ins) := by
  obtain ⟨_, _, ht, hr, _⟩ := PreInv.call h
  exact ht ▸ hr ▸ Ticker.decided_mem (Ticker.call_dispatches h hd)

/-- a root is in `to_update` after `call`: dispatched (hence known to the inverse tree) or blocked by
an upstream the inverse tree lists -/
theorem Ticker.call_roots_mem {w : Wiring} {t : SimTime} {roots : List Comp} {tk : Ticker Val}
    {ds : List (Dispatch Val)} (h : Ticker.call w t roots = .ok (tk, ds)) :
    ∀ r ∈ roots, r ∈ w.components := by
  intro r hr
  obtain ⟨hpre, hcomp, _⟩ := PreInv.call h
  refine (Wiring.ups_isSome_iff' w r).1 ?_
  cases hl : alookup tk.toUpdate r with
  | none => exact absurd (mem_extent_of_mem_roots hr) ((Ticker.call_resolved h r).1 hl)
  | some b =>
    cases b with
    | true =>
      obtain ⟨d, hd, rfl⟩ := (hpre.pend_flag r).2 hl
      exact (Ticker.call_dispatches h hd).2
    | false =>
      obtain ⟨us, hus, _⟩ := hcomp r hl
      rw [hus]; rfl

theorem Ticker.propagate_mem {w : Wiring} {tk tk' : Ticker Val} {src : Comp} {t : SimTime}
    {changes : List (Port × Val)} {ds : List (Dispatch Val)}
    (h : tk.propagate w src t changes = .ok (tk', ds)) {d : Dispatch Val} (hd : d ∈ ds) :
    d.comp ∈ w.components ∧ (d.comp ∈ tk.roots → ∃ ins, d = .input d.comp tk.time ins) := by
  obtain ⟨_, _, _, _, _, ht, hr⟩ := Ticker.propagate_eq_ok h
  exact ht ▸ hr ▸ Ticker.decided_mem (Ticker.propagate_dispatches h hd)

theorem PreInv.toUpdate_length_le {w : Wiring} {t : SimTime} {roots : List Comp}
    {tu : List (Comp × Bool)} {pending : List (Dispatch Val)} {trace : List (Ev Val)}
    (h : PreInv w t roots tu pending trace) : tu.length ≤ (extent w roots).length := by
  rw [← length_akeys]
  exact List.Nodup.length_le_of_subset h.nodup
    (fun c hc => h.keys_ext c (alookup_ne_none_iff.2 hc))

theorem PreInv.pending_length_le {w : Wiring} {t : SimTime} {roots : List Comp}
    {tu : List (Comp × Bool)} {pending : List (Dispatch Val)} {trace : List (Ev Val)}
    (h : PreInv w t roots tu pending trace) : pending.length ≤ tu.length := by
  rw [← length_akeys, ← List.length_map (f := Dispatch.comp)]
  refine List.Nodup.length_le_of_subset h.pend_nodup ?_
  intro c hc
  obtain ⟨d, hd, rfl⟩ := List.mem_map.1 hc
  have := (h.pend_flag d.comp).1 ⟨d, hd, rfl⟩
  exact alookup_ne_none_iff.1 (by rw [this]; simp)

theorem extent_congr (w : Wiring) {roots roots' : List Comp} (h : ∀ c, c ∈ roots ↔ c ∈ roots')
    (x : Comp) : x ∈ extent w roots ↔ x ∈ extent w roots' := by
  simp only [mem_extent_iff, h]

end Tickit
