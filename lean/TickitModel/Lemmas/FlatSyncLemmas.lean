/-
Helper lemmas for C03: the `Synced` invariant ("inputs = latest reported upstream values") of the
flat multi-tick system, preserved by every complete tick and hence by every run, with or without
interrupts.
-/
import TickitModel.Lemmas.FlatLemmas
import TickitModel.Lemmas.FlatDetLemmas
import TickitModel.Props.C02

set_option linter.unusedSectionVars false

namespace Tickit.Sync

open Tickit Tickit.Det

variable {Val : Type} [DecidableEq Val]

theorem nodup_akeys_outChanges {last outs : List (Port × Val)} (hn : (akeys outs).Nodup) :
    (akeys (outChanges last outs)).Nodup :=
  nodup_akeys_filter hn _

theorem alookup_outChanges {last outs : List (Port × Val)} (hn : (akeys outs).Nodup) (p : Port)
    (v : Val) :
    alookup (outChanges last outs) p = some v ↔ alookup outs p = some v ∧ alookup last p ≠ some v := by
  rw [alookup_eq_some_iff_mem (nodup_akeys_outChanges hn), changed_iff, alookup_eq_some_iff_mem hn]

theorem absorb_skip (st : FlatSt Val) (dev : DevFn Val) (c : Comp) (t : SimTime) :
    st.absorb dev (.skip c t) = st := rfl

@[simp] theorem afterTick_nil (st : FlatSt Val) (dev : DevFn Val) : st.afterTick dev [] = st := rfl

theorem react_eq (st : FlatSt Val) (dev : DevFn Val) (t : SimTime) (c : Comp)
    (ins : List (Port × Val)) :
    st.react dev t c ins = outChanges (st.comp c).lastOutputs (outsOf st dev c t ins) := rfl

def ansU (react : React Val) (U : Upd Val) (a : Comp) (p : Port) : Option Val :=
  (U a).bind fun ins => alookup (react a ins) p

theorem fedU_iff_ansU {w : Wiring} (hw : RouterOK w) {react : React Val} {U : Upd Val}
    {a : Comp} {p : Port} {c : Comp} {q : Port} (hc : w.Conn a p c q) (v : Val) :
    FedU w react U c q v ↔ ansU react U a p = some v := by
  constructor
  · rintro ⟨a', p', ins, hc', hU, hv⟩
    obtain ⟨rfl, rfl⟩ := hw.oneSource _ _ _ _ _ _ hc hc'
    rw [ansU, hU]
    exact hv
  · intro h
    unfold ansU at h
    cases hU : U a with
    | none => rw [hU] at h; cases h
    | some ins => rw [hU] at h; exact ⟨a, p, ins, hc, hU, h⟩

/-- `hsy` is for a value reported again unchanged: it is the old report (`lastSub`). -/
theorem rep_upd {w : Wiring} {st : FlatSt Val} (hsy : Synced w st) (dev : DevFn Val) (t : SimTime)
    (U : Upd Val) (a : Comp) (p : Port) :
    ((own st a).upd dev a t (U a)).rep p =
      (ansU (st.react dev t) U a p).orElse fun _ => alookup st.reported (a, p) := by
  unfold ansU
  cases U a with
  | none => rfl
  | some ins =>
    show (alookup (outsOf st dev a t ins) p).orElse (fun _ => alookup st.reported (a, p)) =
      (alookup (outChanges (st.comp a).lastOutputs (outsOf st dev a t ins)) p).orElse _
    have hno := nodup_akeys_outsOf st dev a t ins
    cases ho : alookup (outsOf st dev a t ins) p with
    | none =>
      cases hch : alookup (outChanges (st.comp a).lastOutputs (outsOf st dev a t ins)) p with
      | none => rfl
      | some v => rw [((alookup_outChanges hno p v).1 hch).1] at ho; cases ho
    | some v =>
      by_cases hl : alookup (st.comp a).lastOutputs p = some v
      · cases hch : alookup (outChanges (st.comp a).lastOutputs (outsOf st dev a t ins)) p with
        | none => exact (hsy.lastSub a p v hl).symm
        | some v' => rw [((alookup_outChanges hno p v').1 hch).1] at ho; rw [ho]
      · rw [(alookup_outChanges hno p v).2 ⟨ho, hl⟩]

/-- **the core of C03**, on a solution of the tick equations: after the updates `U` every wired
input holds the latest report, and nothing else. -/
theorem wired_upd {w : Wiring} (hw : RouterOK w) {dev : DevFn Val} {st : FlatSt Val} {t : SimTime}
    {roots : List Comp} (hsy : Synced w st) {U : Upd Val}
    (hE : UpdEqs w (st.react dev t) roots U) :
    (∀ a p c q, w.Conn a p c q → alookup ((own st c).upd dev c t (U c)).dc.deviceInputs q =
      ((own st a).upd dev a t (U a)).rep p) ∧
    ∀ c q v, alookup ((own st c).upd dev c t (U c)).dc.deviceInputs q = some v →
      ∃ a p, w.Conn a p c q := by
  refine ⟨fun a p c q hc => ?_, fun c q v h => ?_⟩
  · rw [rep_upd hsy]
    cases hU : U c with
    | none =>
      have : ansU (st.react dev t) U a p = none := by
        cases h : ansU (st.react dev t) U a p with
        | none => rfl
        | some v => exact absurd ((fedU_iff_ansU hw hc v).2 h) ((hE.idle c hU).2 q v)
      rw [this]
      exact hsy.wired a p c q hc
    | some ins =>
      obtain ⟨hn, _, hfed⟩ := hE.upd c ins hU
      have : alookup ins q = ansU (st.react dev t) U a p :=
        Option.ext fun v => (hfed q v).trans (fedU_iff_ansU hw hc v)
      show alookup (aupdate (st.comp c).deviceInputs ins) q = _
      rw [alookup_aupdate_of_nodup _ hn, this, hsy.wired a p c q hc]
  · cases hU : U c with
    | none => rw [hU] at h; exact hsy.noExtra c q v h
    | some ins =>
      rw [hU] at h
      obtain ⟨hn, _, hfed⟩ := hE.upd c ins hU
      replace h : alookup (aupdate (st.comp c).deviceInputs ins) q = some v := h
      rw [alookup_aupdate_of_nodup _ hn] at h
      cases hi : alookup ins q with
      | some v' =>
        obtain ⟨a, p, _, hc, _⟩ := (hfed q v').1 hi
        exact ⟨a, p, hc⟩
      | none => rw [hi] at h; exact hsy.noExtra c q v h

theorem synced_tickRun {w : Wiring} (hw : RouterOK w) {dev : DevFn Val} {st st' : FlatSt Val}
    {t : SimTime} {roots : List Comp} (hsy : Synced w st) (h : TickRun w dev st t roots st') :
    Synced w st' := by
  obtain ⟨U, hown, _, hE, _⟩ := h.elim
  obtain ⟨hwire, hkeys⟩ := wired_upd hw hsy (hE hw)
  refine ⟨fun a p c q hc => ?_, fun c q v hv => ?_, fun c p v hv => ?_⟩
  · show alookup (own st' c).dc.deviceInputs q = (own st' a).rep p
    rw [hown c, hown a]
    exact hwire a p c q hc
  · replace hv : alookup (own st' c).dc.deviceInputs q = some v := hv
    rw [hown c] at hv
    exact hkeys c q v hv
  · replace hv : alookup (own st' c).dc.lastOutputs p = some v := hv
    show (own st' c).rep p = some v
    rw [hown c] at hv ⊢
    cases hU : U c with
    | none => rw [hU] at hv; exact hsy.lastSub c p v hv
    | some ins =>
      rw [hU] at hv
      show (alookup (normDict _) p).orElse _ = some v
      rw [show alookup (normDict _) p = some v from hv]
      rfl

/-- **C03** for one tick. -/
theorem inputs_latest_tickRun {w : Wiring} (hw : RouterOK w) {dev : DevFn Val} {st st' : FlatSt Val}
    {t : SimTime} {roots : List Comp} (hsy : Synced w st) (h : TickRun w dev st t roots st')
    (c : Comp) (t' : SimTime) (given : List (Port × Val))
    (hobs : (c, t', given) ∈ st'.obs) (hnew : (c, t', given) ∉ st.obs) :
    t' = t ∧
    (∀ a p q, w.Conn a p c q → alookup given q = alookup st'.reported (a, p)) ∧
    (∀ q v, alookup given q = some v → ∃ a p, w.Conn a p c q) := by
  obtain ⟨U, hown, _, hE, _⟩ := h.elim
  obtain ⟨hwire, hkeys⟩ := wired_upd hw hsy (hE hw)
  have hin : (t', given) ∈ (own st' c).ob := FlatSt.mem_obsOf.2 hobs
  rw [hown c] at hin
  cases hU : U c with
  | none => rw [hU] at hin; exact absurd (FlatSt.mem_obsOf.1 hin) hnew
  | some ins =>
    have hw' := fun a p => hwire a p c
    have hk' := hkeys c
    rw [hU] at hin hw' hk'
    rcases List.mem_append.1 hin with h | h
    · exact absurd (FlatSt.mem_obsOf.1 h) hnew
    · cases List.mem_singleton.1 h
      refine ⟨rfl, fun a p q hc => ?_, hk'⟩
      show _ = (own st' a).rep p
      rw [hown a]
      exact hw' a p q hc

theorem synced_empty (w : Wiring) : Synced w ({} : FlatSt Val) :=
  ⟨fun _ _ _ _ _ => rfl, fun _ _ _ h => (nomatch h), fun _ _ _ h => (nomatch h)⟩

theorem _root_.Tickit.Synced.with_wake {w : Wiring} {st : FlatSt Val} (h : Synced w st) (wk : Wakeups) :
    Synced w { st with wake := wk } := ⟨h.wired, h.noExtra, h.lastSub⟩

theorem synced_runI {w : Wiring} (hw : RouterOK w) {devs : DevSeq Val} {t0 : SimTime}
    {sc : List FAct} {n : Nat} {st : FlatSt Val} {times : List SimTime}
    (hrun : FlatRunI w devs t0 sc n st times) : Synced w st := by
  induction hrun with
  | initial htick => exact synced_tickRun hw (synced_empty w) htick
  | tick _ _ htick ih => exact synced_tickRun hw (ih.with_wake _) htick
  | interrupt _ _ ih => exact ih.with_wake _

end Tickit.Sync
