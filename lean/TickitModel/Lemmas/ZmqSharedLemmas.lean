/-
ZeroMQ push stream, the seeded variant with one shared connect future
(`Core/ZmqSharedFuture.lean`): once the shared connect future is
cancelled the stream is dead for good.  `ZmqF.stepSender` repeats the `idle` / `ready` / `draining`
branches of `Zmq.stepSender` on its own record and has no case relation of its own: `FDead.step`
unfolds it.
-/
import TickitModel.Core.ZmqSharedFuture
import TickitModel.Lemmas.RunOpt

namespace Tickit

/-- the dead stream; `pcs`: nobody is past `_ensure_socket` -/
structure FDead (z : ZmqF) : Prop where
  fut : z.fut = .cancelled
  sock : z.socket = false
  wr : z.writes = []
  pcs : ∀ s ∈ z.senders, s.pc ≠ .ready ∧ s.pc ≠ .draining

theorem FDead.await {z z' : ZmqF} {i : Nat} {s : Sender} (h : FDead z) (ha : z.awaitFut i s = some z') :
    FDead z' := by
  unfold ZmqF.awaitFut at ha
  rw [h.fut] at ha
  cases ha
  exact ⟨rfl, h.sock, h.wr, h.pcs⟩

theorem FDead.step {z z' : ZmqF} {i : Nat} (h : FDead z) (hstep : z.stepSender i = some z') : FDead z' := by
  unfold ZmqF.stepSender at hstep
  obtain ⟨_, hstep⟩ := Option.ite_none_left_eq_some.mp hstep
  cases hs : z.senders[i]? with
  | none => simp only [hs] at hstep; cases hstep
  | some s =>
    have hpcs := h.pcs s (List.mem_of_getElem? hs)
    cases hpc : s.pc with
    | ready => exact absurd hpc hpcs.1
    | draining => exact absurd hpc hpcs.2
    | inFactory => simp only [hs, hpc] at hstep; exact h.await hstep
    | wantLock => simp only [hs, hpc, h.fut] at hstep; exact h.await hstep
    | idle =>
      -- the sender takes its next message, from the queue or from its to-do list
      simp only [hs, hpc] at hstep
      split at hstep <;> split at hstep <;> cases hstep
      all_goals exact ⟨h.fut, h.sock, h.wr,
        fun x hx => (List.mem_or_eq_of_mem_set hx).elim (h.pcs x) (· ▸ ⟨nofun, nofun⟩)⟩

theorem FDead.act {z z' : ZmqF} {a : ZFAct} (h : FDead z) (hact : z.act a = some z') : FDead z' := by
  have push (t : Sender) (ht : t.pc ≠ .ready ∧ t.pc ≠ .draining) :
      FDead { z with senders := z.senders ++ [t] } :=
    ⟨h.fut, h.sock, h.wr, List.forall_mem_append.mpr ⟨h.pcs, List.forall_mem_singleton.mpr ht⟩⟩
  cases a with
  | connected =>
    obtain ⟨hp, _⟩ := Option.ite_none_right_eq_some.mp hact
    rw [h.fut] at hp
    cases hp
  | cancel k =>
    obtain ⟨_, hact⟩ := Option.ite_none_left_eq_some.mp hact
    cases hs : z.senders[k]? with
    | none => simp only [hs] at hact; cases hact
    | some s =>
      simp only [hs] at hact
      obtain ⟨_, hact⟩ := Option.ite_none_left_eq_some.mp hact
      split at hact <;> cases hact
      · exact ⟨rfl, h.sock, h.wr, h.pcs⟩
      · exact ⟨h.fut, h.sock, h.wr, h.pcs⟩
  | base a =>
    cases a with
    | step i => exact h.step hact
    | enqueue m => cases hact; exact ⟨h.fut, h.sock, h.wr, h.pcs⟩
    | spawn msgs => cases hact; exact push _ ⟨nofun, nofun⟩
    | ensure => cases hact; exact push _ ⟨nofun, nofun⟩

theorem ZmqF.run_eq_runOpt (z : ZmqF) (acts : List ZFAct) : z.run acts = runOpt ZmqF.act z acts :=
  eq_runOpt_of_rec (fun _ => rfl) (fun z a _ => by rw [ZmqF.run]; cases z.act a <;> rfl) z acts

theorem FDead.run {z : ZmqF} (h : FDead z) (acts : List ZFAct) : FDead (z.run acts) :=
  ZmqF.run_eq_runOpt .. ▸ runOpt_induction FDead.act h acts

theorem ZmqF.run_append (c : ZmqF) (as bs : List ZFAct) : c.run (as ++ bs) = (c.run as).run bs := by
  simp only [ZmqF.run_eq_runOpt, runOpt_append]

/-- in a dead stream every task that enters (or is inside) `_ensure_socket` and is scheduled
ends with a `CancelledError` it never asked for -/
theorem FDead.step_fails {z : ZmqF} {i : Nat} {s : Sender} (h : FDead z)
    (hi : i ∉ z.cancelled ∧ i ∉ z.failed) (hs : z.senders[i]? = some s)
    (hpc : s.pc = .wantLock ∨ s.pc = .inFactory) :
    z.stepSender i = some { z with failed := i :: z.failed } := by
  unfold ZmqF.stepSender
  rw [if_neg (by simp [hi.1, hi.2]), hs]
  rcases hpc with hpc | hpc <;> simp [hpc, h.fut, ZmqF.awaitFut]

end Tickit
