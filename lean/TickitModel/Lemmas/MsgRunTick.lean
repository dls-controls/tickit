/-
One tick of the multi-tick message-level model (`Core/MsgFlatRun.lean`): while the tick is in
progress the bus evolves as the single-tick model `MsgSt.step` with the reaction function FIXED
at the pre-tick state of the components (every component reacts at most once), the state of
each component is its pre-tick state transformed by the `Input`s it has handled, and at the end
of the tick the whole state is — component by component — what `FlatSt.afterTick` computes.
-/
import TickitModel.Lemmas.MsgFlatLive
import TickitModel.Lemmas.FlatDetLemmas
import TickitModel.Core.MsgFlatRun

set_option autoImplicit false

namespace Tickit

open Tickit.Det

-- `[DecidableEq Val]` is a section variable that few statements need
set_option linter.unusedSectionVars false

variable {Val : Type} [DecidableEq Val]

theorem rxOf_congr {comps comps' : List (Comp × DevComp Val)} (dev : DevFn Val) {c : Comp}
    (h : agetD comps c {} = agetD comps' c {}) : rxOf comps dev c = rxOf comps' dev c := by
  funext t' ins
  simp only [rxOf, h]

theorem rxOf_at (F : FlatSt Val) (dev : DevFn Val) (t : SimTime) :
    (rxOf F.comps dev).at t = F.react dev t := rfl

/-- `DeviceComponent.on_tick` on (state, observation log) of one component -/
def compStep (dev : DevFn Val) (c : Comp)
    (p : DevComp Val × List (SimTime × List (Port × Val))) (o : SimTime × List (Port × Val)) :
    DevComp Val × List (SimTime × List (Port × Val)) :=
  (⟨p.1.merge o.2, normDict (dev c o.1 (p.1.merge o.2)).outs⟩, p.2 ++ [(o.1, p.1.merge o.2)])

/-- the in-tick invariant of the multi-tick model: `F` is the pre-tick state (as a `FlatSt`), `b0`
the idle bus the tick was begun from. -/
structure TickTrack (w : Wiring) (dev : DevFn Val) (t : SimTime) (roots : List Comp)
    (F : FlatSt Val) (b0 : MsgSt Val) (M : MsgRunSt Val) : Prop where
  reach : MsgSt.Reach w (rxOf F.comps dev) t roots b0 M.bus
  begun : M.bus.tk ≠ none
  comp : ∀ c, (M.flat.comp c, M.flat.obsOf c) =
    (reactsOf c M.bus.hist).foldl (compStep dev c) (F.comp c, F.obsOf c)
  time : M.tickTime = t
  roots : M.tickRoots = roots

/-- `MsgRunSt.step` has one branch for `.deliverIn` and one for the other bus actions inside a tick;
this is both, so that `step_bus` reads them as one. -/
def MsgRunSt.after (M : MsgRunSt Val) (dev : DevFn Val) (b : MsgSt Val) : MsgAct → MsgRunSt Val
  | .deliverIn c => M.handle dev c b (M.bus.next (.inT c))
  | _ => { M with bus := b }

theorem MsgRunSt.step_bus {w : Wiring} {devs : DevSeq Val} {t0 : SimTime} (M : MsgRunSt Val)
    {a : MsgAct} (ha : a ≠ .startSched) :
    M.step w devs t0 (.bus a) =
      (M.bus.step w (rxOf M.comps (devs (M.ticks - 1))) M.tickTime M.tickRoots a).map
        (fun r => r.map (fun b => M.after (devs (M.ticks - 1)) b a)) := by
  cases a with
  | startSched => exact absurd rfl ha
  | _ => rfl

theorem MsgRunSt.handle_frame (M : MsgRunSt Val) (dev : DevFn Val) (c : Comp) (b : MsgSt Val)
    (o : Option (BusMsg Val)) :
    (M.handle dev c b o).bus = b ∧ (M.handle dev c b o).ticks = M.ticks ∧
      (M.handle dev c b o).times = M.times ∧ (M.handle dev c b o).tickTime = M.tickTime ∧
      (M.handle dev c b o).tickRoots = M.tickRoots := by
  unfold MsgRunSt.handle
  split <;> exact ⟨rfl, rfl, rfl, rfl, rfl⟩

theorem MsgRunSt.handle_input_loc (M : MsgRunSt Val) (dev : DevFn Val) (c c0 c' : Comp)
    (b : MsgSt Val) (t' : SimTime) (ins : List (Port × Val)) :
    ((M.handle dev c b (some (.disp (.input c0 t' ins)))).flat.comp c',
        (M.handle dev c b (some (.disp (.input c0 t' ins)))).flat.obsOf c') =
      if c = c' then compStep dev c (M.flat.comp c, M.flat.obsOf c) (t', ins)
      else (M.flat.comp c', M.flat.obsOf c') := by
  by_cases hcc : c = c'
  · subst hcc
    simp [MsgRunSt.handle, compStep, MsgRunSt.flat, FlatSt.comp, FlatSt.obsOf, agetD,
      alookup_upsert]
  · simp [MsgRunSt.handle, MsgRunSt.flat, FlatSt.comp, FlatSt.obsOf, agetD, alookup_upsert, hcc]

theorem MsgRunSt.after_frame (M : MsgRunSt Val) (dev : DevFn Val) (b : MsgSt Val) (a : MsgAct) :
    (M.after dev b a).bus = b ∧ (M.after dev b a).ticks = M.ticks ∧
      (M.after dev b a).times = M.times ∧ (M.after dev b a).tickTime = M.tickTime ∧
      (M.after dev b a).tickRoots = M.tickRoots := by
  cases a with
  | deliverIn c => exact M.handle_frame dev c b _
  | _ => exact ⟨rfl, rfl, rfl, rfl, rfl⟩

/-- the run computes reactions from the CURRENT component states, the single-tick model from the
pre-tick states; a component reacts at most once, so it still is in its pre-tick state when its
`Input` arrives. -/
theorem TickTrack.step_eq {w : Wiring} {dev : DevFn Val} {t : SimTime} {roots : List Comp}
    {F : FlatSt Val} {b0 : MsgSt Val} (hb0 : b0.Idle) {M : MsgRunSt Val}
    (h : TickTrack w dev t roots F b0 M) (a : MsgAct) :
    M.bus.step w (rxOf M.comps dev) M.tickTime M.tickRoots a =
      M.bus.step w (rxOf F.comps dev) t roots a := by
  rw [h.time, h.roots]
  cases a with
  | deliverIn c =>
    cases hμ : M.bus.next (.inT c) with
    | none => simp only [MsgSt.step, hμ]
    | some μ =>
      have hpre := h.comp c
      rw [h.reach.no_react_before_input hb0 hμ] at hpre
      exact MsgSt.step_deliverIn_congr _ (rxOf_congr dev (Prod.ext_iff.1 hpre).1)
  | _ => rfl

theorem TickTrack.step {w : Wiring} {dev : DevFn Val} {t : SimTime}
    {roots : List Comp} {F : FlatSt Val} {b0 : MsgSt Val} (hb0 : b0.Idle) {M : MsgRunSt Val}
    (h : TickTrack w dev t roots F b0 M) {a : MsgAct} {b : MsgSt Val}
    (hstep : M.bus.step w (rxOf F.comps dev) t roots a = some (.ok b)) :
    TickTrack w dev t roots F b0 (M.after dev b a) := by
  obtain ⟨hbus, _, _, htime, hroots⟩ := M.after_frame dev b a
  rcases h.reach.sim hb0 with ⟨hI, _, _⟩ | ⟨s, hr, hs⟩
  · exact absurd hI.1 h.begun
  obtain ⟨s', hmove, hs'⟩ := hs.step_cases hr hstep
  refine ⟨hbus.symm ▸ h.reach.step hstep, by rw [hbus, hs'.tk]; exact Option.some_ne_none _,
    fun c' => ?_, htime.trans h.time, hroots.trans h.roots⟩
  cases hmove with
  | comp c _ => exact h.comp c'
  | react c t' ins hc hμ hP =>
    rw [MsgRunSt.after, hμ, M.handle_input_loc, (M.handle_frame dev c _ _).1, MsgSt.hist_record,
      MsgSt.hist_produce, MsgSt.hist_advance, reactsOf_append, reactsOf_react, List.foldl_append,
      ← h.comp c']
    by_cases hcc : c = c'
    · subst hcc; rw [if_pos rfl, if_pos rfl]; rfl
    · rw [if_neg hcc, if_neg hcc]; rfl
  | answer i d r =>
    rw [hbus, MsgSt.hist_noteWakeup, MsgSt.hist_sendAll, reactsOf_append, reactsOf_map_dispatch,
      List.append_nil, MsgSt.hist_setTk, MsgSt.hist_record, MsgSt.hist_advance, reactsOf_append,
      reactsOf_answer, List.append_nil, ← h.comp c']
    rfl

/-- the run state `M'` is given by equations, since the two callers (the initial tick, a next tick
on the reset bus) build it by different record updates; the pre-tick `FlatSt` has `reported := []`,
a field that `loc` does not read. -/
theorem TickTrack.start {w : Wiring} {dev : DevFn Val} {t : SimTime} {roots : List Comp}
    {b0 b : MsgSt Val} (hb0 : b0.Idle) (rx : MsgReact Val)
    (hstep : b0.step w rx t roots .startSched = some (.ok b)) (M' : MsgRunSt Val)
    (comps : List (Comp × DevComp Val)) (obs : List (Comp × SimTime × List (Port × Val)))
    (hbus : M'.bus = b) (hcomps : M'.comps = comps) (hobs : M'.obs = obs)
    (htime : M'.tickTime = t) (hroots : M'.tickRoots = roots) :
    TickTrack w dev t roots ⟨comps, b0.wake, [], obs⟩ b0 M' := by
  rw [MsgSt.step_rx_irrel rx (rxOf comps dev) _ (by simp)] at hstep
  refine ⟨hbus ▸ MsgSt.Reach.step .init hstep, ?_, fun c => ?_, htime, hroots⟩
  · obtain ⟨_, r, _, rfl⟩ := MsgSt.step_startSched_ok hstep
    rw [hbus]; simp
  · have : reactsOf c M'.bus.hist = [] := by
      obtain ⟨_, r, _, rfl⟩ := MsgSt.step_startSched_ok hstep
      rw [hbus, MsgSt.hist_sendAll, reactsOf_append, reactsOf_map_dispatch, MsgSt.hist_setTk, hb0.2.1]; rfl
    rw [this]
    simp only [List.foldl_nil, MsgRunSt.flat, FlatSt.comp, FlatSt.obsOf, hcomps, hobs]

/-- `Own.upd` coordinate by coordinate: the component's own state and observation log are `compStep`
(updated when the component REACTS), the wakeup entry is `wkOf` (updated when the scheduler ABSORBS
the answer). -/
theorem Det.Own.upd_updOf (dev : DevFn Val) (comps : List (Comp × DevComp Val)) (c : Comp) (t : SimTime)
    (L : Own Val) (hdc : L.dc = agetD comps c {}) (tr : List (Ev Val))
    (ho : ∀ d, dispatchOf tr c = some d → d.comp = c ∧ d.time = t) :
    (⟨(L.upd dev c t (updOf tr c)).dc, (L.upd dev c t (updOf tr c)).wk,
        (L.upd dev c t (updOf tr c)).ob⟩ : Loc Val) =
      ⟨((obsOfDispatch (dispatchOf tr c)).foldl (compStep dev c) (L.dc, L.ob)).1,
        wkOf (rxOf comps dev) L.wk (dispatchOf tr c),
        ((obsOfDispatch (dispatchOf tr c)).foldl (compStep dev c) (L.dc, L.ob)).2⟩ := by
  unfold updOf
  cases hd : dispatchOf tr c with
  | none => rfl
  | some d =>
    cases d with
    | skip c' t' => rfl
    | input c' t' ins =>
      obtain ⟨rfl, rfl⟩ : c' = c ∧ t' = t := ho _ hd
      simp only [Own.upd, obsOfDispatch, List.foldl_cons, List.foldl_nil, compStep, wkOf, rxOf, hdc]
      rfl

theorem TickTrack.complete {w : Wiring} {dev : DevFn Val} {t : SimTime} {roots : List Comp}
    {F : FlatSt Val} {b0 : MsgSt Val} (hb0 : b0.Idle) (hwake : b0.wake = F.wake)
    {M : MsgRunSt Val} (h : TickTrack w dev t roots F b0 M) (hc : M.bus.Complete) :
    ∃ s : TickSys Val, s.Reachable w (F.react dev t) t roots ∧ s.tk.toUpdate = [] ∧
      M.bus.trace = s.trace ∧ MsgSim (rxOf F.comps dev) M.bus s ∧
      ∀ c, loc M.flat c = loc (F.afterTick dev s.trace) c := by
  obtain ⟨s, hr, hs, hnil⟩ := hc.sim hb0 h.reach
  -- `hr` is about `(rxOf F.comps dev).at t`, which is `F.react dev t` by definition (`rxOf_at`)
  refine ⟨s, hr, hnil, hs.trace, hs, fun c => ?_⟩
  have hcomp := h.comp c
  have hwk := (h.reach.wakeInv hb0).of_complete hs hr hnil c
  rw [msg_observations_exact' w _ t roots b0 M.bus hb0 h.reach hc c] at hcomp
  rw [loc_eq_own (F.afterTick dev s.trace), own_afterTick hr c]
  rw [Det.Own.upd_updOf dev F.comps c t (own F c) rfl s.trace fun d hd =>
    ⟨(dispatchOf_eq_some hd).2, (hr.inv.pre.disp_ext d (dispatchOf_eq_some hd).1).2⟩]
  rw [← hs.trace]
  show Loc.mk (M.flat.comp c) (alookup M.bus.wake c) (M.flat.obsOf c) =
    Loc.mk (List.foldl (compStep dev c) (F.comp c, F.obsOf c) _).1 (wkOf _ (alookup F.wake c) _)
      (List.foldl (compStep dev c) (F.comp c, F.obsOf c) _).2
  rw [← hcomp, hwk, hwake]

end Tickit
