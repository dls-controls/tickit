/-
Any-order nested tick (`TickLevelAny`): an execution of a tick depends on the start state only
through what lies at and below its level.

Every primitive of a tick reads and writes the shared state only through the key-wise view
`SimSt.loc` of the keys in its footprint (`Foot`).  Hence an execution of a tick of level `lvl` can
be TRANSPLANTED to any start state that has the same view at and below `lvl`
(`LocOn (AtOrBelow S lvl)`; `Foot`, `AtOrBelow` of `Lemmas/AnyFrame.lean`): same answers, same
tickers, same exposed changes, same view of the result at and below `lvl`
(`tickLevelAny_transplant`).  This is the commutation of an inner tick with everything that
happens outside its footprint.  The interleaved semantics is what uses it: closing an inner level
in `Lemmas/InterSim.lean` transplants the level's atomic execution into the parent's virtual state
(`IVirt.close_step`), and `Lemmas/InterRun.lean` uses `tickLevelAny_locEq`.
-/
import TickitModel.Lemmas.AnyFrame

namespace Tickit

section

variable {S : Static} {orc : Oracle}

def Transplants (S : Static) (target : LevelRel) : LevelRel :=
  fun lvl t roots inCh st r =>
    ∀ st', LocOn (AtOrBelow S lvl) st' st →
      ∃ st2', target lvl t roots inCh st' (st2', r.2) ∧ LocOn (AtOrBelow S lvl) st2' r.1

theorem AnsP.transplant (hS : S.Valid) {inner inner' : LevelRel}
    (hin : ∀ c t ro i s r, inner c t ro i s r → Transplants S inner' c t ro i s r)
    {L : Level} (hL : L ∈ S.levels) {inCh : List (Port × V)} {σ : SimSt} {d : Dispatch V}
    {res : SimSt × List (Port × V) × Option SimTime} (a : AnsP S orc inner L inCh σ d res)
    (hdc : d.comp ∈ L.wiring.components) {σ' : SimSt}
    (hσ : ∀ x, Foot S L d.comp x → σ'.loc x = σ.loc x) :
    ∃ σ2', AnsP S orc inner' L inCh σ' d (σ2', res.2.1, res.2.2) ∧
      ∀ x, Foot S L d.comp x → σ2'.loc x = res.1.loc x := by
  cases a with
  | skip => exact ⟨σ', .skip, hσ⟩
  | external h1 => exact ⟨σ', .external h1, hσ⟩
  | expose h1 h2 => exact ⟨σ', .expose h1 h2, hσ⟩
  | @sys c t ins st2 outCh e1 e2 e3 e4 =>
    simp only [Dispatch.comp] at hdc hσ ⊢
    have hpar := hS.toWF.parent_of_member hL hdc e1 e2
    have hc : σ'.loc c = σ.loc c := hσ c ⟨hpar, Or.inl rfl⟩
    have hpre : LocOn (AtOrBelow S c) (sysPre σ' c t) (sysPre σ c t) :=
      fun x hx => loc_sysPre_congr (hσ x (hx.foot hS hpar)) c t
    obtain ⟨s2', hi, hl⟩ := hin _ _ _ _ _ _ e4 _ hpre
    simp only at hi hl -- reduces the projections of the result pair
    rw [← sysRoots_of_sched (S := S) (sched_of_loc hc) t] at hi
    refine ⟨s2', ?_, fun x hx => hl x hx.atOrBelow⟩
    have hca : sysCallAt st2 c t = sysCallAt s2' c t :=
      (sysCallAt_of_sched (sched_of_loc (hl c (Or.inl rfl))) t).symm
    rw [hca]
    exact .sys e1 e2 e3 hi
  | @dev c t ins resp e1 e2 e3 e4 e5 =>
    simp only [Dispatch.comp] at hdc hσ ⊢
    have hpar := hS.toWF.parent_of_member hL hdc e1 e2
    have hc : σ'.loc c = σ.loc c := hσ c ⟨hpar, Or.inl rfl⟩
    have hcnt : agetD σ'.count c 0 = agetD σ.count c 0 := congrArg SLoc.cnt hc
    refine ⟨(devAfter σ' c t ins resp).1, ?_, fun x hx => loc_devAfter_congr (hσ x hx) c t ins resp⟩
    rw [← devAfter_changes_congr hc t ins resp]
    exact .dev e1 e2 e3 (by rw [hcnt]; exact e4) e5

theorem LoopP.transplant (hS : S.Valid) {L : Level} (hL : L ∈ S.levels) {inCh : List (Port × V)}
    {ls : LoopSt} {r : SimSt × List (Port × V)}
    (a : LoopP S orc (fun c t ro i s r => TickLevelAny S orc c t ro i s r ∧
      Transplants S (TickLevelAny S orc) c t ro i s r) L inCh ls r) :
    ∀ {st0 : SimSt}, Inv1 S L st0 ls → ∀ σ' : SimSt, LocOn (AtOrBelow S L.name) σ' ls.st →
      ∃ σ2', LoopP S orc (TickLevelAny S orc) L inCh ⟨ls.tk, ls.pending, ls.outCh, σ'⟩ (σ2', r.2) ∧
        LocOn (AtOrBelow S L.name) σ2' r.1 := by
  have hp1 : ∀ c t ro i s r, (TickLevelAny S orc c t ro i s r ∧
      Transplants S (TickLevelAny S orc) c t ro i s r) → LevelPost1 S c s r :=
    fun _ _ _ _ _ _ h => tickLevelAny_post1 hS h.1
  have hp2 : ∀ c t ro i s r, TickLevelAny S orc c t ro i s r → LevelPost1 S c s r :=
    fun _ _ _ _ _ _ h => tickLevelAny_post1 hS h
  induction a with
  | @done ls h1 h2 =>
    intro st0 _ σ' hσ
    exact ⟨σ', .done h1 h2, hσ⟩
  | @step ls i d st' changes callAt tk' ds r h1 ha h3 _ ih =>
    intro st0 inv σ' hσ
    have hdc : d.comp ∈ L.wiring.components := inv.pend_comp d (List.mem_of_getElem? h1)
    have hfoot : ∀ x, Foot S L d.comp x → σ'.loc x = ls.st.loc x :=
      fun x hx => hσ x (Or.inr hx.below)
    obtain ⟨σ2, ha', hl⟩ := ha.transplant hS (fun _ _ _ _ _ _ h => h.2) hL hdc hfoot
    simp only at ha' hl -- reduces the projections of the result triple
    have hnew : LocOn (AtOrBelow S L.name) (anyWake σ2 L.name d.comp callAt)
        (anyWake st' L.name d.comp callAt) := by
      intro x hx
      apply loc_anyWake_congr
      by_cases hf : Foot S L d.comp x
      · exact hl x hf
      · have e1 : σ2.loc x = σ'.loc x := ha'.frame_foot hS hp2 hL hdc hf
        have e2 : st'.loc x = ls.st.loc x := ha.frame_foot hS hp1 hL hdc hf
        rw [e1, e2]
        exact hσ x hx
    obtain ⟨σ3, hloop, hfin⟩ := ih (inv.step hS hp1 hL h1 ha h3) _ hnew
    exact ⟨σ3, .step (ls := ⟨ls.tk, ls.pending, ls.outCh, σ'⟩) h1 ha' h3 hloop, hfin⟩

theorem tickLevelAny_transplant (hS : S.Valid) {lvl : Comp} {t : SimTime} {roots : List Comp}
    {inCh : List (Port × V)} {st : SimSt} {r : SimSt × List (Port × V)}
    (h : TickLevelAny S orc lvl t roots inCh st r) :
    Transplants S (TickLevelAny S orc) lvl t roots inCh st r := by
  refine TickLevelAny.strong_induct (Q := Transplants S (TickLevelAny S orc)) ?_ h
  rintro lvl t roots inCh st r ⟨L, tk, ds, hLv, hcall, hloop⟩ st' hst'
  obtain ⟨hL, hname⟩ := Static.level_some hLv
  subst hname
  obtain ⟨σ2, hl, hfin⟩ := hloop.transplant hS hL (Inv1.init hcall st) st' hst'
  exact ⟨σ2, tickLevelAny_iff.2 ⟨L, tk, ds, hLv, hcall, hl⟩, hfin⟩

/-- what is neither at nor below the level is untouched on both sides (`LevelPost1.frame'`) -/
theorem tickLevelAny_locEq (hS : S.Valid) {lvl : Comp} {t : SimTime} {roots : List Comp}
    {inCh : List (Port × V)} {st : SimSt} {r : SimSt × List (Port × V)}
    (h : TickLevelAny S orc lvl t roots inCh st r) {st' : SimSt} (hst : LocEq st' st) :
    ∃ σ2, TickLevelAny S orc lvl t roots inCh st' (σ2, r.2) ∧ LocEq σ2 r.1 := by
  obtain ⟨σ2, h2, hl⟩ := tickLevelAny_transplant hS h st' (fun x _ => hst x)
  exact ⟨σ2, h2, .of_locOn hl (fun _ => (tickLevelAny_post1 hS h2).frame')
    (fun _ => (tickLevelAny_post1 hS h).frame') hst⟩

end

end Tickit
