/-
The resolution of wires through system boundaries: `Static.resolve` one step at a time, what it means
that the fuel is enough at one place (`Static.Suff`; enough at every place gives `Static.ResolveStable`,
the hypothesis of everything downstream: `resolveStable_of_suff`), and the resolution as a relation.

`S.Resolves lvl a p y`: following `external` outwards and exposed ports inwards from the output
`(a, p)` named in level `lvl` ends at the device output `y`.  It is what `S.resolve n lvl a p = some y`
says once `n` is large enough (`Static.Valid.resolves_iff`), without the fuel; its induction principle
is the induction along a resolution chain, and the facts about where a chain can end are inductions
over it.  How much fuel is enough is the business of `Lemmas/FlattenFuel.lean` alone.
-/
import TickitModel.Lemmas.StaticValid
import TickitModel.Lemmas.FlattenLemmas

namespace Tickit

theorem Static.resolve_zero (S : Static) (lvl a : Comp) (p : Port) : S.resolve 0 lvl a p = none := by
  rw [Static.resolve]

theorem Static.resolve_eq_none {S : Static} {lvl a : Comp} {p : Port}
    (h : ∀ k y, S.resolve (k + 1) lvl a p ≠ some y) (k : Nat) : S.resolve k lvl a p = none := by
  cases k with
  | zero => exact S.resolve_zero _ _ _
  | succ k => exact Option.eq_none_iff_forall_ne_some.2 (h k)

theorem Static.resolve_ext_succ {S : Static} {k : Nat} {lvl : Comp} {p : Port} {y : CPort}
    (h : S.resolve (k + 1) lvl pseudoExternal p = some y) :
    lvl ≠ "" ∧ ∃ P LP a' p', alookup S.parent lvl = some P ∧ S.level P = some LP ∧
      LP.wiring.sourceOf lvl p = some (a', p') ∧ S.resolve k P a' p' = some y := by
  rcases Static.resolve_succ_eq_some.1 h with ⟨_, hm, h'⟩ | ⟨hx, _⟩ | ⟨hx, _⟩
  · exact ⟨hm, h'⟩
  · exact absurd rfl hx
  · exact absurd rfl hx

theorem Static.resolve_ext_master (S : Static) (k : Nat) (p : Port) :
    S.resolve k "" pseudoExternal p = none :=
  Static.resolve_eq_none (fun _ _ hr => (Static.resolve_ext_succ hr).1 rfl) k

theorem Static.resolve_mono (S : Static) :
    ∀ (k : Nat) (lvl a : Comp) (p : Port) (y : CPort), S.resolve k lvl a p = some y →
      S.resolve (k + 1) lvl a p = some y := by
  intro k
  induction k with
  | zero => intro lvl a p y h; rw [S.resolve_zero] at h; cases h
  | succ k ih =>
    intro lvl a p y h
    rw [Static.resolve_succ_eq_some] at h ⊢
    rcases h with ⟨hx, hm, P, LP, a', p', hP, hLP, hsrc, hr⟩ | ⟨hx, hs, La, a', p', hLa, hsrc, hr⟩ | h
    · exact Or.inl ⟨hx, hm, P, LP, a', p', hP, hLP, hsrc, ih _ _ _ _ hr⟩
    · exact Or.inr (Or.inl ⟨hx, hs, La, a', p', hLa, hsrc, ih _ _ _ _ hr⟩)
    · exact Or.inr (Or.inr h)

theorem Static.resolve_mono_le (S : Static) {k k' : Nat} (hk : k ≤ k') {lvl a : Comp} {p : Port}
    {y : CPort} (h : S.resolve k lvl a p = some y) : S.resolve k' lvl a p = some y := by
  induction hk with
  | refl => exact h
  | step _ ih => exact S.resolve_mono _ _ _ _ _ ih

def Static.Suff (S : Static) (k : Nat) (lvl a : Comp) (p : Port) : Prop :=
  ∀ k' y, S.resolve k' lvl a p = some y → S.resolve k lvl a p = some y

theorem Static.Suff.mono {S : Static} {k k' : Nat} {lvl a : Comp} {p : Port} (h : S.Suff k lvl a p)
    (hk : k ≤ k') : S.Suff k' lvl a p :=
  fun k'' y hy => S.resolve_mono_le hk (h k'' y hy)

theorem Static.resolveStable_of_suff {S : Static} {n : Nat} (h : ∀ lvl a p, S.Suff n lvl a p) :
    S.ResolveStable n := by
  intro lvl a p
  cases hr : S.resolve (n + 1) lvl a p with
  | some y => exact (h lvl a p _ y hr).symm
  | none =>
    cases hr' : S.resolve n lvl a p with
    | none => rfl
    | some y =>
      rw [S.resolve_mono _ _ _ _ _ hr'] at hr
      cases hr

theorem Static.suff_succ {S : Static} {k : Nat} {lvl a : Comp} {p : Port}
    (hext : ∀ P LP a' p', a = pseudoExternal → lvl ≠ "" → alookup S.parent lvl = some P →
      S.level P = some LP → LP.wiring.sourceOf lvl p = some (a', p') → S.Suff k P a' p')
    (hsys : ∀ La a' p', a ≠ pseudoExternal → S.isSys a = true → S.level a = some La →
      La.wiring.sourceOf pseudoExpose p = some (a', p') → S.Suff k a a' p') :
    S.Suff (k + 1) lvl a p := by
  intro k' y hy
  cases k' with
  | zero => rw [S.resolve_zero] at hy; cases hy
  | succ k' =>
    rw [Static.resolve_succ_eq_some] at hy ⊢
    rcases hy with ⟨hx, hm, P, LP, a', p', hP, hLP, hsrc, hr⟩ | ⟨hx, hs, La, a', p', hLa, hsrc, hr⟩ | h
    · exact Or.inl ⟨hx, hm, P, LP, a', p', hP, hLP, hsrc, hext P LP a' p' hx hm hP hLP hsrc k' y hr⟩
    · exact Or.inr (Or.inl ⟨hx, hs, La, a', p', hLa, hsrc, hsys La a' p' hx hs hLa hsrc k' y hr⟩)
    · exact Or.inr (Or.inr h)

theorem Static.resolve_ext_noparent (S : Static) (k : Nat) {lvl : Comp}
    (hP : alookup S.parent lvl = none) (p : Port) : S.resolve k lvl pseudoExternal p = none :=
  Static.resolve_eq_none (fun _ _ hr => by
    obtain ⟨_, _, _, _, _, hP', _⟩ := Static.resolve_ext_succ hr
    rw [hP] at hP'; cases hP') k

theorem Static.resolve_ext_nolevel (S : Static) (k : Nat) {lvl P : Comp}
    (hP : alookup S.parent lvl = some P) (hL : S.level P = none) (p : Port) :
    S.resolve k lvl pseudoExternal p = none :=
  Static.resolve_eq_none (fun _ _ hr => by
    obtain ⟨_, _, _, _, _, hP', hL', _⟩ := Static.resolve_ext_succ hr
    cases hP.symm.trans hP'
    rw [hL] at hL'; cases hL') k

theorem Static.resolve_sys_nolevel (S : Static) (k : Nat) (lvl : Comp) {a : Comp}
    (hne : a ≠ pseudoExternal) (hs : S.isSys a = true) (hL : S.level a = none) (p : Port) :
    S.resolve k lvl a p = none :=
  Static.resolve_eq_none (fun _ _ hr => by
    rcases Static.resolve_succ_eq_some.1 hr with ⟨hx, _⟩ | ⟨_, _, _, _, _, hL', _⟩ | ⟨_, hd, _⟩
    · exact absurd hx hne
    · rw [hL] at hL'; cases hL'
    · rw [hs] at hd; cases hd) k

theorem Static.Valid.sourceOf_iff {S : Static} (hS : S.Valid) {lvl : Comp} {L : Level}
    (hL : S.level lvl = some L) {c : Comp} {q : Port} {a : Comp} {p : Port} :
    L.wiring.sourceOf c q = some (a, p) ↔ L.wiring.Conn a p c q :=
  have h := hS.wiring_wf L (Static.level_some hL).1
  Wiring.sourceOf_eq_some h.1 h.2

variable {S : Static}

inductive Static.Resolves (S : Static) : Comp → Comp → Port → CPort → Prop
  | device {lvl a : Comp} {p : Port} : alookup S.parent a = some lvl → S.isSys a = false →
      Static.Resolves S lvl a p (a, p)
  | system {lvl a : Comp} {p : Port} {La : Level} {a' : Comp} {p' : Port} {y : CPort} :
      alookup S.parent a = some lvl → S.isSys a = true → S.level a = some La →
      La.wiring.Conn a' p' pseudoExpose p → Static.Resolves S a a' p' y → Static.Resolves S lvl a p y
  | external {lvl : Comp} {p : Port} {P : Comp} {LP : Level} {a' : Comp} {p' : Port} {y : CPort} :
      alookup S.parent lvl = some P → S.level P = some LP → LP.wiring.Conn a' p' lvl p →
      Static.Resolves S P a' p' y → Static.Resolves S lvl pseudoExternal p y

theorem Static.Valid.resolves_of_resolve (hS : S.Valid) :
    ∀ (n : Nat) (lvl a : Comp) (p : Port) (y : CPort),
      (a = pseudoExternal ∨ alookup S.parent a = some lvl) → S.resolve n lvl a p = some y →
      S.Resolves lvl a p y := by
  intro n
  induction n with
  | zero => intro lvl a p y _ h; rw [Static.resolve] at h; cases h
  | succ n ih =>
    intro lvl a p y hsrc h
    rcases Static.resolve_succ_eq_some.1 h with ⟨rfl, _, P, LP, a', p', hP, hLP, hs, hr⟩ |
      ⟨hx, hsys, La, a', p', hLa, hs, hr⟩ | ⟨hx, hsys, rfl⟩
    · have hc := (hS.sourceOf_iff hLP).1 hs
      obtain ⟨hLP1, rfl⟩ := Static.level_some hLP
      exact .external hP hLP hc (ih _ _ _ _ (hS.conn_source hLP1 hc) hr)
    · have hc := (hS.sourceOf_iff hLa).1 hs
      obtain ⟨hLa1, rfl⟩ := Static.level_some hLa
      exact .system (hsrc.resolve_left hx) hsys hLa hc (ih _ _ _ _ (hS.conn_source hLa1 hc) hr)
    · exact .device (hsrc.resolve_left hx) hsys

theorem Static.Valid.resolves_of_conn (hS : S.Valid) {n : Nat} {L : Level} (hL : L ∈ S.levels) {a : Comp}
    {p : Port} {b : Comp} {q : Port} (hc : L.wiring.Conn a p b q) {y : CPort}
    (h : S.resolve n L.name a p = some y) : S.Resolves L.name a p y :=
  hS.resolves_of_resolve n _ _ _ _ (hS.conn_source hL hc) h

theorem Static.Resolves.resolve (hS : S.Valid) {n : Nat} (hst : S.ResolveStable n) {lvl a : Comp}
    {p : Port} {y : CPort} (h : S.Resolves lvl a p y) : S.resolve n lvl a p = some y := by
  induction h with
  | device hpar hsys => exact hst.device (hS.toWF.child_ne_external hpar) hsys _
  | system hpar hsys hLa hc _ ih =>
    exact (hst.system (hS.toWF.child_ne_external hpar) hsys hLa _ _).2
      ⟨_, _, (hS.sourceOf_iff hLa).2 hc, ih⟩
  | external hP hLP hc _ ih =>
    exact (hst.external (hS.child_ne_master hP) hP hLP _ _).2 ⟨_, _, (hS.sourceOf_iff hLP).2 hc, ih⟩

theorem Static.Valid.resolves_iff (hS : S.Valid) {n : Nat} (hst : S.ResolveStable n) {lvl a : Comp}
    (hsrc : a = pseudoExternal ∨ alookup S.parent a = some lvl) (p : Port) (y : CPort) :
    S.resolve n lvl a p = some y ↔ S.Resolves lvl a p y :=
  ⟨hS.resolves_of_resolve n _ _ _ _ hsrc, fun h => h.resolve hS hst⟩

theorem Static.Resolves.isDevice {lvl a : Comp} {p : Port} {y : CPort} (h : S.Resolves lvl a p y) :
    S.isDevice y.1 := by
  induction h with
  | device hpar hsys => exact ⟨by rw [hpar]; rfl, hsys⟩
  | system _ _ _ _ _ ih => exact ih
  | external _ _ _ _ ih => exact ih

theorem Static.Resolves.exit (hS : S.Valid) {c lvl a : Comp} {p : Port} {y : CPort}
    (h : S.Resolves lvl a p y) :
    (lvl = c ∨ S.Below c lvl) → S.Below c y.1 ∨ ∃ p'', S.Resolves c pseudoExternal p'' y := by
  induction h with
  | device hpar _ => exact fun hpos => Or.inl (hS.below_of_parent hpos hpar)
  | system hpar _ _ _ _ ih => exact fun hpos => ih (Or.inr (hS.below_of_parent hpos hpar))
  | external hP hLP hc hr ih =>
    rintro (rfl | hb)
    · exact Or.inr ⟨_, .external hP hLP hc hr⟩
    · exact ih (hb.parent_cases hP)

def Static.Enters (S : Static) (L : Level) (a : Comp) (y : CPort) : Prop :=
  ∃ q a' p', L.wiring.Conn a' p' a q ∧ S.Resolves L.name a' p' y

theorem Static.Resolves.boundary (hS : S.Valid) {L : Level} (hL : L ∈ S.levels) {a : Comp}
    (hpar : alookup S.parent a = some L.name) {lvl a' : Comp} {p : Port} {y : CPort}
    (h : S.Resolves lvl a' p y) (hpos : lvl = a ∨ S.Below a lvl) : S.Own a y.1 ∨ S.Enters L a y := by
  rcases h.exit hS hpos with hb | ⟨p'', hr⟩
  · exact Or.inl (Or.inr ⟨hS.child_ne_master hpar, hb⟩)
  · cases hr with
    | device h' _ => exact absurd h' (by rw [hS.pseudo_fresh.1]; exact nofun)
    | system h' _ _ _ _ => exact absurd h' (by rw [hS.pseudo_fresh.1]; exact nofun)
    | external hP hLP hc hr' =>
      cases hpar.symm.trans hP
      cases (hS.level_of_mem hL).symm.trans hLP
      exact Or.inr ⟨_, _, _, hc, hr'⟩

theorem Static.Resolves.boundary_out (hS : S.Valid) {L : Level} (hL : L ∈ S.levels) {a : Comp}
    {p : Port} {y : CPort} (h : S.Resolves L.name a p y) (hpar : alookup S.parent a = some L.name) :
    S.Own a y.1 ∨ S.Enters L a y := by
  cases h with
  | device _ _ => exact Or.inl (Static.Own.refl S a)
  | system _ _ _ _ hr => exact hr.boundary hS hL hpar (Or.inl rfl)
  | external _ _ _ _ => exact absurd hpar (by rw [hS.pseudo_fresh.1]; exact nofun)

theorem Static.Valid.flatInputs_spec {S : Static} (hS : S.Valid) (n : Nat) (c : Comp) (q : Port)
    (x : CPort) :
    alookup (S.flatInputs n c) q = some x ↔
      ∃ lvl L a p, alookup S.parent c = some lvl ∧ S.level lvl = some L ∧ L.wiring.Conn a p c q ∧
        S.resolve n lvl a p = some x := by
  unfold Static.flatInputs
  cases hp : alookup S.parent c with
  | none =>
    refine ⟨fun h => ?_, fun ⟨_, _, _, _, h, _⟩ => ?_⟩ <;> cases h
  | some lvl =>
    cases hL : S.level lvl with
    | none =>
      simp only [hL]
      refine ⟨fun h => ?_, fun ⟨_, _, _, _, h1, h2, _⟩ => ?_⟩
      · cases h
      · cases h1
        rw [hL] at h2
        cases h2
    | some L =>
      obtain ⟨hL1, _⟩ := Static.level_some hL
      obtain ⟨hwf, hos⟩ := hS.wiring_wf L hL1
      simp only [hL]
      rw [alookup_filterMap_snd (DictWF_agetD (InvWiring.wf_fromWiring' L.wiring).2 c)
        (fun e : CPort => S.resolve n lvl e.1 e.2)]
      constructor
      · intro h
        cases hs : alookup (agetD (InvWiring.fromWiring L.wiring) c []) q with
        | none => rw [hs] at h; cases h
        | some ap =>
          obtain ⟨a, p⟩ := ap
          rw [hs] at h
          exact ⟨lvl, L, a, p, rfl, hL, (Wiring.sourceOf_eq_some hwf hos).1 hs, h⟩
      · rintro ⟨lvl', L', a, p, h1, h2, hc, hr⟩
        cases h1
        rw [hL] at h2
        cases h2
        have hs : alookup (agetD (InvWiring.fromWiring L.wiring) c []) q = some (a, p) :=
          (Wiring.sourceOf_eq_some hwf hos).2 hc
        rw [hs]
        exact hr

theorem Static.Valid.flatInputs_resolves (hS : S.Valid) {n : Nat} {x : Comp} {q : Port} {y : CPort}
    (h : alookup (S.flatInputs n x) q = some y) :
    ∃ lvl L a p, alookup S.parent x = some lvl ∧ S.level lvl = some L ∧ L.wiring.Conn a p x q ∧
      S.Resolves lvl a p y := by
  obtain ⟨lvl, L, a, p, hp, hLv, hc, hr⟩ := (hS.flatInputs_spec n x q y).1 h
  obtain ⟨hL, rfl⟩ := Static.level_some hLv
  exact ⟨_, L, a, p, hp, hLv, hc, hS.resolves_of_conn hL hc hr⟩

theorem Static.Valid.flatInputs_boundary (hS : S.Valid) {n : Nat} {L : Level} (hL : L ∈ S.levels)
    {a : Comp} (hpar : alookup S.parent a = some L.name) {x : Comp} (hown : S.Own a x) {q : Port}
    {y : CPort} (h : alookup (S.flatInputs n x) q = some y) : S.Own a y.1 ∨ S.Enters L a y := by
  obtain ⟨lvl, L', a', p', hp', hL', hc, hr⟩ := hS.flatInputs_resolves h
  rcases hown with rfl | ⟨_, hb⟩
  · cases hpar.symm.trans hp'
    cases (hS.level_of_mem hL).symm.trans hL'
    exact Or.inr ⟨q, a', p', hc, hr⟩
  · exact hr.boundary hS hL hpar (hb.parent_cases hp')

theorem Static.Valid.flatInputs_child (hS : S.Valid) {L : Level} (hL : L ∈ S.levels)
    {c : Comp} (hpar : alookup S.parent c = some L.name) (n : Nat) (q : Port) (x : CPort) :
    alookup (S.flatInputs n c) q = some x ↔
      ∃ a p, L.wiring.Conn a p c q ∧ S.resolve n L.name a p = some x := by
  rw [hS.flatInputs_spec]
  constructor
  · rintro ⟨lvl, L', a, p, hp', hL', hconn, hr⟩
    cases hpar.symm.trans hp'
    cases (hS.level_of_mem hL).symm.trans hL'
    exact ⟨a, p, hconn, hr⟩
  · rintro ⟨a, p, hconn, hr⟩
    exact ⟨L.name, L, a, p, hpar, hS.level_of_mem hL, hconn, hr⟩

theorem Static.Valid.resolve_external (hS : S.Valid) {n : Nat} (hst : S.ResolveStable n)
    {L : Level} (hL : L ∈ S.levels) {c : Comp} (hpar : alookup S.parent c = some L.name) (p : Port)
    (x : CPort) : S.resolve n c pseudoExternal p = some x ↔
      ∃ a p', L.wiring.Conn a p' c p ∧ S.resolve n L.name a p' = some x := by
  have hLv := hS.level_of_mem hL
  simp only [hst.external (hS.child_ne_master hpar) hpar hLv, hS.sourceOf_iff hLv]

theorem Static.Valid.resolve_system (hS : S.Valid) {n : Nat} (hst : S.ResolveStable n)
    {c : Comp} {Lc : Level} (hsys : S.isSys c = true) (hLc : S.level c = some Lc) (lvl : Comp)
    (p : Port) (x : CPort) : S.resolve n lvl c p = some x ↔
      ∃ a p', Lc.wiring.Conn a p' pseudoExpose p ∧ S.resolve n c a p' = some x := by
  have hcx : c ≠ pseudoExternal := fun he => by rw [he, hS.pseudo_fresh.2.2.1] at hsys; cases hsys
  simp only [hst.system hcx hsys hLc, hS.sourceOf_iff hLc]

/-- `h` is `Static.Valid.resolve_external` (a device output drives an input of the system `c` iff it
drives `external` inside `c`) or `Static.Valid.resolve_system` (it drives `expose` inside `c` iff it
drives the output of `c`) -/
theorem Static.exists_resolve_iff {C : Comp → Port → Prop} {R : Comp → Port → Option CPort}
    {T : Option CPort} (h : ∀ x, T = some x ↔ ∃ a p', C a p' ∧ R a p' = some x)
    (φ : Comp → Port → Prop) :
    (∃ a p', C a p' ∧ ∃ a₀ p₀, R a p' = some (a₀, p₀) ∧ φ a₀ p₀) ↔
      ∃ a₀ p₀, T = some (a₀, p₀) ∧ φ a₀ p₀ := by
  constructor
  · rintro ⟨a, p', hconn, a₀, p₀, hr, hφ⟩
    exact ⟨a₀, p₀, (h _).2 ⟨a, p', hconn, hr⟩, hφ⟩
  · rintro ⟨a₀, p₀, hr, hφ⟩
    obtain ⟨a, p', hconn, hr'⟩ := (h _).1 hr
    exact ⟨a, p', hconn, a₀, p₀, hr', hφ⟩

end Tickit
