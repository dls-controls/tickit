/-
Transfer of the whole-simulation theorems to any-order executions.

C04 is not transferred: the run invariant `MonoP` is proved of every any-order run directly
(`masterRunAny_mono`).  What is transferred goes through the FIFO counterpart of a run and needs that
the statement in question is invariant under state equivalence (`SimSt.Equiv`); the invariance
lemmas are the facts about `ObsEq` of `Lemmas/AnyLoc.lean` and, here, `SchedOK.of_equiv`.

The chain (`masterRunAny_corr_flat`)

    any-order nested run  ~(SimSt.Equiv)~  FIFO nested run  —(Corr)—  FIFO run of the flattening
                                                            —(Refine.R)—  FlatRun over the resolved wiring

keeps visible what the two right-hand links (`nesting_transparent_run_gen`, `RefineStim.sim_flatRun`)
prove.  `Props/C09.lean` and `Props/C03Nested.lean` expose only the observations; the run-level C06
statements need the wakeups as well (`Corr`; `Refine.R`: the flat master's wakeups are the wakeups of
the `FlatRun` state) and the provenance of the device functions of the `FlatRun` (`OrcResp`).

With external stimuli: the code has no fuel (`raise_interrupt` of every enclosing `SystemComponent`
is simply called), which corresponds to a fuel that covers the nesting depth (`S.DepthLe fuel0`);
from there on `raiseInterrupt` does not depend on the fuel (`raiseInterrupt_stable_ge`).
-/
import TickitModel.Lemmas.TimeMonoLemmas
import TickitModel.Lemmas.RefineStim
import TickitModel.Lemmas.FlattenStimRun
import TickitModel.Lemmas.AnyRun

namespace Tickit

theorem SimSt.Equiv.wakeWF_right {a b : SimSt} (h : a.Equiv b) : b.WakeWF := fun s => (h s).sch.ub

theorem masterRun_zero_steps (S : Static) (orc : Oracle) (fuel : Nat) (s : Speed) (nTicks : Nat)
    (m : MasterSt) (stims : List Stim) (acc : List TickRec) :
    masterRun S orc fuel s 0 nTicks m stims acc = .ok (m, acc) := by
  rw [masterRun]

/-- C04's run-level invariant, for every any-order run -/
theorem masterRunAny_mono {S : Static} {orc : Oracle} {fuel : Nat} {sp : Speed} {steps nTicks : Nat}
    {m : MasterSt} {stims : List Stim} {acc : List TickRec} {r : MasterSt × List TickRec}
    (h : MasterRunAny S orc fuel sp steps nTicks m stims acc r) : TimeMono.MonoP orc m acc r := by
  induction h with
  | outOfSteps | ticksDone | idle => exact .stop ..
  | stim _ _ ih => exact TimeMono.MonoP.stim S fuel sp _ ih
  | tick _ hfw ht _ ih =>
    exact .tick hfw (TimeMono.tickLevelAny_ok ht) (SimSt.Ext.refl _) rfl
      (fun hg hw => ⟨hg, hw, Int.le_refl _⟩) ih

/-- C04 for every any-order run, with or without stimuli, whatever the configuration and the fuel -/
theorem masterRunAny_wake_not_before {S : Static} {orc : Oracle} {fuel : Nat} {t0 : SimTime} {now : Int}
    {sp : Speed} {steps nTicks : Nat} {stims : List Stim} {r0 : MasterSt × TickRec}
    {r : MasterSt × List TickRec} (h1 : MasterInitialAny S orc t0 now r0)
    (h2 : MasterRunAny S orc fuel sp steps nTicks r0.1 stims [r0.2] r) (hnp : RunNoPast orc r.1.sim) :
    r.1.sim.Good ∧ (∀ e ∈ (r.1.sim.sched "").wake, r.1.tickerTime ≤ e.2) ∧
      (∀ x ∈ r.2, x.time ≤ r.1.tickerTime) ∧ (r.2.map (·.time)).Pairwise (· ≤ ·) := by
  obtain ⟨hx, hrun⟩ := masterRunAny_mono h2
  cases h1 with
  | mk _ ht =>
    obtain ⟨hg, hnew⟩ := (TimeMono.tickLevelAny_ok ht).2 SimSt.good_empty
    obtain ⟨g1, g2, g3⟩ := hrun
      ⟨hg, fun e he => (hnew (RunNoPast.of_ext hx hnp) "" e he).elim nofun id, Int.le_refl _⟩ hnp
      (by simp) (by intro x hx'; simp only [List.mem_singleton] at hx'; subst hx'; exact Int.le_refl _)
    exact ⟨g3.good, g3.wake_ge, g2, g1⟩

theorem SchedOK.of_equiv {S : Static} {a b : SimSt} (h : a.Equiv b) (hb : SchedOK S b) : SchedOK S a where
  started := by
    intro s hs
    obtain ⟨h1, h2⟩ := hb.started s hs
    have hsch := h.sched s
    refine ⟨hsch.first.trans h1, ?_⟩
    apply List.eq_nil_iff_forall_not_mem.2
    intro c hc
    have := (hsch.ints c).1 hc
    rw [h2] at this
    cases this
  wake_sys := by
    intro s P hs hP
    have h1 := h.sched P
    have h2 := h.sched s
    rw [h1.wake s, hb.wake_sys s P hs hP, firstWakeups_snd_congr h2.ua h2.ub h2.wake]
  wake_keys := by
    intro L c hc
    have h1 := h.sched L
    apply hb.wake_keys L c
    rw [← alookup_isSome_iff] at hc ⊢
    rw [← h1.wake c]
    exact hc
  wake_unique := fun L => (h.sched L).ua

/-- `callAt = none` is what the empty default, for a component without a recorded response, returns -/
def OrcResp (orc : Oracle) (dev : DevFn V) : Prop :=
  ∀ c t ins, (dev c t ins).callAt = none ∨
    ∃ (j : Nat) (r : DevResp), (agetD orc c [])[j]? = some r ∧ (dev c t ins).callAt = r.callAt

theorem devOf_orcResp (orc : Oracle) (st : SimSt) : OrcResp orc (Refine.devOf orc st) := by
  intro c t ins
  unfold Refine.devOf
  cases h : (agetD orc c [])[agetD st.count c 0]? with
  | none => exact Or.inl rfl
  | some r => exact Or.inr ⟨_, r, h, rfl⟩

/-- the chain of the file head: `σ` ends an equivalent FIFO run, `σ'` the run of the flattening; the
`FlatRun` has the any-order run's own tick times -/
theorem masterRunAny_corr_flat {S : Static} (hS : S.Valid) {orc : Oracle} {n : Nat}
    (hst : S.ResolveStable n) {fuel0 : Nat} {t0 : SimTime} {now : Int} {sp : Speed}
    {steps nTicks : Nat} {r0 : MasterSt × TickRec} {r : MasterSt × List TickRec}
    (h1 : MasterInitialAny S orc t0 now r0)
    (h2 : MasterRunAny S orc fuel0 sp steps nTicks r0.1 [] [r0.2] r) :
    ∃ (σ σ' : SimSt) (devs : DevSeq V) (fl : FlatSt V),
      r.1.sim.Equiv σ ∧ Corr S σ σ' ∧ Refine.R σ' fl ∧
      FlatRun (Wiring.fromInverse (S.flatInverse n)) devs t0 (r.2.length - 1) fl
        (r.2.map (·.time)).reverse ∧
      (∀ k, DevExt (devs k)) ∧ (∀ k, OrcResp orc (devs k)) := by
  obtain ⟨F, hF⟩ := masterRunAny_fifo_of_stable hS h1 h2
  obtain ⟨m, tr, m2, ticks, hmi, hmr, heq, hticks⟩ := hF F (Nat.le_refl _) (fun _ h => nomatch h)
  obtain ⟨m', tr', m2', ticks', h', hrun, ht, _, ⟨I, τ, hc, hI⟩, _⟩ :=
    nesting_transparent_run_gen S hS orc F n hst t0 now sp steps nTicks [] (fun _ h => nomatch h)
      (fun _ h => nomatch h) m m2 tr ticks hmi (stimsTimely_nil ..) hmr
  cases hI rfl
  obtain ⟨devs, fl, times, hfr, hR, htimes, hext, hprov⟩ :=
    RefineStim.sim_flatRun (S := S.flatten n) rfl (L := ⟨"", Wiring.fromInverse (S.flatInverse n)⟩)
      rfl h' hrun
  have htm := hticks.times.1.trans ht
  have hlen : r.2.length = ticks'.length := by simpa using congrArg List.length htm
  refine ⟨m2.sim, m2'.sim, devs, fl, heq.sim, hc.toCorr, hR, ?_, hext, fun k => ?_⟩
  · rw [hlen, htm, ← htimes]
    exact hfr
  · obtain ⟨σ, hσ⟩ := hprov k
    exact hσ ▸ devOf_orcResp orc σ

variable {S : Static} {orc : Oracle}

def Static.DepthLe (S : Static) (f : Nat) : Prop := ∀ c k, S.Up "" c k → k ≤ f

theorem raiseInterrupt_stable_ge (hS : S.Valid) {f0 : Nat} (hd : S.DepthLe f0) {f : Nat} (hf : f0 ≤ f)
    (c : Comp) (st : SimSt) : raiseInterrupt S f c st = raiseInterrupt S f0 c st := by
  cases hp : alookup S.parent c with
  | none =>
    have : ∀ g, raiseInterrupt S g c st = (st, c) := fun g => by
      cases g with
      | zero => rfl
      | succ g => rw [raiseInterrupt_succ, hp]
    rw [this, this]
  | some p =>
    obtain ⟨k, hu⟩ := (Static.below_master hS.toWF (c := c) (by rw [hp]; rfl)).toUp
    have hk := hd c k hu
    rw [raiseInterrupt_of_up hu f st (Nat.le_trans hk hf), raiseInterrupt_of_up hu f0 st hk]

end Tickit
