import TickitModel.Core.Bus
import TickitModel.Lemmas.BusBasics
import TickitModel.Lemmas.DictLemmas

namespace Tickit

def subscribedTopics (ops : List BusOp) (k : Cid) : List Topic :=
  ops.flatMap (fun op => match op with
    | .subscribe k' Ts => if k' = k then Ts else []
    | .produce _ _ => [])

def SubscribeOnce (ops : List BusOp) : Prop := ∀ k, (subscribedTopics ops k).Nodup

/-- handlers publish only "downstream".  In particular a handler never publishes to a topic that is
being delivered further down the call stack (the reading of "handlers publish to OTHER topics"); it
MAY publish to a topic its own consumer subscribes to. -/
def Stratified (h : Handler) (rank : Topic → Nat) : Prop :=
  ∀ k T v T' v', (T', v') ∈ h k T v → rank T < rank T'

def Bus.addRecv (b : Bus) (es : List (Cid × Topic × Int)) : Bus := { b with recv := b.recv ++ es }

theorem Bus.received_eq_recvOf (b : Bus) (k : Cid) (T : Topic) :
    b.received k T = recvOf b.recv k T := rfl

theorem Bus.received_addRecv (b : Bus) (es : List (Cid × Topic × Int)) (k : Cid) (T : Topic) :
    (b.addRecv es).received k T = b.received k T ++ recvOf es k T := by
  rw [Bus.received_eq_recvOf, Bus.received_eq_recvOf]
  exact recvOf_append b.recv es k T

@[simp] theorem Bus.addRecv_subs (b : Bus) (es) : (b.addRecv es).subs = b.subs := rfl
@[simp] theorem Bus.addRecv_topics (b : Bus) (es) : (b.addRecv es).topics = b.topics := rfl
@[simp] theorem Bus.addRecv_subsOf (b : Bus) (es) (T : Topic) :
    (b.addRecv es).subsOf T = b.subsOf T := rfl
@[simp] theorem Bus.addRecv_log (b : Bus) (es) (T : Topic) : (b.addRecv es).log T = b.log T := rfl

@[simp] theorem Bus.addRecv_nil (b : Bus) : b.addRecv [] = b := by
  simp [Bus.addRecv]

/-- an EFFECT at rank `r`: `b'` is reached from `b` by publications to topics of rank `≥ r` only,
each of them delivered exactly to the subscribers, in publication order. -/
structure Bus.Effect (rank : Topic → Nat) (r : Nat) (b b' : Bus) : Prop where
  subs : b'.subs = b.subs
  eff : ∀ T, ∃ s, b'.log T = b.log T ++ s ∧ (rank T < r → s = []) ∧
      ∀ k, b'.received k T = b.received k T ++ (if k ∈ b.subsOf T then s else [])

theorem Bus.Effect.subsOf {rank r b b'} (h : Bus.Effect rank r b b') (T : Topic) :
    b'.subsOf T = b.subsOf T := by
  unfold Bus.subsOf; rw [h.subs]

theorem Bus.Effect.refl (rank r b) : Bus.Effect rank r b b :=
  ⟨rfl, fun _ => ⟨[], by simp⟩⟩

theorem Bus.Effect.trans {rank r b b' b''} (h₁ : Bus.Effect rank r b b') (h₂ : Bus.Effect rank r b' b'') :
    Bus.Effect rank r b b'' := by
  refine ⟨h₂.subs.trans h₁.subs, fun T => ?_⟩
  obtain ⟨s₁, hl₁, hr₁, hk₁⟩ := h₁.eff T
  obtain ⟨s₂, hl₂, hr₂, hk₂⟩ := h₂.eff T
  refine ⟨s₁ ++ s₂, by rw [hl₂, hl₁, List.append_assoc], fun hlt => by simp [hr₁ hlt, hr₂ hlt],
    fun k => ?_⟩
  rw [hk₂, hk₁, h₁.subsOf]
  split <;> simp

theorem Bus.Effect.mono {rank r r' b b'} (h : Bus.Effect rank r b b') (hr : r' ≤ r) :
    Bus.Effect rank r' b b' := by
  refine ⟨h.subs, fun T => ?_⟩
  obtain ⟨s, hl, hr', hk⟩ := h.eff T
  exact ⟨s, hl, fun hlt => hr' (Nat.lt_of_lt_of_le hlt hr), hk⟩

theorem Bus.Effect.addRecv {rank r b b'} (h : Bus.Effect rank r b b') (es : List (Cid × Topic × Int))
    (hes : ∀ e ∈ es, rank e.2.1 < r) : Bus.Effect rank r (b.addRecv es) (b'.addRecv es) := by
  refine ⟨h.subs, fun T => ?_⟩
  obtain ⟨s, hl, hr, hk⟩ := h.eff T
  refine ⟨s, hl, hr, fun k => ?_⟩
  rw [Bus.received_addRecv, Bus.received_addRecv, hk, Bus.addRecv_subsOf]
  by_cases hlt : rank T < r
  · simp [hr hlt]
  · rw [recvOf_eq_nil es k T (fun e he heq => hlt (heq ▸ hes e he))]
    simp

/-- holds along every history: subscriber lists are only ever extended by `sinsert`. -/
def Bus.WF (b : Bus) : Prop := ∀ T, (b.subsOf T).Nodup

theorem Bus.WF.of_subs_eq {b b' : Bus} (h : b.WF) (hs : b'.subs = b.subs) : b'.WF := by
  unfold Bus.WF Bus.subsOf
  rw [hs]
  exact h

theorem Bus.log_setTopic (b : Bus) (T : Topic) (l : List Int) (T' : Topic) :
    ({ b with topics := upsert b.topics T l } : Bus).log T' = if T = T' then l else b.log T' :=
  agetD_upsert ..

theorem Bus.Effect.publish (rank : Topic → Nat) (b : Bus) (T : Topic) (v : Int)
    (hnd : (b.subsOf T).Nodup) :
    Bus.Effect rank (rank T) b
      (({ b with topics := upsert b.topics T (b.log T ++ [v]) } : Bus).addRecv
        ((b.subsOf T).map (·, T, v))) := by
  refine ⟨rfl, fun T' => ⟨if T = T' then [v] else [], ?_,
    fun hlt => if_neg (fun e => Nat.lt_irrefl _ (e ▸ hlt)), fun k => ?_⟩⟩
  · rw [Bus.addRecv_log, Bus.log_setTopic]
    split <;> simp [*]
  · rw [Bus.received_addRecv, recvOf_map_cid _ _ _ _ _ hnd]
    show b.received k T' ++ _ = _
    by_cases hT : T = T' <;> simp [hT]

theorem Bus.Effect.cons {rank r} {b b₁ b₂ : Bus} {e : Cid × Topic × Int} {es : List (Cid × Topic × Int)}
    (h₁ : Bus.Effect rank r (b.addRecv [e]) b₁) (h₂ : Bus.Effect rank r (b₁.addRecv es) b₂)
    (hes : ∀ e ∈ es, rank e.2.1 < r) : Bus.Effect rank r (b.addRecv (e :: es)) b₂ := by
  have h₃ : Bus.Effect rank r (b.addRecv (e :: es)) (b₁.addRecv es) := by
    simpa [Bus.addRecv] using h₁.addRecv es hes
  exact h₃.trans h₂

section Mutual
variable {h : Handler} {rank : Topic → Nat}

theorem Bus.effect_block (hstrat : Stratified h rank) :
    (∀ n b T v, b.WF → Bus.Effect rank (rank T) b (Bus.push h n b T v)) ∧
    (∀ n T v ks b, b.WF →
      Bus.Effect rank (rank T + 1) (b.addRecv (ks.map (·, T, v))) (Bus.deliverAll h n T v ks b)) ∧
    (∀ n b k T v, b.WF →
      Bus.Effect rank (rank T + 1) (b.addRecv [(k, T, v)]) (Bus.deliver h n b k T v)) ∧
    (∀ n ps b, b.WF → ∀ r, (∀ p ∈ ps, r ≤ rank p.1) → Bus.Effect rank r b (Bus.pushAll h n ps b)) := by
  apply Bus.push.mutual_induct
  · intro b T v _
    rw [Bus.push.eq_1]
    exact .refl ..
  · intro n b T v b₁ ih hwf
    rw [Bus.push.eq_2]
    exact (Bus.Effect.publish rank b T v (hwf T)).trans ((ih hwf).mono (Nat.le_succ _))
  · intro n T v b _
    rw [Bus.deliverAll.eq_1, List.map_nil, Bus.addRecv_nil]
    exact .refl ..
  · intro n T v k ks b ih₁ ih₂ hwf
    rw [Bus.deliverAll.eq_2]
    exact (ih₁ hwf).cons (ih₂ (hwf.of_subs_eq (ih₁ hwf).subs))
      (List.forall_mem_map.mpr fun _ _ => Nat.lt_succ_self _)
  · intro n b k T v b' ih hwf
    rw [Bus.deliver.eq_1]
    exact ih hwf _ (fun p hp => hstrat k T v p.1 p.2 hp)
  · intro n b _ r _
    rw [Bus.pushAll.eq_1]
    exact .refl ..
  · intro ps b hps _ r _
    rw [Bus.pushAll.eq_2 h ps b hps]
    exact .refl ..
  · intro n T v rest b ih₁ ih₂ hwf r hr
    rw [Bus.pushAll.eq_3]
    exact ((ih₁ hwf).mono (hr _ List.mem_cons_self)).trans
      (ih₂ (hwf.of_subs_eq (ih₁ hwf).subs) r (fun p hp => hr p (List.mem_cons_of_mem _ hp)))

theorem Bus.replay_effect (hstrat : Stratified h rank) (n : Nat) (k : Cid) (T : Topic) (vs : List Int)
    (b : Bus) (hwf : b.WF) :
    Bus.Effect rank (rank T + 1) (b.addRecv (vs.map (k, T, ·))) (Bus.replay h n k T vs b) := by
  induction vs generalizing b with
  | nil =>
    rw [Bus.replay, List.map_nil, Bus.addRecv_nil]
    exact .refl ..
  | cons v vs ih =>
    have h₁ := (Bus.effect_block hstrat).2.2.1 n b k T v hwf
    exact h₁.cons (ih _ (hwf.of_subs_eq h₁.subs)) (List.forall_mem_map.mpr fun _ _ => Nat.lt_succ_self _)

end Mutual

def Bus.Inv (b : Bus) : Prop :=
  ∀ k T, b.received k T = if k ∈ b.subsOf T then b.log T else []

theorem Bus.Effect.inv {rank r b b'} (h : Bus.Effect rank r b b') (hi : b.Inv) : b'.Inv := by
  intro k T
  obtain ⟨s, hl, _, hk⟩ := h.eff T
  rw [hk, h.subsOf, hl, hi k T]
  split <;> simp

theorem subscribedTopics_append (xs ys : List BusOp) (k : Cid) :
    subscribedTopics (xs ++ ys) k = subscribedTopics xs k ++ subscribedTopics ys k := by
  simp [subscribedTopics]

theorem subscribedTopics_subscribe (k' : Cid) (Ts : List Topic) (xs : List BusOp) (k : Cid) :
    subscribedTopics (.subscribe k' Ts :: xs) k =
      (if k' = k then Ts else []) ++ subscribedTopics xs k := by
  simp [subscribedTopics]

theorem subscribedTopics_produce (T : Topic) (v : Int) (xs : List BusOp) (k : Cid) :
    subscribedTopics (.produce T v :: xs) k = subscribedTopics xs k := by
  simp [subscribedTopics]

section Fold
variable {h : Handler} {rank : Topic → Nat}

theorem Bus.subscribe_one (hstrat : Stratified h rank) (n : Nat) (k : Cid) (T : Topic) (b : Bus)
    (hinv : b.Inv) (hwf : b.WF) (hk : k ∉ b.subsOf T) :
    let b' := Bus.replay h n k T (b.log T) { b with subs := upsert b.subs T (sinsert (b.subsOf T) k) }
    b'.Inv ∧ b'.WF ∧ ∀ T', b'.subsOf T' = if T = T' then sinsert (b.subsOf T) k else b.subsOf T' := by
  let b₁ : Bus := { b with subs := upsert b.subs T (sinsert (b.subsOf T) k) }
  have hsub : ∀ T', b₁.subsOf T' = if T = T' then sinsert (b.subsOf T) k else b.subsOf T' :=
    fun T' => agetD_upsert ..
  have hwf₁ : b₁.WF := fun T' => by
    rw [hsub]
    split
    · exact nodup_sinsert (hwf T)
    · exact hwf T'
  have hstep := Bus.replay_effect hstrat n k T (b.log T) b₁ hwf₁
  refine ⟨hstep.inv fun k' T' => ?_, hwf₁.of_subs_eq hstep.subs,
    fun T' => (hstep.subsOf T').trans (hsub T')⟩
  rw [Bus.received_addRecv, recvOf_map_val, Bus.addRecv_subsOf, hsub]
  show b.received k' T' ++ _ = if _ then b.log T' else []
  rw [hinv k' T']
  by_cases hT : T = T'
  · subst hT
    by_cases hk' : k = k'
    · subst hk'
      simp [hk, mem_sinsert]
    · simp [hk', Ne.symm hk', mem_sinsert]
  · simp [hT]

theorem Bus.subscribe_inv (hstrat : Stratified h rank) (n : Nat) (k : Cid) (Ts : List Topic)
    (b : Bus) (hinv : b.Inv) (hwf : b.WF) (hnd : Ts.Nodup) (hnew : ∀ T ∈ Ts, k ∉ b.subsOf T) :
    (Bus.subscribe h n k Ts b).Inv ∧ (Bus.subscribe h n k Ts b).WF ∧
      ∀ k' T, k' ∈ (Bus.subscribe h n k Ts b).subsOf T → k' ∈ b.subsOf T ∨ (k' = k ∧ T ∈ Ts) := by
  induction Ts generalizing b with
  | nil => exact ⟨hinv, hwf, fun _ _ hk => Or.inl hk⟩
  | cons T Ts ih =>
    rw [List.nodup_cons] at hnd
    obtain ⟨hinv₁, hwf₁, hsub⟩ := Bus.subscribe_one hstrat n k T b hinv hwf (hnew T List.mem_cons_self)
    obtain ⟨r₁, r₂, r₃⟩ := ih _ hinv₁ hwf₁ hnd.2 (fun T' hT' => by
      rw [hsub, if_neg (fun e : T = T' => hnd.1 (e ▸ hT'))]
      exact hnew T' (List.mem_cons_of_mem _ hT'))
    refine ⟨r₁, r₂, fun k' T' hk' => ?_⟩
    rcases r₃ k' T' hk' with hk'' | ⟨rfl, hT'⟩
    · rw [hsub] at hk''
      split at hk''
      · next hTT =>
        subst hTT
        exact (mem_sinsert.mp hk'').imp_right (⟨·, List.mem_cons_self⟩)
      · exact Or.inl hk''
    · exact Or.inr ⟨rfl, List.mem_cons_of_mem _ hT'⟩

theorem Bus.fold_inv (hstrat : Stratified h rank) (n : Nat) (ops : List BusOp) (b : Bus)
    (honce : SubscribeOnce ops) (hinv : b.Inv) (hwf : b.WF)
    (hnew : ∀ k T, k ∈ b.subsOf T → T ∉ subscribedTopics ops k) :
    (ops.foldl (Bus.apply h n) b).Inv := by
  induction ops generalizing b with
  | nil => exact hinv
  | cons op ops ih =>
    cases op with
    | produce T v =>
      have hstep := (Bus.effect_block hstrat).1 n b T v hwf
      refine ih _ (fun k => ?_) (hstep.inv hinv) (hwf.of_subs_eq hstep.subs) (fun k T' hk => ?_)
      · exact subscribedTopics_produce T v ops k ▸ honce k
      · rw [← subscribedTopics_produce T v ops k]
        exact hnew k T' (hstep.subsOf T' ▸ hk)
    | subscribe k Ts =>
      have hsplit := subscribedTopics_subscribe k Ts ops
      have hnd := honce k
      rw [hsplit, if_pos rfl, List.nodup_append] at hnd
      obtain ⟨r₁, r₂, r₃⟩ := Bus.subscribe_inv hstrat n k Ts b hinv hwf hnd.1 (fun T hT hk =>
        hnew k T hk (by rw [hsplit, if_pos rfl]; exact List.mem_append_left _ hT))
      refine ih _ (fun k' => ?_) r₁ r₂ (fun k' T hk' hT => ?_)
      · have := honce k'
        rw [hsplit, List.nodup_append] at this
        exact this.2.1
      · rcases r₃ k' T hk' with hb | ⟨rfl, hTs⟩
        · exact hnew k' T hb (by rw [hsplit]; exact List.mem_append_right _ hT)
        · exact hnd.2.2 T hTs T hT rfl

theorem Bus.inv_of_history (hstrat : Stratified h rank) {ops : List BusOp} (honce : SubscribeOnce ops)
    (n : Nat) : (ops.foldl (Bus.apply h n) {}).Inv :=
  Bus.fold_inv hstrat n ops {} honce (fun _ _ => rfl) (fun _ => List.nodup_nil)
    (fun _ _ hk => nomatch hk)

end Fold

section History
variable {h : Handler} {n : Nat} {P : Bus → Prop}

theorem Bus.subscribe_preserves (hsubs : ∀ b s, P b → P { b with subs := s })
    (hdel : ∀ b k T v, P b → P (Bus.deliver h n b k T v)) (k : Cid) (Ts : List Topic) (b : Bus)
    (hb : P b) : P (Bus.subscribe h n k Ts b) := by
  have hreplay : ∀ T vs b, P b → P (Bus.replay h n k T vs b) := by
    intro T vs
    induction vs with
    | nil => exact fun _ hb => hb
    | cons v vs ih => exact fun b hb => ih _ (hdel b k T v hb)
  induction Ts generalizing b with
  | nil => exact hb
  | cons T Ts ih => exact ih _ (hreplay T _ _ (hsubs b _ hb))

theorem Bus.fold_preserves (hsubs : ∀ b s, P b → P { b with subs := s })
    (hdel : ∀ b k T v, P b → P (Bus.deliver h n b k T v))
    (hpush : ∀ b T v, P b → P (Bus.push h n b T v)) (ops : List BusOp) (b : Bus) (hb : P b) :
    P (ops.foldl (Bus.apply h n) b) := by
  refine foldl_inv P _ ops (fun op _ b hb => ?_) b hb
  cases op with
  | subscribe k Ts => exact Bus.subscribe_preserves hsubs hdel k Ts b hb
  | produce T v => exact hpush b T v hb

end History

section NoHandlers

abbrev noHandler : Handler := fun _ _ _ => []

theorem deliver_noHandler (n : Nat) (b : Bus) (k : Cid) (T : Topic) (v : Int) :
    Bus.deliver noHandler n b k T v = b.addRecv [(k, T, v)] := by
  rw [Bus.deliver.eq_1, Bus.pushAll.eq_1]; rfl

theorem deliverAll_noHandler_topics (n : Nat) (T : Topic) (v : Int) (ks : List Cid) (b : Bus) :
    (Bus.deliverAll noHandler n T v ks b).topics = b.topics := by
  induction ks generalizing b with
  | nil => rw [Bus.deliverAll.eq_1]
  | cons k ks ih => rw [Bus.deliverAll.eq_2, ih, deliver_noHandler]; rfl

theorem subscribe_noHandler_topics (n : Nat) (k : Cid) (Ts : List Topic) (b : Bus) :
    (Bus.subscribe noHandler n k Ts b).topics = b.topics :=
  Bus.subscribe_preserves (P := fun b' => b'.topics = b.topics) (fun _ _ hb => hb)
    (fun b' k T v hb => by rw [deliver_noHandler]; exact hb) k Ts b rfl

theorem push_noHandler_log (n : Nat) (b : Bus) (T : Topic) (v : Int) (T' : Topic) :
    (Bus.push noHandler (n + 1) b T v).log T' = if T = T' then b.log T ++ [v] else b.log T' := by
  rw [Bus.push.eq_2]
  unfold Bus.log
  rw [deliverAll_noHandler_topics]
  exact agetD_upsert ..

theorem fold_noHandler_log (ops : List BusOp) (n : Nat) (b : Bus) (T : Topic) :
    (ops.foldl (Bus.apply noHandler (n + 1)) b).log T =
      b.log T ++ ops.filterMap (fun op => match op with
        | .produce T' v => if T' = T then some v else none
        | .subscribe _ _ => none) := by
  induction ops generalizing b with
  | nil => simp
  | cons op ops ih =>
    rw [List.foldl_cons, ih]
    cases op with
    | produce T' v =>
      rw [show Bus.apply noHandler (n + 1) b (.produce T' v) = Bus.push noHandler (n + 1) b T' v
        from rfl, push_noHandler_log]
      by_cases hT : T' = T
      · subst hT; simp
      · simp [hT]
    | subscribe k Ts =>
      rw [show Bus.apply noHandler (n + 1) b (.subscribe k Ts) = Bus.subscribe noHandler (n + 1) k Ts b
        from rfl]
      unfold Bus.log
      rw [subscribe_noHandler_topics]
      simp

end NoHandlers

structure Bus.Le (b b' : Bus) : Prop where
  subs : b'.subs = b.subs
  logs : ∀ T x, x ∈ b.log T → x ∈ b'.log T

theorem Bus.Le.refl (b : Bus) : Bus.Le b b := ⟨rfl, fun _ _ hx => hx⟩

theorem Bus.Le.trans {b b' b'' : Bus} (h₁ : Bus.Le b b') (h₂ : Bus.Le b' b'') : Bus.Le b b'' :=
  ⟨h₂.subs.trans h₁.subs, fun T x hx => h₂.logs T x (h₁.logs T x hx)⟩

theorem Bus.le_setTopic (b : Bus) (T : Topic) (v : Int) :
    Bus.Le b { b with topics := upsert b.topics T (b.log T ++ [v]) } := by
  refine ⟨rfl, fun T' x hx => ?_⟩
  rw [Bus.log_setTopic]
  split
  · next hT =>
    subst hT
    exact List.mem_append_left _ hx
  · exact hx

section LogsGrow
variable {h : Handler}

theorem Bus.le_block :
    (∀ n b T v, Bus.Le b (Bus.push h n b T v)) ∧
    (∀ n T v ks b, Bus.Le b (Bus.deliverAll h n T v ks b)) ∧
    (∀ n b k T v, Bus.Le b (Bus.deliver h n b k T v)) ∧
    (∀ n ps b, Bus.Le b (Bus.pushAll h n ps b)) := by
  apply Bus.push.mutual_induct
  · intro b T v
    rw [Bus.push.eq_1]
    exact .refl b
  · intro n b T v b₁ ih
    rw [Bus.push.eq_2]
    exact (Bus.le_setTopic b T v).trans ih
  · intro n T v b
    rw [Bus.deliverAll.eq_1]
    exact .refl b
  · intro n T v k ks b ih₁ ih₂
    rw [Bus.deliverAll.eq_2]
    exact ih₁.trans ih₂
  · intro n b k T v b' ih
    rw [Bus.deliver.eq_1]
    exact ⟨ih.subs, ih.logs⟩
  · intro n b
    rw [Bus.pushAll.eq_1]
    exact .refl b
  · intro ps b hps
    rw [Bus.pushAll.eq_2 h ps b hps]
    exact .refl b
  · intro n T v rest b ih₁ ih₂
    rw [Bus.pushAll.eq_3]
    exact ih₁.trans ih₂

theorem Bus.push_succ_mem (n : Nat) (b : Bus) (T : Topic) (v : Int) :
    v ∈ (Bus.push h (n + 1) b T v).log T := by
  rw [Bus.push.eq_2]
  refine ((Bus.le_block (h := h)).2.1 n T v _ _).logs T v ?_
  rw [Bus.log_setTopic, if_pos rfl]
  exact List.mem_append_right _ (List.mem_singleton_self v)

theorem Bus.fold_produced_logged (n : Nat) (ops : List BusOp) (b : Bus) (T : Topic) (v : Int)
    (hp : BusOp.produce T v ∈ ops) : v ∈ (ops.foldl (Bus.apply h (n + 1)) b).log T := by
  induction ops generalizing b with
  | nil => cases hp
  | cons op ops ih =>
    rw [List.foldl_cons]
    rcases List.mem_cons.mp hp with rfl | hp
    · -- once logged, `v` stays: logs only grow
      exact Bus.fold_preserves (P := fun b => v ∈ b.log T) (fun _ _ hb => hb)
        (fun b k T' v' => ((Bus.le_block (h := h)).2.2.1 _ b k T' v').logs T v)
        (fun b T' v' => ((Bus.le_block (h := h)).1 _ b T' v').logs T v) ops _ (Bus.push_succ_mem n b T v)
    · exact ih _ hp

end LogsGrow

def Bus.Closed (h : Handler) (b : Bus) : Prop :=
  ∀ e ∈ b.recv, ∀ p ∈ h e.1 e.2.1 e.2.2, p.2 ∈ b.log p.1

structure Bus.Grow (h : Handler) (b b' : Bus) : Prop where
  le : Bus.Le b b'
  recv : ∀ e ∈ b'.recv, e ∈ b.recv ∨ ∀ p ∈ h e.1 e.2.1 e.2.2, p.2 ∈ b'.log p.1

theorem Bus.Grow.refl (h : Handler) (b : Bus) : Bus.Grow h b b :=
  ⟨Bus.Le.refl b, fun _ he => Or.inl he⟩

theorem Bus.Grow.trans {h : Handler} {b b' b'' : Bus} (h₁ : Bus.Grow h b b')
    (h₂ : Bus.Grow h b' b'') : Bus.Grow h b b'' := by
  refine ⟨h₁.le.trans h₂.le, fun e he => ?_⟩
  rcases h₂.recv e he with he' | hc
  · rcases h₁.recv e he' with he'' | hc
    · exact Or.inl he''
    · exact Or.inr (fun p hp => h₂.le.logs _ _ (hc p hp))
  · exact Or.inr hc

theorem Bus.Grow.closed {h : Handler} {b b' : Bus} (hg : Bus.Grow h b b') (hc : b.Closed h) :
    b'.Closed h := by
  intro e he p hp
  rcases hg.recv e he with he' | hc'
  · exact hg.le.logs _ _ (hc e he' p hp)
  · exact hc' p hp

section Logged
variable {h : Handler} {rank : Topic → Nat} {N : Nat}

/-- a push to `T` with fuel `n` is deep enough when `2 * (N - rank T) ≤ n`: handlers publish to
strictly larger ranks and ranks are below `N`, so at most `N - rank T` pushes nest below a push to
`T`, and every level costs two units of fuel. -/
theorem Bus.grow_block (hstrat : Stratified h rank) (hN : ∀ T, rank T < N) :
    (∀ n b T v, 2 * N ≤ 2 * rank T + n → Bus.Grow h b (Bus.push h n b T v)) ∧
    (∀ n T v ks b, 2 * N ≤ 2 * rank T + n + 1 → Bus.Grow h b (Bus.deliverAll h n T v ks b)) ∧
    (∀ n b k T v, 2 * N ≤ 2 * rank T + n + 1 → Bus.Grow h b (Bus.deliver h n b k T v)) ∧
    (∀ n ps b, (∀ p ∈ ps, 2 * N < 2 * rank p.1 + n) →
      Bus.Grow h b (Bus.pushAll h n ps b) ∧ ∀ p ∈ ps, p.2 ∈ (Bus.pushAll h n ps b).log p.1) := by
  -- ranks are below `N`, so these conditions fail without fuel
  have hlt : ∀ T, ¬ 2 * N ≤ 2 * rank T := fun T =>
    Nat.not_le.mpr ((Nat.mul_lt_mul_left Nat.two_pos).mpr (hN T))
  apply Bus.push.mutual_induct
  · intro b T v hf
    exact absurd hf (hlt T)
  · intro n b T v b₁ ih hf
    rw [Bus.push.eq_2]
    exact Bus.Grow.trans ⟨Bus.le_setTopic b T v, fun _ he => Or.inl he⟩ (ih hf)
  · intro n T v b _
    rw [Bus.deliverAll.eq_1]
    exact .refl h b
  · intro n T v k ks b ih₁ ih₂ hf
    rw [Bus.deliverAll.eq_2]
    exact (ih₁ hf).trans (ih₂ hf)
  · intro n b k T v b' ih hf
    rw [Bus.deliver.eq_1]
    -- what the handler publishes goes to topics of larger rank, so fuel `n` is enough for it
    obtain ⟨hg, hall⟩ := ih fun p hp => by
      have hr := hstrat k T v p.1 p.2 hp
      omega
    refine ⟨⟨hg.le.subs, hg.le.logs⟩, fun e he => ?_⟩
    rcases hg.recv e he with he' | hc
    · rcases List.mem_append.mp he' with he' | he'
      · exact Or.inl he'
      · cases List.mem_singleton.mp he'
        exact Or.inr hall
    · exact Or.inr hc
  · intro n b _
    rw [Bus.pushAll.eq_1]
    exact ⟨.refl h b, fun _ hp => nomatch hp⟩
  · intro ps b hne hps
    cases ps with
    | nil => exact absurd rfl hne
    | cons p ps => exact absurd (Nat.le_of_lt (hps p List.mem_cons_self)) (hlt p.1)
  · intro n T v rest b ih₁ ih₂ hps
    rw [Bus.pushAll.eq_3]
    have hT : 2 * N ≤ 2 * rank T + n := Nat.le_of_lt_succ (hps (T, v) List.mem_cons_self)
    obtain ⟨h₂, hall⟩ := ih₂ (fun p hp => hps p (List.mem_cons_of_mem _ hp))
    refine ⟨(ih₁ hT).trans h₂, fun p hp => ?_⟩
    rcases List.mem_cons.mp hp with rfl | hp
    · cases n with
      | zero => exact absurd hT (hlt T)
      | succ m => exact h₂.le.logs _ _ (Bus.push_succ_mem m b T v)
    · exact hall p hp

theorem Bus.closed_of_history (hstrat : Stratified h rank) (hN : ∀ T, rank T < N) (n : Nat)
    (hf : 2 * N ≤ n) (ops : List BusOp) : (ops.foldl (Bus.apply h n) {}).Closed h :=
  have hf' : ∀ T, 2 * N ≤ 2 * rank T + n := fun _ => Nat.le_trans hf (Nat.le_add_left ..)
  Bus.fold_preserves (P := Bus.Closed h) (fun _ _ hb => hb)
    (fun b k T v => ((Bus.grow_block hstrat hN).2.2.1 n b k T v (Nat.le_succ_of_le (hf' T))).closed)
    (fun b T v => ((Bus.grow_block hstrat hN).1 n b T v (hf' T)).closed) ops {}
    (fun _ he => nomatch he)

end Logged

end Tickit
