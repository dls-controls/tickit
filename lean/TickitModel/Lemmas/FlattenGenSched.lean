/-
C09: the schedulers' bookkeeping (wakeups, `firstDone`, interrupts) after an arbitrary tick of a
nested configuration: the vocabulary (`WakeRes` is in `Lemmas/FlattenEqs.lean`), the loop invariant
about the bookkeeping through one step, and the post-condition `SchedPost` of a tick of one level,
by induction on the fuel of `tickLevel`.
-/
import TickitModel.Lemmas.FlattenGenLevel

namespace Tickit

/-- what is fixed during one tick of the master, about the schedulers.  `Due`: the component's own
wakeup entry is served (removed) in this tick; `Root`: it is a root of its level's tick (due,
interrupted, or initial tick).  (`LvlOK`, `SchedPost`, `ChildOK` and `GenSched` have one such
parameter, which they call `Root` and for which every user passes `Due`: see `WakeRes`.) -/
structure SchedCtx (S : Static) (σ₀ : SimSt) (t : SimTime) (Root Due : Comp → Prop) : Prop where
  due_sub : ∀ c, Due c → Root c
  due_up : ∀ c P, alookup S.parent c = some P → P ≠ "" → Due c → Due P
  due_root : ∀ s c, S.isSys s = true → c ∈ nestedDue (σ₀.sched s).wake t → Due c
  root_due : ∀ s c, S.isSys s = true → Due c →
    c ∈ nestedDue (σ₀.sched s).wake t ∨ alookup (σ₀.sched s).wake c = none
  keys₀ : ∀ L c, c ∈ akeys (σ₀.sched L).wake → alookup S.parent c = some L
  unique₀ : ∀ L, UniqueKeys (σ₀.sched L).wake
  min₀ : ∀ s P, S.isSys s = true → alookup S.parent s = some P → ¬ Due s →
    alookup (σ₀.sched P).wake s = (firstWakeups (σ₀.sched s).wake).2
  started₀ : ∀ s, S.isSys s = true → ¬ Root s →
    (σ₀.sched s).firstDone = true ∧ (σ₀.sched s).interrupts = []

/-- the scheduler of level `s` is in order after the tick; `mobs` are the observations of the tick -/
structure LvlOK (S : Static) (orc : Oracle) (σ₀ : SimSt) (Root : Comp → Prop) (s : Comp)
    (st : SimSt) (mobs : List Obs) : Prop where
  unique : UniqueKeys (st.sched s).wake
  keys : ∀ c, c ∈ akeys (st.sched s).wake → alookup S.parent c = some s
  dev : ∀ d, S.isDevice d → alookup S.parent d = some s →
    WakeRes S orc σ₀ Root s d (d ∈ mobs.map Obs.comp) (alookup (st.sched s).wake d)
  sys : ∀ c, S.isSys c = true → alookup S.parent c = some s →
    alookup (st.sched s).wake c = (firstWakeups (st.sched c).wake).2
  persist : ∀ c, ¬ Root c → (alookup (σ₀.sched s).wake c).isSome = true →
    (alookup (st.sched s).wake c).isSome = true

theorem LvlOK.transport {S : Static} {orc : Oracle} {σ₀ : SimSt} {Root : Comp → Prop} {s : Comp}
    {st st' : SimSt} {mobs mobs' : List Obs} (h : LvlOK S orc σ₀ Root s st mobs)
    (hs : st'.sched s = st.sched s)
    (hc : ∀ c, S.isSys c = true → alookup S.parent c = some s → st'.sched c = st.sched c)
    (hm : ∀ d, S.isDevice d → alookup S.parent d = some s →
      (d ∈ mobs.map Obs.comp ↔ d ∈ mobs'.map Obs.comp)) :
    LvlOK S orc σ₀ Root s st' mobs' :=
  { unique := by rw [hs]; exact h.unique
    keys := by rw [hs]; exact h.keys
    dev := by
      intro d hd hp
      rw [hs]
      exact (h.dev d hd hp).congr (hm d hd hp)
    sys := by
      intro c hcs hp
      rw [hs, hc c hcs hp]
      exact h.sys c hcs hp
    persist := by rw [hs]; exact h.persist }

theorem unticked_sched {S : Static} (hS : S.Valid) {orc : Oracle} {σ₀ : SimSt} {t : SimTime}
    {Root Due : Comp → Prop} (ctx : TickCtx S σ₀ t Root) (sctx : SchedCtx S σ₀ t Root Due) {c : Comp}
    (hnr : ¬ Root c) {st : SimSt} {mobs : List Obs}
    (hsame : ∀ s, S.Own c s → st.sched s = σ₀.sched s)
    (hunobs : ∀ x, S.Own c x → x ∉ mobs.map Obs.comp) :
    ∀ s, S.Own c s → S.isSys s = true →
      LvlOK S orc σ₀ Due s st mobs ∧
        ((st.sched s).firstDone = true ∧ (st.sched s).interrupts = []) := by
  intro s hs hsys
  have hsne : s ≠ "" := hS.sys_ne_master hsys
  have hchild : ∀ x, alookup S.parent x = some s → S.Own c x := fun _ => hs.of_parent hsne
  have hnrs : ¬ Root s := fun hr => hnr (ctx.root_up_own hs hr)
  refine ⟨?_, by rw [hsame s hs]; exact sctx.started₀ s hsys hnrs⟩
  exact
    { unique := by rw [hsame s hs]; exact sctx.unique₀ s
      keys := by rw [hsame s hs]; exact sctx.keys₀ s
      dev := by
        intro d _ hp
        have hod := hchild d hp
        have hnrd : ¬ Root d := fun hr => hnr (ctx.root_up_own hod hr)
        refine ⟨fun hin => absurd hin (hunobs d hod),
          fun _ => ⟨fun hr => absurd (sctx.due_sub d hr) hnrd, fun _ => ?_⟩⟩
        rw [hsame s hs]
      sys := by
        intro c' hcs hp
        rw [hsame s hs, hsame c' (hchild c' hp)]
        exact sctx.min₀ c' s hcs hp
          (fun hd => hnr (ctx.root_up_own (hchild c' hp) (sctx.due_sub c' hd)))
      persist := by
        intro c' _ h
        rw [hsame s hs]; exact h }

/-- what the caller guarantees about the schedulers when it starts the tick of level `lvl`; `mobs`:
the observations of the master tick so far.  The level's own scheduler has served (removed) exactly
the due entries (`own_wake`; by the master, or by `sysPre`: `SchedPre.sys`) and is otherwise that of `σ₀`. -/
structure SchedPre (S : Static) (σ₀ : SimSt) (Root Due : Comp → Prop) (lvl : Comp) (L : Level)
    (roots : List Comp) (st : SimSt) (mobs : List Obs) : Prop where
  hroots : ∀ c ∈ L.wiring.components, c ≠ pseudoExternal → (c ∈ roots ↔ Root c)
  fresh_obs : ∀ x, S.Below lvl x → x ∉ mobs.map Obs.comp
  fresh_count : ∀ x, S.Below lvl x → agetD st.count x 0 = agetD σ₀.count x 0
  fresh_sched : ∀ s, S.Below lvl s → st.sched s = σ₀.sched s
  own_wake : ∀ c, (Due c → alookup (st.sched lvl).wake c = none) ∧
    (¬ Due c → alookup (st.sched lvl).wake c = alookup (σ₀.sched lvl).wake c)
  own_unique : UniqueKeys (st.sched lvl).wake
  own_keys : ∀ c, c ∈ akeys (st.sched lvl).wake → alookup S.parent c = some lvl

/-- what `SchedPre` says of the level's own scheduler, once it has served (removed) the entries `cs` -/
theorem served_wakeups {S : Static} {lvl : Comp} {w₀ : Wakeups} (U : UniqueKeys w₀)
    (K : ∀ c, c ∈ akeys w₀ → alookup S.parent c = some lvl) {cs : List Comp} {Due : Comp → Prop}
    (hdue : ∀ c, c ∈ cs → Due c) (hserved : ∀ c, Due c → c ∈ cs ∨ alookup w₀ c = none) :
    (∀ c, (Due c → alookup (delWakeups w₀ cs) c = none) ∧
      (¬ Due c → alookup (delWakeups w₀ cs) c = alookup w₀ c)) ∧
    UniqueKeys (delWakeups w₀ cs) ∧
    ∀ c, c ∈ akeys (delWakeups w₀ cs) → alookup S.parent c = some lvl := by
  refine ⟨fun c => ?_, delWakeups_unique _ U _,
    fun c hk => K c (((delWakeups_sublist w₀ cs).map _).subset hk)⟩
  rw [delWakeups_lookup _ U]
  refine ⟨fun hd => ?_, fun hnd => if_neg fun hm => hnd (hdue c hm)⟩
  split
  · rfl
  · rename_i hm
    exact (hserved c hd).resolve_left hm

/-- `own_same`: the tick of level `lvl` does not touch the level's own `firstDone` and `interrupts`
(its caller does) -/
structure SchedPost (S : Static) (orc : Oracle) (σ₀ : SimSt) (Root : Comp → Prop) (lvl : Comp)
    (st st' : SimSt) (mobs' : List Obs) : Prop where
  lvl_ok : LvlOK S orc σ₀ Root lvl st' mobs'
  below_ok : ∀ s, S.isSys s = true → S.Below lvl s →
    LvlOK S orc σ₀ Root s st' mobs' ∧
      ((st'.sched s).firstDone = true ∧ (st'.sched s).interrupts = [])
  own_same : (st'.sched lvl).firstDone = (st.sched lvl).firstDone ∧
    (st'.sched lvl).interrupts = (st.sched lvl).interrupts

def SchedIH (S : Static) (orc : Oracle) (σ₀ : SimSt) (t : SimTime) (Root Due : Comp → Prop)
    (fuel : Nat) : Prop :=
  ∀ lvl L roots inCh st st' out mobs new,
    tickLevel S orc fuel lvl t roots inCh st = .ok (st', out) → S.level lvl = some L →
    st'.obs = st.obs ++ new → SchedPre S σ₀ Root Due lvl L roots st mobs →
    SchedPost S orc σ₀ Due lvl st st' (mobs ++ new)

theorem sys_entry_none {S : Static} (hS : S.Valid) {orc : Oracle} {σ₀ : SimSt} {t : SimTime}
    {Root Due : Comp → Prop} (sctx : SchedCtx S σ₀ t Root Due) {c P : Comp}
    (hsys : S.isSys c = true) (hpar : alookup S.parent c = some P) {st2 : SimSt} {mobs : List Obs}
    (hlvl : LvlOK S orc σ₀ Due c st2 mobs)
    (hnone : (firstWakeups (st2.sched c).wake).2 = none) (hnr : ¬ Due c) :
    alookup (σ₀.sched P).wake c = none := by
  rw [sctx.min₀ c P hsys hpar hnr]
  cases hm : (firstWakeups (σ₀.sched c).wake).2 with
  | none => rfl
  | some m =>
    exfalso
    obtain ⟨⟨c', hc'⟩, _⟩ := system_callback_is_min _ (sctx.unique₀ c) m hm
    have hpc' := sctx.keys₀ c c' (mem_akeys_of_alookup_eq_some hc')
    have hcne : c ≠ "" := hS.child_ne_master hpar
    have hnr' : ¬ Due c' := fun hr => hnr (sctx.due_up c' c hpc' hcne hr)
    have := hlvl.persist c' hnr' (by rw [hc']; rfl)
    rw [firstWakeups_none] at hnone
    rw [hnone] at this
    simp at this

/-- what is known about a closed component `c` of level `L` -/
structure ChildOK (S : Static) (orc : Oracle) (σ₀ : SimSt) (Root : Comp → Prop) (L : Level)
    (st : SimSt) (mobs : List Obs) (c : Comp) : Prop where
  dev : S.isDevice c → WakeRes S orc σ₀ Root L.name c (c ∈ mobs.map Obs.comp)
    (alookup (st.sched L.name).wake c)
  sys : S.isSys c = true → alookup (st.sched L.name).wake c = (firstWakeups (st.sched c).wake).2
  below : ∀ s, S.Own c s → S.isSys s = true → LvlOK S orc σ₀ Root s st mobs ∧
    ((st.sched s).firstDone = true ∧ (st.sched s).interrupts = [])
  persist : ¬ Root c → (alookup (σ₀.sched L.name).wake c).isSome = true →
    (alookup (st.sched L.name).wake c).isSome = true

theorem ChildOK.transport {S : Static} (hS : S.Valid) {orc : Oracle} {σ₀ : SimSt}
    {Root : Comp → Prop} {L : Level} {st st' : SimSt} {mobs mobs' : List Obs} {c : Comp}
    (hc : alookup S.parent c = some L.name) (h : ChildOK S orc σ₀ Root L st mobs c)
    (hw : alookup (st'.sched L.name).wake c = alookup (st.sched L.name).wake c)
    (hs : ∀ s, S.Own c s → st'.sched s = st.sched s)
    (hm : ∀ x, S.Own c x → (x ∈ mobs.map Obs.comp ↔ x ∈ mobs'.map Obs.comp)) :
    ChildOK S orc σ₀ Root L st' mobs' c := by
  exact
    { dev := fun hd => by
        rw [hw]; exact (h.dev hd).congr (hm c (Static.Own.refl S c))
      sys := fun hsys => by
        rw [hw, hs c (Static.Own.refl S c)]; exact h.sys hsys
      below := by
        intro s hso hsys
        obtain ⟨h1, h2⟩ := h.below s hso hsys
        have hsne : s ≠ "" := hS.sys_ne_master hsys
        refine ⟨h1.transport (hs s hso) (fun c' _ hp => hs c' (hso.of_parent hsne hp))
          (fun d _ hp => hm d (hso.of_parent hsne hp)), ?_⟩
        rw [hs s hso]; exact h2
      persist := by rw [hw]; exact h.persist }

/-- invariant of `tickLoop` about the schedulers (complements `LoopInv`) -/
structure GenSched (S : Static) (orc : Oracle) (σ₀ : SimSt) (Root : Comp → Prop) (L : Level)
    (st0 : SimSt) (mobs0 : List Obs) (ls : LoopSt) (new : List Obs) : Prop where
  own_same : (ls.st.sched L.name).firstDone = (st0.sched L.name).firstDone ∧
    (ls.st.sched L.name).interrupts = (st0.sched L.name).interrupts
  own_unique : UniqueKeys (ls.st.sched L.name).wake
  own_keys : ∀ c, c ∈ akeys (ls.st.sched L.name).wake → alookup S.parent c = some L.name
  open_w : ∀ c, alookup S.parent c = some L.name → alookup ls.tk.toUpdate c ≠ none →
    alookup (ls.st.sched L.name).wake c = alookup (st0.sched L.name).wake c
  open_fresh : ∀ c, alookup S.parent c = some L.name → alookup ls.tk.toUpdate c ≠ none →
    (∀ x, S.Own c x → x ∉ (mobs0 ++ new).map Obs.comp ∧
      agetD ls.st.count x 0 = agetD σ₀.count x 0) ∧
    (∀ s, S.Own c s → ls.st.sched s = σ₀.sched s)
  closed : ∀ c, alookup S.parent c = some L.name → alookup ls.tk.toUpdate c = none →
    ChildOK S orc σ₀ Root L ls.st (mobs0 ++ new) c

theorem childOK_unticked {S : Static} (hS : S.Valid) {orc : Oracle} {σ₀ : SimSt} {t : SimTime}
    {Root Due : Comp → Prop} (ctx : TickCtx S σ₀ t Root) (sctx : SchedCtx S σ₀ t Root Due) {L : Level}
    {c : Comp} (hpar : alookup S.parent c = some L.name) (hnr : ¬ Root c) {st : SimSt}
    {mobs : List Obs}
    (hW : alookup (st.sched L.name).wake c = alookup (σ₀.sched L.name).wake c)
    (hsame : ∀ s, S.Own c s → st.sched s = σ₀.sched s)
    (hunobs : ∀ x, S.Own c x → x ∉ mobs.map Obs.comp) :
    ChildOK S orc σ₀ Due L st mobs c :=
  { dev := fun _ => ⟨fun hin => absurd hin (hunobs c (Static.Own.refl S c)),
      fun _ => ⟨fun hr => absurd (sctx.due_sub c hr) hnr, fun _ => hW⟩⟩
    sys := fun hsys => by
      rw [hW, hsame c (Static.Own.refl S c)]
      exact sctx.min₀ c L.name hsys hpar (fun hd => hnr (sctx.due_sub c hd))
    below := unticked_sched hS ctx sctx hnr hsame hunobs
    persist := fun _ h => by rw [hW]; exact h }

/-- an entry that the child does not overwrite and that is not served persists -/
theorem flt_wake_persist {val w0 w₀ ca : Option SimTime} (hWc : val = ca.orElse (fun _ => w0))
    {due : Prop} (hown : ¬ due → w0 = w₀) (hnd : ¬ due) (hsome : w₀.isSome = true) :
    val.isSome = true := by
  cases ca with
  | some w => exact hWc ▸ rfl
  | none => exact hWc ▸ hown hnd ▸ hsome

theorem SchedPre.sys {S : Static} (hS : S.Valid) {σ₀ : SimSt} {t : SimTime} {Root Due : Comp → Prop}
    (ctx : TickCtx S σ₀ t Root) (sctx : SchedCtx S σ₀ t Root Due) {c : Comp}
    (hsys : S.isSys c = true) {Lc : Level} (hLc : S.level c = some Lc) {st : SimSt} {mobs : List Obs}
    (hof : ∀ x, S.Own c x → x ∉ mobs.map Obs.comp ∧ agetD st.count x 0 = agetD σ₀.count x 0)
    (hos : ∀ s, S.Own c s → st.sched s = σ₀.sched s) :
    SchedPre S σ₀ Root Due c Lc (sysRoots S st c t) (sysPre st c t) mobs := by
  have hcne : c ≠ "" := hS.sys_ne_master hsys
  have hirr : ¬ S.Below c c := Static.Below.irrefl hS.toWF hcne
  have hsc : st.sched c = σ₀.sched c := hos c (Static.Own.refl S c)
  have hprep : ((sysPre st c t).sched c).wake =
      delWakeups (σ₀.sched c).wake (nestedDue (σ₀.sched c).wake t) := by
    rw [sysPre_sched_self, hsc]
    rfl
  obtain ⟨hw, hu, hk⟩ := served_wakeups (sctx.unique₀ c) (sctx.keys₀ c)
    (fun c' => sctx.due_root c c' hsys) (fun c' => sctx.root_due c c' hsys)
  exact
    { hroots := fun c' hc' hne' => by
        rw [sysRoots_of_level hLc, hsc]
        exact ctx.roots_sys c Lc hsys hLc c' hc' hne'
      fresh_obs := fun x hb => (hof x (Or.inr ⟨hcne, hb⟩)).1
      fresh_count := fun x hb => (hof x (Or.inr ⟨hcne, hb⟩)).2
      fresh_sched := fun s hb =>
        (sysPre_sched_ne _ _ fun h : c = s => hirr (h ▸ hb)).trans (hos s (Or.inr ⟨hcne, hb⟩))
      own_wake := hprep ▸ hw
      own_unique := hprep ▸ hu
      own_keys := hprep ▸ hk }

/-- `stW`: the state after the level has recorded the callback the component asked for; `w0`: its
entry in the level's scheduler when the level's tick began -/
theorem childOK_sys {S : Static} (hS : S.Valid) {orc : Oracle} {σ₀ : SimSt} {t : SimTime}
    {Root Due : Comp → Prop} (ctx : TickCtx S σ₀ t Root) (sctx : SchedCtx S σ₀ t Root Due) {fuel : Nat}
    (IH : SchedIH S orc σ₀ t Root Due fuel) {L : Level} {c : Comp}
    (hpar : alookup S.parent c = some L.name) {st : SimSt} {mobs : List Obs}
    (hof : ∀ x, S.Own c x → x ∉ mobs.map Obs.comp ∧ agetD st.count x 0 = agetD σ₀.count x 0)
    (hos : ∀ s, S.Own c s → st.sched s = σ₀.sched s) (hsys : S.isSys c = true)
    {ins outCh : List (Port × V)} {st' : SimSt}
    (hr : tickLevel S orc fuel c t (sysRoots S st c t) ins (sysPre st c t) = .ok (st', outCh))
    {newA : List Obs} (hobsA : st'.obs = st.obs ++ newA)
    {stW : SimSt} (hsch : ∀ s, S.Own c s → stW.sched s = st'.sched s) {w0 : Option SimTime}
    (hWc : alookup (stW.sched L.name).wake c = (sysCallAt st' c t).orElse (fun _ => w0))
    (hown_wake : (Due c → w0 = none) ∧ (¬ Due c → w0 = alookup (σ₀.sched L.name).wake c)) :
    ChildOK S orc σ₀ Due L stW (mobs ++ newA) c := by
  obtain ⟨Lc, hLc, _⟩ := tickLevel_ok_roots hr
  obtain ⟨hlvl, hbel, hsame⟩ := IH _ _ _ _ _ _ _ mobs newA hr hLc hobsA
    (SchedPre.sys hS ctx sctx hsys hLc hof hos)
  rw [sysPre_sched_self] at hsame
  have hcall : sysCallAt st' c t = (firstWakeups (st'.sched c).wake).2 := by
    unfold sysCallAt
    simp only [hsame.2, sysPreSched, List.isEmpty_nil, if_true]
  exact
    { dev := fun hd => absurd hsys (by simp [hd.2])
      sys := fun _ => by
        rw [hWc, hsch c (Static.Own.refl S c), hcall]
        cases hca : (firstWakeups (st'.sched c).wake).2 with
        | some w => rfl
        | none =>
          by_cases hr' : Due c
          · exact hown_wake.1 hr'
          · exact (hown_wake.2 hr').trans (sys_entry_none hS sctx hsys hpar hlvl hca hr')
      below := by
        intro s hso hss
        have htr := fun h : LvlOK S orc σ₀ Due s st' (mobs ++ newA) =>
          h.transport (hsch s hso) (fun c' _ hp' => hsch c' (hso.of_parent (hS.sys_ne_master hss) hp'))
            (fun _ _ _ => Iff.rfl)
        rw [hsch s hso]
        rcases hso with rfl | ⟨_, hb⟩
        · exact ⟨htr hlvl, hsame⟩
        · exact ⟨htr (hbel s hss hb).1, (hbel s hss hb).2⟩
      persist := flt_wake_persist hWc hown_wake.2 }

/-- `stW`, `w0`: as in `childOK_sys` -/
theorem AnsP.childOK {S : Static} (hS : S.Valid) {orc : Oracle} {σ₀ : SimSt} {t : SimTime}
    {Root Due : Comp → Prop} (ctx : TickCtx S σ₀ t Root) (sctx : SchedCtx S σ₀ t Root Due) {fuel : Nat}
    (IH : SchedIH S orc σ₀ t Root Due fuel) {L : Level} {d : Dispatch V}
    (hpar : alookup S.parent d.comp = some L.name) (hdt : d.time = t)
    (hskip : ∀ t', d = .skip d.comp t' → ¬ Root d.comp) {inCh : List (Port × V)} {st : SimSt}
    {mobs : List Obs}
    (hof : ∀ x, S.Own d.comp x → x ∉ mobs.map Obs.comp ∧ agetD st.count x 0 = agetD σ₀.count x 0)
    (hos : ∀ s, S.Own d.comp s → st.sched s = σ₀.sched s)
    {st' : SimSt} {ch : List (Port × V)} {ca : Option SimTime}
    (hA : AnsP S orc (fifoRel S orc fuel) L inCh st d (st', ch, ca))
    {newA : List Obs} (hobsA : st'.obs = st.obs ++ newA)
    {stW : SimSt} (hsch : ∀ s, S.Own d.comp s → stW.sched s = st'.sched s) {w0 : Option SimTime}
    (hWc : alookup (stW.sched L.name).wake d.comp = ca.orElse (fun _ => w0))
    (hown_wake : (Due d.comp → w0 = none) ∧
      (¬ Due d.comp → w0 = alookup (σ₀.sched L.name).wake d.comp)) :
    ChildOK S orc σ₀ Due L stW (mobs ++ newA) d.comp := by
  cases hA with
  | @skip c t' =>
    -- a skipped child was not ticked
    cases List.append_cancel_left ((List.append_nil _).trans hobsA)
    have hnr : ¬ Root c := hskip t' rfl
    rw [List.append_nil]
    exact childOK_unticked hS ctx sctx hpar hnr
      (hWc.trans (hown_wake.2 fun hd => hnr (sctx.due_sub c hd)))
      (fun s hs => (hsch s hs).trans (hos s hs)) (fun x hx => (hof x hx).1)
  | external h1 => exact nomatch ((flt_isMock.1 h1).2 ▸ hS.pseudo_fresh.1).symm.trans hpar
  | expose _ h2 => exact nomatch ((flt_isMock.1 h2).2 ▸ hS.pseudo_fresh.2.1).symm.trans hpar
  | sys _ _ hsys hr =>
    obtain rfl : _ = t := hdt
    exact childOK_sys hS ctx sctx IH hpar hof hos hsys hr hobsA hsch hWc hown_wake
  | @dev c _ ins resp _ _ hsys hresp _ =>
    obtain rfl : _ = t := hdt
    cases List.append_cancel_left (hobsA.symm.trans (rfl :
      (devAfter st c _ ins resp).1.obs = st.obs ++ [⟨c, _, (agetD st.devs c {}).merge ins⟩]))
    have hsr : stepResp orc σ₀ c = some resp := by
      unfold stepResp; rw [← (hof c (.refl S c)).2]; exact hresp
    exact
      { dev := fun _ => by
          refine ⟨fun _ r hr' => ?_, fun hno => absurd (by simp [Dispatch.comp]) hno⟩
          cases hsr.symm.trans hr'
          rw [hWc]
          exact ⟨fun w hw => by rw [hw]; rfl, fun hn hd => by rw [hn]; exact hown_wake.1 hd,
            fun hn hnd => by rw [hn]; exact hown_wake.2 hnd⟩
        sys := fun h' => nomatch hsys.symm.trans h'
        below := fun s hso hss => by rw [hS.toWF.own_of_not_sys hsys hso, hsys] at hss; cases hss
        persist := flt_wake_persist hWc hown_wake.2 }

theorem GenSched.step {S : Static} (hS : S.Valid) {orc : Oracle} {σ₀ : SimSt} {t : SimTime}
    {Root Due : Comp → Prop} (ctx : TickCtx S σ₀ t Root) (sctx : SchedCtx S σ₀ t Root Due) {fuel : Nat}
    (IH : SchedIH S orc σ₀ t Root Due fuel) {L : Level} (hL : L ∈ S.levels) {roots : List Comp}
    {st0 : SimSt} {mobs0 : List Obs} (hpre0 : SchedPre S σ₀ Root Due L.name L roots st0 mobs0)
    {inCh : List (Port × V)} {ls : LoopSt} {tr_ : List (Ev V)} {new_ : List Obs}
    (linv : LoopInv S L t roots st0 ls tr_ new_)
    (iv : GenSched S orc σ₀ Due L st0 mobs0 ls new_)
    {i : Nat} {d : Dispatch V} (hd : ls.pending[i]? = some d)
    {st' : SimSt} {changes : List (Port × V)} {callAt : Option SimTime}
    (hA : AnsP S orc (fifoRel S orc fuel) L inCh ls.st d (st', changes, callAt))
    {tk' : Ticker V} {ds : List (Dispatch V)}
    (hprop : ls.tk.propagate L.wiring d.comp d.time changes = .ok (tk', ds)) :
    ∃ new1, st'.obs = ls.st.obs ++ new1 ∧ GenSched S orc σ₀ Due L st0 mobs0
      ⟨tk', ls.pending.eraseIdx i ++ ds, (exposeIns L d).getD ls.outCh,
        anyWake st' L.name d.comp callAt⟩ (new_ ++ new1) := by
  have hdm : d ∈ ls.pending := List.mem_of_getElem? hd
  have hopen : alookup ls.tk.toUpdate d.comp ≠ none := by
    rw [(linv.pre.pend_flag _).1 ⟨d, hdm, rfl⟩]; nofun
  have hdc : d.comp ∈ L.wiring.components := linv.pend_comp d hdm
  have hnone := Ticker.propagate_resolved linv.pre.nodup hprop
  obtain ⟨⟨newA, hobsA, hownA⟩, hfa⟩ := hA.own hS.toWF hL hdc
  -- the level's own scheduler is not touched by the answer itself, and mock components and
  -- skipped components request no callback
  have hmock : alookup S.parent d.comp ≠ some L.name → st' = ls.st ∧ callAt = none :=
    fun hnp => hA.of_not_child hS.toWF hL hdc hnp
  have hLsame : st'.sched L.name = ls.st.sched L.name := by
    by_cases hpar : alookup S.parent d.comp = some L.name
    · exact hfa.sched L.name (hS.own_not_parent hpar)
    · rw [(hmock hpar).1]
  have hnewL : (anyWake st' L.name d.comp callAt).sched L.name =
      wakeUpd (ls.st.sched L.name) d.comp callAt := by
    rw [anyWake_sched_own, hLsame]
  have hWne : ∀ x, x ≠ d.comp → alookup ((anyWake st' L.name d.comp callAt).sched L.name).wake x =
      alookup (ls.st.sched L.name).wake x := by
    intro x hx
    rw [hnewL, wakeUpd_lookup, if_neg hx]
  have hother : ∀ c, alookup S.parent c = some L.name → c ≠ d.comp → ∀ x, S.Own c x →
      ¬ S.Own d.comp x ∧ x ∉ newA.map Obs.comp ∧
        (anyWake st' L.name d.comp callAt).sched x = ls.st.sched x := by
    intro c hc hne x hx
    have hno := hS.own_disjoint hL hc hdc hne hx
    refine ⟨hno, fun hm => ?_, (anyWake_sched_ne _ _ _
      fun h' : L.name = x => hS.own_not_parent hc (h' ▸ hx)).trans (hfa.sched x hno)⟩
    obtain ⟨o, ho, rfl⟩ := List.mem_map.1 hm
    exact hno (hownA o ho).2
  have hchild : alookup S.parent d.comp = some L.name →
      ChildOK S orc σ₀ Due L (anyWake st' L.name d.comp callAt) ((mobs0 ++ new_) ++ newA) d.comp := by
    intro hpar
    obtain ⟨hof, hos⟩ := iv.open_fresh d.comp hpar hopen
    refine hA.childOK hS ctx sctx IH hpar (linv.pre.disp_ext d (linv.pre.pend_trace d hdm)).2
      (fun t' hs hr => ?_) hof hos hobsA
      (fun s' hs' => anyWake_sched_ne _ _ _ fun h' : L.name = s' => hS.own_not_parent hpar (h' ▸ hs'))
      ?_ (hpre0.own_wake d.comp)
    · obtain ⟨ins, hi⟩ := linv.pend_input _ hdm
        ((hpre0.hroots _ hdc (hS.toWF.child_ne_external hpar)).2 hr)
      exact nomatch hs.symm.trans hi
    · rw [hnewL, wakeUpd_lookup, if_pos rfl, iv.open_w d.comp hpar hopen]
  refine ⟨newA, hobsA, ?_⟩
  rw [List.append_assoc] at hchild
  exact
    { own_same := by
        show ((anyWake st' L.name d.comp callAt).sched L.name).firstDone = _ ∧
          ((anyWake st' L.name d.comp callAt).sched L.name).interrupts = _
        rw [hnewL, (wakeUpd_rest _ _ _).1, (wakeUpd_rest _ _ _).2]
        exact iv.own_same
      own_unique := by
        show UniqueKeys ((anyWake st' L.name d.comp callAt).sched L.name).wake
        rw [hnewL]
        exact wakeUpd_unique iv.own_unique _ _
      own_keys := by
        intro c hk
        by_cases hcd : c = d.comp
        · exact Classical.byContradiction fun hnp => by
            have hk' := alookup_ne_none_iff.2 hk
            rw [hcd, hnewL, wakeUpd_lookup, if_pos rfl, (hmock (hcd ▸ hnp)).2] at hk'
            exact hnp (iv.own_keys c (hcd ▸ alookup_ne_none_iff.1 hk'))
        · exact iv.own_keys c (alookup_ne_none_iff.1 (hWne c hcd ▸ alookup_ne_none_iff.2 hk))
      open_w := fun c hc hcn =>
        (hWne c fun h' => hcn ((hnone c).2 (Or.inl h'))).trans
          (iv.open_w c hc fun h' => hcn ((hnone c).2 (Or.inr h')))
      open_fresh := by
        intro c hc hcn
        have hcd : c ≠ d.comp := fun h' => hcn ((hnone c).2 (Or.inl h'))
        obtain ⟨hof, hos⟩ := iv.open_fresh c hc fun h' => hcn ((hnone c).2 (Or.inr h'))
        refine ⟨fun x hx => ?_, fun s hs => (hother c hc hcd s hs).2.2.trans (hos s hs)⟩
        obtain ⟨hno, hnA, _⟩ := hother c hc hcd x hx
        refine ⟨?_, (hfa.count x hno).trans (hof x hx).2⟩
        rw [← List.append_assoc, List.map_append, List.mem_append, not_or]
        exact ⟨(hof x hx).1, hnA⟩
      closed := by
        intro c hc hcn
        rcases (hnone c).1 hcn with rfl | hcn'
        · exact hchild hc
        · have hcd : c ≠ d.comp := fun h' => hopen (h' ▸ hcn')
          exact (iv.closed c hc hcn').transport hS hc (hWne c hcd)
            (fun s hs => (hother c hc hcd s hs).2.2)
            (fun x hx => List.append_assoc .. ▸ flt_mem_map_append_iff (hother c hc hcd x hx).2.1) }

theorem GenSched.start {S : Static} (hS : S.Valid) {orc : Oracle} {σ₀ : SimSt} {t : SimTime}
    {Root Due : Comp → Prop} (ctx : TickCtx S σ₀ t Root) (sctx : SchedCtx S σ₀ t Root Due) {L : Level}
    (hL : L ∈ S.levels) {roots : List Comp} {st : SimSt} {mobs0 : List Obs}
    (hpre0 : SchedPre S σ₀ Root Due L.name L roots st mobs0)
    {tk : Ticker V} {ds : List (Dispatch V)} (hcall : Ticker.call L.wiring t roots = .ok (tk, ds)) :
    GenSched S orc σ₀ Due L st mobs0 ⟨tk, ds, [], st⟩ [] := by
  have hnone := Ticker.call_resolved hcall
  exact
    { own_same := ⟨rfl, rfl⟩
      own_unique := hpre0.own_unique
      own_keys := hpre0.own_keys
      open_w := fun _ _ _ => rfl
      open_fresh := by
        intro c hc _
        refine ⟨fun x hx => ?_, fun s hs => hpre0.fresh_sched s (hs.below hc)⟩
        exact ⟨by rw [List.append_nil]; exact hpre0.fresh_obs x (hx.below hc), hpre0.fresh_count x (hx.below hc)⟩
      closed := by
        intro c hc hcn
        have hce : c ∉ extent L.wiring roots := (hnone c).1 hcn
        obtain ⟨Lc, hLc, hcm, _⟩ := hS.parent_level c L.name hc
        rw [hS.level_of_mem hL] at hLc; cases hLc
        have hcx : c ≠ pseudoExternal := hS.toWF.child_ne_external hc
        have hnr : ¬ Root c := fun hr => hce (mem_extent_of_mem_roots ((hpre0.hroots c hcm hcx).2 hr))
        refine childOK_unticked hS ctx sctx hc hnr ((hpre0.own_wake c).2 (fun hd => hnr (sctx.due_sub c hd)))
          (fun s hs => hpre0.fresh_sched s (hs.below hc)) ?_
        intro x hx
        rw [List.append_nil]
        exact hpre0.fresh_obs x (hx.below hc) }

theorem GenSched.finish {S : Static} {orc : Oracle} {σ₀ : SimSt} {t : SimTime}
    {Root Due : Comp → Prop} (sctx : SchedCtx S σ₀ t Root Due) {L : Level} {st0 : SimSt} {mobs0 : List Obs}
    {ls : LoopSt} {new : List Obs} (iv : GenSched S orc σ₀ Due L st0 mobs0 ls new)
    (htu : ls.tk.toUpdate = []) : SchedPost S orc σ₀ Due L.name st0 ls.st (mobs0 ++ new) := by
  have hcl : ∀ c, alookup S.parent c = some L.name →
      ChildOK S orc σ₀ Due L ls.st (mobs0 ++ new) c :=
    fun c hc => iv.closed c hc (by rw [htu]; rfl)
  exact
    { lvl_ok :=
        { unique := iv.own_unique
          keys := iv.own_keys
          dev := fun d hd hp => (hcl d hp).dev hd
          sys := fun c hcs hp => (hcl c hp).sys hcs
          persist := by
            intro c hnr hsome
            have hk : c ∈ akeys (σ₀.sched L.name).wake := alookup_isSome_iff.1 hsome
            exact (hcl c (sctx.keys₀ L.name c hk)).persist hnr hsome }
      below_ok := by
        intro s hss hb
        obtain ⟨c, hc, hown⟩ := hb.top
        exact (hcl c hc).below s hown hss
      own_same := iv.own_same }

theorem tickLevel_sched {S : Static} (hS : S.Valid) (orc : Oracle) {σ₀ : SimSt} {t : SimTime}
    {Root Due : Comp → Prop} (ctx : TickCtx S σ₀ t Root) (sctx : SchedCtx S σ₀ t Root Due) :
    ∀ fuel, SchedIH S orc σ₀ t Root Due fuel := by
  intro fuel
  induction fuel with
  | zero =>
    intro lvl L roots inCh st st' out mobs new h
    obtain ⟨_, _, _, _, hf, _⟩ := tickLevel_eq_ok h
    cases hf
  | succ fuel IH =>
    intro lvl L roots inCh st st' out mobs new h hLv hobs hpre0
    obtain ⟨_, hf, L', tk, ds, hLv', hcall, hloop⟩ := tickLevel_levelP h
    cases hf
    cases hLv.symm.trans hLv'
    obtain ⟨hL, rfl⟩ := Static.level_some hLv
    -- `LoopInv` and `GenSched` speak of the same observations `new_`
    obtain ⟨ls', ⟨_, new', linv, iv⟩, -, he, hr⟩ := hloop.invariant
      (I := fun ls => ∃ tr_ new_, LoopInv S L t roots st ls tr_ new_ ∧
        GenSched S orc σ₀ Due L st mobs ls new_)
      (fun {_ _ d st1 _ callAt _ _} ⟨tr_, new_, linv, iv⟩ hd ha hprop => by
        obtain ⟨tr_', new_', linv'⟩ := linv.step hS.toWF (fun _ _ _ _ _ _ h =>
          (levelPost_hereditary hS.toWF orc).tickLevel fuel _ _ _ _ _ _ h) hL hd ha hprop
        obtain ⟨new1, hobs1, iv'⟩ := iv.step hS ctx sctx IH hL hpre0 linv hd ha hprop
        have h2 : (anyWake st1 L.name d.comp callAt).obs = st.obs ++ (new_ ++ new1) := by
          rw [anyWake_obs, hobs1, linv.obs_eq, List.append_assoc]
        cases List.append_cancel_left (linv'.obs_eq.symm.trans h2)
        exact ⟨_, _, linv', iv'⟩)
      ⟨_, _, LoopInv.start hcall st, GenSched.start (orc := orc) hS ctx sctx hL hpre0 hcall⟩
    cases hr
    cases List.append_cancel_left (linv.obs_eq.symm.trans hobs)
    exact iv.finish sctx he

end Tickit
