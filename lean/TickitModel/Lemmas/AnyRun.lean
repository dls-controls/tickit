/-
Any-order nested tick: whole runs.  `MasterRunAny` (the master loop of `Core/Sim.lean` with
every tick replaced by any `TickLevelAny` execution) contains the FIFO run `masterRun`, and is
deterministic up to state equivalence: two runs from equivalent master states handle the same
stimuli, do the same ticks (same times, same real times, root sets equal as sets) and end in
equivalent states.  Then: the FIFO model completes every run that has an any-order execution, for
every sufficiently large fuel, and ends equivalently.

`MasterRunAny S orc fuel0 …` walks up the parent chain of an interrupting component with
`raiseInterrupt S fuel0`, while `masterRun S orc fuel …` uses its one fuel parameter both for
`tickLevel` (has to be large) and for `raiseInterrupt`.  So for the stimuli of the run the two fuels
have to give the same `stimStep`; a run without stimuli needs nothing.
-/
import TickitModel.Core.SimAnyRun
import TickitModel.Lemmas.AnyLive
import TickitModel.Lemmas.MasterRun

namespace Tickit

/-! ### the steps of `masterRun`, in the vocabulary of `MasterRunAny`

`MasterRunAny` is written with `nextStim`, `stimStep`, `tickStart` of `Core/SimAnyRun.lean`;
`Lemmas/MasterRun.lean` names the same three functions `TimeMono.stimSel`, `TimeMono.stimStep`,
`TimeMono.delMaster` (equal by `rfl`; unqualified `stimStep` is the former in this file and in those
on top of it).  The three equations of `masterRun` are stated here so that rewriting with them
leaves a goal in the vocabulary of the hypotheses `MasterRunAny` provides. -/

theorem nextStim_eq_stimSel (m : MasterSt) (s : Speed) (whenT : Option SimTime) (stims : List Stim) :
    nextStim m s whenT stims = TimeMono.stimSel m s whenT stims := by
  cases stims <;> rfl

section

variable {S : Static} {orc : Oracle} {fuel : Nat} {s : Speed} {steps nTicks : Nat} {m : MasterSt}
  {stims : List Stim} {acc : List TickRec}

theorem masterRun_stim {st : Stim} {rest : List Stim}
    (hs : nextStim m s (firstWakeups (m.sim.sched "").wake).2 stims = some (st, rest)) :
    masterRun S orc fuel s (steps + 1) (nTicks + 1) m stims acc =
      masterRun S orc fuel s steps (nTicks + 1) (stimStep S fuel s m st) rest acc :=
  TimeMono.masterRun_stim (nextStim_eq_stimSel .. ▸ hs)

theorem masterRun_tick {comps : List Comp} {w : SimTime}
    (hs : nextStim m s (firstWakeups (m.sim.sched "").wake).2 stims = none)
    (hfw : firstWakeups (m.sim.sched "").wake = (comps, some w)) :
    masterRun S orc fuel s (steps + 1) (nTicks + 1) m stims acc =
      (tickLevel S orc fuel "" w comps [] (tickStart m.sim comps)).bind fun r =>
        masterRun S orc fuel s steps nTicks
          { sim := r.1, tickerTime := w, lastReal := dueReal m s w, now := dueReal m s w } stims
          (acc ++ [⟨w, dueReal m s w, comps⟩]) :=
  TimeMono.masterRun_tick (nextStim_eq_stimSel .. ▸ hs) hfw

theorem masterRun_idle (hs : nextStim m s (firstWakeups (m.sim.sched "").wake).2 stims = none)
    (hn : (firstWakeups (m.sim.sched "").wake).2 = none) :
    masterRun S orc fuel s (steps + 1) (nTicks + 1) m stims acc = .ok (m, acc) :=
  TimeMono.masterRun_idle (nextStim_eq_stimSel .. ▸ hs) hn

end

theorem masterRun_any (S : Static) (orc : Oracle) (fuel : Nat) (s : Speed) :
    ∀ (steps nTicks : Nat) (m : MasterSt) (stims : List Stim) (acc : List TickRec)
      (r : MasterSt × List TickRec),
      masterRun S orc fuel s steps nTicks m stims acc = .ok r →
        MasterRunAny S orc fuel s steps nTicks m stims acc r :=
  TimeMono.masterRun_elim
    (fun steps nTicks _ _ _ h => by
      rcases h with rfl | rfl
      · exact .outOfSteps
      · cases steps
        · exact .outOfSteps
        · exact .ticksDone)
    (fun _ _ _ _ _ _ _ _ hs ih => .stim ((nextStim_eq_stimSel ..).trans hs) ih)
    (fun _ _ _ _ _ _ _ _ _ _ hs hfw ht ih =>
      .tick ((nextStim_eq_stimSel ..).trans hs) hfw (tickLevel_any _ _ _ _ _ _ _ ht) ih)
    (fun _ _ _ _ _ hs hn => .idle ((nextStim_eq_stimSel ..).trans hs) hn)

theorem masterInitial_any (S : Static) (orc : Oracle) (fuel : Nat) (t0 : SimTime) (now : Int)
    (r : MasterSt × TickRec) (h : masterInitial S orc fuel t0 now = .ok r) :
    MasterInitialAny S orc t0 now r := by
  obtain ⟨m, tr⟩ := r
  obtain ⟨L, st, out, hL, hr, rfl, rfl⟩ := masterInitial_eq_ok h
  exact .mk hL (tickLevel_any _ _ _ _ _ _ _ hr)

structure MasterSt.Equiv (a b : MasterSt) : Prop where
  sim : SimSt.Equiv a.sim b.sim
  tickerTime : a.tickerTime = b.tickerTime
  lastReal : a.lastReal = b.lastReal
  now : a.now = b.now

theorem MasterSt.Equiv.symm {a b : MasterSt} (h : a.Equiv b) : b.Equiv a :=
  ⟨h.sim.symm, h.tickerTime.symm, h.lastReal.symm, h.now.symm⟩

theorem MasterSt.Equiv.trans {a b c : MasterSt} (h : a.Equiv b) (h' : b.Equiv c) : a.Equiv c :=
  ⟨h.sim.trans h'.sim, h.tickerTime.trans h'.tickerTime, h.lastReal.trans h'.lastReal,
    h.now.trans h'.now⟩

/-- the root components are compared as sets: their order is the order of the wakeup table, which
the answer order decides -/
def TickRec.Equiv (a b : TickRec) : Prop :=
  a.time = b.time ∧ a.real = b.real ∧ ∀ c, c ∈ a.roots ↔ c ∈ b.roots

theorem MasterSt.Equiv.sameClock {a b : MasterSt} (h : a.Equiv b) : a.SameClock b :=
  ⟨h.tickerTime, h.lastReal, h.now⟩

theorem nextStim_congr {a b : MasterSt} (h : a.SameClock b) (s : Speed) (whenT : Option SimTime)
    (stims : List Stim) : nextStim a s whenT stims = nextStim b s whenT stims := by
  rw [nextStim_eq_stimSel, nextStim_eq_stimSel, stimSel_congr h]

theorem SimSt.Equiv.upsert_sched {a b : SimSt} (h : a.Equiv b) (k : Comp) {sa sb : SchedSt}
    (hs : sa.Equiv sb) :
    SimSt.Equiv { a with scheds := upsert a.scheds k sa } { b with scheds := upsert b.scheds k sb } := by
  intro x
  have hx := h x
  rw [loc_setSched, loc_setSched]
  split
  · exact ⟨hx.ins, hx.outs, hx.cnt, hs, hx.ob⟩
  · exact hx

theorem SimSt.Equiv.queueInt {a b : SimSt} (h : a.Equiv b) (p c : Comp) :
    (a.queueInt p c).Equiv (b.queueInt p c) :=
  have hs := h.sched p
  h.upsert_sched p ⟨hs.wake, hs.ua, hs.ub,
    fun y => by rw [mem_sinsert, mem_sinsert, hs.ints y], hs.first⟩

theorem stimStep_equiv (S : Static) (fuel : Nat) (s : Speed) {a b : MasterSt} (h : a.Equiv b)
    (st : Stim) : (stimStep S fuel s a st).Equiv (stimStep S fuel s b st) := by
  obtain ⟨htop, hsim⟩ := raiseInterrupt_rel S (R := SimSt.Equiv) SimSt.Equiv.queueInt fuel st.comp h.sim
  have h0 := hsim.sched ""
  unfold stimStep
  simp only []
  rw [h.now, h.tickerTime, h.lastReal, htop, h0.wake _]
  exact ⟨hsim.upsert_sched "" ⟨mapEq_addWakeup h0.wake _ _, addWakeup_unique _ h0.ua _ _,
    addWakeup_unique _ h0.ub _ _, h0.ints, h0.first⟩, rfl, rfl, rfl⟩

theorem tickStart_equiv {a b : SimSt} (h : SimSt.Equiv a b) {cs cs' : List Comp}
    (hcs : ∀ c, c ∈ cs ↔ c ∈ cs') : SimSt.Equiv (tickStart a cs) (tickStart b cs') :=
  have h0 := h.sched ""
  h.upsert_sched "" ⟨mapEq_delWakeups h0.ua h0.ub h0.wake hcs, delWakeups_unique _ h0.ua _,
    delWakeups_unique _ h0.ub _, h0.ints, h0.first⟩

theorem MasterSt.Equiv.next {a b : MasterSt} (h : a.Equiv b) (s : Speed) (stims : List Stim) :
    (firstWakeups (a.sim.sched "").wake).2 = (firstWakeups (b.sim.sched "").wake).2 ∧
      nextStim b s (firstWakeups (b.sim.sched "").wake).2 stims =
        nextStim a s (firstWakeups (a.sim.sched "").wake).2 stims := by
  have h0 := h.sim.sched ""
  have hw := firstWakeups_snd_congr h0.ua h0.ub h0.wake
  exact ⟨hw, by rw [← nextStim_congr h.sameClock, hw]⟩

theorem MasterSt.Equiv.dueTick {a b : MasterSt} (h : a.Equiv b) {comps : List Comp} {w : SimTime}
    (hfw : firstWakeups (a.sim.sched "").wake = (comps, some w)) :
    ∃ comps', firstWakeups (b.sim.sched "").wake = (comps', some w) ∧
      ∀ c, c ∈ comps ↔ c ∈ comps' := by
  have h0 := h.sim.sched ""
  have hw := firstWakeups_snd_congr h0.ua h0.ub h0.wake
  cases hfw' : firstWakeups (b.sim.sched "").wake with
  | mk comps' wt =>
    rw [hfw, hfw'] at hw
    cases hw
    exact ⟨comps', rfl, (firstWakeups_congr h0.ua h0.ub h0.wake hfw hfw').2⟩

theorem MasterSt.Equiv.afterTick {S : Static} (hS : S.Valid) {orc : Oracle} {a b : MasterSt}
    (h : a.Equiv b) {w : SimTime} {d d' : Int} (hd : d = d') {comps comps' : List Comp}
    (hcs : ∀ c, c ∈ comps ↔ c ∈ comps') {r r' : SimSt × List (Port × V)}
    (h1 : TickLevelAny S orc "" w comps [] (tickStart a.sim comps) r)
    (h2 : TickLevelAny S orc "" w comps' [] (tickStart b.sim comps') r') :
    MasterSt.Equiv { sim := r.1, tickerTime := w, lastReal := d, now := d }
      { sim := r'.1, tickerTime := w, lastReal := d', now := d' } :=
  ⟨(tickLevelAny_det_equiv hS hcs (MapEq.refl []) List.nodup_nil List.nodup_nil
    (tickStart_equiv h.sim hcs) h1 h2).1, rfl, hd, hd⟩

/-- the same ticks, one by one (`List.Forall₂ TickRec.Equiv`) -/
inductive TicksEquiv : List TickRec → List TickRec → Prop
  | nil : TicksEquiv [] []
  | cons {a b : TickRec} {l l' : List TickRec} : a.Equiv b → TicksEquiv l l' → TicksEquiv (a :: l) (b :: l')

theorem TicksEquiv.append {l1 l1' l2 l2' : List TickRec} (h1 : TicksEquiv l1 l1')
    (h2 : TicksEquiv l2 l2') : TicksEquiv (l1 ++ l2) (l1' ++ l2') := by
  induction h1 with
  | nil => exact h2
  | cons h _ ih => exact .cons h ih

theorem TicksEquiv.snoc {l l' : List TickRec} (h : TicksEquiv l l') (w : SimTime) {r r' : Int}
    (hr : r = r') {cs cs' : List Comp} (hcs : ∀ c, c ∈ cs ↔ c ∈ cs') :
    TicksEquiv (l ++ [⟨w, r, cs⟩]) (l' ++ [⟨w, r', cs'⟩]) :=
  h.append (.cons ⟨rfl, hr, hcs⟩ .nil)

theorem TicksEquiv.refl (l : List TickRec) : TicksEquiv l l := by
  induction l with
  | nil => exact .nil
  | cons a l ih => exact .cons ⟨rfl, rfl, fun _ => Iff.rfl⟩ ih

theorem TicksEquiv.symm {l l' : List TickRec} (h : TicksEquiv l l') : TicksEquiv l' l := by
  induction h with
  | nil => exact .nil
  | cons h _ ih => exact .cons ⟨h.1.symm, h.2.1.symm, fun c => (h.2.2 c).symm⟩ ih

theorem TicksEquiv.times {l l' : List TickRec} (h : TicksEquiv l l') :
    l.map (·.time) = l'.map (·.time) ∧ l.map (·.real) = l'.map (·.real) := by
  induction h with
  | nil => exact ⟨rfl, rfl⟩
  | cons h _ ih => simp [h.1, h.2.1, ih.1, ih.2]

theorem TicksEquiv.length_eq {l l' : List TickRec} (h : TicksEquiv l l') : l.length = l'.length := by
  simpa using congrArg List.length h.times.1

theorem masterRunAny_det {S : Static} (hS : S.Valid) {orc : Oracle} {fuel : Nat} {s : Speed}
    {steps nTicks : Nat} {m : MasterSt} {stims : List Stim} {acc : List TickRec}
    {r : MasterSt × List TickRec} (h1 : MasterRunAny S orc fuel s steps nTicks m stims acc r) :
    ∀ {m' : MasterSt} {acc' : List TickRec} {r' : MasterSt × List TickRec}, m.Equiv m' →
      TicksEquiv acc acc' → MasterRunAny S orc fuel s steps nTicks m' stims acc' r' →
      r.1.Equiv r'.1 ∧ TicksEquiv r.2 r'.2 := by
  induction h1 with
  | outOfSteps | ticksDone =>
    intro m' acc' r' hm hacc h2
    cases h2
    exact ⟨hm, hacc⟩
  | @stim steps nTicks m stims acc st rest r hs _ ih =>
    intro m' acc' r' hm hacc h2
    rw [← (hm.next s stims).2] at hs
    cases h2 with
    | stim hs2 hr2 =>
      cases hs.symm.trans hs2
      exact ih (stimStep_equiv S fuel s hm st) hacc hr2
    | tick hs2 _ _ _ => cases hs.symm.trans hs2
    | idle hs2 _ => cases hs.symm.trans hs2
  | @tick steps nTicks m stims acc comps w sim2 out r hs hfw htl _ ih =>
    intro m' acc' r' hm hacc h2
    rw [← (hm.next s stims).2] at hs
    obtain ⟨comps', hfw', hcs⟩ := hm.dueTick hfw
    cases h2 with
    | stim hs2 _ => cases hs.symm.trans hs2
    | idle _ hn2 => rw [hfw'] at hn2; cases hn2
    | tick _ hfw2 htl2 hr2 =>
      cases hfw'.symm.trans hfw2
      have hd := dueReal_congr hm.sameClock s w
      exact ih (hm.afterTick hS hd hcs htl htl2) (hacc.snoc w hd hcs) hr2
  | @idle steps nTicks m stims acc hs hn =>
    intro m' acc' r' hm hacc h2
    obtain ⟨hw, hs'⟩ := hm.next s stims
    rw [← hs'] at hs
    cases h2 with
    | stim hs2 _ => cases hs.symm.trans hs2
    | tick _ hfw2 _ _ => rw [hw, hfw2] at hn; cases hn
    | idle _ _ => exact ⟨hm, hacc⟩

/-- the record is determined exactly: its roots are the components of the master level as the wiring
lists them -/
theorem masterInitialAny_det {S : Static} (hS : S.Valid) {orc : Oracle} {t0 : SimTime} {now : Int}
    {r r' : MasterSt × TickRec} (h1 : MasterInitialAny S orc t0 now r)
    (h2 : MasterInitialAny S orc t0 now r') : r.1.Equiv r'.1 ∧ r.2 = r'.2 := by
  cases h1 with
  | @mk L st out hL htl =>
    cases h2 with
    | @mk L' st' out' hL' htl' =>
      rw [hL] at hL'
      cases hL'
      exact ⟨⟨(tickLevelAny_det_equiv hS (fun _ => Iff.rfl) (MapEq.refl []) List.nodup_nil List.nodup_nil
        (.refl SimSt.wakeWF_empty) htl htl').1, rfl, rfl, rfl⟩, rfl⟩

variable {S : Static} {orc : Oracle}

theorem MasterRunAny.fuel_change {f0 f : Nat} {s : Speed} {steps nTicks : Nat} {m : MasterSt}
    {stims : List Stim} {acc : List TickRec} {r : MasterSt × List TickRec}
    (h : MasterRunAny S orc f0 s steps nTicks m stims acc r)
    (hst : ∀ st ∈ stims, ∀ m, stimStep S f s m st = stimStep S f0 s m st) :
    MasterRunAny S orc f s steps nTicks m stims acc r := by
  induction h with
  | outOfSteps => exact .outOfSteps
  | ticksDone => exact .ticksDone
  | stim hs _ ih =>
    cases TimeMono.stimSel_mem (nextStim_eq_stimSel .. ▸ hs)
    refine .stim hs ?_
    rw [hst _ (List.mem_cons_self ..)]
    exact ih (fun st' h => hst st' (List.mem_cons_of_mem _ h))
  | tick hs hfw htl _ ih => exact .tick hs hfw htl (ih hst)
  | idle hs hn => exact .idle hs hn

theorem masterRunAny_live (hS : S.Valid) {fuel0 : Nat} {s : Speed} {steps nTicks : Nat}
    {m : MasterSt} {stims : List Stim} {acc : List TickRec} {r : MasterSt × List TickRec}
    (h : MasterRunAny S orc fuel0 s steps nTicks m stims acc r) :
    ∃ F, ∀ (m' : MasterSt) (acc' : List TickRec), m.Equiv m' → ∀ fuel, F ≤ fuel →
      (∀ st ∈ stims, ∀ m, stimStep S fuel s m st = stimStep S fuel0 s m st) →
      ∃ rf, masterRun S orc fuel s steps nTicks m' stims acc' = .ok rf := by
  induction h with
  | outOfSteps => exact ⟨0, fun m' acc' _ fuel _ _ => ⟨_, TimeMono.masterRun_stop (Or.inl rfl)⟩⟩
  | ticksDone => exact ⟨0, fun m' acc' _ fuel _ _ => ⟨_, TimeMono.masterRun_stop (Or.inr rfl)⟩⟩
  | @stim steps nTicks m stims acc st rest r hs _ ih =>
    obtain ⟨F, hF⟩ := ih
    refine ⟨F, fun m' acc' hm fuel hfu hstab => ?_⟩
    cases TimeMono.stimSel_mem (nextStim_eq_stimSel .. ▸ hs)
    rw [← (hm.next s _).2] at hs
    rw [masterRun_stim hs, hstab _ (List.mem_cons_self ..)]
    exact hF _ acc' (stimStep_equiv S fuel0 s hm st) fuel hfu
      (fun st' h => hstab st' (List.mem_cons_of_mem _ h))
  | @tick steps nTicks m stims acc comps w sim2 out r hs hfw htl _ ih =>
    obtain ⟨F2, hF2⟩ := ih
    obtain ⟨F1, hF1⟩ := tickLevelAny_live hS htl List.nodup_nil
    refine ⟨max F1 F2, fun m' acc' hm fuel hfu hstab => ?_⟩
    rw [← (hm.next s stims).2] at hs
    obtain ⟨comps', hfw', hcs⟩ := hm.dueTick hfw
    obtain ⟨rf, hrf⟩ := hF1 comps' [] (tickStart m'.sim comps') hcs (MapEq.refl _) List.nodup_nil
      (fun x _ => tickStart_equiv hm.sim hcs x) fuel (Nat.le_trans (Nat.le_max_left _ _) hfu)
    rw [masterRun_tick hs hfw', hrf]
    exact hF2 _ _ (hm.afterTick hS (dueReal_congr hm.sameClock s w) hcs htl
      (tickLevel_any _ _ _ _ _ _ _ hrf)) fuel (Nat.le_trans (Nat.le_max_right _ _) hfu) hstab
  | @idle steps nTicks m stims acc hs hn =>
    refine ⟨0, fun m' acc' hm fuel _ _ => ⟨_, masterRun_idle ?_ ?_⟩⟩
    · rw [(hm.next s stims).2]; exact hs
    · rw [← (hm.next s stims).1]; exact hn

theorem masterInitialAny_fifo (hS : S.Valid) {t0 : SimTime} {now : Int} {r0 : MasterSt × TickRec}
    (h : MasterInitialAny S orc t0 now r0) :
    ∃ F, ∀ fuel, F ≤ fuel → ∃ m tr, masterInitial S orc fuel t0 now = .ok (m, tr) ∧
      r0.1.Equiv m ∧ r0.2 = tr := by
  cases h with
  | @mk L st out hL htl =>
    obtain ⟨F, hF⟩ := tickLevelAny_fifo hS (inCh := []) List.nodup_nil SimSt.wakeWF_empty htl
    refine ⟨F, fun fuel hfu => ?_⟩
    obtain ⟨⟨st', out'⟩, hrf, heq, _⟩ := hF fuel hfu
    refine ⟨{ sim := st', tickerTime := t0, lastReal := now, now := now }, _, ?_,
      ⟨heq, rfl, rfl, rfl⟩, rfl⟩
    unfold masterInitial
    rw [hL]
    simp only [hrf]

/-- the condition on the fuel is void without stimuli (`any_order_run_has_fifo`,
`Props/C08NestedAnyRun.lean`) and holds from the nesting depth on (`any_order_run_has_fifo_stims`,
`Props/AnyTransferStim.lean`). -/
theorem masterRunAny_fifo_of_stable (hS : S.Valid) {fuel0 : Nat} {t0 : SimTime} {now : Int}
    {sp : Speed} {steps nTicks : Nat} {stims : List Stim} {r0 : MasterSt × TickRec}
    {r : MasterSt × List TickRec} (h1 : MasterInitialAny S orc t0 now r0)
    (h2 : MasterRunAny S orc fuel0 sp steps nTicks r0.1 stims [r0.2] r) :
    ∃ F, ∀ fuel, F ≤ fuel →
      (∀ st ∈ stims, ∀ m, stimStep S fuel sp m st = stimStep S fuel0 sp m st) →
      ∃ m tr m2 ticks, masterInitial S orc fuel t0 now = .ok (m, tr) ∧
        masterRun S orc fuel sp steps nTicks m stims [tr] = .ok (m2, ticks) ∧
        r.1.Equiv m2 ∧ TicksEquiv r.2 ticks := by
  obtain ⟨Fi, hFi⟩ := masterInitialAny_fifo hS h1
  obtain ⟨Fr, hFr⟩ := masterRunAny_live hS h2
  refine ⟨max Fi Fr, fun fuel hfu hstab => ?_⟩
  obtain ⟨m, tr, hmi, e1, e2⟩ := hFi fuel (Nat.le_trans (Nat.le_max_left _ _) hfu)
  obtain ⟨⟨m2, ticks⟩, hmr⟩ := hFr m [tr] e1 fuel (Nat.le_trans (Nat.le_max_right _ _) hfu) hstab
  have a2 := masterRun_any S orc fuel sp steps nTicks m stims [tr] _ hmr
  exact ⟨m, tr, m2, ticks, hmi, hmr,
    masterRunAny_det hS (h2.fuel_change hstab) e1 (e2 ▸ TicksEquiv.refl _) a2⟩

end Tickit
