/-
Interleaved nested tick: every interleaved run is simulated by ATOMIC executions (`tickInter_atomic`).

For every active level of a configuration a ghost VIRTUAL state is kept (`IVirt`): the state an
atomic execution of that level's loop is in after exactly the answers the level has propagated so
far — the inner ticks of its system components are executed atomically at the moment they CLOSE.
The virtual state has the same key-wise view as the real shared state on everything at or below the
level that is not at or below one of its open inner levels; on the region of an open inner level
it still has the view the real state had when that inner tick was opened.  One interleaved step
changes the real state only at or below the stepping level, so the invariant of all other levels
survives (`IVirt.congr`), and the stepping level's virtual loop takes the same step.  When an inner
level closes, its accumulated atomic loop is a complete `TickLevelAny` execution from the view at its
opening, which is transplanted (`tickLevelAny_transplant`) to the parent's current virtual state.
-/
import TickitModel.Lemmas.ListLemmas
import TickitModel.Lemmas.InterBasic
import TickitModel.Lemmas.AnyInv
import TickitModel.Lemmas.AnyTransplant

namespace Tickit

variable {S : Static} {orc : Oracle}

/-- `LoopP.step` iterated, inner ticks atomic; last answer last, since a virtual loop grows at its
end -/
inductive LoopReach (S : Static) (orc : Oracle) (L : Level) (inCh : List (Port × V)) :
    LoopSt → LoopSt → Prop
  | refl {ls : LoopSt} : LoopReach S orc L inCh ls ls
  | snoc {ls ls1 : LoopSt} {i : Nat} {d : Dispatch V} {st' : SimSt} {ch : List (Port × V)}
      {ca : Option SimTime} {tk' : Ticker V} {ds : List (Dispatch V)} :
      LoopReach S orc L inCh ls ls1 → ls1.pending[i]? = some d →
      AnsP S orc (TickLevelAny S orc) L inCh ls1.st d (st', ch, ca) →
      ls1.tk.propagate L.wiring d.comp d.time ch = .ok (tk', ds) →
      LoopReach S orc L inCh ls
        ⟨tk', ls1.pending.eraseIdx i ++ ds, (exposeIns L d).getD ls1.outCh,
          anyWake st' L.name d.comp ca⟩

theorem LoopReach.loopP {L : Level} {inCh : List (Port × V)} {ls ls1 : LoopSt}
    (h : LoopReach S orc L inCh ls ls1) :
    ∀ {r : SimSt × List (Port × V)}, LoopP S orc (TickLevelAny S orc) L inCh ls1 r →
      LoopP S orc (TickLevelAny S orc) L inCh ls r := by
  induction h with
  | refl => intro r h; exact h
  | snoc _ h1 h2 h3 ih => intro r h; exact ih (.step h1 h2 h3 h)

theorem LoopReach.run {L : Level} {inCh : List (Port × V)} {ls ls1 : LoopSt}
    (h : LoopReach S orc L inCh ls ls1) {t : SimTime} {roots : List Comp} :
    (∃ tr, TickSys.Run L.wiring (fun _ _ => True) t roots ⟨ls.tk, ls.pending, tr⟩) →
      ∃ tr1, TickSys.Run L.wiring (fun _ _ => True) t roots ⟨ls1.tk, ls1.pending, tr1⟩ := by
  induction h with
  | refl => exact fun h => h
  | snoc _ h1 _ h3 ih => exact fun h0 => let ⟨_, hr⟩ := ih h0; ⟨_, hr.answer h1 trivial h3⟩

/-- the virtual state of an active level (and, recursively, of the open inner levels below it):
`IVirt st T roots σ0 σ` — in the configuration with shared state `st` and tree `T`, the level at the
root of `T`, whose tick was started with `roots` in (a state with the view of) `σ0`, has the virtual
state `σ`.  `kr` / `kv` give the start / virtual states of the open inner levels, by name. -/
inductive IVirt (S : Static) (orc : Oracle) (st : SimSt) :
    ITree → List Comp → SimSt → SimSt → Prop
  | mk {fr : IFrame} {kids : List ITree} {roots : List Comp} {σ0 σ : SimSt} {tk0 : Ticker V}
      {ds0 : List (Dispatch V)} (kr kv : Comp → SimSt)
      (hL : fr.L ∈ S.levels)
      (hcall : (Ticker.call fr.L.wiring fr.t roots :
        Except TickErr (Ticker V × List (Dispatch V))) = .ok (tk0, ds0))
      -- the virtual loop has got from `σ0` to `σ` by the answers the level has propagated so far
      (hreach : LoopReach S orc fr.L fr.inCh ⟨tk0, ds0, [], σ0⟩ ⟨fr.tk, fr.pending, fr.outCh, σ⟩)
      -- outside the regions of the open inner levels the virtual state is the real one
      (hown : ∀ x, AtOrBelow S fr.L.name x → (∀ k ∈ kids, ¬ AtOrBelow S k.name x) →
        σ.loc x = st.loc x)
      (hinj : (kids.map ITree.name).Nodup)
      -- on the region of an open inner level `σ` is frozen since the opening, i.e. the
      -- inner level's start state `kr` has there the view of `sysPre` of the CURRENT `σ`
      (hkid : ∀ k ∈ kids, S.isSys k.name = true ∧ alookup S.parent k.name = some fr.L.name ∧
        LocOn (AtOrBelow S k.name) (kr k.name) (sysPre σ k.name k.fr.t))
      -- the invariant of the open inner levels, their roots computed from the current `σ`
      (hrec : ∀ k ∈ kids, IVirt S orc st k (sysRoots S σ k.name k.fr.t) (kr k.name) (kv k.name)) :
      IVirt S orc st (.node fr kids) roots σ0 σ

theorem IVirt.congr (hS : S.Valid) {st : SimSt} {T : ITree} {roots : List Comp} {σ0 σ : SimSt}
    (h : IVirt S orc st T roots σ0 σ) :
    ∀ st' : SimSt, (∀ x, AtOrBelow S T.name x → st'.loc x = st.loc x) →
      IVirt S orc st' T roots σ0 σ := by
  induction h with
  | @mk fr kids roots σ0 σ tk0 ds0 kr kv hL hcall hreach hown hinj hkid _ ih =>
    intro st' hst
    refine .mk kr kv hL hcall hreach ?_ hinj hkid ?_
    · intro x hx hk
      rw [hown x hx hk]
      exact (hst x hx).symm
    · intro k hk
      refine ih k hk st' ?_
      intro x hx
      exact hst x (Or.inr (hx.foot hS (hkid k hk).2.1).below)

theorem IVirt.leaf {L : Level} (hL : L ∈ S.levels) {t : SimTime} {roots : List Comp}
    {inCh : List (Port × V)} {tk : Ticker V} {ds : List (Dispatch V)}
    (hcall : (Ticker.call L.wiring t roots : Except TickErr (Ticker V × List (Dispatch V))) = .ok (tk, ds))
    {st σ : SimSt} (h : ∀ x, AtOrBelow S L.name x → σ.loc x = st.loc x) :
    IVirt S orc st (.node ⟨L, t, inCh, tk, ds, []⟩ []) roots σ σ :=
  .mk (fun _ => σ) (fun _ => σ) hL hcall .refl (fun x hx _ => h x hx) List.nodup_nil
    (fun _ hk => nomatch hk) (fun _ hk => nomatch hk)

theorem IVirt.facts {st : SimSt} {fr : IFrame} {kids : List ITree}
    {roots : List Comp} {σ0 σ : SimSt} (hv : IVirt S orc st (.node fr kids) roots σ0 σ) :
    fr.L ∈ S.levels ∧ (∀ d ∈ fr.pending, d.comp ∈ fr.L.wiring.components) ∧ (kids.map ITree.name).Nodup ∧
      (∀ k ∈ kids, S.isSys k.name = true ∧ alookup S.parent k.name = some fr.L.name) ∧
      (∀ k ∈ kids, ∃ rk s0 s1, IVirt S orc st k rk s0 s1) ∧
      ∃ tr, PreInv fr.L.wiring fr.t roots fr.tk.toUpdate fr.pending tr := by
  cases hv with
  | mk kr kv hL hcall hreach hown hinj hkid hrec =>
    obtain ⟨tr, hr⟩ := hreach.run (t := fr.t) (roots := roots) ⟨_, .call hcall⟩
    exact ⟨hL, fun d hd => (Wiring.ups_isSome_iff' _ _).1 (hr.inv.ups d (hr.inv.pre.pend_trace d hd)),
      hinj, fun k hk => ⟨(hkid k hk).1, (hkid k hk).2.1⟩, fun k hk => ⟨_, _, _, hrec k hk⟩, tr, hr.inv.pre⟩

theorem IVirt.tick (hS : S.Valid) {st : SimSt} {fr : IFrame} {roots : List Comp} {σ0 σ : SimSt}
    (hv : IVirt S orc st (.node fr []) roots σ0 σ) (hp : fr.pending = [])
    (hu : fr.tk.toUpdate.isEmpty = true) :
    TickLevelAny S orc fr.L.name fr.t roots fr.inCh σ0 (σ, fr.outCh) ∧
      LocOn (AtOrBelow S fr.L.name) σ st := by
  cases hv with
  | mk kr kv hL hcall hreach hown _ _ _ =>
    exact ⟨tickLevelAny_iff.2 ⟨fr.L, _, _, hS.level_of_mem hL, hcall, hreach.loopP (.done hp hu)⟩,
      fun x hx => hown x hx (fun _ hk => nomatch hk)⟩

/-- what `IVirt.answer_step` (`kids' = kids`) and `IVirt.close_step` (`kids'`: `kids` without the
closing level) have in common: the virtual loop takes the step of the level at the root -/
theorem IVirt.parent_step (hS : S.Valid) {st st1 : SimSt} {fr : IFrame} {kids kids' : List ITree}
    {roots : List Comp} {σ0 σ : SimSt} (hv : IVirt S orc st (.node fr kids) roots σ0 σ)
    (hinj' : (kids'.map ITree.name).Nodup) (hsub : ∀ k ∈ kids', k ∈ kids)
    {i : Nat} {d : Dispatch V} {σ2 : SimSt} {ch : List (Port × V)} {ca : Option SimTime}
    {tk' : Ticker V} {ds : List (Dispatch V)} (h1 : fr.pending[i]? = some d)
    (ha : AnsP S orc (TickLevelAny S orc) fr.L fr.inCh σ d (σ2, ch, ca))
    (h3 : fr.tk.propagate fr.L.wiring d.comp d.time ch = .ok (tk', ds))
    (hA : ∀ x, AtOrBelow S fr.L.name x → (∀ k ∈ kids', ¬ AtOrBelow S k.name x) →
      σ2.loc x = st1.loc x)
    (hB : ∀ k ∈ kids', ∀ x, AtOrBelow S k.name x → σ2.loc x = σ.loc x ∧ st1.loc x = st.loc x) :
    IVirt S orc (anyWake st1 fr.L.name d.comp ca)
      (.node ⟨fr.L, fr.t, fr.inCh, tk', fr.pending.eraseIdx i ++ ds,
        (exposeIns fr.L d).getD fr.outCh⟩ kids') roots σ0 (anyWake σ2 fr.L.name d.comp ca) := by
  obtain ⟨kr, kv, hL, hcall, hreach, _, _, hkid, hrec⟩ := hv
  refine .mk kr kv hL hcall (hreach.snoc h1 ha h3) ?_ hinj' ?_ ?_
  · intro x hx hk
    exact loc_anyWake_congr (hA x hx hk) _ _ _
  · intro k hk
    obtain ⟨k1, k2, k3⟩ := hkid k (hsub k hk)
    refine ⟨k1, k2, ?_⟩
    intro x hx
    rw [k3 x hx]
    apply loc_sysPre_congr
    -- the level's own key lies in no child's region: its `add_wakeup` (`anyWake`, under the key
    -- `L.name`) leaves the regions of the open inner levels alone
    rw [loc_anyWake_ne _ _ _ _ (Foot.ne_level hS (hx.foot hS k2))]
    exact ((hB k hk x hx).1).symm
  · intro k hk
    obtain ⟨_, k2, _⟩ := hkid k (hsub k hk)
    have hkk : AtOrBelow S k.name k.name := Or.inl rfl
    have hsch : (anyWake σ2 fr.L.name d.comp ca).sched k.name = σ.sched k.name := by
      apply sched_of_loc
      rw [loc_anyWake_ne _ _ _ _ (Foot.ne_level hS (hkk.foot hS k2))]
      exact (hB k hk _ hkk).1
    rw [sysRoots_of_sched hsch]
    refine (hrec k (hsub k hk)).congr hS _ ?_
    intro x hx
    rw [loc_anyWake_ne _ _ _ _ (Foot.ne_level hS (hx.foot hS k2))]
    exact (hB k hk x hx).2

theorem AnswerNow.same_or_dev {L : Level} {inCh : List (Port × V)} {st : SimSt}
    {o : List (Port × V)} {d : Dispatch V} {st' : SimSt} {o' ch : List (Port × V)}
    {ca : Option SimTime} (a : AnswerNow S orc L inCh st o d (st', o', ch, ca)) :
    (st' = st ∧ ∀ (inner : LevelRel) (σ : SimSt), AnsP S orc inner L inCh σ d (σ, ch, ca)) ∨
      S.isSys d.comp = false := by
  cases a with
  | skip => exact Or.inl ⟨rfl, fun _ _ => .skip⟩
  | external h1 => exact Or.inl ⟨rfl, fun _ _ => .external h1⟩
  | expose h1 h2 => exact Or.inl ⟨rfl, fun _ _ => .expose h1 h2⟩
  | dev _ _ h3 _ _ => exact Or.inr h3

theorem IVirt.answer_step (hS : S.Valid) {st : SimSt} {fr : IFrame} {kids : List ITree}
    {roots : List Comp} {σ0 σ : SimSt} (hv : IVirt S orc st (.node fr kids) roots σ0 σ)
    {i : Nat} {d : Dispatch V} {st' : SimSt} {outCh' changes : List (Port × V)}
    {callAt : Option SimTime} {tk' : Ticker V} {ds : List (Dispatch V)}
    (h1 : fr.pending[i]? = some d)
    (hans : AnswerNow S orc fr.L fr.inCh st fr.outCh d (st', outCh', changes, callAt))
    (h3 : fr.tk.propagate fr.L.wiring d.comp d.time changes = .ok (tk', ds)) :
    ∃ σ', IVirt S orc (anyWake st' fr.L.name d.comp callAt)
        (.node { fr with tk := tk', pending := fr.pending.eraseIdx i ++ ds, outCh := outCh' } kids)
        roots σ0 σ' ∧
      ∀ x, ¬ AtOrBelow S fr.L.name x → (anyWake st' fr.L.name d.comp callAt).loc x = st.loc x := by
  have hdc : d.comp ∈ fr.L.wiring.components := hv.facts.2.1 d (List.mem_of_getElem? h1)
  have hv0 := hv
  cases hv with
  | mk kr kv hL hcall hreach hown hinj hkid hrec =>
    -- an `AnswerNow` answer is an `AnsP` answer for the EMPTY inner relation, so `frame_foot` and
    -- `transplant` apply with vacuous hypotheses on inner ticks
    obtain ⟨haP, ho⟩ := hans.ansP (inner := fun _ _ _ _ _ _ => False)
    subst ho
    have hfr : ∀ x, ¬ Foot S fr.L d.comp x → st'.loc x = st.loc x :=
      fun x hx => haP.frame_foot hS (fun _ _ _ _ _ _ h => h.elim) hL hdc hx
    have houtside : ∀ x, ¬ AtOrBelow S fr.L.name x →
        (anyWake st' fr.L.name d.comp callAt).loc x = st.loc x := by
      intro x hx
      have hne : x ≠ fr.L.name := fun h => hx (Or.inl h)
      rw [loc_anyWake_ne _ _ _ _ hne]
      exact hfr x (fun hf => hx (Or.inr hf.below))
    rcases hans.same_or_dev with ⟨hst, hsame⟩ | hdev
    · subst hst
      refine ⟨anyWake σ fr.L.name d.comp callAt, ?_, houtside⟩
      exact hv0.parent_step hS hinj (fun _ h => h) h1 (hsame _ σ) h3 hown (fun _ _ _ _ => ⟨rfl, rfl⟩)
    · have hkne : ∀ k ∈ kids, ∀ x, AtOrBelow S k.name x → ¬ Foot S fr.L d.comp x := by
        intro k hk x hx hf
        obtain ⟨k1, k2, _⟩ := hkid k hk
        have := Foot.unique hS (hx.foot hS k2) hf
        rw [this, hdev] at k1
        cases k1
      have hσ : ∀ x, Foot S fr.L d.comp x → σ.loc x = st.loc x :=
        fun x hx => hown x (Or.inr hx.below) (fun k hk hxk => hkne k hk x hxk hx)
      obtain ⟨σ2, ha2, hl⟩ := haP.transplant hS (inner' := TickLevelAny S orc)
        (fun _ _ _ _ _ _ h => h.elim) hL hdc hσ
      simp only at ha2 hl -- reduces the projections of the result triple
      have hfr2 : ∀ x, ¬ Foot S fr.L d.comp x → σ2.loc x = σ.loc x :=
        fun x hx => ha2.frame_foot hS (fun _ _ _ _ _ _ h => tickLevelAny_post1 hS h) hL hdc hx
      refine ⟨anyWake σ2 fr.L.name d.comp callAt, ?_, houtside⟩
      refine hv0.parent_step hS hinj (fun _ h => h) h1 ha2 h3 ?_ ?_
      · intro x hx hk
        by_cases hf : Foot S fr.L d.comp x
        · exact hl x hf
        · rw [hfr2 x hf, hfr x hf]
          exact hown x hx hk
      · intro k hk x hx
        exact ⟨hfr2 x (hkne k hk x hx), hfr x (hkne k hk x hx)⟩

theorem IVirt.open_step (hS : S.Valid) {st : SimSt} {fr : IFrame} {kids : List ITree}
    {roots : List Comp} {σ0 σ : SimSt} (hv : IVirt S orc st (.node fr kids) roots σ0 σ)
    {i : Nat} {c : Comp} {t : SimTime} {ins : List (Port × V)} {Lc : Level} {tk : Ticker V}
    {ds : List (Dispatch V)} (h1 : fr.pending[i]? = some (.input c t ins))
    (e1 : (fr.L.name != "" && c == pseudoExternal) = false)
    (e2 : (fr.L.name != "" && c == pseudoExpose) = false) (e3 : S.isSys c = true)
    (hfresh : ∀ k ∈ kids, k.name ≠ c) (hLv : S.level c = some Lc)
    (hcall' : (Ticker.call Lc.wiring t (sysRoots S st c t) :
      Except TickErr (Ticker V × List (Dispatch V))) = .ok (tk, ds)) :
    IVirt S orc (sysPre st c t) (.node fr (kids ++ [.node ⟨Lc, t, ins, tk, ds, []⟩ []])) roots σ0 σ ∧
      ∀ x, ¬ AtOrBelow S fr.L.name x → (sysPre st c t).loc x = st.loc x := by
  have hdc : c ∈ fr.L.wiring.components := hv.facts.2.1 _ (List.mem_of_getElem? h1)
  cases hv with
  | mk kr kv hL hcall hreach hown hinj hkid hrec =>
    obtain ⟨hLc, hname⟩ := Static.level_some hLv
    subst hname
    have hpar := hS.toWF.parent_of_member hL hdc e1 e2
    have hdisj : ∀ k ∈ kids, ∀ x, AtOrBelow S k.name x → ¬ AtOrBelow S Lc.name x := by
      intro k hk x hx hxc
      exact hfresh k hk (Foot.unique hS (hx.foot hS (hkid k hk).2.1) (hxc.foot hS hpar))
    have hσc : ∀ x, AtOrBelow S Lc.name x → σ.loc x = st.loc x :=
      fun x hx => hown x (Or.inr (hx.foot hS hpar).below)
        (fun k hk hxk => hdisj k hk x hxk hx)
    constructor
    · -- the new inner level starts (`kr`) and stands (`kv`) in `sysPre` of the VIRTUAL state `σ`, not
      -- of the real `st`: the two have the same view at and below `Lc.name` (`hσc`)
      refine .mk (fun n => if n = Lc.name then sysPre σ Lc.name t else kr n)
        (fun n => if n = Lc.name then sysPre σ Lc.name t else kv n) hL hcall hreach ?_
        (nodup_map_snoc hinj hfresh) ?_ ?_
      · intro x hx hk
        have hxc : ¬ AtOrBelow S Lc.name x :=
          hk _ (List.mem_append_right _ (List.mem_singleton_self _))
        have hne : x ≠ Lc.name := fun h => hxc (Or.inl h)
        rw [loc_sysPre_ne _ _ _ hne]
        exact hown x hx (fun k hk' => hk k (List.mem_append_left _ hk'))
      · intro k hk
        rcases List.mem_append.1 hk with hk | hk
        · have hne : k.name ≠ Lc.name := hfresh k hk
          simp only [if_neg hne]
          exact hkid k hk
        · simp only [List.mem_singleton] at hk
          subst hk
          refine ⟨e3, hpar, ?_⟩
          intro x _
          show ((if Lc.name = Lc.name then sysPre σ Lc.name t else kr Lc.name).loc x) = _
          rw [if_pos rfl]
          rfl
      · intro k hk
        rcases List.mem_append.1 hk with hk | hk
        · have hne : k.name ≠ Lc.name := hfresh k hk
          simp only [if_neg hne]
          refine (hrec k hk).congr hS _ ?_
          intro x hx
          exact loc_sysPre_ne _ _ _ (fun h => hdisj k hk x hx (Or.inl h))
        · simp only [List.mem_singleton] at hk
          subst hk
          show IVirt S orc (sysPre st Lc.name t) (.node ⟨Lc, t, ins, tk, ds, []⟩ [])
            (sysRoots S σ Lc.name t) (if Lc.name = Lc.name then sysPre σ Lc.name t else kr Lc.name)
            (if Lc.name = Lc.name then sysPre σ Lc.name t else kv Lc.name)
          rw [if_pos rfl, if_pos rfl]
          have hr : sysRoots S st Lc.name t = sysRoots S σ Lc.name t :=
            sysRoots_of_sched (sched_of_loc (hσc Lc.name (Or.inl rfl)).symm) t
          rw [hr] at hcall'
          exact .leaf hLc hcall' fun x hx => loc_sysPre_congr (hσc x hx) Lc.name t
    · intro x hx
      have hne : x ≠ Lc.name := fun h => hx (h ▸ Or.inr (.direct hpar))
      exact loc_sysPre_ne _ _ _ hne

theorem IVirt.close_step (hS : S.Valid) {st : SimSt} {fr : IFrame} {kids : List ITree}
    {roots : List Comp} {σ0 σ : SimSt} (hv : IVirt S orc st (.node fr kids) roots σ0 σ)
    {j : Nat} {g : IFrame} {i : Nat} {tk' : Ticker V} {ds : List (Dispatch V)}
    (hj : kids[j]? = some (.node g [])) (hgp : g.pending = [])
    (hgu : g.tk.toUpdate.isEmpty = true)
    (h1 : fr.pending[i]? = some (.input g.L.name g.t g.inCh))
    (h3 : fr.tk.propagate fr.L.wiring g.L.name g.t g.outCh = .ok (tk', ds)) :
    ∃ σ', IVirt S orc (anyWake st fr.L.name g.L.name (sysCallAt st g.L.name g.t))
        (.node { fr with tk := tk', pending := fr.pending.eraseIdx i ++ ds } (kids.eraseIdx j))
        roots σ0 σ' ∧
      ∀ x, ¬ AtOrBelow S fr.L.name x →
        (anyWake st fr.L.name g.L.name (sysCallAt st g.L.name g.t)).loc x = st.loc x := by
  have hv0 := hv
  cases hv with
  | mk kr kv hL hcall hreach hown hinj hkid hrec =>
    have hkm : ITree.node g [] ∈ kids := List.mem_of_getElem? hj
    obtain ⟨k1, k2, k3⟩ := hkid _ hkm
    -- the inner tick, atomic, from the view at its opening
    obtain ⟨htick, hkv⟩ := (hrec _ hkm).tick hS hgp hgu
    simp only [ITree.name_node, ITree.fr_node] at k1 k2 k3 htick hkv
    -- transplanted to the parent's virtual state
    obtain ⟨σ2, htick2, hl2⟩ := tickLevelAny_transplant hS htick (sysPre σ g.L.name g.t) k3.symm
    simp only at htick2 hl2 -- reduces the projections of the result pair
    have hσ2 : ∀ x, AtOrBelow S g.L.name x → σ2.loc x = st.loc x :=
      fun x hx => (hl2 x hx).trans (hkv x hx)
    have hσ2o : ∀ x, ¬ AtOrBelow S g.L.name x → σ2.loc x = σ.loc x := by
      intro x hx
      have hne : x ≠ g.L.name := fun h => hx (Or.inl h)
      have hnb : ¬ S.Below g.L.name x := fun h => hx (Or.inr h)
      rw [(tickLevelAny_post1 hS htick2).frame x hne hnb, loc_sysPre_ne _ _ _ hne]
    obtain ⟨e1, e2⟩ := sys_not_pseudo hS k1 fr.L.name
    have ha : AnsP S orc (TickLevelAny S orc) fr.L fr.inCh σ (.input g.L.name g.t g.inCh)
        (σ2, g.outCh, sysCallAt σ2 g.L.name g.t) := .sys e1 e2 k1 htick2
    have hca : sysCallAt σ2 g.L.name g.t = sysCallAt st g.L.name g.t :=
      sysCallAt_of_sched (sched_of_loc (hσ2 g.L.name (Or.inl rfl))) _
    rw [hca] at ha
    have hexp : (exposeIns fr.L (.input g.L.name g.t g.inCh)).getD fr.outCh = fr.outCh := by
      simp [exposeIns, e1, e2]
    refine ⟨anyWake σ2 fr.L.name g.L.name (sysCallAt st g.L.name g.t), ?_, ?_⟩
    · have key := hv0.parent_step hS (st1 := st) (hinj.sublist ((List.eraseIdx_sublist kids j).map _))
        (fun k hk => (List.eraseIdx_sublist _ _).subset hk) h1 ha h3 ?_ ?_
      · rw [hexp] at key
        exact key
      · intro x hx hk
        by_cases hxc : AtOrBelow S g.L.name x
        · exact hσ2 x hxc
        · rw [hσ2o x hxc]
          refine hown x hx (fun k hk' hxk => ?_)
          by_cases hn : k.name = g.L.name
          · exact hxc (hn ▸ hxk)
          · exact hk k ((mem_eraseIdx_iff_of_nodup_map hinj hj).2 ⟨hk', hn⟩) hxk
      · intro k hk x hx
        obtain ⟨hkm', hne⟩ := (mem_eraseIdx_iff_of_nodup_map hinj hj).1 hk
        have hxc : ¬ AtOrBelow S g.L.name x := fun hxc =>
          hne (Foot.unique hS (hx.foot hS (hkid k hkm').2.1) (hxc.foot hS k2))
        exact ⟨hσ2o x hxc, rfl⟩
    · intro x hx
      have hne : x ≠ fr.L.name := fun h => hx (Or.inl h)
      exact loc_anyWake_ne _ _ _ _ hne

theorem IVirt.inner_step (hS : S.Valid) {st st' : SimSt} {fr : IFrame} {kids : List ITree}
    {roots : List Comp} {σ0 σ : SimSt} (hv : IVirt S orc st (.node fr kids) roots σ0 σ)
    {j : Nat} {k k' : ITree} (hj : kids[j]? = some k)
    (hstep : ∀ rootsk σ0k σk, IVirt S orc st k rootsk σ0k σk →
      ∃ σk', IVirt S orc st' k' rootsk σ0k σk' ∧
        ∀ x, ¬ AtOrBelow S k.name x → st'.loc x = st.loc x)
    (hname : k'.name = k.name) (ht : k'.fr.t = k.fr.t) :
    IVirt S orc st' (.node fr (kids.set j k')) roots σ0 σ ∧
      ∀ x, ¬ AtOrBelow S fr.L.name x → st'.loc x = st.loc x := by
  cases hv with
  | mk kr kv hL hcall hreach hown hinj hkid hrec =>
    have hkm : k ∈ kids := List.mem_of_getElem? hj
    obtain ⟨k1, k2, k3⟩ := hkid k hkm
    obtain ⟨σk', hvk', hfr⟩ := hstep _ _ _ (hrec k hkm)
    have hmem : ∀ k0, k0 ∈ kids.set j k' ↔ k0 = k' ∨ (k0 ∈ kids ∧ k0.name ≠ k.name) :=
      fun _ => mem_set_iff_of_nodup_map hinj hj
    constructor
    · refine .mk kr (fun n => if n = k.name then σk' else kv n) hL hcall hreach ?_
        ((map_set_of_eq hj hname).symm ▸ hinj) ?_ ?_
      · intro x hx hk
        have hnk : ∀ k0 ∈ kids, ¬ AtOrBelow S k0.name x := by
          intro k0 hk0 hxk
          by_cases hn : k0.name = k.name
          · refine hk k' ((hmem k').2 (Or.inl rfl)) ?_
            rw [hname, ← hn]
            exact hxk
          · exact hk k0 ((hmem k0).2 (Or.inr ⟨hk0, hn⟩)) hxk
        rw [hown x hx hnk]
        exact (hfr x (hnk k hkm)).symm
      · intro k0 hk0
        rcases (hmem k0).1 hk0 with rfl | ⟨h, _⟩
        · rw [hname, ht]
          exact ⟨k1, k2, k3⟩
        · exact hkid k0 h
      · intro k0 hk0
        rcases (hmem k0).1 hk0 with rfl | ⟨h, hne⟩
        · rw [hname, ht]
          simp only [if_pos]
          exact hvk'
        · simp only [if_neg hne]
          refine (hrec k0 h).congr hS st' ?_
          intro x hx
          apply hfr
          intro hxk
          exact hne (Foot.unique hS (hx.foot hS (hkid k0 h).2.1) (hxk.foot hS k2))
    · intro x hx
      apply hfr
      intro hxk
      exact hx (Or.inr (hxk.foot hS k2).below)

theorem IStep.sim (hS : S.Valid) {a b : SimSt × ITree} (h : IStep S orc a b) :
    ∀ (roots : List Comp) (σ0 σ : SimSt), IVirt S orc a.1 a.2 roots σ0 σ →
      ∃ σ', IVirt S orc b.1 b.2 roots σ0 σ' ∧
        ∀ x, ¬ AtOrBelow S a.2.name x → b.1.loc x = a.1.loc x := by
  induction h with
  | answer h1 h2 h3 =>
    intro roots σ0 σ hv
    exact IVirt.answer_step hS hv h1 h2 h3
  | opn h1 e1 e2 e3 hf hLv hcall =>
    intro roots σ0 σ hv
    exact ⟨σ, IVirt.open_step hS hv h1 e1 e2 e3 hf hLv hcall⟩
  | close hj hgp hgu h1 h3 =>
    intro roots σ0 σ hv
    exact IVirt.close_step hS hv hj hgp hgu h1 h3
  | inner hj hs ih =>
    intro roots σ0 σ hv
    obtain ⟨hL, ht, _⟩ := hs.root_same
    exact ⟨σ, IVirt.inner_step hS hv hj ih (congrArg Level.name hL) ht⟩

theorem IRun.sim (hS : S.Valid) {a b : SimSt × ITree} (h : IRun S orc a b) :
    ∀ (roots : List Comp) (σ0 σ : SimSt), IVirt S orc a.1 a.2 roots σ0 σ →
      ∃ σ', IVirt S orc b.1 b.2 roots σ0 σ' ∧
        ∀ x, ¬ AtOrBelow S a.2.name x → b.1.loc x = a.1.loc x := by
  induction h with
  | refl => intro roots σ0 σ hv; exact ⟨σ, hv, fun _ _ => rfl⟩
  | @step a b c hs _ ih =>
    intro roots σ0 σ hv
    obtain ⟨σ1, hv1, hf1⟩ := hs.sim hS roots σ0 σ hv
    obtain ⟨σ2, hv2, hf2⟩ := ih roots σ0 σ1 hv1
    have hn : b.2.name = a.2.name := congrArg Level.name hs.root_same.1
    refine ⟨σ2, hv2, fun x hx => ?_⟩
    rw [hf2 x (hn ▸ hx), hf1 x hx]

/-- the atomic counterpart exposes the same changes, and its final state has the same view under
EVERY key, not only at or below `lvl` (outside, neither execution changes anything) -/
theorem tickInter_atomic (hS : S.Valid) {lvl : Comp} {t : SimTime} {roots : List Comp}
    {inCh : List (Port × V)} {st : SimSt} {r : SimSt × List (Port × V)}
    (h : TickInter S orc lvl t roots inCh st r) :
    ∃ st'', TickLevelAny S orc lvl t roots inCh st (st'', r.2) ∧ LocEq st'' r.1 := by
  obtain ⟨L, tk, ds, fr, hLv, hcall, hrun, hp, hu, ho⟩ := h.inv
  obtain ⟨hL, hname⟩ := Static.level_some hLv
  subst hname
  obtain ⟨σ', hv, hf⟩ := hrun.sim hS roots st st (IVirt.leaf hL hcall fun _ _ => rfl)
  obtain ⟨fL, ft, fi⟩ := hrun.root_same
  simp only [ITree.fr_node] at fL ft fi
  obtain ⟨htick, hown⟩ := IVirt.tick hS (fr := fr) hv hp hu
  rw [fL, ft, fi, ← ho] at htick
  exact ⟨σ', htick, .of_locOn (fun x hx => hown x (fL ▸ hx))
    (fun _ => (tickLevelAny_post1 hS htick).frame') hf (.refl st)⟩

end Tickit
