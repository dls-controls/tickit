/-
One tick of one scheduler level of the nested whole-simulation model, for both models of it: the FIFO
function (`tickLevel` / `tickLoop` of `Core/Sim.lean`) and the any-order relation (`Core/SimAny.lean`).

`LoopP inner` / `AnsP inner` are the loop and the answer of ONE scheduler level, with the ticks of the
system components inside it given by an arbitrary relation `inner`.  `TickLevelAny` is the least relation
closed under "a level whose inner ticks are `TickLevelAny` executions"; this gives an induction principle
(`TickLevelAny.strong_induct`) in which the induction hypothesis is attached to every inner tick of a
level execution.  Inverting `simAnswer` (`simAnswer_fifo`) shows that the FIFO function `tickLevel` is
such a level too, its inner ticks being completed FIFO ticks with one unit of fuel less.  So a
post-condition of ticks that a level passes on from its inner ticks whatever the order of answers
(`Hereditary`) is proved once, by `cases` on `AnsP` and `LoopP.invariant`, and holds of both models.
-/
import TickitModel.Core.SimAny

namespace Tickit

/-! `tickLoop` (`Core/Sim.lean`) has its pieces inline.  `Core/SimAny.lean` names them, because the
any-order relation is written with them, and a few exist under further names, each tied to the
others by `rfl`.  Which is which, and for which the lemmas are stated:
* the answer to one dispatch: inline in `tickLoop` = `simAnswer` below (`tickLoop_cons`).  Lemmas are
  stated for `simAnswer` (`simAnswer_input`, `simAnswer_sys`, `simAnswer_dev` are its cases in terms
  of `sysRoots`, `sysPre`, `sysCallAt`, `devAfter` of `Core/SimAny.lean`; `simAnswer_fifo`);
* `add_wakeup` after an answer: inline in `tickLoop` = `anyWake` = `simWake` below
  (`anyWake_eq_simWake`).  Lemmas are stated for `anyWake` (`tickLoop_cons` already is), and for
  `wakeUpd` of `Lemmas/SimLoop.lean`, the function of ONE scheduler state inside it (`anyWake_eq`):
  what the new wakeup table holds is said of `wakeUpd`, where in the state it is put of `anyWake`.
  `simWake` occurs in `anyWake_eq_simWake` and `Refine.simWake_obs` only;
* the bookkeeping of a system before its inner tick: inline in `tickLoop` = `sysPre` = `nestedPrep`
  below (`sysPre_eq_nestedPrep`).  Lemmas are stated for `sysPre` (`simAnswer_sys` already is), and
  for `sysPreSched` of `Lemmas/SimLoop.lean`, the function of one scheduler state inside it
  (`sysPre_eq`).  `nestedPrep` occurs in `sysPre_eq_nestedPrep` and in the statement of
  `nested_tick_callAt_not_past` (`Props/C04Mono.lean`) only. -/

def simAnswer (S : Static) (orc : Oracle) (fuel : Nat) (L : Level) (inCh : List (Port × V))
    (st : SimSt) (outCh0 : List (Port × V)) (d : Dispatch V) :
    Except SimErr (SimSt × List (Port × V) × List (Port × V) × Option SimTime) :=
  let isNested := L.name != ""
  match d with
  | .skip _ _ => .ok (st, outCh0, [], none)
  | .input c t ins =>
    if isNested && c == pseudoExternal then .ok (st, outCh0, inCh, none)
    else if isNested && c == pseudoExpose then .ok (st, ins, [], none)
    else if S.isSys c then
      let sc := st.sched c
      let due := nestedDue sc.wake t
      let all := match S.level c with | some Lc => Lc.wiring.components | none => []
      let roots := sunion (sunion (sunion sc.interrupts due) [pseudoExternal]) (if sc.firstDone then [] else all)
      let sc' : SchedSt := { wake := delWakeups sc.wake due, interrupts := [], firstDone := true }
      let st1 := { st with scheds := upsert st.scheds c sc' }
      match tickLevel S orc fuel c t roots ins st1 with
      | .error e => .error e
      | .ok (st2, outCh) =>
        let sc2 := st2.sched c
        let callAt := if sc2.interrupts.isEmpty then (firstWakeups sc2.wake).2 else some t
        .ok (st2, outCh0, outCh, callAt)
    else
      let k := agetD st.count c 0
      match (agetD orc c [])[k]? with
      | none => .error (.noOracle c k)
      | some resp =>
        let dc := agetD st.devs c {}
        let merged := dc.merge ins
        let st1 := { st with obs := st.obs ++ [(⟨c, t, merged⟩ : Obs)], count := upsert st.count c (k + 1) }
        if resp.raises then .error (.deviceRaised c)
        else
          let (dc', ch) := dc.onTick ins (normDict resp.outs)
          .ok ({ st1 with devs := upsert st1.devs c dc' }, outCh0, ch, resp.callAt)

def simWake (st : SimSt) (lvl c : Comp) (callAt : Option SimTime) : SimSt :=
  let sc := st.sched lvl
  let sc' := match callAt with
    | some w => { sc with wake := addWakeup sc.wake c w }
    | none => sc
  { st with scheds := upsert st.scheds lvl sc' }

theorem tickLoop_zero (S : Static) (orc : Oracle) (fuel : Nat) (L : Level) (inCh : List (Port × V))
    (ls : LoopSt) : tickLoop S orc fuel 0 L inCh ls = .error .fuel := by
  rw [tickLoop]

theorem tickLoop_nil (S : Static) (orc : Oracle) (fuel steps : Nat) (L : Level) (inCh : List (Port × V))
    (ls : LoopSt) (h : ls.pending = []) :
    tickLoop S orc fuel (steps + 1) L inCh ls =
      if ls.tk.toUpdate.isEmpty then .ok (ls.st, ls.outCh) else .error (.stall L.name) := by
  rw [tickLoop.eq_2, h]

theorem tickLoop_cons (S : Static) (orc : Oracle) (fuel steps : Nat) (L : Level) (inCh : List (Port × V))
    (ls : LoopSt) (d : Dispatch V) (rest : List (Dispatch V)) (h : ls.pending = d :: rest) :
    tickLoop S orc fuel (steps + 1) L inCh ls =
      match simAnswer S orc fuel L inCh ls.st ls.outCh d with
      | .error e => .error e
      | .ok (st', outCh', changes, callAt) =>
        match ls.tk.propagate L.wiring d.comp d.time changes with
        | .error e => .error (.tick L.name e)
        | .ok (tk', ds) =>
          tickLoop S orc fuel steps L inCh ⟨tk', rest ++ ds, outCh', anyWake st' L.name d.comp callAt⟩ := by
  rw [tickLoop.eq_2, h]
  rfl

/-- what `SystemComponent.on_tick` → `NestedScheduler.on_tick` does to the bookkeeping of the
nested level `c` before its inner tick at time `t`: the due wakeups (`≤ t`) are removed, the queued
interrupts are taken. -/
def nestedPrep (st : SimSt) (c : Comp) (t : SimTime) : SimSt :=
  { st with scheds := (upsert st.scheds c
      ⟨delWakeups (st.sched c).wake (nestedDue (st.sched c).wake t), [], true⟩) }

theorem sysPre_eq_nestedPrep (st : SimSt) (c : Comp) (t : SimTime) :
    sysPre st c t = nestedPrep st c t := rfl

theorem simAnswer_input (S : Static) (orc : Oracle) (fuel : Nat) (L : Level) (inCh : List (Port × V))
    (st : SimSt) (o : List (Port × V)) (c : Comp) (t : SimTime) (ins : List (Port × V)) :
    simAnswer S orc fuel L inCh st o (.input c t ins) =
      if (L.name != "" && c == pseudoExternal) = true then .ok (st, o, inCh, none)
      else if (L.name != "" && c == pseudoExpose) = true then .ok (st, ins, [], none)
      else if S.isSys c = true then
        match tickLevel S orc fuel c t (sysRoots S st c t) ins (sysPre st c t) with
        | .error e => .error e
        | .ok (st2, outCh) => .ok (st2, o, outCh, sysCallAt st2 c t)
      else
        match (agetD orc c [])[agetD st.count c 0]? with
        | none => .error (.noOracle c (agetD st.count c 0))
        | some resp =>
          if resp.raises = true then .error (.deviceRaised c)
          else .ok ((devAfter st c t ins resp).1, o, (devAfter st c t ins resp).2, resp.callAt) :=
  rfl

theorem simAnswer_sys {S : Static} {orc : Oracle} {fuel : Nat} {L : Level} {inCh : List (Port × V)}
    {st : SimSt} {o : List (Port × V)} {c : Comp} {t : SimTime} {ins : List (Port × V)}
    (h1 : (L.name != "" && c == pseudoExternal) = false)
    (h2 : (L.name != "" && c == pseudoExpose) = false) (h3 : S.isSys c = true) :
    simAnswer S orc fuel L inCh st o (.input c t ins) =
      match tickLevel S orc fuel c t (sysRoots S st c t) ins (sysPre st c t) with
      | .error e => .error e
      | .ok (st2, outCh) => .ok (st2, o, outCh, sysCallAt st2 c t) := by
  rw [simAnswer_input, if_neg (ne_true_of_eq_false h1), if_neg (ne_true_of_eq_false h2), if_pos h3]

theorem simAnswer_dev {S : Static} {orc : Oracle} {fuel : Nat} {L : Level} {inCh : List (Port × V)}
    {st : SimSt} {o : List (Port × V)} {c : Comp} {t : SimTime} {ins : List (Port × V)} {resp : DevResp}
    (h1 : (L.name != "" && c == pseudoExternal) = false)
    (h2 : (L.name != "" && c == pseudoExpose) = false) (h3 : S.isSys c = false)
    (h4 : (agetD orc c [])[agetD st.count c 0]? = some resp) (h5 : resp.raises = false) :
    simAnswer S orc fuel L inCh st o (.input c t ins) =
      .ok ((devAfter st c t ins resp).1, o, (devAfter st c t ins resp).2, resp.callAt) := by
  rw [simAnswer_input, if_neg (ne_true_of_eq_false h1), if_neg (ne_true_of_eq_false h2),
    if_neg (ne_true_of_eq_false h3), h4]
  exact if_neg (ne_true_of_eq_false h5)

theorem tickLoop_invariant {S : Static} {orc : Oracle} {fuel : Nat} {L : Level}
    {inCh : List (Port × V)} {I : LoopSt → Prop}
    (hstep : ∀ ls d rest st' o' ch ca tk' ds, I ls → ls.pending = d :: rest →
      simAnswer S orc fuel L inCh ls.st ls.outCh d = .ok (st', o', ch, ca) →
      ls.tk.propagate L.wiring d.comp d.time ch = .ok (tk', ds) →
      I ⟨tk', rest ++ ds, o', anyWake st' L.name d.comp ca⟩) :
    ∀ (steps : Nat) (ls : LoopSt) (r : SimSt × List (Port × V)), I ls →
      tickLoop S orc fuel steps L inCh ls = .ok r →
      ∃ ls', I ls' ∧ ls'.pending = [] ∧ ls'.tk.toUpdate = [] ∧ r = (ls'.st, ls'.outCh) := by
  intro steps
  induction steps with
  | zero =>
    intro ls r _ h
    rw [tickLoop_zero] at h; cases h
  | succ steps ih =>
    intro ls r inv h
    cases hp : ls.pending with
    | nil =>
      rw [tickLoop_nil _ _ _ _ _ _ _ hp] at h
      split at h
      · rename_i he
        cases h
        exact ⟨ls, inv, hp, List.isEmpty_iff.1 he, rfl⟩
      · cases h
    | cons d rest =>
      rw [tickLoop_cons _ _ _ _ _ _ _ _ _ hp] at h
      split at h
      · cases h
      · rename_i st1 outCh1 changes callAt ha
        split at h
        · cases h
        · rename_i tk' ds hprop
          exact ih _ r (hstep _ _ _ _ _ _ _ _ _ inv hp ha hprop) h

theorem tickLevel_eq_ok {S : Static} {orc : Oracle} {fuel : Nat} {lvl : Comp} {t : SimTime}
    {roots : List Comp} {inCh : List (Port × V)} {st : SimSt} {r : SimSt × List (Port × V)}
    (h : tickLevel S orc fuel lvl t roots inCh st = .ok r) :
    ∃ fuel' L tk ds, fuel = fuel' + 1 ∧ S.level lvl = some L ∧
      (Ticker.call L.wiring t roots : Except TickErr (Ticker V × List (Dispatch V))) = .ok (tk, ds) ∧
      tickLoop S orc fuel' ((L.wiring.components.length + 2) * 2) L inCh ⟨tk, ds, [], st⟩ = .ok r := by
  cases fuel with
  | zero => rw [tickLevel] at h; cases h
  | succ fuel =>
    rw [tickLevel.eq_2] at h
    split at h
    · cases h
    · rename_i L hLv
      split at h
      · cases h
      · rename_i tk ds hcall
        exact ⟨fuel, L, tk, ds, rfl, hLv, hcall, h⟩

theorem masterInitial_eq_ok {S : Static} {orc : Oracle} {fuel : Nat} {t0 : SimTime} {now : Int}
    {m : MasterSt} {tr : TickRec} (h : masterInitial S orc fuel t0 now = .ok (m, tr)) :
    ∃ L st out, S.level "" = some L ∧
      tickLevel S orc fuel "" t0 L.wiring.components [] {} = .ok (st, out) ∧
      m = { sim := st, tickerTime := t0, lastReal := now, now := now } ∧
      tr = ⟨t0, now, L.wiring.components⟩ := by
  unfold masterInitial at h
  split at h
  · cases h
  · rename_i L hL
    simp only [] at h -- reduces the `let roots := …` that `unfold` leaves
    split at h
    · cases h
    · rename_i st out hr
      cases h
      exact ⟨L, st, out, hL, hr, rfl, rfl⟩

theorem masterInitial_tick {S : Static} {orc : Oracle} {fuel : Nat} {t0 : SimTime} {now : Int}
    {m : MasterSt} {tr : TickRec} (h : masterInitial S orc fuel t0 now = .ok (m, tr)) :
    ∃ L out, S.level "" = some L ∧
      tickLevel S orc fuel "" t0 L.wiring.components [] {} = .ok (m.sim, out) := by
  obtain ⟨L, st, out, hL, hr, rfl, _⟩ := masterInitial_eq_ok h
  exact ⟨L, out, hL, hr⟩

theorem masterInitial_clock {S : Static} {orc : Oracle} {fuel : Nat} {t0 : SimTime} {now : Int}
    {m : MasterSt} {tr : TickRec} (h : masterInitial S orc fuel t0 now = .ok (m, tr)) :
    m.tickerTime = t0 ∧ m.lastReal = now ∧ m.now = now ∧ tr.time = t0 ∧ tr.real = now := by
  obtain ⟨_, _, _, _, _, rfl, rfl⟩ := masterInitial_eq_ok h
  exact ⟨rfl, rfl, rfl, rfl, rfl⟩

abbrev LevelRel := Comp → SimTime → List Comp → List (Port × V) → SimSt → SimSt × List (Port × V) → Prop

/-- what answering `d` does to the level's exposed output changes: `expose` stores its input -/
def exposeIns (L : Level) : Dispatch V → Option (List (Port × V))
  | .skip _ _ => none
  | .input c _ ins =>
    if (L.name != "" && c == pseudoExternal) then none
    else if (L.name != "" && c == pseudoExpose) then some ins else none

theorem pseudoExpose_ne_pseudoExternal : pseudoExpose ≠ pseudoExternal := by decide

theorem exposeIns_eq_some {L : Level} {d : Dispatch V} {ins : List (Port × V)} :
    exposeIns L d = some ins ↔ L.name ≠ "" ∧ ∃ t, d = .input pseudoExpose t ins := by
  cases d with
  | skip c t => simp [exposeIns]
  | input c t i =>
    by_cases hc : c = pseudoExpose
    · subst hc
      simp [exposeIns, pseudoExpose_ne_pseudoExternal]
    · simp [exposeIns, hc]

theorem exposeIns_getD_of_ne (L : Level) {d : Dispatch V} (hne : d.comp ≠ pseudoExpose)
    (o : List (Port × V)) : (exposeIns L d).getD o = o := by
  cases d with
  | skip => rfl
  | input c t ins =>
    have hc : c ≠ pseudoExpose := hne
    simp [exposeIns, hc]

theorem exposeIns_getD_expose {L : Level} (hne : L.name ≠ "") (t : SimTime) (ins o : List (Port × V)) :
    (exposeIns L (.input pseudoExpose t ins)).getD o = ins := by
  have hx : pseudoExpose ≠ pseudoExternal := by decide
  simp [exposeIns, hne, hx]

/-- the result of an answer is the new state, `Output.changes`, `call_at` -/
inductive AnsP (S : Static) (orc : Oracle) (inner : LevelRel) (L : Level) (inCh : List (Port × V))
    (st : SimSt) : Dispatch V → SimSt × List (Port × V) × Option SimTime → Prop
  | skip {c : Comp} {t : SimTime} : AnsP S orc inner L inCh st (.skip c t) (st, [], none)
  | external {c : Comp} {t : SimTime} {ins : List (Port × V)} :
      (L.name != "" && c == pseudoExternal) = true →
      AnsP S orc inner L inCh st (.input c t ins) (st, inCh, none)
  | expose {c : Comp} {t : SimTime} {ins : List (Port × V)} :
      (L.name != "" && c == pseudoExternal) = false →
      (L.name != "" && c == pseudoExpose) = true →
      AnsP S orc inner L inCh st (.input c t ins) (st, [], none)
  | sys {c : Comp} {t : SimTime} {ins : List (Port × V)} {st2 : SimSt} {outCh : List (Port × V)} :
      (L.name != "" && c == pseudoExternal) = false →
      (L.name != "" && c == pseudoExpose) = false →
      S.isSys c = true →
      inner c t (sysRoots S st c t) ins (sysPre st c t) (st2, outCh) →
      AnsP S orc inner L inCh st (.input c t ins) (st2, outCh, sysCallAt st2 c t)
  | dev {c : Comp} {t : SimTime} {ins : List (Port × V)} {resp : DevResp} :
      (L.name != "" && c == pseudoExternal) = false →
      (L.name != "" && c == pseudoExpose) = false →
      S.isSys c = false →
      (agetD orc c [])[agetD st.count c 0]? = some resp →
      resp.raises = false →
      AnsP S orc inner L inCh st (.input c t ins)
        ((devAfter st c t ins resp).1, (devAfter st c t ins resp).2, resp.callAt)

inductive LoopP (S : Static) (orc : Oracle) (inner : LevelRel) (L : Level) (inCh : List (Port × V)) :
    LoopSt → SimSt × List (Port × V) → Prop
  | done {ls : LoopSt} : ls.pending = [] → ls.tk.toUpdate.isEmpty = true →
      LoopP S orc inner L inCh ls (ls.st, ls.outCh)
  | step {ls : LoopSt} {i : Nat} {d : Dispatch V} {st' : SimSt} {changes : List (Port × V)}
      {callAt : Option SimTime} {tk' : Ticker V} {ds : List (Dispatch V)}
      {r : SimSt × List (Port × V)} :
      ls.pending[i]? = some d →
      AnsP S orc inner L inCh ls.st d (st', changes, callAt) →
      ls.tk.propagate L.wiring d.comp d.time changes = .ok (tk', ds) →
      LoopP S orc inner L inCh
        ⟨tk', ls.pending.eraseIdx i ++ ds, (exposeIns L d).getD ls.outCh,
          anyWake st' L.name d.comp callAt⟩ r →
      LoopP S orc inner L inCh ls r

def LevelP (S : Static) (orc : Oracle) (inner : LevelRel) : LevelRel :=
  fun lvl t roots inCh st r =>
    ∃ L tk ds, S.level lvl = some L ∧
      (Ticker.call L.wiring t roots : Except TickErr (Ticker V × List (Dispatch V))) = .ok (tk, ds) ∧
      LoopP S orc inner L inCh ⟨tk, ds, [], st⟩ r

theorem AnsP.mono {S : Static} {orc : Oracle} {inner inner' : LevelRel}
    (h : ∀ c t ro i s r, inner c t ro i s r → inner' c t ro i s r) {L : Level}
    {inCh : List (Port × V)} {st : SimSt} {d : Dispatch V}
    {res : SimSt × List (Port × V) × Option SimTime} (a : AnsP S orc inner L inCh st d res) :
    AnsP S orc inner' L inCh st d res := by
  cases a with
  | skip => exact .skip
  | external h1 => exact .external h1
  | expose h1 h2 => exact .expose h1 h2
  | sys h1 h2 h3 h4 => exact .sys h1 h2 h3 (h _ _ _ _ _ _ h4)
  | dev h1 h2 h3 h4 h5 => exact .dev h1 h2 h3 h4 h5

theorem LoopP.mono {S : Static} {orc : Oracle} {inner inner' : LevelRel}
    (h : ∀ c t ro i s r, inner c t ro i s r → inner' c t ro i s r) {L : Level}
    {inCh : List (Port × V)} {ls : LoopSt} {r : SimSt × List (Port × V)}
    (a : LoopP S orc inner L inCh ls r) : LoopP S orc inner' L inCh ls r := by
  induction a with
  | done h1 h2 => exact .done h1 h2
  | step h1 h2 h3 _ ih => exact .step h1 (h2.mono h) h3 ih

theorem answerAny_iff {S : Static} {orc : Oracle} {L : Level} {inCh : List (Port × V)} {st : SimSt}
    {o : List (Port × V)} {d : Dispatch V} {st' : SimSt} {o' ch : List (Port × V)}
    {ca : Option SimTime} :
    AnswerAny S orc L inCh st o d (st', o', ch, ca) ↔
      AnsP S orc (TickLevelAny S orc) L inCh st d (st', ch, ca) ∧ o' = (exposeIns L d).getD o := by
  constructor
  · intro a
    cases a with
    | skip => exact ⟨.skip, rfl⟩
    | external h1 => exact ⟨.external h1, by simp [exposeIns, h1]⟩
    | expose h1 h2 => exact ⟨.expose h1 h2, by simp [exposeIns, h1, h2]⟩
    | sys h1 h2 h3 h4 => exact ⟨.sys h1 h2 h3 h4, by simp [exposeIns, h1, h2]⟩
    | dev h1 h2 h3 h4 h5 => exact ⟨.dev h1 h2 h3 h4 h5, by simp [exposeIns, h1, h2]⟩
  · rintro ⟨a, rfl⟩
    cases a with
    | skip => exact .skip
    | external h1 => simpa [exposeIns, h1] using AnswerAny.external (outCh0 := o) h1
    | expose h1 h2 => simpa [exposeIns, h1, h2] using AnswerAny.expose (outCh0 := o) h1 h2
    | sys h1 h2 h3 h4 => simpa [exposeIns, h1, h2] using AnswerAny.sys (outCh0 := o) h1 h2 h3 h4
    | dev h1 h2 h3 h4 h5 =>
      simpa [exposeIns, h1, h2] using AnswerAny.dev (outCh0 := o) h1 h2 h3 h4 h5

theorem TickLevelAny.strong_induct {S : Static} {orc : Oracle} (Q : LevelRel)
    (hstep : ∀ lvl t roots inCh st r,
      LevelP S orc (fun c t ro i s r => TickLevelAny S orc c t ro i s r ∧ Q c t ro i s r)
        lvl t roots inCh st r → Q lvl t roots inCh st r)
    {lvl : Comp} {t : SimTime} {roots : List Comp} {inCh : List (Port × V)} {st : SimSt}
    {r : SimSt × List (Port × V)} (h : TickLevelAny S orc lvl t roots inCh st r) :
    Q lvl t roots inCh st r := by
  -- the motives: `Q` for a tick; for a loop and for an answer, the same execution as a `LoopP` / `AnsP`
  -- whose inner ticks carry `Q` (for an answer this is `answerAny_iff.1`, case by case, with the
  -- induction hypothesis attached to the inner tick in `sys`)
  refine TickLevelAny.rec
    (motive_1 := fun lvl t roots inCh st r _ => Q lvl t roots inCh st r)
    (motive_2 := fun L inCh ls r _ =>
      LoopP S orc (fun c t ro i s r => TickLevelAny S orc c t ro i s r ∧ Q c t ro i s r) L inCh ls r)
    (motive_3 := fun L inCh st o d res _ =>
      AnsP S orc (fun c t ro i s r => TickLevelAny S orc c t ro i s r ∧ Q c t ro i s r) L inCh st d
        (res.1, res.2.2.1, res.2.2.2) ∧ res.2.1 = (exposeIns L d).getD o)
    ?_ ?_ ?_ ?_ ?_ ?_ ?_ ?_ h
  · intro lvl t roots inCh st L tk ds r hL hcall _ ih
    exact hstep _ _ _ _ _ _ ⟨L, tk, ds, hL, hcall, ih⟩
  · intro L inCh ls h1 h2
    exact .done h1 h2
  · intro L inCh ls i d st' outCh' changes callAt tk' ds r h1 _ h3 _ ih1 ih2
    obtain ⟨ia, io⟩ := ih1
    simp only at ia io
    subst io
    exact .step h1 ia h3 ih2
  · intro L inCh st o c t
    exact ⟨.skip, rfl⟩
  · intro L inCh st o c t ins h1
    exact ⟨.external h1, by simp [exposeIns, h1]⟩
  · intro L inCh st o c t ins h1 h2
    exact ⟨.expose h1 h2, by simp [exposeIns, h1, h2]⟩
  · intro L inCh st o c t ins st2 outCh h1 h2 h3 h4 ih
    exact ⟨.sys h1 h2 h3 ⟨h4, ih⟩, by simp [exposeIns, h1, h2]⟩
  · intro L inCh st o c t ins resp h1 h2 h3 h4 h5
    exact ⟨.dev h1 h2 h3 h4 h5, by simp [exposeIns, h1, h2]⟩

theorem LoopP.toAny {S : Static} {orc : Oracle} {L : Level} {inCh : List (Port × V)} {ls : LoopSt}
    {r : SimSt × List (Port × V)} (a : LoopP S orc (TickLevelAny S orc) L inCh ls r) :
    TickLoopAny S orc L inCh ls r := by
  induction a with
  | done h1 h2 => exact .done h1 h2
  | step h1 h2 h3 _ ih => exact .step h1 (answerAny_iff.2 ⟨h2, rfl⟩) h3 ih

theorem tickLevelAny_iff {S : Static} {orc : Oracle} {lvl : Comp} {t : SimTime} {roots : List Comp}
    {inCh : List (Port × V)} {st : SimSt} {r : SimSt × List (Port × V)} :
    TickLevelAny S orc lvl t roots inCh st r ↔
      LevelP S orc (TickLevelAny S orc) lvl t roots inCh st r := by
  refine ⟨TickLevelAny.strong_induct (Q := LevelP S orc (TickLevelAny S orc)) ?_,
    fun ⟨_, _, _, hL, hcall, hl⟩ => .mk hL hcall hl.toAny⟩
  rintro lvl t roots inCh st r ⟨L, tk, ds, hL, hcall, hl⟩
  exact ⟨L, tk, ds, hL, hcall, hl.mono (fun _ _ _ _ _ _ h => h.1)⟩

theorem anyWake_eq_simWake (st : SimSt) (lvl c : Comp) (ca : Option SimTime) :
    anyWake st lvl c ca = simWake st lvl c ca := rfl

def fifoRel (S : Static) (orc : Oracle) (fuel : Nat) : LevelRel :=
  fun lvl t ro i s r => tickLevel S orc fuel lvl t ro i s = .ok r

theorem simAnswer_fifo {S : Static} {orc : Oracle} {fuel : Nat} {L : Level} {inCh : List (Port × V)}
    {st : SimSt} {o : List (Port × V)} {d : Dispatch V} {st' : SimSt} {o' ch : List (Port × V)}
    {ca : Option SimTime} (h : simAnswer S orc fuel L inCh st o d = .ok (st', o', ch, ca)) :
    AnsP S orc (fifoRel S orc fuel) L inCh st d (st', ch, ca) ∧ o' = (exposeIns L d).getD o := by
  cases d with
  | skip c t =>
    cases h
    exact ⟨.skip, rfl⟩
  | input c t ins =>
    rw [simAnswer_input] at h
    -- each `if` is removed by `if_pos`/`if_neg` and transitivity: rewriting inside `h` is slow to check
    cases h1 : (L.name != "" && c == pseudoExternal) with
    | true =>
      cases (if_pos h1).symm.trans h
      exact ⟨.external h1, by simp [exposeIns, h1]⟩
    | false =>
      replace h := (if_neg (ne_true_of_eq_false h1)).symm.trans h
      cases h2 : (L.name != "" && c == pseudoExpose) with
      | true =>
        cases (if_pos h2).symm.trans h
        exact ⟨.expose h1 h2, by simp [exposeIns, h1, h2]⟩
      | false =>
        replace h := (if_neg (ne_true_of_eq_false h2)).symm.trans h
        cases h3 : S.isSys c with
        | true =>
          replace h := (if_pos h3).symm.trans h
          cases hr : tickLevel S orc fuel c t (sysRoots S st c t) ins (sysPre st c t) with
          | error e => rw [hr] at h; cases h
          | ok r =>
            rw [hr] at h
            cases h
            exact ⟨.sys h1 h2 h3 hr, by simp [exposeIns, h1, h2]⟩
        | false =>
          replace h := (if_neg (ne_true_of_eq_false h3)).symm.trans h
          cases hresp : (agetD orc c [])[agetD st.count c 0]? with
          | none => rw [hresp] at h; cases h
          | some resp =>
            rw [hresp] at h
            cases hraise : resp.raises with
            | true => cases (if_pos hraise).symm.trans h
            | false =>
              cases (if_neg (ne_true_of_eq_false hraise)).symm.trans h
              exact ⟨.dev h1 h2 h3 hresp hraise, by simp [exposeIns, h1, h2]⟩

theorem tickLoop_loopP {S : Static} {orc : Oracle} {fuel : Nat} {L : Level} {inCh : List (Port × V)} :
    ∀ (steps : Nat) (ls : LoopSt) (r : SimSt × List (Port × V)),
      tickLoop S orc fuel steps L inCh ls = .ok r → LoopP S orc (fifoRel S orc fuel) L inCh ls r := by
  intro steps ls r h
  -- invariant: an execution from the current loop state extends to one from `ls`
  obtain ⟨ls', inv, hp, he, rfl⟩ := tickLoop_invariant
    (I := fun ls' => ∀ r, LoopP S orc (fifoRel S orc fuel) L inCh ls' r →
      LoopP S orc (fifoRel S orc fuel) L inCh ls r)
    (fun ls' d rest _ _ _ _ _ _ inv hp ha hprop r hr => by
      obtain ⟨ia, rfl⟩ := simAnswer_fifo ha
      refine inv r (.step (i := 0) (by rw [hp]; rfl) ia hprop ?_)
      rw [hp]
      exact hr)
    steps ls r (fun _ hr => hr) h
  exact inv _ (.done hp (List.isEmpty_iff.2 he))

theorem LoopP.invariant {S : Static} {orc : Oracle} {inner : LevelRel} {L : Level}
    {inCh : List (Port × V)} {I : LoopSt → Prop}
    (hstep : ∀ {ls : LoopSt} {i : Nat} {d : Dispatch V} {st' : SimSt} {ch : List (Port × V)}
      {ca : Option SimTime} {tk' : Ticker V} {ds : List (Dispatch V)}, I ls →
      ls.pending[i]? = some d → AnsP S orc inner L inCh ls.st d (st', ch, ca) →
      ls.tk.propagate L.wiring d.comp d.time ch = .ok (tk', ds) →
      I ⟨tk', ls.pending.eraseIdx i ++ ds, (exposeIns L d).getD ls.outCh,
        anyWake st' L.name d.comp ca⟩)
    {ls : LoopSt} {r : SimSt × List (Port × V)} (a : LoopP S orc inner L inCh ls r) (h : I ls) :
    ∃ ls', I ls' ∧ ls'.pending = [] ∧ ls'.tk.toUpdate = [] ∧ r = (ls'.st, ls'.outCh) := by
  induction a with
  | @done ls h1 h2 => exact ⟨ls, h, h1, List.isEmpty_iff.1 h2, rfl⟩
  | step h1 h2 h3 _ ih => exact ih (hstep h h1 h2 h3)

theorem tickLevel_levelP {S : Static} {orc : Oracle} {fuel : Nat} {lvl : Comp} {t : SimTime}
    {roots : List Comp} {inCh : List (Port × V)} {st : SimSt} {r : SimSt × List (Port × V)}
    (h : tickLevel S orc fuel lvl t roots inCh st = .ok r) :
    ∃ fuel', fuel = fuel' + 1 ∧
      LevelP S orc (fifoRel S orc fuel') lvl t roots inCh st r := by
  obtain ⟨fuel', L, tk, ds, hf, hLv, hcall, hloop⟩ := tickLevel_eq_ok h
  exact ⟨fuel', hf, L, tk, ds, hLv, hcall, tickLoop_loopP _ _ _ hloop⟩

theorem tickLevel_fuel_induct {S : Static} {orc : Oracle} (Q : Nat → LevelRel)
    (hstep : ∀ fuel lvl t roots inCh st r,
      LevelP S orc (fun c t ro i s r => tickLevel S orc fuel c t ro i s = .ok r ∧ Q fuel c t ro i s r)
        lvl t roots inCh st r → Q (fuel + 1) lvl t roots inCh st r) :
    ∀ (fuel : Nat) (lvl : Comp) (t : SimTime) (roots : List Comp) (inCh : List (Port × V))
      (st : SimSt) (r : SimSt × List (Port × V)),
      tickLevel S orc fuel lvl t roots inCh st = .ok r → Q fuel lvl t roots inCh st r := by
  intro fuel
  induction fuel with
  | zero =>
    intro lvl t roots inCh st r h
    rw [tickLevel] at h; cases h
  | succ fuel IH =>
    intro lvl t roots inCh st r h
    obtain ⟨_, hf, L, tk, ds, hLv, hcall, hloop⟩ := tickLevel_levelP h
    cases hf
    exact hstep _ _ _ _ _ _ _ ⟨L, tk, ds, hLv, hcall,
      hloop.mono fun _ _ _ _ _ _ h' => ⟨h', IH _ _ _ _ _ _ h'⟩⟩

def Hereditary (S : Static) (orc : Oracle) (Q : LevelRel) : Prop :=
  ∀ inner : LevelRel, (∀ c t ro i s r, inner c t ro i s r → Q c t ro i s r) →
    ∀ lvl t roots inCh st r, LevelP S orc inner lvl t roots inCh st r → Q lvl t roots inCh st r

theorem Hereditary.tickLevel {S : Static} {orc : Oracle} {Q : LevelRel} (hQ : Hereditary S orc Q) :
    ∀ (fuel : Nat) (lvl : Comp) (t : SimTime) (roots : List Comp) (inCh : List (Port × V))
      (st : SimSt) (r : SimSt × List (Port × V)),
      tickLevel S orc fuel lvl t roots inCh st = .ok r → Q lvl t roots inCh st r :=
  tickLevel_fuel_induct (fun _ => Q) fun _ _ _ _ _ _ _ hl =>
    hQ _ (fun _ _ _ _ _ _ h => h.2) _ _ _ _ _ _ hl

theorem Hereditary.tickLevelAny {S : Static} {orc : Oracle} {Q : LevelRel} (hQ : Hereditary S orc Q)
    {lvl : Comp} {t : SimTime} {roots : List Comp} {inCh : List (Port × V)} {st : SimSt}
    {r : SimSt × List (Port × V)} (a : TickLevelAny S orc lvl t roots inCh st r) :
    Q lvl t roots inCh st r :=
  TickLevelAny.strong_induct Q (fun _ _ _ _ _ _ hl => hQ _ (fun _ _ _ _ _ _ h => h.2) _ _ _ _ _ _ hl) a

theorem tickLevel_any {S : Static} {orc : Oracle} :
    ∀ (fuel : Nat) (lvl : Comp) (t : SimTime) (roots : List Comp) (inCh : List (Port × V))
      (st : SimSt) (r : SimSt × List (Port × V)),
      tickLevel S orc fuel lvl t roots inCh st = .ok r → TickLevelAny S orc lvl t roots inCh st r :=
  tickLevel_fuel_induct (fun _ => TickLevelAny S orc) fun _ _ _ _ _ _ _ ⟨L, tk, ds, hLv, hcall, hl⟩ =>
    .mk hLv hcall (hl.mono fun _ _ _ _ _ _ h => h.2).toAny

end Tickit
