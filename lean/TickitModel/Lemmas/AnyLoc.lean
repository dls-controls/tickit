/-
Any-order nested tick: the state of the whole-simulation model seen key by key (`SimSt.loc`); the
equivalence of such local states (maps compared as mappings, observations with `ObsEq`) under the
keys of a region (`EqOn`; a region is any predicate on keys) or under every key (`SimSt.Equiv`); the
effect of the primitive updates on the local view.  At the end the counterpart with EQUAL local
states (`LocOn`, `LocEq`), which the interleaved semantics uses.
-/
import TickitModel.Core.SimAny
import TickitModel.Lemmas.ListLemmas
import TickitModel.Lemmas.FlatDetLemmas
import TickitModel.Lemmas.SimLoop

namespace Tickit

/-- what the whole-simulation state holds under a key `x`, which names a device (state, update count,
observations) or a level / system (scheduler state) -/
structure SLoc where
  dev : DevComp V
  cnt : Nat
  sch : SchedSt
  ob : List (SimTime × List (Port × V))

def SimSt.loc (st : SimSt) (x : Comp) : SLoc :=
  ⟨agetD st.devs x {}, agetD st.count x 0, st.sched x, st.obsOf x⟩

structure SchedSt.Equiv (a b : SchedSt) : Prop where
  wake : MapEq a.wake b.wake
  ua : UniqueKeys a.wake
  ub : UniqueKeys b.wake
  ints : ∀ c, c ∈ a.interrupts ↔ c ∈ b.interrupts
  first : a.firstDone = b.firstDone

structure SLoc.Equiv (a b : SLoc) : Prop where
  ins : MapEq a.dev.deviceInputs b.dev.deviceInputs
  outs : MapEq a.dev.lastOutputs b.dev.lastOutputs
  cnt : a.cnt = b.cnt
  sch : a.sch.Equiv b.sch
  ob : ObsEq a.ob b.ob

def EqOn (P : Comp → Prop) (a b : SimSt) : Prop := ∀ x, P x → (a.loc x).Equiv (b.loc x)

/-- Python's `wakeups` is a dict; the model's association list need not be -/
def SimSt.WakeWF (st : SimSt) : Prop := ∀ s, UniqueKeys (st.sched s).wake

theorem obsEq_induct {P : List (SimTime × List (Port × V)) → List (SimTime × List (Port × V)) → Prop}
    (nil : P [] [])
    (cons : ∀ t i i' a b, MapEq i i' → ObsEq a b → P a b → P ((t, i) :: a) ((t, i') :: b))
    {a b : List (SimTime × List (Port × V))} (h : ObsEq a b) : P a b := by
  induction a generalizing b with
  | nil =>
    cases b with
    | nil => exact nil
    | cons y b => exact h.elim
  | cons x a ih =>
    cases b with
    | nil => exact h.elim
    | cons y b =>
      obtain ⟨t, i⟩ := x
      obtain ⟨t', i'⟩ := y
      obtain ⟨rfl, hi, hr⟩ : t = t' ∧ MapEq i i' ∧ ObsEq a b := h
      exact cons _ _ _ _ _ hi hr (ih hr)

theorem obsEq_times {a b : List (SimTime × List (Port × V))} (h : ObsEq a b) :
    a.map (·.1) = b.map (·.1) :=
  obsEq_induct (P := fun a b => a.map (·.1) = b.map (·.1)) rfl
    (fun t _ _ _ _ _ _ ih => congrArg (t :: ·) ih) h

theorem obsEq_mem {a b : List (SimTime × List (Port × V))} (h : ObsEq a b)
    {x : SimTime × List (Port × V)} (hx : x ∈ a) : ∃ y ∈ b, x.1 = y.1 ∧ MapEq x.2 y.2 := by
  refine obsEq_induct (P := fun a b => x ∈ a → ∃ y ∈ b, x.1 = y.1 ∧ MapEq x.2 y.2) nofun ?_ h hx
  intro t i i' a b hi _ ih hx
  rcases List.mem_cons.1 hx with rfl | hx
  · exact ⟨(t, i'), List.mem_cons_self, rfl, hi⟩
  · obtain ⟨y, hy, hxy⟩ := ih hx
    exact ⟨y, List.mem_cons_of_mem _ hy, hxy⟩

theorem obsEq_append_singleton {a b : List (SimTime × List (Port × V))} {t : SimTime}
    {i : List (Port × V)} (h : ObsEq a (b ++ [(t, i)])) :
    ∃ a' i', a = a' ++ [(t, i')] ∧ ObsEq a' b ∧ MapEq i' i := by
  induction b generalizing a with
  | nil =>
    cases a with
    | nil => exact h.elim
    | cons x a =>
      obtain ⟨t1, i1⟩ := x
      obtain ⟨rfl, hi, hr⟩ : t1 = t ∧ MapEq i1 i ∧ ObsEq a [] := h
      cases a with
      | nil => exact ⟨[], i1, rfl, trivial, hi⟩
      | cons y a => exact hr.elim
  | cons y b ih =>
    cases a with
    | nil => exact h.elim
    | cons x a =>
      obtain ⟨t1, i1⟩ := x
      obtain ⟨t2, i2⟩ := y
      obtain ⟨ht, hi, hr⟩ : t1 = t2 ∧ MapEq i1 i2 ∧ ObsEq a (b ++ [(t, i)]) := h
      obtain ⟨a', i', h1, h2, h3⟩ := ih hr
      exact ⟨(t1, i1) :: a', i', by rw [h1]; rfl, ⟨ht, hi, h2⟩, h3⟩

theorem obsEq_append_left_cancel {a b x y : List (SimTime × List (Port × V))} (h0 : ObsEq a b)
    (h : ObsEq (a ++ x) (b ++ y)) : ObsEq x y :=
  obsEq_induct (P := fun a b => ObsEq (a ++ x) (b ++ y) → ObsEq x y) id
    (fun _ _ _ _ _ _ _ ih h => ih h.2.2) h0 h

theorem SchedSt.Equiv.refl {a : SchedSt} (h : UniqueKeys a.wake) : a.Equiv a :=
  ⟨MapEq.refl _, h, h, fun _ => Iff.rfl, rfl⟩

theorem SchedSt.Equiv.symm {a b : SchedSt} (h : a.Equiv b) : b.Equiv a :=
  ⟨h.wake.symm, h.ub, h.ua, fun c => (h.ints c).symm, h.first.symm⟩

theorem SchedSt.Equiv.trans {a b c : SchedSt} (h : a.Equiv b) (h' : b.Equiv c) : a.Equiv c :=
  ⟨h.wake.trans h'.wake, h.ua, h'.ub, fun x => (h.ints x).trans (h'.ints x), h.first.trans h'.first⟩

theorem SLoc.Equiv.refl {a : SLoc} (h : UniqueKeys a.sch.wake) : a.Equiv a :=
  ⟨MapEq.refl _, MapEq.refl _, rfl, .refl h, Det.obsEq_refl _⟩

theorem SLoc.Equiv.symm {a b : SLoc} (h : a.Equiv b) : b.Equiv a :=
  ⟨h.ins.symm, h.outs.symm, h.cnt.symm, h.sch.symm, Det.obsEq_symm h.ob⟩

theorem SLoc.Equiv.trans {a b c : SLoc} (h : a.Equiv b) (h' : b.Equiv c) : a.Equiv c :=
  ⟨h.ins.trans h'.ins, h.outs.trans h'.outs, h.cnt.trans h'.cnt, h.sch.trans h'.sch,
    Det.obsEq_trans h.ob h'.ob⟩

/-- `SchedSt.Equiv` holds that both wakeup maps are dicts, so `a.Equiv b` entails `a.WakeWF` and
`b.WakeWF`: the relation is reflexive on the states with `WakeWF` only. -/
def SimSt.Equiv (a b : SimSt) : Prop := ∀ x, (a.loc x).Equiv (b.loc x)

theorem SimSt.Equiv.sched {a b : SimSt} (h : a.Equiv b) (l : Comp) : (a.sched l).Equiv (b.sched l) :=
  (h l).sch

theorem SimSt.Equiv.refl {a : SimSt} (h : a.WakeWF) : a.Equiv a :=
  fun x => SLoc.Equiv.refl (h x)

theorem SimSt.Equiv.symm {a b : SimSt} (h : a.Equiv b) : b.Equiv a := fun x => (h x).symm

theorem SimSt.Equiv.trans {a b c : SimSt} (h : a.Equiv b) (h' : b.Equiv c) : a.Equiv c :=
  fun x => (h x).trans (h' x)

theorem SimSt.wakeWF_empty : ({} : SimSt).WakeWF := by
  intro s
  simp [SimSt.sched, agetD, UniqueKeys]

theorem mem_nestedDue_congr {w1 w2 : Wakeups} (h1 : UniqueKeys w1) (h2 : UniqueKeys w2)
    (h : MapEq w1 w2) (t : SimTime) (c : Comp) : c ∈ nestedDue w1 t ↔ c ∈ nestedDue w2 t := by
  rw [nestedDue_spec w1 h1, nestedDue_spec w2 h2, h c]

theorem SimSt.obsOf_append {st st' : SimSt} {new : List Obs} (h : st'.obs = st.obs ++ new) (c : Comp) :
    st'.obsOf c = st.obsOf c ++
      ((new.filter (fun o => o.comp == c)).map (fun o => (o.time, o.inputs))) := by
  unfold SimSt.obsOf
  rw [h, List.filter_append, List.map_append]

theorem SimSt.obsOf_append_one {st st' : SimSt} {c : Comp} {t : SimTime} {m : List (Port × V)}
    (h : st'.obs = st.obs ++ [⟨c, t, m⟩]) (x : Comp) :
    st'.obsOf x = if c = x then st.obsOf x ++ [(t, m)] else st.obsOf x := by
  rw [SimSt.obsOf_append h x, List.filter_cons, List.filter_nil]
  simp only [beq_iff_eq]
  split
  · rfl
  · exact List.append_nil _

theorem SimSt.obsOf_length (st : SimSt) (c : Comp) : (st.obsOf c).length = st.updates c := by
  unfold SimSt.obsOf SimSt.updates
  simp

theorem SimSt.mem_obsOf {st : SimSt} {c : Comp} {x : SimTime × List (Port × V)} :
    x ∈ st.obsOf c ↔ ∃ o ∈ st.obs, o.comp = c ∧ (o.time, o.inputs) = x := by
  unfold SimSt.obsOf
  simp only [List.mem_map, List.mem_filter, beq_iff_eq, and_assoc]

theorem loc_setSched (st : SimSt) (k : Comp) (sc : SchedSt) (x : Comp) :
    ({ st with scheds := upsert st.scheds k sc } : SimSt).loc x =
      if k = x then { st.loc x with sch := sc } else st.loc x := by
  unfold SimSt.loc
  rw [SimSt.sched_upsert]
  split <;> rfl

theorem loc_anyWake_ne (st : SimSt) (lvl c : Comp) (ca : Option SimTime) {x : Comp} (h : x ≠ lvl) :
    (anyWake st lvl c ca).loc x = st.loc x := by
  rw [anyWake_eq, loc_setSched, if_neg (Ne.symm h)]

theorem loc_anyWake_self (st : SimSt) (lvl c : Comp) (ca : Option SimTime) :
    (anyWake st lvl c ca).loc lvl = { st.loc lvl with sch := wakeUpd (st.sched lvl) c ca } := by
  rw [anyWake_eq, loc_setSched, if_pos rfl]

theorem loc_sysPre_ne (st : SimSt) (c : Comp) (t : SimTime) {x : Comp} (h : x ≠ c) :
    (sysPre st c t).loc x = st.loc x := by
  rw [sysPre_eq, loc_setSched, if_neg (Ne.symm h)]

theorem loc_sysPre_self (st : SimSt) (c : Comp) (t : SimTime) :
    (sysPre st c t).loc c = { st.loc c with sch := sysPreSched (st.sched c) t } := by
  rw [sysPre_eq, loc_setSched, if_pos rfl]

theorem sysRoots_of_sched {S : Static} {a b : SimSt} {c : Comp} (h : a.sched c = b.sched c)
    (t : SimTime) : sysRoots S a c t = sysRoots S b c t := by
  unfold sysRoots
  simp only []
  rw [h]

theorem sysCallAt_of_sched {a b : SimSt} {c : Comp} (h : a.sched c = b.sched c) (t : SimTime) :
    sysCallAt a c t = sysCallAt b c t := by
  unfold sysCallAt
  simp only []
  rw [h]

theorem sysCallAt_congr {s1 s2 : SimSt} {c : Comp} (h : (s1.sched c).Equiv (s2.sched c)) (t : SimTime) :
    sysCallAt s1 c t = sysCallAt s2 c t := by
  unfold sysCallAt
  simp only []
  rw [isEmpty_congr h.ints, firstWakeups_snd_congr h.ua h.ub h.wake]

theorem mem_sysRoots_congr {S : Static} {s1 s2 : SimSt} {c : Comp}
    (h : (s1.sched c).Equiv (s2.sched c)) (t : SimTime) (y : Comp) :
    y ∈ sysRoots S s1 c t ↔ y ∈ sysRoots S s2 c t := by
  unfold sysRoots
  simp only [mem_sunion]
  rw [h.ints y, mem_nestedDue_congr h.ua h.ub h.wake t y, h.first]

theorem sysPreSched_equiv {a b : SchedSt} (h : a.Equiv b) (t : SimTime) :
    (sysPreSched a t).Equiv (sysPreSched b t) :=
  ⟨mapEq_delWakeups h.ua h.ub h.wake (mem_nestedDue_congr h.ua h.ub h.wake t),
    delWakeups_unique _ h.ua _, delWakeups_unique _ h.ub _, fun _ => Iff.rfl, rfl⟩

theorem loc_devAfter_ne (st : SimSt) (c : Comp) (t : SimTime) (ins : List (Port × V)) (resp : DevResp)
    {x : Comp} (h : x ≠ c) : (devAfter st c t ins resp).1.loc x = st.loc x := by
  unfold SimSt.loc
  rw [SimSt.obsOf_append_one (devAfter_obs st c t ins resp) x, devAfter_sched]
  simp only [devAfter, DevComp.onTick, agetD_upsert, if_neg (Ne.symm h)]

theorem loc_devAfter_self (st : SimSt) (c : Comp) (t : SimTime) (ins : List (Port × V)) (resp : DevResp) :
    (devAfter st c t ins resp).1.loc c =
      ⟨⟨(agetD st.devs c {}).merge ins, normDict resp.outs⟩, agetD st.count c 0 + 1, st.sched c,
        st.obsOf c ++ [(t, (agetD st.devs c {}).merge ins)]⟩ := by
  unfold SimSt.loc
  rw [SimSt.obsOf_append_one (devAfter_obs st c t ins resp) c, devAfter_sched]
  simp only [devAfter, DevComp.onTick, agetD_upsert, if_pos]

/-! ### states with EQUAL local views

Every primitive update rewrites the view under one key as a function of that view alone, so it maps
states with equal views under a key to such states (`loc_congr`). -/

def LocOn (P : Comp → Prop) (a b : SimSt) : Prop := ∀ x, P x → a.loc x = b.loc x

theorem LocOn.symm {P : Comp → Prop} {a b : SimSt} (h : LocOn P a b) : LocOn P b a :=
  fun x hx => (h x hx).symm

theorem sched_of_loc {a b : SimSt} {x : Comp} (h : a.loc x = b.loc x) : a.sched x = b.sched x :=
  congrArg SLoc.sch h

theorem loc_congr {f : SimSt → SimSt} {c : Comp} {F : SLoc → SLoc}
    (hself : ∀ s, (f s).loc c = F (s.loc c)) (hne : ∀ s x, x ≠ c → (f s).loc x = s.loc x)
    {a b : SimSt} {x : Comp} (h : a.loc x = b.loc x) : (f a).loc x = (f b).loc x := by
  by_cases hx : x = c
  · subst hx
    rw [hself, hself, h]
  · rw [hne _ _ hx, hne _ _ hx, h]

theorem loc_sysPre_congr {a b : SimSt} {x : Comp} (h : a.loc x = b.loc x) (c : Comp) (t : SimTime) :
    (sysPre a c t).loc x = (sysPre b c t).loc x :=
  loc_congr (F := fun l => { l with sch := sysPreSched l.sch t }) (loc_sysPre_self · c t)
    (fun s _ => loc_sysPre_ne s c t) h

theorem loc_anyWake_congr {a b : SimSt} {x : Comp} (h : a.loc x = b.loc x) (lvl c : Comp)
    (ca : Option SimTime) : (anyWake a lvl c ca).loc x = (anyWake b lvl c ca).loc x :=
  loc_congr (F := fun l => { l with sch := wakeUpd l.sch c ca }) (loc_anyWake_self · lvl c ca)
    (fun s _ => loc_anyWake_ne s lvl c ca) h

theorem loc_devAfter_congr {a b : SimSt} {x : Comp} (h : a.loc x = b.loc x) (c : Comp) (t : SimTime)
    (ins : List (Port × V)) (resp : DevResp) :
    (devAfter a c t ins resp).1.loc x = (devAfter b c t ins resp).1.loc x :=
  loc_congr (F := fun l => ⟨⟨l.dev.merge ins, normDict resp.outs⟩, l.cnt + 1, l.sch,
      l.ob ++ [(t, l.dev.merge ins)]⟩) (loc_devAfter_self · c t ins resp)
    (fun s _ => loc_devAfter_ne s c t ins resp) h

theorem devAfter_changes_congr {a b : SimSt} {c : Comp} (h : a.loc c = b.loc c) (t : SimTime)
    (ins : List (Port × V)) (resp : DevResp) :
    (devAfter a c t ins resp).2 = (devAfter b c t ins resp).2 := by
  have h1 : agetD a.devs c {} = agetD b.devs c {} := congrArg SLoc.dev h
  rw [devAfter_changes, devAfter_changes, h1]

/-- states with equal views under every key differ at most in the order of the keys of their maps and
in how the observations of different devices are interleaved in `obs` -/
def LocEq (a b : SimSt) : Prop := ∀ x, a.loc x = b.loc x

theorem LocEq.refl (a : SimSt) : LocEq a a := fun _ => rfl

theorem LocEq.symm {a b : SimSt} (h : LocEq a b) : LocEq b a := fun x => (h x).symm

theorem LocEq.trans {a b c : SimSt} (h : LocEq a b) (h' : LocEq b c) : LocEq a c :=
  fun x => (h x).trans (h' x)

/-- for two executions that touch only `P`, started in states with equal views -/
theorem LocEq.of_locOn {P : Comp → Prop} {a b a' b' : SimSt} (h : LocOn P a' b')
    (ha : ∀ x, ¬ P x → a'.loc x = a.loc x) (hb : ∀ x, ¬ P x → b'.loc x = b.loc x)
    (h0 : LocEq a b) : LocEq a' b' := by
  intro x
  by_cases hx : P x
  · exact h x hx
  · rw [ha x hx, hb x hx]
    exact h0 x

theorem LocEq.equiv {a b : SimSt} (h : LocEq a b) (hwf : a.WakeWF) : a.Equiv b := by
  intro x
  rw [← h x]
  exact SLoc.Equiv.refl (hwf x)

theorem LocEq.wakeWF {a b : SimSt} (h : LocEq a b) (hwf : a.WakeWF) : b.WakeWF := by
  intro x
  rw [← sched_of_loc (h x)]
  exact hwf x

theorem loc_eq_iff (a b : SimSt) (x : Comp) :
    a.loc x = b.loc x ↔ agetD a.devs x {} = agetD b.devs x {} ∧ agetD a.count x 0 = agetD b.count x 0 ∧
      a.sched x = b.sched x ∧ a.obsOf x = b.obsOf x := by
  unfold SimSt.loc
  rw [SLoc.mk.injEq]

theorem locEq_upsertSched {a b : SimSt} (h : LocEq a b) (k : Comp) (v : SchedSt) :
    LocEq { a with scheds := upsert a.scheds k v } { b with scheds := upsert b.scheds k v } := by
  intro x
  rw [loc_setSched, loc_setSched, h x]

end Tickit
