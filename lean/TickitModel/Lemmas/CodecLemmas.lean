/-
The configuration codec of `Core/ConfigCodec.lean` decodes what it encodes (`Entry.roundtrip`), by
lookups in the item list that `Entry.encode` writes.
-/
import TickitModel.Core.ConfigCodec
import TickitModel.Lemmas.DictLemmas

namespace Tickit

theorem decPort_encPort (cp : CPort) : decPort (encPort cp) = some cp := by
  obtain ⟨c, p⟩ := cp
  simp [decPort, encPort, alookup]

theorem decInputs_map (inputs : List (Port × CPort)) :
    decInputs (inputs.map (fun e => (e.1, encPort e.2))) = some inputs := by
  induction inputs with
  | nil => rfl
  | cons e inputs ih =>
    obtain ⟨q, cp⟩ := e
    simp [decInputs, decPort_encPort, ih]

theorem decFields_map (items : List (String × Data)) (fs : List (String × Int))
    (h : ∀ f ∈ fs, alookup items f.1 = some (.int f.2)) :
    decFields items (fs.map (·.1)) = some fs := by
  induction fs with
  | nil => rfl
  | cons f fs ih =>
    rw [List.map_cons, decFields, h f (by simp), ih (fun g hg => h g (by simp [hg]))]

/-- the item list written by `Entry.encode`, under a name so that the lookups below can be stated.  It
repeats the body of `Entry.encode` and has to follow it: `Entry.encode_mk` joins the two by `rfl`. -/
def encItems (tag : String) (name : Comp) (inputs : List (Port × CPort)) (fields : List (String × Int))
    (kids : List Data) : List (String × Data) :=
  [("type", .str tag), ("name", .str name),
   ("inputs", .dict (inputs.map (fun e => (e.1, encPort e.2))))] ++
  fields.map (fun f => (f.1, Data.int f.2)) ++ [("components", .list kids)]

theorem Entry.encode_mk (tag name inputs fields children) :
    (Entry.mk tag name inputs fields children).encode =
      .dict (encItems tag name inputs fields (encodeAll children)) := by
  rw [Entry.encode]; rfl

theorem encItems_head (tag name inputs fields kids) :
    alookup (encItems tag name inputs fields kids) "type" = some (.str tag) ∧
    alookup (encItems tag name inputs fields kids) "name" = some (.str name) ∧
    alookup (encItems tag name inputs fields kids) "inputs" =
      some (.dict (inputs.map (fun e => (e.1, encPort e.2)))) := by
  simp [encItems, alookup]

theorem akeys_encFields (fields : List (String × Int)) :
    akeys (fields.map (fun f => (f.1, Data.int f.2))) = fields.map (·.1) := by
  rw [akeys, List.map_map]; rfl

theorem alookup_encItems_rest (tag name inputs fields kids) (k : String)
    (h1 : k ≠ "type") (h2 : k ≠ "name") (h3 : k ≠ "inputs") :
    alookup (encItems tag name inputs fields kids) k =
      alookup (fields.map (fun f => (f.1, Data.int f.2)) ++ [("components", .list kids)]) k := by
  unfold encItems
  rw [List.append_assoc, List.cons_append, List.cons_append, List.cons_append, List.nil_append,
    alookup_cons, if_neg h1.symm, alookup_cons, if_neg h2.symm, alookup_cons, if_neg h3.symm]

theorem encItems_components (tag name inputs fields kids)
    (hres : ∀ f ∈ fields, f.1 ∉ reserved) :
    alookup (encItems tag name inputs fields kids) "components" = some (.list kids) := by
  have hnm : "components" ∉ akeys (fields.map (fun f => (f.1, Data.int f.2))) := by
    rw [akeys_encFields]
    intro hm
    obtain ⟨f, hf, he⟩ := List.mem_map.mp hm
    exact hres f hf (by simp [he, reserved])
  rw [alookup_encItems_rest _ _ _ _ _ _ (by simp) (by simp) (by simp), alookup_append,
    alookup_eq_none_iff.mpr hnm]
  rfl

theorem encItems_field (tag name inputs fields kids)
    (hnd : (fields.map (·.1)).Nodup) (hres : ∀ f ∈ fields, f.1 ∉ reserved) (f : String × Int)
    (hf : f ∈ fields) :
    alookup (encItems tag name inputs fields kids) f.1 = some (.int f.2) := by
  have hr := hres f hf
  simp only [reserved, List.mem_cons, List.not_mem_nil, or_false, not_or] at hr
  have hnd' : (akeys (fields.map (fun f => (f.1, Data.int f.2)))).Nodup := by
    rw [akeys_encFields]; exact hnd
  rw [alookup_encItems_rest _ _ _ _ _ _ hr.1 hr.2.1 hr.2.2.1, alookup_append,
    alookup_eq_some_of_mem hnd' (List.mem_map.mpr ⟨f, hf, rfl⟩)]
  rfl

mutual
theorem Entry.roundtrip (reg : List ClassSig) : ∀ (e : Entry), e.WFor reg → ∀ fuel, e.depth ≤ fuel →
    decode reg fuel e.encode = some e
  | .mk tag name inputs fields children, h, fuel, hf => by
    rw [Entry.WFor] at h
    -- distinct input ports (the `_`) belong to well-formedness because `inputs` is a Python dict; the
    -- round trip does not need them: `decInputs` reads the items by position
    obtain ⟨⟨cls, hd, hfs⟩, hnd, hres, _, hall⟩ := h
    rw [Entry.depth] at hf
    cases fuel with
    | zero => exact absurd hf (Nat.not_succ_le_zero _)
    | succ n =>
      obtain ⟨ht, hn, hi⟩ := encItems_head tag name inputs fields (encodeAll children)
      rw [Entry.encode_mk, decode, ht, hn, hi, encItems_components _ _ _ _ _ hres]
      simp only [hd, decInputs_map, roundtripAll reg children hall n (Nat.le_of_succ_le_succ hf)]
      rw [← hfs, decFields_map _ _ (encItems_field _ _ _ _ _ hnd hres)]
theorem roundtripAll (reg : List ClassSig) : ∀ (es : List Entry), allWFor reg es → ∀ fuel, depthAll es ≤ fuel →
    decodeAll reg fuel (encodeAll es) = some es
  | [], _, fuel, _ => by rw [encodeAll, decodeAll]
  | e :: es, h, fuel, hf => by
    rw [allWFor] at h
    rw [depthAll, Nat.max_le] at hf
    rw [encodeAll, decodeAll, Entry.roundtrip reg e h.1 fuel hf.1, roundtripAll reg es h.2 fuel hf.2]
end

theorem decode_unknown_tag (reg : List ClassSig) (fuel : Nat) (tag name inputs fields)
    (children : List Entry) (h : dispatch reg tag = none) :
    decode reg fuel (Entry.mk tag name inputs fields children).encode = none := by
  cases fuel with
  | zero => rw [decode]
  | succ n =>
    rw [Entry.encode_mk, decode, (encItems_head ..).1]
    split
    · -- all four lookups succeeded: `heq` identifies the tag read back with `tag`, then `dispatch` fails
      rename_i heq _ _ _
      cases heq
      simp only [h]
    · rfl

theorem decodeAll_congr (reg reg' : List ClassSig) (fuel : Nat)
    (h : ∀ d, decode reg fuel d = decode reg' fuel d) (ds : List Data) :
    decodeAll reg fuel ds = decodeAll reg' fuel ds := by
  induction ds with
  | nil => rw [decodeAll, decodeAll]
  | cons d ds ih => rw [decodeAll, decodeAll, h d, ih]

theorem decode_congr (reg reg' : List ClassSig)
    (h : ∀ tag, dispatch reg tag = dispatch reg' tag) (fuel : Nat) :
    ∀ d, decode reg fuel d = decode reg' fuel d := by
  induction fuel with
  | zero => intro d; rw [decode, decode]
  | succ n ih =>
    intro d
    cases d with
    | dict items =>
      rw [decode, decode]
      simp only [h, decodeAll_congr reg reg' n ih]
    | _ => simp [decode]

end Tickit
