/-
Lemmas about the router model (`Core/Router`): `components`, `children` (component tree) and
`inverseTree`/`ups`.
-/
import TickitModel.Lemmas.RouterWiring

namespace Tickit

theorem mem_foldl_ports (ports : List (Port × List CPort)) (acc : List Comp) (c : Comp) :
    c ∈ ports.foldl (fun acc (pe : Port × List CPort) =>
        pe.2.foldl (fun acc (bq : CPort) => sinsert acc bq.1) acc) acc ↔
      c ∈ acc ∨ ∃ pe ∈ ports, ∃ bq ∈ pe.2, c = bq.1 :=
  foldl_prop_iff (fun s : List Comp => c ∈ s) _ _ ports
    (fun pe _ s => foldl_prop_iff (fun s : List Comp => c ∈ s) _ (fun bq => c = bq.1) pe.2
      (fun _ _ _ => mem_sinsert) s) acc

theorem nodup_foldl_ports (ports : List (Port × List CPort)) (acc : List Comp) (h : acc.Nodup) :
    (ports.foldl (fun acc (pe : Port × List CPort) =>
        pe.2.foldl (fun acc (bq : CPort) => sinsert acc bq.1) acc) acc).Nodup :=
  foldl_inv List.Nodup _ ports
    (fun pe _ s hs => foldl_inv List.Nodup _ pe.2 (fun _ _ _ hs => nodup_sinsert hs) s hs) acc h

theorem Wiring.mem_inputComponents (w : Wiring) (c : Comp) :
    c ∈ w.inputComponents ↔ ∃ ent ∈ w, ∃ pe ∈ ent.2, ∃ bq ∈ pe.2, c = bq.1 :=
  foldl_prop_iff_of_not (fun s : List Comp => c ∈ s) _ _ w
    (fun ent _ s => mem_foldl_ports ent.2 s c) (List.not_mem_nil (a := c))

theorem Wiring.mem_akeys_of_mem_outputComponents {w : Wiring} {c : Comp}
    (h : c ∈ w.outputComponents) : c ∈ akeys w := by
  unfold Wiring.outputComponents at h
  obtain ⟨e, he, rfl⟩ := List.mem_map.1 h
  exact mem_akeys_of_mem (List.mem_filter.1 he).1

theorem Wiring.mem_components (w : Wiring) (c : Comp) :
    c ∈ w.components ↔ c ∈ w.inputComponents ∨ c ∈ akeys w := by
  unfold Wiring.components Wiring.isolatedComponents
  simp only [mem_sunion, List.mem_filter, decide_eq_true_eq]
  constructor
  · rintro ((h | h) | h)
    · exact Or.inl h
    · exact Or.inr (Wiring.mem_akeys_of_mem_outputComponents h)
    · exact Or.inr h.1
  · rintro (h | h)
    · exact Or.inl (Or.inl h)
    · by_cases h1 : c ∈ w.inputComponents
      · exact Or.inl (Or.inl h1)
      · by_cases h2 : c ∈ w.outputComponents
        · exact Or.inl (Or.inr h2)
        · exact Or.inr ⟨h, h1, h2⟩

theorem Wiring.components_nodup (w : Wiring) : w.components.Nodup := by
  unfold Wiring.components
  refine nodup_sunion (nodup_sunion ?_)
  unfold Wiring.inputComponents
  exact foldl_inv List.Nodup _ w (fun e _ s hs => nodup_foldl_ports e.2 s hs) [] List.nodup_nil

theorem Wiring.mem_components_iff' {w : Wiring} (h : w.WF) (c : Comp) :
    c ∈ w.components ↔ c ∈ akeys w ∨ ∃ a p q, w.Conn a p c q := by
  rw [Wiring.mem_components, Wiring.mem_inputComponents, Wiring.exists_target_iff_conn h, or_comm]

theorem Wiring.conn_mem_components {w : Wiring} (h : w.WF) {a : Comp} {p : Port} {b : Comp} {q : Port}
    (hc : w.Conn a p b q) : a ∈ w.components ∧ b ∈ w.components :=
  ⟨(Wiring.mem_components_iff' h a).2 (Or.inl (Wiring.mem_akeys_of_conn hc)),
    (Wiring.mem_components_iff' h b).2 (Or.inr ⟨a, p, q, hc⟩)⟩

theorem Wiring.children_eq_some {w : Wiring} {a : Comp} {ch : List Comp} (h : w.children a = some ch) :
    ∃ ports, alookup w a = some ports ∧
      ch = ports.foldl (fun acc (pe : Port × List CPort) =>
        pe.2.foldl (fun acc (bq : CPort) => sinsert acc bq.1) acc) [] := by
  unfold Wiring.children at h
  cases hl : alookup w a with
  | none => simp [hl] at h
  | some ports =>
    simp only [hl, Option.map_some, Option.some.injEq] at h
    exact ⟨ports, rfl, h.symm⟩

theorem Wiring.children_of_alookup {w : Wiring} {a : Comp} {ports : List (Port × List CPort)}
    (h : alookup w a = some ports) : ∃ ch, w.children a = some ch := by
  unfold Wiring.children
  simp [h]

theorem Wiring.mem_children {w : Wiring} {a : Comp} {ch : List Comp} (h : w.children a = some ch)
    (b : Comp) :
    b ∈ ch ↔ ∃ ports, alookup w a = some ports ∧ ∃ pe ∈ ports, ∃ bq ∈ pe.2, b = bq.1 := by
  obtain ⟨ports, h1, rfl⟩ := Wiring.children_eq_some h
  rw [mem_foldl_ports]
  simp only [List.not_mem_nil, false_or]
  constructor
  · intro hm
    exact ⟨ports, h1, hm⟩
  · rintro ⟨ports', h1', hm⟩
    rw [h1] at h1'
    cases h1'
    exact hm

theorem Wiring.children_nodup {w : Wiring} {a : Comp} {ch : List Comp} (h : w.children a = some ch) :
    ch.Nodup := by
  obtain ⟨ports, _, rfl⟩ := Wiring.children_eq_some h
  exact nodup_foldl_ports ports [] List.nodup_nil

theorem Wiring.children_subset_inputs {w : Wiring} {a : Comp} {ch : List Comp}
    (h : w.children a = some ch) : ∀ b ∈ ch, b ∈ w.inputComponents := by
  intro b hb
  rw [Wiring.mem_children h] at hb
  obtain ⟨ports, h1, pe, hpe, bq, hbq, rfl⟩ := hb
  rw [Wiring.mem_inputComponents]
  exact ⟨(a, ports), mem_of_alookup_eq_some h1, pe, hpe, bq, hbq, rfl⟩

theorem Wiring.children_of_edge {w : Wiring} {a b : Comp} (h : w.Edge a b) :
    ∃ ch, w.children a = some ch ∧ b ∈ ch := by
  obtain ⟨p, q, ports, ins, h1, h2, hm⟩ := h
  obtain ⟨ch, hch⟩ := Wiring.children_of_alookup h1
  refine ⟨ch, hch, ?_⟩
  rw [Wiring.mem_children hch]
  exact ⟨ports, h1, (p, ins), mem_of_alookup_eq_some h2, (b, q), hm, rfl⟩

theorem Wiring.mem_children_iff' {w : Wiring} (h : w.WF) {a : Comp} {ch : List Comp}
    (hc : w.children a = some ch) (b : Comp) : b ∈ ch ↔ w.Edge a b := by
  constructor
  · intro hb
    rw [Wiring.mem_children hc] at hb
    obtain ⟨ports, h1, ⟨p, ins⟩, hpe, ⟨b', q⟩, hbq, rfl⟩ := hb
    exact ⟨p, q, ports, ins, h1, alookup_eq_some_of_mem (h.2 _ (mem_of_alookup_eq_some h1)).1 hpe, hbq⟩
  · intro he
    obtain ⟨ch', hch', hb⟩ := Wiring.children_of_edge he
    rw [hc] at hch'
    cases hch'
    exact hb

theorem agetD_map_nil (l : List Comp) (b : Comp) :
    agetD (l.map (fun c => (c, ([] : List Comp)))) b [] = [] := by
  rw [agetD, alookup_map_mk]; split <;> rfl

theorem Wiring.inverseTree_eq (w : Wiring) :
    w.inverseTree = w.foldl (fun acc ent => ((w.children ent.1).getD []).foldl
      (fun acc dep => upsert acc dep (sinsert (agetD acc dep []) ent.1)) acc)
      (w.components.map (fun c => (c, []))) := by
  simp only [Wiring.inverseTree, Wiring.componentTree, List.foldl_map]

theorem Wiring.mem_agetD_inverseTree (w : Wiring) (b a : Comp) :
    a ∈ agetD w.inverseTree b [] ↔ ∃ ent ∈ w, b ∈ (w.children ent.1).getD [] ∧ a = ent.1 := by
  rw [Wiring.inverseTree_eq]
  refine foldl_prop_iff_of_not (fun acc : List (Comp × List Comp) => a ∈ agetD acc b []) _ _ w
    (fun ent _ acc => ?_) (by rw [agetD_map_nil]; exact List.not_mem_nil)
  refine (foldl_prop_iff (fun acc : List (Comp × List Comp) => a ∈ agetD acc b []) _
    (fun dep => dep = b ∧ a = ent.1) _ (fun dep _ acc => ?_) acc).trans (or_congr_right ?_)
  · unfold agetD
    rw [alookup_upsert]
    by_cases h : dep = b
    · subst h
      simp
    · simp [h]
  · exact ⟨fun ⟨_, hd, hb, ha⟩ => ⟨hb ▸ hd, ha⟩, fun ⟨hb, ha⟩ => ⟨b, hb, rfl, ha⟩⟩

theorem Wiring.mem_akeys_inverseTree (w : Wiring) (b : Comp) :
    b ∈ akeys w.inverseTree ↔ b ∈ w.components ∨ ∃ ent ∈ w, b ∈ (w.children ent.1).getD [] := by
  rw [Wiring.inverseTree_eq]
  refine (foldl_prop_iff (fun acc : List (Comp × List Comp) => b ∈ akeys acc) _ _ w
    (fun ent _ acc => ?_) _).trans (or_congr_left (by rw [akeys_map_mk]))
  refine (foldl_prop_iff (fun acc : List (Comp × List Comp) => b ∈ akeys acc) _
    (fun dep => b = dep) _ (fun dep _ acc => ?_) acc).trans (or_congr_right ?_)
  · exact mem_akeys_upsert.trans or_comm
  · exact ⟨fun ⟨_, hd, hb⟩ => hb ▸ hd, fun hb => ⟨b, hb, rfl⟩⟩

theorem Wiring.mem_getD_children_iff {w : Wiring} (h : w.WF) {ent : Comp × List (Port × List CPort)}
    (hent : ent ∈ w) (b : Comp) : b ∈ (w.children ent.1).getD [] ↔ w.Edge ent.1 b := by
  have h1 : alookup w ent.1 = some ent.2 := alookup_eq_some_of_mem h.1 hent
  obtain ⟨ch, hch⟩ := Wiring.children_of_alookup h1
  rw [hch, Option.getD_some]
  exact Wiring.mem_children_iff' h hch b

theorem Wiring.mem_ups_iff' {w : Wiring} (h : w.WF) {b : Comp} {us : List Comp}
    (hu : w.ups b = some us) (a : Comp) : a ∈ us ↔ w.Edge a b := by
  have hus : us = agetD w.inverseTree b [] := by
    unfold Wiring.ups at hu
    simp [agetD, hu]
  rw [hus, Wiring.mem_agetD_inverseTree]
  constructor
  · rintro ⟨ent, hent, hb, rfl⟩
    exact (Wiring.mem_getD_children_iff h hent b).1 hb
  · intro he
    obtain ⟨p, q, ports, ins, h1, _⟩ := id he
    have hent : (a, ports) ∈ w := mem_of_alookup_eq_some h1
    exact ⟨(a, ports), hent, (Wiring.mem_getD_children_iff h hent b).2 he, rfl⟩

theorem Wiring.ups_isSome_iff' (w : Wiring) (b : Comp) : (w.ups b).isSome ↔ b ∈ w.components := by
  unfold Wiring.ups
  rw [alookup_isSome_iff, Wiring.mem_akeys_inverseTree]
  constructor
  · rintro (h | ⟨ent, _, hb⟩)
    · exact h
    · cases hch : w.children ent.1 with
      | none => simp [hch] at hb
      | some ch =>
        rw [hch, Option.getD_some] at hb
        exact (Wiring.mem_components w b).2 (Or.inl (Wiring.children_subset_inputs hch b hb))
  · exact Or.inl

theorem Wiring.ups_isSome_of_conn {w : Wiring} {a : Comp} {p : Port} {c : Comp} {q : Port}
    (h : w.Conn a p c q) : (w.ups c).isSome :=
  let ⟨_, hch, hb⟩ := Wiring.children_of_edge ⟨p, q, h⟩
  (Wiring.ups_isSome_iff' w c).2
    ((Wiring.mem_components w c).2 (Or.inl (Wiring.children_subset_inputs hch c hb)))

end Tickit
