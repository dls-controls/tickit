/-
Interleaved nested tick: whole runs.  `MasterRunInter` (the master loop with every tick any
complete INTERLEAVED execution) is simulated by `MasterRunAny` (every tick an ATOMIC any-order
execution): same handled stimuli, same ticks, and end states with the same key-wise view under every
key (`masterRunInter_any`).  The bookkeeping between ticks (`stimStep`, `tickStart`, `nextStim`,
`raiseInterrupt`) reads and writes the state only through that view: it takes states related by
`LocEq` (`Lemmas/AnyLoc.lean`) to such states, and so does a tick (`tickInter_atomic`,
`tickLevelAny_locEq`).
-/
import TickitModel.Core.SimInterRun
import TickitModel.Lemmas.InterSim
import TickitModel.Lemmas.AnyRun

namespace Tickit

theorem LocEq.queueInt {a b : SimSt} (h : LocEq a b) (p c : Comp) :
    LocEq (a.queueInt p c) (b.queueInt p c) := by
  unfold SimSt.queueInt
  simp only [] -- substitutes the `let`s of the body
  rw [sched_of_loc (h p)]
  exact locEq_upsertSched h p _

structure MasterSt.LocEq (a b : MasterSt) : Prop where
  sim : Tickit.LocEq a.sim b.sim
  tickerTime : a.tickerTime = b.tickerTime
  lastReal : a.lastReal = b.lastReal
  now : a.now = b.now

theorem MasterSt.LocEq.refl (a : MasterSt) : a.LocEq a := ⟨Tickit.LocEq.refl _, rfl, rfl, rfl⟩

theorem MasterSt.LocEq.sameClock {a b : MasterSt} (h : a.LocEq b) : a.SameClock b :=
  ⟨h.tickerTime, h.lastReal, h.now⟩

theorem stimStep_locEq (S : Static) (fuel : Nat) (s : Speed) {a b : MasterSt} (h : a.LocEq b)
    (st : Stim) : (stimStep S fuel s a st).LocEq (stimStep S fuel s b st) := by
  obtain ⟨htop, hsim⟩ := raiseInterrupt_rel S (R := LocEq) LocEq.queueInt fuel st.comp h.sim
  have h0 : (raiseInterrupt S fuel st.comp a.sim).1.sched "" =
      (raiseInterrupt S fuel st.comp b.sim).1.sched "" := sched_of_loc (hsim "")
  unfold stimStep
  simp only [] -- as above
  rw [h.now, h.tickerTime, h.lastReal, htop, h0]
  exact ⟨locEq_upsertSched hsim _ _, rfl, rfl, rfl⟩

theorem tickStart_locEq {a b : SimSt} (h : LocEq a b) (cs : List Comp) :
    LocEq (tickStart a cs) (tickStart b cs) := by
  unfold tickStart
  simp only [] -- as above
  rw [sched_of_loc (h "")]
  exact locEq_upsertSched h _ _

theorem MasterSt.LocEq.next {a b : MasterSt} (h : a.LocEq b) (s : Speed) (stims : List Stim) :
    firstWakeups (a.sim.sched "").wake = firstWakeups (b.sim.sched "").wake ∧
      nextStim a s (firstWakeups (a.sim.sched "").wake).2 stims =
        nextStim b s (firstWakeups (b.sim.sched "").wake).2 stims := by
  rw [sched_of_loc (h.sim ""), nextStim_congr h.sameClock]
  exact ⟨rfl, rfl⟩

section

variable {S : Static} {orc : Oracle}

theorem masterRunInter_any (hS : S.Valid) {fuel : Nat} {s : Speed} {steps nTicks : Nat}
    {m : MasterSt} {stims : List Stim} {acc : List TickRec} {r : MasterSt × List TickRec}
    (h : MasterRunInter S orc fuel s steps nTicks m stims acc r) :
    ∀ m' : MasterSt, m'.LocEq m →
      ∃ r', MasterRunAny S orc fuel s steps nTicks m' stims acc r' ∧ r'.1.LocEq r.1 ∧ r'.2 = r.2 := by
  induction h with
  | outOfSteps => intro m' hm; exact ⟨(m', _), .outOfSteps, hm, rfl⟩
  | ticksDone => intro m' hm; exact ⟨(m', _), .ticksDone, hm, rfl⟩
  | @stim steps nTicks m stims acc st rest r hs _ ih =>
    intro m' hm
    obtain ⟨r', hr', e1, e2⟩ := ih _ (stimStep_locEq S fuel s hm st)
    exact ⟨r', .stim ((hm.next s stims).2.trans hs) hr', e1, e2⟩
  | @tick steps nTicks m stims acc comps w sim2 out r hs hfw htick _ ih =>
    intro m' hm
    obtain ⟨hw, hn⟩ := hm.next s stims
    obtain ⟨st'', ha, hl⟩ := tickInter_atomic hS htick
    obtain ⟨σ2, ha2, hl2⟩ := tickLevelAny_locEq hS ha (tickStart_locEq hm.sim comps)
    have hd := dueReal_congr hm.sameClock s w
    obtain ⟨r', hr', e1, e2⟩ :=
      ih { sim := σ2, tickerTime := w, lastReal := dueReal m' s w, now := dueReal m' s w }
        ⟨hl2.trans hl, rfl, hd, hd⟩
    rw [← hd] at hr'
    exact ⟨r', .tick (hn.trans hs) (hw.trans hfw) ha2 hr', e1, e2⟩
  | @idle steps nTicks m stims acc hs hn =>
    intro m' hm
    obtain ⟨hw, hn'⟩ := hm.next s stims
    exact ⟨(m', _), .idle (hn'.trans hs) (hw ▸ hn), hm, rfl⟩

theorem masterInitialInter_any (hS : S.Valid) {t0 : SimTime} {now : Int} {r0 : MasterSt × TickRec}
    (h : MasterInitialInter S orc t0 now r0) :
    ∃ r0', MasterInitialAny S orc t0 now r0' ∧ r0'.1.LocEq r0.1 ∧ r0'.2 = r0.2 := by
  cases h with
  | @mk L st out hL htick =>
    obtain ⟨st'', ha, hl⟩ := tickInter_atomic hS htick
    exact ⟨_, .mk hL ha, ⟨hl, rfl, rfl, rfl⟩, rfl⟩

end

end Tickit
