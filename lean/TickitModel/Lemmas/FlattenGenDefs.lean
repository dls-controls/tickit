/-
C09: the vocabulary for the device-level description of an arbitrary tick (initial, callback, or with
queued interrupts) of a nested configuration.  `DevValOK`, what is known about a device whose part in
the tick is over, is in `Lemmas/FlattenEqs.lean`, where the tick equations are stated with it.

`ValG`, `AnsOKG`, `PendOKG` are the general-tick forms (hence the `G`) of `ValAt`, `AnsOK`, `PendOK` of
the initial tick (`Lemmas/FlattenInit.lean`): there every component is updated and every device
reports `outC`; here a device reports `stepChg orc σ₀` if it is updated at all, and `SrcDec`/`DecG`
say for which sources that is already decided.  `SkipOKG` (nothing changed on the inputs of a
component) has no counterpart there: in an initial tick nothing is skipped.

Fixed during one tick of the master (`TickCtx`): the state `σ₀` before the tick (device states,
update counts), the set `Root` of components that are roots of their level's tick (own callback due,
on the way of a queued interrupt, or every component in the initial tick), the resolution fuel `n`.
-/
import TickitModel.Lemmas.SimLoop
import TickitModel.Lemmas.FlattenEqs

namespace Tickit

structure TickCtx (S : Static) (σ₀ : SimSt) (t : SimTime) (Root : Comp → Prop) : Prop where
  root_up : ∀ c P, alookup S.parent c = some P → P ≠ "" → Root c → Root P
  /-- the roots a nested scheduler selects -/
  roots_sys : ∀ s Ls, S.isSys s = true → S.level s = some Ls → ∀ c ∈ Ls.wiring.components,
    c ≠ pseudoExternal →
    (c ∈ sunion (sunion (sunion (σ₀.sched s).interrupts (nestedDue (σ₀.sched s).wake t))
        [pseudoExternal]) (if (σ₀.sched s).firstDone then [] else Ls.wiring.components) ↔ Root c)

theorem TickCtx.initial (S : Static) (t : SimTime) : TickCtx S {} t (fun _ => True) :=
  { root_up := fun _ _ _ _ _ => trivial
    roots_sys := by
      intro s Ls _ _ c hc _
      refine ⟨fun _ => trivial, fun _ => ?_⟩
      rw [mem_sunion]; right
      rw [SimSt.sched_empty_firstDone]
      exact hc }

theorem TickCtx.root_up_own {S : Static} {σ₀ : SimSt} {t : SimTime}
    {Root : Comp → Prop} (ctx : TickCtx S σ₀ t Root) {a x : Comp} (h : S.Own a x)
    (hr : Root x) : Root a := by
  rcases h with rfl | ⟨ha, hb⟩
  · exact hr
  · induction hb with
    | direct h => exact ctx.root_up _ _ h ha hr
    | step h hp _ ih => exact ih (ctx.root_up _ _ h hp hr)

def Static.ValG (S : Static) (orc : Oracle) (n : Nat) (σ₀ : SimSt) (mobs : List Obs) (lvl a : Comp)
    (p : Port) (v : V) : Prop :=
  ∃ a₀ p₀, S.resolve n lvl a p = some (a₀, p₀) ∧ a₀ ∈ mobs.map Obs.comp ∧
    alookup (stepChg orc σ₀ a₀) p₀ = some v

/-- from the point of view of level `L` with unresolved set `tu`, the update status of device
`a₀` is decided: the caller says so (`D₀`), or `a₀` lies below `L` but below no open component -/
def Static.DecG (S : Static) (D₀ : Comp → Prop) (L : Level) (tu : List (Comp × Bool)) (a₀ : Comp) : Prop :=
  D₀ a₀ ∨ (S.Below L.name a₀ ∧
    ∀ c, alookup S.parent c = some L.name → S.Own c a₀ → alookup tu c = none)

def Static.SrcDec (S : Static) (n : Nat) (Dec : Comp → Prop) (lvl a : Comp) (p : Port) : Prop :=
  ∀ a₀ p₀, S.resolve n lvl a p = some (a₀, p₀) → Dec a₀

theorem Static.SrcDec.mono {S : Static} {n : Nat} {Dec Dec' : Comp → Prop} {lvl a : Comp} {p : Port}
    (h : S.SrcDec n Dec lvl a p) (hd : ∀ x, Dec x → Dec' x) : S.SrcDec n Dec' lvl a p :=
  fun a₀ p₀ hr => hd _ (h a₀ p₀ hr)

theorem Static.ValG.congr {S : Static} {orc : Oracle} {n : Nat} {σ₀ : SimSt} {mobs mobs' : List Obs}
    {lvl a : Comp} {p : Port} {Dec : Comp → Prop} (hd : S.SrcDec n Dec lvl a p)
    (hm : ∀ x, Dec x → (x ∈ mobs.map Obs.comp ↔ x ∈ mobs'.map Obs.comp)) (v : V) :
    S.ValG orc n σ₀ mobs lvl a p v ↔ S.ValG orc n σ₀ mobs' lvl a p v := by
  constructor
  · rintro ⟨a₀, p₀, hr, hm', hv⟩
    exact ⟨a₀, p₀, hr, (hm a₀ (hd a₀ p₀ hr)).1 hm', hv⟩
  · rintro ⟨a₀, p₀, hr, hm', hv⟩
    exact ⟨a₀, p₀, hr, (hm a₀ (hd a₀ p₀ hr)).2 hm', hv⟩

def Static.AnsOKG (S : Static) (orc : Oracle) (n : Nat) (σ₀ : SimSt) (Dec : Comp → Prop) (L : Level)
    (mobs : List Obs) (a : Comp) (chs : List (Port × V)) : Prop :=
  (akeys chs).Nodup ∧ ∀ p b q, L.wiring.Conn a p b q →
    (∀ v, alookup chs p = some v ↔ S.ValG orc n σ₀ mobs L.name a p v) ∧ S.SrcDec n Dec L.name a p

def Static.PendOKG (S : Static) (orc : Oracle) (n : Nat) (σ₀ : SimSt) (Dec : Comp → Prop) (L : Level)
    (mobs : List Obs) (c : Comp) (ins : List (Port × V)) : Prop :=
  (akeys ins).Nodup ∧
  (∀ q v, alookup ins q = some v ↔ ∃ a p, L.wiring.Conn a p c q ∧ S.ValG orc n σ₀ mobs L.name a p v) ∧
  (∀ q a p, L.wiring.Conn a p c q → S.SrcDec n Dec L.name a p)

def Static.SkipOKG (S : Static) (orc : Oracle) (n : Nat) (σ₀ : SimSt) (Dec : Comp → Prop) (L : Level)
    (mobs : List Obs) (c : Comp) : Prop :=
  ∀ q a p, L.wiring.Conn a p c q →
    (∀ v, ¬ S.ValG orc n σ₀ mobs L.name a p v) ∧ S.SrcDec n Dec L.name a p

theorem Static.DecG.of_own {S : Static} (hS : S.Valid) {D₀ : Comp → Prop} {L : Level}
    {tu : List (Comp × Bool)} {c a₀ : Comp} (hc : alookup S.parent c = some L.name)
    (hclosed : alookup tu c = none) (ho : S.Own c a₀) : S.DecG D₀ L tu a₀ := by
  refine Or.inr ⟨ho.below hc, fun c' hc' ho' => ?_⟩
  rw [Static.Own.unique hS.toWF hc' hc ho' ho]
  exact hclosed

/-- for a child `a` of level `L` that is closed without having been ticked: skipped, or outside the
extent of the tick -/
theorem unticked_ok {S : Static} (hS : S.Valid) {orc : Oracle} {n : Nat} (hst : S.ResolveStable n)
    {σ₀ : SimSt} {t : SimTime} {Root : Comp → Prop} (ctx : TickCtx S σ₀ t Root)
    {D₀ : Comp → Prop} {L : Level} (hL : L ∈ S.levels) {tu : List (Comp × Bool)} {mobs : List Obs}
    {st : SimSt} {a : Comp} (hpar : alookup S.parent a = some L.name) (hnr : ¬ Root a)
    (hclosed : alookup tu a = none)
    (hskip : S.SkipOKG orc n σ₀ (S.DecG D₀ L tu) L mobs a)
    (hunobs : ∀ x, S.Own a x → x ∉ mobs.map Obs.comp)
    (hfresh : ∀ x, S.Own a x →
      agetD st.devs x {} = agetD σ₀.devs x {} ∧ agetD st.count x 0 = agetD σ₀.count x 0) :
    S.AnsOKG orc n σ₀ (S.DecG D₀ L tu) L mobs a [] ∧
      ∀ x, S.isDevice x → S.Own a x → DevValOK S orc n σ₀ Root (S.DecG D₀ L tu) mobs st x := by
  -- a source that belongs to `a` is not updated; one that enters `a` has been skipped
  have hcase : ∀ y : CPort, S.Own a y.1 ∨ S.Enters L a y →
      (∀ v, ¬ (y.1 ∈ mobs.map Obs.comp ∧ alookup (stepChg orc σ₀ y.1) y.2 = some v)) ∧
        S.DecG D₀ L tu y.1 := by
    rintro ⟨a₀, p₀⟩ (hown | ⟨q2, a2, p2, hconn, hr⟩)
    · exact ⟨fun v h => hunobs a₀ hown h.1, Static.DecG.of_own hS hpar hclosed hown⟩
    · obtain ⟨h1, h2⟩ := hskip q2 a2 p2 hconn
      have hr' := hr.resolve hS hst
      exact ⟨fun v h => h1 v ⟨a₀, p₀, hr', h.1, h.2⟩, h2 a₀ p₀ hr'⟩
  have hout : ∀ p y, S.resolve n L.name a p = some y → S.Own a y.1 ∨ S.Enters L a y :=
    fun p y hr => (hS.resolves_of_resolve n _ _ _ _ (Or.inr hpar) hr).boundary_out hS hL hpar
  refine ⟨⟨by simp, fun p b q hconn => ⟨fun v => ?_, ?_⟩⟩, ?_⟩
  · constructor
    · intro h; simp at h
    · rintro ⟨a₀, p₀, hr, hm, hv⟩
      exact absurd ⟨hm, hv⟩ ((hcase _ (hout p _ hr)).1 v)
  · intro a₀ p₀ hr
    exact (hcase _ (hout p _ hr)).2
  · intro x hxd hown
    have hin : ∀ q y, alookup (S.flatInputs n x) q = some y → S.Own a y.1 ∨ S.Enters L a y :=
      fun q y => hS.flatInputs_boundary hL hpar hown
    have hxm : x ∉ mobs.map Obs.comp := hunobs x hown
    exact
      { upd_iff := by
          constructor
          · intro h; exact absurd h hxm
          · rintro (hr | ⟨q, v, a₀, p₀, hfi, hm, hv⟩)
            · exact absurd (ctx.root_up_own hown hr) hnr
            · exact absurd ⟨hm, hv⟩ ((hcase _ (hin q _ hfi)).1 v)
        src := fun q a₀ p₀ hfi => (hcase _ (hin q _ hfi)).2
        upd := by
          intro o ho hox
          exact absurd (List.mem_map.2 ⟨o, ho, hox⟩) hxm
        frame := fun _ => hfresh x hown }

/-- the test for a mock component of a nested level -/
theorem flt_isMock {lvl c x : Comp} : (lvl != "" && c == x) = true ↔ lvl ≠ "" ∧ c = x := by
  rw [Bool.and_eq_true, bne_iff_ne, beq_iff_eq]

theorem flt_comp_mem_append_singleton (mobs : List Obs) (o : Obs) :
    o.comp ∈ (mobs ++ [o]).map Obs.comp :=
  List.mem_map_of_mem (List.mem_append_right _ (List.mem_singleton_self o))

theorem flt_mem_map_append_iff {mobs new1 : List Obs} {y : Comp}
    (h : y ∉ new1.map Obs.comp) : y ∈ mobs.map Obs.comp ↔ y ∈ (mobs ++ new1).map Obs.comp := by
  rw [List.map_append, List.mem_append]
  exact ⟨Or.inl, fun h' => h'.elim id (fun h'' => absurd h'' h)⟩

end Tickit
