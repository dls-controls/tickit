/-
Last write wins in `applyWrites` (C17, C20), the IoBox run as a fold (C20), the wiring read from
configurations (C17), command dispatch and reply counting of the TCP adapter (C18): the general
statements behind the theorems of `Props/C17`, `C18`, `C20`.
-/
import TickitModel.Core.IoBox
import TickitModel.Core.Command
import TickitModel.Core.Router
import TickitModel.Lemmas.DictLemmas

namespace Tickit

def lastWrite {A V : Type} [DecidableEq A] (ws : List (A × V)) (a : A) : Option V :=
  (ws.reverse.find? (fun w => w.1 = a)).map (·.2)

def runChained {A V : Type} [DecidableEq A] :
    List (IoOp A V) → IoBox A V × IoBox A V → IoBox A V × IoBox A V
  | [], s => s
  | .write a v :: ops, (b1, b2) => runChained ops (b1.write a v, b2)
  | .update ins :: ops, (b1, b2) =>
    let (b1', out) := b1.update ins
    runChained ops (b1', (b2.update out).1)

def runBox {A V : Type} [DecidableEq A] (ops : List (IoOp A V)) (b : IoBox A V) : IoBox A V :=
  ops.foldl (fun b op => match op with
    | .write a v => b.write a v
    | .update ins => (b.update ins).1) b

theorem lastWrite_nil {A V : Type} [DecidableEq A] (a : A) : lastWrite ([] : List (A × V)) a = none := rfl

section LastWrite
variable {A V : Type} [DecidableEq A]

/-- everything about `lastWrite` below is read off the `alookup` lemmas through this. -/
theorem lastWrite_eq (ws : List (A × V)) (a : A) : lastWrite ws a = alookup ws.reverse a :=
  (alookup_eq_find? ws.reverse a).symm

theorem lastWrite_eq_none_of {ws : List (A × V)} {a : A} (h : ∀ w ∈ ws, w.1 ≠ a) :
    lastWrite ws a = none := by
  rw [lastWrite_eq, alookup_eq_none_iff]
  intro hm
  obtain ⟨w, hw, rfl⟩ := List.mem_map.mp hm
  exact h w (List.mem_reverse.mp hw) rfl

theorem lastWrite_isSome_iff (ws : List (A × V)) (a : A) :
    (lastWrite ws a).isSome ↔ a ∈ ws.map (·.1) := by
  rw [lastWrite_eq, alookup_isSome_iff, akeys, List.map_reverse, List.mem_reverse]

theorem lastWrite_eq_some_iff (ws : List (A × V)) (h : UniqueKeys ws)
    (a : A) (v : V) : lastWrite ws a = some v ↔ (a, v) ∈ ws := by
  rw [lastWrite_eq, alookup_reverse_of_nodup h, alookup_eq_some_iff_mem h]

/-- `applyWrites` is `aupdate`: the closed form of `dict.update` read with `lastWrite` -/
theorem alookup_applyWrites (m ws : List (A × V)) (a : A) :
    alookup (applyWrites m ws) a = (lastWrite ws a).orElse (fun _ => alookup m a) :=
  (alookup_aupdate_reverse m ws a).trans (by rw [lastWrite_eq])

end LastWrite

section IoBoxL
variable {A V : Type} [DecidableEq A]

theorem runBox_nil (b : IoBox A V) : runBox [] b = b := rfl
theorem runBox_write (a : A) (v : V) (ops : List (IoOp A V)) (b : IoBox A V) :
    runBox (.write a v :: ops) b = runBox ops (b.write a v) := rfl
theorem runBox_update (ins : List (A × V)) (ops : List (IoOp A V)) (b : IoBox A V) :
    runBox (.update ins :: ops) b = runBox ops (b.update ins).1 := rfl

theorem runBox_read_none (ops : List (IoOp A V)) (a : A) (b : IoBox A V)
    (hm : b.read a = none) (hb : ∀ w ∈ b.buf, w.1 ≠ a)
    (hw : ∀ op ∈ ops, match op with
      | .write a' _ => a' ≠ a
      | .update ins => ∀ w ∈ ins, w.1 ≠ a) :
    (runBox ops b).read a = none := by
  induction ops generalizing b with
  | nil => exact hm
  | cons op ops ih =>
    have hop := hw op List.mem_cons_self
    have hrest := fun o ho => hw o (List.mem_cons_of_mem _ ho)
    cases op with
    | write a' v =>
      rw [runBox_write]
      refine ih (b.write a' v) hm ?_ hrest
      intro w hw'
      simp only [IoBox.write, List.mem_append, List.mem_singleton] at hw'
      rcases hw' with h | h
      · exact hb w h
      · subst h; exact hop
    | update ins =>
      rw [runBox_update]
      refine ih (b.update ins).1 ?_ ?_ hrest
      · simp only [IoBox.update, IoBox.read]
        rw [alookup_applyWrites, lastWrite_eq_none_of]
        · simpa [IoBox.read] using hm
        · intro w hw'
          rcases List.mem_append.mp hw' with h | h
          · exact hop w h
          · exact hb w h
      · simp [IoBox.update]

theorem runChained_inv (ops : List (IoOp A V)) (b1 b2 : IoBox A V)
    (hm : b1.mem = b2.mem) (hb : b2.buf = []) :
    (runChained ops (b1, b2)).1.mem = (runChained ops (b1, b2)).2.mem := by
  induction ops generalizing b1 b2 with
  | nil => exact hm
  | cons op ops ih =>
    cases op with
    | write a v => exact ih _ _ hm hb
    | update ins =>
      refine ih _ _ ?_ rfl
      show applyWrites b1.mem _ = applyWrites b2.mem (_ ++ b2.buf)
      rw [hm, hb, List.append_nil]

end IoBoxL

theorem alookup_fromConfigs (cfgs : List (Comp × List (Port × CPort))) (b : Comp) :
    alookup (InvWiring.fromConfigs cfgs) b = lastWrite cfgs b := by
  -- `fromConfigs cfgs` is `aupdate [] cfgs`
  rw [lastWrite_eq]
  exact (alookup_aupdate_reverse [] cfgs b).trans (by cases alookup cfgs.reverse b <;> rfl)

section CmdL
variable {Args : Type}

theorem handleFrom_unknown_iff (cmds : List (Cmd Args)) (data : Bytes) (k : Nat) :
    handleFrom cmds data k = .unknown ↔ ∀ c ∈ cmds, c.parse data = none := by
  induction cmds generalizing k with
  | nil => simp [handleFrom]
  | cons c cs ih =>
    simp only [handleFrom]
    cases h : c.parse data with
    | some a => simp [h]
    | none => simp [h, ih]

theorem handleFrom_call_iff (cmds : List (Cmd Args)) (data : Bytes) (k i : Nat) (a : Args) (intr : Bool) :
    handleFrom cmds data k = .call i a intr ↔
      ∃ j c, i = k + j ∧ cmds[j]? = some c ∧ c.parse data = some a ∧ intr = c.interrupt ∧
        ∀ j', j' < j → ∀ c', cmds[j']? = some c' → c'.parse data = none := by
  induction cmds generalizing k with
  | nil => simp [handleFrom]
  | cons c cs ih =>
    rw [handleFrom]
    constructor
    · intro h
      cases hp : c.parse data with
      | some a0 =>
        rw [hp] at h
        cases h
        exact ⟨0, c, rfl, rfl, hp, rfl, fun _ h0 => absurd h0 (Nat.not_lt_zero _)⟩
      | none =>
        rw [hp] at h
        obtain ⟨j, c0, hi, hj, hp0, hint, hall⟩ := (ih _).mp h
        refine ⟨j + 1, c0, hi.trans (Nat.add_right_comm k 1 j), hj, hp0, hint, fun j' hj' c' hc' => ?_⟩
        cases j' with
        | zero => cases hc'; exact hp
        | succ j' => exact hall j' (Nat.lt_of_succ_lt_succ hj') c' hc'
    · rintro ⟨j, c0, hi, hj, hp0, hint, hall⟩
      cases j with
      | zero => cases hj; rw [hp0, hint, hi]; rfl
      | succ j =>
        rw [hall 0 (Nat.succ_pos j) c rfl]
        exact (ih (k + 1)).mpr ⟨j, c0, hi.trans (Nat.add_right_comm k j 1), hj, hp0, hint,
          fun j' hj' => hall (j' + 1) (Nat.succ_lt_succ hj')⟩

theorem chunk_counts (cmds : List (Cmd Args)) (replies : Nat → Args → List (Option Bytes))
    (pre post : Bytes) (data : Bytes) (p q : ConnEv Args → Bool)
    (hp1 : ∀ i a, p (.invoke i a) = true) (hp2 : p .interrupt = false) (hp3 : ∀ b, p (.write b) = false)
    (hq1 : ∀ i a, q (.invoke i a) = false) (hq3 : ∀ b, q (.write b) = false) :
    let evs := tcpChunk cmds replies pre post data
    (evs.filter p).length ≤ 1 ∧ (evs.filter q).length ≤ (evs.filter p).length := by
  -- a chunk is a single write (unknown command), or one invoke, then an interrupt if the command
  -- asks for one, then writes; `p` counts the invoke, `q` can count only the interrupt.
  -- `p`, `q` are variables known by their values on the constructors because the two `match`
  -- lambdas of `tcpConn_counts` do not reduce under `simp`; there every hypothesis is `rfl`.
  simp only [tcpChunk]
  cases handle cmds data with
  | unknown => simp [hp3, hq3]
  | call i a intr =>
    cases intr <;>
      simp [List.filter_map, Function.comp_def, hp1, hp2, hp3, hq1, hq3, List.filter_cons]
    -- left: `intr = true`, where the interrupt is counted iff `q .interrupt`
    split <;> simp

theorem conn_counts (cmds : List (Cmd Args)) (replies : Nat → Args → List (Option Bytes))
    (pre post : Bytes) (cs : List Bytes) (p q : ConnEv Args → Bool)
    (hp1 : ∀ i a, p (.invoke i a) = true) (hp2 : p .interrupt = false) (hp3 : ∀ b, p (.write b) = false)
    (hq1 : ∀ i a, q (.invoke i a) = false) (hq3 : ∀ b, q (.write b) = false) :
    let evs := tcpConn cmds replies pre post cs
    (evs.filter p).length ≤ cs.length ∧ (evs.filter q).length ≤ (evs.filter p).length := by
  induction cs with
  | nil => simp [tcpConn]
  | cons d ds ih =>
    have hc := chunk_counts cmds replies pre post d p q hp1 hp2 hp3 hq1 hq3
    simp only [tcpConn, List.flatMap_cons, List.filter_append, List.length_append, List.length_cons] at hc ih ⊢
    -- `Nat.add_le_add ih.1 hc.1` has `rest + chunk` on the left, the goal `chunk + rest`
    exact ⟨Nat.add_comm _ _ ▸ Nat.add_le_add ih.1 hc.1, Nat.add_le_add hc.2 ih.2⟩

end CmdL

end Tickit
