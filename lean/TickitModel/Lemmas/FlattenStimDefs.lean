/-
C09 (external stimuli): the definitions the hypotheses on the stimuli are stated with — interrupt-safe
oracles (`Oracle.Quiet`, `Oracle.Periodic`, `Oracle.InterruptSafe`), timely stimuli (`stimsTimely`,
computable: `Lemmas/FlattenStimCex.lean` evaluates it), and the number of scheduler levels between a
component and a level above it (`Static.Up`), which is the fuel `raiseInterrupt` needs.
-/
import TickitModel.Core.Sim

namespace Tickit

def Oracle.Quiet (orc : Oracle) (d : Comp) : Prop := ∀ r ∈ agetD orc d [], r.callAt = none

def Oracle.Periodic (orc : Oracle) (d : Comp) : Prop := ∀ r ∈ agetD orc d [], r.callAt.isSome = true

def Oracle.InterruptSafe (orc : Oracle) (stims : List Stim) : Prop :=
  ∀ st ∈ stims, orc.Quiet st.comp ∨ orc.Periodic st.comp

/-- the stimuli are *timely* along the (nested) run: the stamp of an interrupt is not later than
the earliest pending wakeup, and all interrupts raised between two ticks carry the same stamp
(`pending` = an interrupt has been raised since the last tick).  Mirrors `masterRun`. -/
def stimsTimely (S : Static) (orc : Oracle) (fuel : Nat) (s : Speed) :
    Nat → Nat → Bool → MasterSt → List Stim → Bool
  | 0, _, _, _, _ => true
  | _, 0, _, _, _ => true
  | steps + 1, nTicks + 1, pending, m, stims =>
    let wake := (m.sim.sched "").wake
    let (comps, whenT) := firstWakeups wake
    let due : Option Int := whenT.map (dueReal m s)
    let stimFirst : Option (Stim × List Stim) := match stims with
      | [] => none
      | st :: rest => match due with
        | none => some (st, rest)
        | some d => if st.real ≤ d then some (st, rest) else none
    match stimFirst with
    | some (st, rest) =>
      let now := if st.real < m.now then m.now else st.real
      let (sim', top) := raiseInterrupt S fuel st.comp m.sim
      let stamp := interruptStamp m.tickerTime now m.lastReal s
      let sc := sim'.sched ""
      -- as in `masterRun`: an earlier wakeup of `top` is kept (the check below excludes an earlier
      -- wakeup, so on timely stimuli `when = stamp`)
      let when := match alookup sc.wake top with
        | some w => if w < stamp then w else stamp
        | none => stamp
      let sim'' := { sim' with scheds := upsert sim'.scheds "" { sc with wake := addWakeup sc.wake top when } }
      (match whenT with
        | none => true
        | some w => if pending then decide (stamp = w) else decide (stamp ≤ w)) &&
      stimsTimely S orc fuel s steps (nTicks + 1) true { m with sim := sim'', now := now } rest
    | none =>
      match whenT, due with
      | some w, some d =>
        let sc := m.sim.sched ""
        let sim1 := { m.sim with scheds := upsert m.sim.scheds "" { sc with wake := delWakeups sc.wake comps } }
        match tickLevel S orc fuel "" w comps [] sim1 with
        | .error _ => true
        | .ok (sim2, _) =>
          stimsTimely S orc fuel s steps nTicks false { sim := sim2, tickerTime := w, lastReal := d, now := d } stims
      | _, _ => true

/-- `Static.Below S lvl c` (`Lemmas/SimLemmas.lean`) with the number `k` of levels counted
(`Static.Below.toUp`); the way leads up from `c` to `lvl`, as `raiseInterrupt` walks it. -/
inductive Static.Up (S : Static) (lvl : Comp) : Comp → Nat → Prop
  | direct {c : Comp} : alookup S.parent c = some lvl → Static.Up S lvl c 1
  | step {c p : Comp} {k : Nat} : alookup S.parent c = some p → p ≠ "" → Static.Up S lvl p k →
      Static.Up S lvl c (k + 1)

end Tickit
