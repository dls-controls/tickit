/-
Lemmas for C04 (time never runs backwards), beyond the flat callbacks-only history: the master
scheduler's bookkeeping `MSt` with interrupts arriving at any point, then the whole-simulation model
(`tickLevel`/`tickLoop`, `masterRun`) with nested schedulers at any depth and external stimuli: the
post-condition `LevelOK` of a tick of a level, whatever the order of answers (`levelOK_hereditary`);
the master between two steps (`MasterSt.OK`) and the run-level invariant `MonoP`, carried along
`masterRun` by the elimination rule of `Lemmas/MasterRun.lean`.
-/
import TickitModel.Lemmas.MasterLemmas
import TickitModel.Lemmas.MasterRun
import TickitModel.Lemmas.MiscArith
import TickitModel.Lemmas.SimLoop

namespace Tickit

/-- what the environment has to respect when action `a` happens in state `s`: an interrupt is
stamped (pacing law, C12) with `tickerTime + elapsed·speed`, `elapsed ≥ 0`; a component that
answers during/after the tick whose time is `tickerTime` does not ask to be called back before
that time. -/
def MSt.TimelyAct (s : MSt) : MAct → Prop
  | .interrupt _ stamp => s.tickerTime ≤ stamp
  | .output _ (some w) => s.tickerTime ≤ w
  | _ => True

instance (s : MSt) (a : MAct) : Decidable (s.TimelyAct a) := by
  cases a with
  | interrupt c stamp => exact inferInstanceAs (Decidable (s.tickerTime ≤ stamp))
  | output c callAt =>
    cases callAt with
    | none => exact inferInstanceAs (Decidable True)
    | some w => exact inferInstanceAs (Decidable (s.tickerTime ≤ w))
  | startTick => exact inferInstanceAs (Decidable True)
  | beginUpdate c => exact inferInstanceAs (Decidable True)
  | endTick => exact inferInstanceAs (Decidable True)

/-- actions that are not enabled are ignored, as in `MSt.run` -/
def MSt.Timely (s : MSt) : List MAct → Prop
  | [] => True
  | a :: as => s.TimelyAct a ∧ MSt.Timely ((s.step a).getD s) as

instance MSt.decTimely : (s : MSt) → (acts : List MAct) → Decidable (s.Timely acts)
  | _, [] => inferInstanceAs (Decidable True)
  | s, a :: as =>
    have := MSt.decTimely ((s.step a).getD s) as
    inferInstanceAs (Decidable (s.TimelyAct a ∧ MSt.Timely ((s.step a).getD s) as))

def MSt.times (s : MSt) : List MAct → List SimTime
  | [] => [s.tickerTime]
  | a :: as => s.tickerTime :: MSt.times ((s.step a).getD s) as

namespace TimeMono

structure TInv (s : MSt) : Prop where
  inv : MInv s
  wake_ge : ∀ c w, alookup s.wake c = some w → s.tickerTime ≤ w
  pend_ge : ∀ c i, alookup s.pend c = some i → s.tickerTime ≤ i

theorem TInv.init : TInv {} :=
  ⟨MInv.init, by intro c w h; simp [alookup] at h, by intro c i h; simp [alookup] at h⟩

theorem timely_append (s : MSt) (pre post : List MAct) :
    s.Timely (pre ++ post) ↔ s.Timely pre ∧ (s.run pre).Timely post := by
  induction pre generalizing s with
  | nil => simp [MSt.Timely, MSt.run]
  | cons a as ih =>
    rw [List.cons_append, MSt.run_cons]
    simp only [MSt.Timely, ih, and_assoc]

theorem addWakeup_ge (s : MSt) (c : Comp) (w T : SimTime) (hw : T ≤ w)
    (hp : ∀ i, alookup s.pend c = some i → T ≤ i)
    (hk : ∀ c' v, alookup s.wake c' = some v → T ≤ v) :
    ∀ c' v, alookup (s.addWakeup c w) c' = some v → T ≤ v := by
  intro c' v hv
  by_cases hc : c' = c
  · subst hc
    rw [MSt.addWakeup_eq, alookup_upsert, if_pos rfl] at hv
    cases hv
    split
    · rename_i i hi
      have := hp i hi
      split <;> assumption
    · exact hw
  · rw [s.addWakeup_lookup_ne c c' w hc] at hv
    exact hk c' v hv

theorem TInv.step {s s' : MSt} (h : TInv s) (a : MAct) (ht : s.TimelyAct a)
    (hs : s.step a = some s') : TInv s' ∧ s.tickerTime ≤ s'.tickerTime := by
  have hI : MInv s' := h.inv.step hs
  cases MSt.Step.of_step hs with
  | interrupt c stamp =>
    -- the time written is the stamp, or the component's earlier wakeup (which the interrupt does not
    -- displace, due or not)
    have ht' : s.tickerTime ≤ s.intWhen c stamp := stimWhen_ge s.wake c stamp _ ht (h.wake_ge c)
    have hpend : ∀ c' i, alookup (s.setPending c (s.intWhen c stamp)).pend c' = some i →
        s.tickerTime ≤ i := by
      intro c' i hi
      unfold MSt.setPending at hi
      split at hi
      · exact h.pend_ge c' i hi
      · rw [alookup_upsert] at hi
        split at hi
        · cases hi
          exact ht'
        · exact h.pend_ge c' i hi
    exact ⟨⟨hI, addWakeup_ge _ c _ s.tickerTime ht' (hpend c) h.wake_ge, hpend⟩, Int.le_refl _⟩
  | answer c w =>
    exact ⟨⟨hI, addWakeup_ge s c w s.tickerTime ht (h.pend_ge c) h.wake_ge, h.pend_ge⟩,
      Int.le_refl _⟩
  | silent => exact ⟨h, Int.le_refl _⟩
  | startTick cs m _ hf =>
    obtain ⟨_, hle, ⟨c0, hc0⟩, _⟩ := firstWakeups_spec s.wake h.inv.wakeU cs m hf
    refine ⟨⟨hI, ?_, ?_⟩, h.wake_ge c0 m hc0⟩
    · intro c w hw
      have hw' : alookup (delWakeups s.wake cs) c = some w := hw
      rw [delWakeups_lookup _ h.inv.wakeU] at hw'
      split at hw'
      · cases hw'
      · exact hle c w hw'
    · -- a pending stamp that stays is covered by a wakeup that stays, and that one is `≥ m`
      intro c i hi
      have hi' : alookup (delWakeups s.pend cs) c = some i := hi
      rw [delWakeups_lookup _ h.inv.pendU] at hi'
      split at hi'
      · cases hi'
      · obtain ⟨w, hw, hwi⟩ := h.inv.pend_wake c i hi'
        exact Int.le_trans (hle c w hw) hwi
  | beginUpdate | endTick => exact ⟨⟨hI, h.wake_ge, h.pend_ge⟩, Int.le_refl _⟩

theorem TInv.stepD {s : MSt} (h : TInv s) (a : MAct) (ht : s.TimelyAct a) :
    TInv ((s.step a).getD s) ∧ s.tickerTime ≤ ((s.step a).getD s).tickerTime := by
  cases hs : s.step a with
  | none => exact ⟨h, Int.le_refl _⟩
  | some s' => exact h.step a ht hs

theorem TInv.run {s : MSt} (h : TInv s) (acts : List MAct) (ht : s.Timely acts) :
    TInv (s.run acts) ∧ s.tickerTime ≤ (s.run acts).tickerTime := by
  induction acts generalizing s with
  | nil => exact ⟨h, Int.le_refl _⟩
  | cons a as ih =>
    rw [MSt.run_cons]
    obtain ⟨h1, h2⟩ := h.stepD a ht.1
    obtain ⟨h3, h4⟩ := ih h1 ht.2
    exact ⟨h3, Int.le_trans h2 h4⟩

theorem TInv.times_sorted {s : MSt} (h : TInv s) (acts : List MAct) (ht : s.Timely acts) :
    (s.times acts).Pairwise (· ≤ ·) ∧ ∀ x ∈ s.times acts, s.tickerTime ≤ x := by
  induction acts generalizing s with
  | nil => simp [MSt.times]
  | cons a as ih =>
    obtain ⟨h1, h2⟩ := h.stepD a ht.1
    obtain ⟨h3, h4⟩ := ih h1 ht.2
    simp only [MSt.times]
    refine ⟨List.pairwise_cons.2 ⟨fun x hx => Int.le_trans h2 (h4 x hx), h3⟩, ?_⟩
    intro x hx
    rcases List.mem_cons.1 hx with rfl | hx
    · exact Int.le_refl _
    · exact Int.le_trans h2 (h4 x hx)

end TimeMono

/-- "no device asks to be called back in the past", for oracle devices, on a (final) state -/
def RunNoPast (orc : Oracle) (st : SimSt) : Prop :=
  ∀ (c : Comp) (k : Nat) (w : SimTime),
    (∃ r : DevResp, (agetD orc c [])[k]? = some r ∧ r.callAt = some w) →
    ∀ o : Obs, (st.obs.filter (fun o => o.comp == c))[k]? = some o → o.time ≤ w

structure SimSt.Good (st : SimSt) : Prop where
  count : ∀ c, agetD st.count c 0 = (st.obs.filter (fun o => o.comp == c)).length
  wakeU : ∀ l, UniqueKeys (st.sched l).wake

def SimSt.Ext (st st' : SimSt) : Prop := ∃ new, st'.obs = st.obs ++ new

def WakeNew (t : SimTime) (st st' : SimSt) : Prop :=
  ∀ l e, e ∈ (st'.sched l).wake → e ∈ (st.sched l).wake ∨ t ≤ e.2

/-- executable check of `RunNoPast` (sound: `runNoPastB_implies`, `Props/C04Mono.lean`) -/
def runNoPastB (orc : Oracle) (st : SimSt) : Bool :=
  (st.obs.map (·.comp)).all fun c =>
    let os := st.obs.filter (fun o => o.comp == c)
    (List.range os.length).all fun k =>
      match (agetD orc c [])[k]?, os[k]? with
      | some r, some o => (match r.callAt with
        | some w => decide (o.time ≤ w)
        | none => true)
      | _, _ => true

def LevelOK (orc : Oracle) (t : SimTime) (st st' : SimSt) : Prop :=
  st.Ext st' ∧ (st.Good → st'.Good ∧ (RunNoPast orc st' → WakeNew t st st'))

def AnsOK (orc : Oracle) (t : SimTime) (st st' : SimSt) (callAt : Option SimTime) : Prop :=
  st.Ext st' ∧ (st.Good → st'.Good ∧
    (RunNoPast orc st' → WakeNew t st st' ∧ ∀ w, callAt = some w → t ≤ w))

theorem SimSt.Ext.refl (st : SimSt) : st.Ext st := ⟨[], by simp⟩

theorem SimSt.Ext.trans {a b c : SimSt} (h1 : a.Ext b) (h2 : b.Ext c) : a.Ext c := by
  obtain ⟨n1, h1⟩ := h1
  obtain ⟨n2, h2⟩ := h2
  exact ⟨n1 ++ n2, by rw [h2, h1, List.append_assoc]⟩

theorem WakeNew.refl (t : SimTime) (st : SimSt) : WakeNew t st st := fun _ _ h => Or.inl h

theorem WakeNew.trans {t : SimTime} {a b c : SimSt} (h1 : WakeNew t a b) (h2 : WakeNew t b c) :
    WakeNew t a c :=
  fun l e he => (h2 l e he).elim (h1 l e) Or.inr

/-- the hypothesis on the final state restricts every earlier state -/
theorem RunNoPast.of_ext {orc : Oracle} {st st' : SimSt} (hx : st.Ext st') (h : RunNoPast orc st') :
    RunNoPast orc st := by
  obtain ⟨new, hx⟩ := hx
  intro c k w hr o ho
  apply h c k w hr o
  rw [hx, List.filter_append, List.getElem?_append_left (List.getElem?_eq_some_iff.1 ho).1]
  exact ho

namespace TimeMono

theorem setSched_ok {st : SimSt} (hg : st.Good) (l : Comp) {sc : SchedSt}
    (hu : UniqueKeys sc.wake) : ({ st with scheds := upsert st.scheds l sc } : SimSt).Good := by
  refine ⟨hg.count, fun l' => ?_⟩
  rw [SimSt.sched_upsert]
  split
  · exact hu
  · exact hg.wakeU l'

theorem setSched_wakeNew (t : SimTime) (st : SimSt) (l : Comp) {sc : SchedSt}
    (h : ∀ e ∈ sc.wake, e ∈ (st.sched l).wake ∨ t ≤ e.2) :
    WakeNew t st { st with scheds := upsert st.scheds l sc } := by
  intro l' e he
  rw [SimSt.sched_upsert] at he
  split at he
  · subst l'
    exact h e he
  · exact Or.inl he

theorem sysPre_ok (st : SimSt) (c : Comp) (t : SimTime) (hg : st.Good) :
    (sysPre st c t).Good ∧ (∀ e ∈ ((sysPre st c t).sched c).wake, t < e.2) ∧
    WakeNew t st (sysPre st c t) := by
  refine ⟨setSched_ok hg c (delWakeups_unique _ (hg.wakeU c) _), fun e he => ?_,
    setSched_wakeNew t st c fun e he => Or.inl ((delWakeups_sublist _ _).subset he)⟩
  rw [sysPre_sched_self] at he
  exact lt_of_mem_delWakeups_nestedDue _ (hg.wakeU c) t e he

theorem _root_.Tickit.LevelOK.not_past {orc : Oracle} {t : SimTime} {st st' : SimSt} (h : LevelOK orc t st st')
    (hg : st.Good) (hnp : RunNoPast orc st') (lvl : Comp) :
    st'.Good ∧ WakeNew t st st' ∧
      ((∀ e ∈ (st.sched lvl).wake, t ≤ e.2) → ∀ e ∈ (st'.sched lvl).wake, t ≤ e.2) :=
  let ⟨hg', hnew⟩ := h.2 hg
  ⟨hg', hnew hnp, fun hall e he => (hnew hnp lvl e he).elim (hall e) id⟩

theorem _root_.Tickit.LevelOK.nested_not_past {orc : Oracle} {t : SimTime} {st st2 : SimSt} {c : Comp}
    (h : LevelOK orc t (sysPre st c t) st2) (hg : st.Good) (hnp : RunNoPast orc st2) :
    (∀ e ∈ (st2.sched c).wake, t ≤ e.2) ∧ ∀ w, sysCallAt st2 c t = some w → t ≤ w := by
  obtain ⟨hg1, hgt, _⟩ := sysPre_ok st c t hg
  have hall := (h.not_past hg1 hnp c).2.2 (fun e he => Int.le_of_lt (hgt e he))
  refine ⟨hall, fun w hw => ?_⟩
  simp only [sysCallAt] at hw
  split at hw
  · obtain ⟨⟨e, he, hew⟩, _⟩ := (firstWakeups_snd_eq_some_iff _ _).mp hw
    exact hew ▸ hall e he
  · cases hw
    exact Int.le_refl _

theorem _root_.Tickit.AnsOK.refl (orc : Oracle) (t : SimTime) (st : SimSt) : AnsOK orc t st st none :=
  ⟨SimSt.Ext.refl st, fun hg => ⟨hg, fun _ => ⟨WakeNew.refl t st, nofun⟩⟩⟩

theorem anyWake_ok (st : SimSt) (lvl c : Comp) (callAt : Option SimTime) (t : SimTime) :
    st.Ext (anyWake st lvl c callAt) ∧ (anyWake st lvl c callAt).Ext st ∧
    (st.Good → (anyWake st lvl c callAt).Good) ∧
    ((∀ w, callAt = some w → t ≤ w) → WakeNew t st (anyWake st lvl c callAt)) := by
  rw [anyWake_eq]
  refine ⟨⟨[], by simp⟩, ⟨[], by simp⟩,
    fun hg => setSched_ok hg lvl (wakeUpd_unique (hg.wakeU lvl) c callAt),
    fun hc => setSched_wakeNew t st lvl fun e he => ?_⟩
  cases callAt with
  | none => exact Or.inl he
  | some w =>
    rcases mem_upsert he with h | h
    · exact Or.inr (h ▸ hc w rfl)
    · exact Or.inl h

theorem _root_.Tickit.AnsP.ok {S : Static} {orc : Oracle} {inner : LevelRel}
    (hin : ∀ c t ro i s r, inner c t ro i s r → LevelOK orc t s r.1)
    {L : Level} {inCh : List (Port × V)} {st : SimSt} {d : Dispatch V}
    {res : SimSt × List (Port × V) × Option SimTime} (a : AnsP S orc inner L inCh st d res) :
    AnsOK orc d.time st res.1 res.2.2 := by
  cases a with
  | skip => exact AnsOK.refl _ _ _
  | external _ => exact AnsOK.refl _ _ _
  | expose _ _ => exact AnsOK.refl _ _ _
  | @sys c t ins st2 outCh _ _ _ h4 =>
    -- a system component: every wakeup survived the removal of those due at `t` or was added by the
    -- inner tick at `t`; its call-back is `LevelOK.nested_not_past` of that tick
    have h := hin _ _ _ _ _ _ h4
    refine ⟨h.1, fun hg => ?_⟩
    obtain ⟨hg1, _, hn1⟩ := sysPre_ok st c t hg
    obtain ⟨hg2, hnew⟩ := h.2 hg1
    exact ⟨hg2, fun hnp => ⟨WakeNew.trans hn1 (hnew hnp), (h.nested_not_past hg hnp).2⟩⟩
  | @dev c t ins resp _ _ _ hresp _ =>
    -- a device: its observation is the `count`-th of the device, so `RunNoPast` speaks of it
    refine ⟨⟨[⟨c, t, _⟩], rfl⟩, fun hg => ⟨⟨fun c' => ?_, hg.wakeU⟩, fun hnp =>
      ⟨fun l e he => Or.inl he, fun w hw => ?_⟩⟩⟩
    · show agetD (upsert st.count c (agetD st.count c 0 + 1)) c' 0 =
        ((st.obs ++ [_]).filter (fun o : Obs => o.comp == c')).length
      rw [agetD_upsert, List.filter_append, List.length_append, ← hg.count c']
      by_cases hcc : c = c'
      · subst hcc; simp
      · simp [hcc]
    · refine hnp c (agetD st.count c 0) w ⟨resp, hresp, hw⟩
        ⟨c, t, (agetD st.devs c {}).merge ins⟩ ?_
      show ((st.obs ++ [_]).filter (fun o : Obs => o.comp == c))[_]? = _
      rw [List.filter_append, hg.count c]
      simp

theorem _root_.Tickit.LevelOK.refl (orc : Oracle) (t : SimTime) (st : SimSt) : LevelOK orc t st st :=
  ⟨SimSt.Ext.refl _, fun hg => ⟨hg, fun _ => WakeNew.refl _ _⟩⟩

theorem _root_.Tickit.LevelOK.answer {orc : Oracle} {t : SimTime} {st0 st st' : SimSt} {ca : Option SimTime}
    (h0 : LevelOK orc t st0 st) (ha : AnsOK orc t st st' ca) (lvl c : Comp) :
    LevelOK orc t st0 (anyWake st' lvl c ca) := by
  obtain ⟨hx1, hA⟩ := ha
  obtain ⟨hx2, hx2', hgw, hnw⟩ := anyWake_ok st' lvl c ca t
  refine ⟨SimSt.Ext.trans h0.1 (SimSt.Ext.trans hx1 hx2), fun hg => ?_⟩
  obtain ⟨hg0, hB⟩ := h0.2 hg
  obtain ⟨hg1, hA'⟩ := hA hg0
  refine ⟨hgw hg1, fun hnp => ?_⟩
  have hnp1 := RunNoPast.of_ext hx2' hnp
  obtain ⟨hn1, hc⟩ := hA' hnp1
  exact WakeNew.trans (hB (RunNoPast.of_ext hx1 hnp1)) (WakeNew.trans hn1 (hnw hc))

theorem levelOK_hereditary (S : Static) (orc : Oracle) :
    Hereditary S orc fun _ t _ _ st r => LevelOK orc t st r.1 := by
  rintro inner hin lvl t roots inCh st r ⟨L, tk, ds, _, hcall, hl⟩
  obtain ⟨ls', ⟨_, hok⟩, _, _, rfl⟩ := hl.invariant
    (I := fun ls => ls.tk.time = t ∧ LevelOK orc t st ls.st)
    (fun {ls _ d _ _ _ _ _} ⟨htm, hok⟩ _ ha hprop => by
      obtain ⟨_, htime, _, _, _, htk, _⟩ := Ticker.propagate_eq_ok hprop
      have hA := ha.ok hin
      rw [htime.trans htm] at hA
      exact ⟨htk.trans htm, LevelOK.answer hok hA _ _⟩)
    ⟨(PreInv.call hcall).2.2.1, LevelOK.refl _ _ _⟩
  exact hok

theorem tickLevel_ok (S : Static) (orc : Oracle) :
    ∀ (fuel : Nat) (lvl : Comp) (t : SimTime) (roots : List Comp) (inCh : List (Port × V))
      (st st' : SimSt) (out : List (Port × V)),
      tickLevel S orc fuel lvl t roots inCh st = .ok (st', out) → LevelOK orc t st st' :=
  fun fuel lvl t roots inCh st _ _ => (levelOK_hereditary S orc).tickLevel fuel lvl t roots inCh st _

theorem tickLevelAny_ok {S : Static} {orc : Oracle} {lvl : Comp} {t : SimTime} {roots : List Comp}
    {inCh : List (Port × V)} {st : SimSt} {r : SimSt × List (Port × V)}
    (h : TickLevelAny S orc lvl t roots inCh st r) : LevelOK orc t st r.1 :=
  (levelOK_hereditary S orc).tickLevelAny h

end TimeMono

structure MasterSt.OK (m : MasterSt) : Prop where
  good : m.sim.Good
  wake_ge : ∀ e ∈ (m.sim.sched "").wake, m.tickerTime ≤ e.2
  real : m.lastReal ≤ m.now

namespace TimeMono

theorem stimStep_ok (S : Static) (fuel : Nat) (s : Speed) (m : MasterSt) (st : Stim) (h : m.OK) :
    (stimStep S fuel s m st).OK ∧ (stimStep S fuel s m st).tickerTime = m.tickerTime := by
  obtain ⟨_, hcount, hobs, hfr⟩ := raiseInterrupt_frame_all S fuel st.comp m.sim
  have hnow : m.lastReal ≤ (if st.real < m.now then m.now else st.real) :=
    Int.le_trans h.real (le_stimNow _ _)
  have hg : (raiseInterrupt S fuel st.comp m.sim).1.Good :=
    ⟨fun c => by rw [hobs, hcount]; exact h.good.count c, fun l => (hfr l).1 ▸ h.good.wakeU l⟩
  refine ⟨⟨setSched_ok hg "" ?_, fun e he => ?_, hnow⟩, rfl⟩
  · exact (hg.wakeU "").upsert _ _
  rw [stimStep_wake] at he
  show m.tickerTime ≤ e.2
  rcases mem_upsert he with h1 | h1
  · exact h1 ▸ stimWhen_ge _ _ _ _ (interruptStamp_ge _ _ _ _ hnow) fun _ hw =>
      h.wake_ge _ (mem_of_alookup_eq_some hw)
  · exact h.wake_ge e h1

theorem delMaster_ok (st : SimSt) (cs : List Comp) (t : SimTime) (hg : st.Good) :
    (delMaster st cs).Good ∧ (delMaster st cs).obs = st.obs ∧ WakeNew t st (delMaster st cs) :=
  ⟨setSched_ok hg "" (delWakeups_unique _ (hg.wakeU "") _), rfl,
    setSched_wakeNew t st "" fun _ he => Or.inl ((delWakeups_sublist _ _).subset he)⟩

theorem _root_.Tickit.SimSt.good_empty : ({} : SimSt).Good :=
  ⟨fun _ => rfl, fun _ => List.nodup_nil⟩

theorem masterInitial_ok (S : Static) (orc : Oracle) (fuel : Nat) (t0 : SimTime) (now : Int)
    (m : MasterSt) (tr : TickRec) (h : masterInitial S orc fuel t0 now = .ok (m, tr))
    (hnp : RunNoPast orc m.sim) : m.OK ∧ tr.time = m.tickerTime := by
  obtain ⟨L, st, out, _, hr, rfl, rfl⟩ := masterInitial_eq_ok h
  obtain ⟨hg, hnew⟩ := (tickLevel_ok S orc _ _ _ _ _ _ _ _ hr).2 SimSt.good_empty
  refine ⟨⟨hg, fun e he => ?_, Int.le_refl _⟩, rfl⟩
  rcases hnew hnp "" e he with h1 | h1
  · cases h1
  · exact h1

/-- the run-level invariant behind C04.  It is carried back over the three things a master loop does
(`MonoP.stop`, `.stim`, `.tick`; `.endT` for a loop whose ticks take time), whichever function or
relation drives the loop. -/
def MonoP (orc : Oracle) (m : MasterSt) (acc : List TickRec) (r : MasterSt × List TickRec) : Prop :=
  m.sim.Ext r.1.sim ∧
  (m.OK → RunNoPast orc r.1.sim →
    (acc.map (·.time)).Pairwise (· ≤ ·) → (∀ x ∈ acc, x.time ≤ m.tickerTime) →
    (r.2.map (·.time)).Pairwise (· ≤ ·) ∧ (∀ x ∈ r.2, x.time ≤ r.1.tickerTime) ∧ r.1.OK)

theorem MonoP.stop (orc : Oracle) (m : MasterSt) (acc : List TickRec) : MonoP orc m acc (m, acc) :=
  ⟨SimSt.Ext.refl _, fun hok _ hs hle => ⟨hs, hle, hok⟩⟩

theorem MonoP.stim {orc : Oracle} (S : Static) (fuel : Nat) (sp : Speed) {m : MasterSt} (st : Stim)
    {acc : List TickRec} {r : MasterSt × List TickRec} (h : MonoP orc (stimStep S fuel sp m st) acc r) :
    MonoP orc m acc r := by
  obtain ⟨hx, hrest⟩ := h
  refine ⟨hx.imp fun new hnew => by rw [hnew, stimStep_obs], fun hok hnp hs hle => ?_⟩
  obtain ⟨hok', htt⟩ := stimStep_ok S fuel sp m st hok
  exact hrest hok' hnp hs (htt ▸ hle)

/-- `m'` is any master state at ticker time `w` that extends the tick's result `sim2` (`masterRun`,
`MasterRunAny` and the loop with processing costs all take `sim2` itself) -/
theorem MonoP.tick {orc : Oracle} {m m' : MasterSt} {comps : List Comp} {w : SimTime} {sim2 : SimSt}
    {d : Int} {acc : List TickRec} {r : MasterSt × List TickRec}
    (hfw : firstWakeups (m.sim.sched "").wake = (comps, some w))
    (hlev : LevelOK orc w (delMaster m.sim comps) sim2) (hx2 : sim2.Ext m'.sim)
    (htt : m'.tickerTime = w)
    (hok' : sim2.Good → (∀ e ∈ (sim2.sched "").wake, w ≤ e.2) → m'.OK)
    (h : MonoP orc m' (acc ++ [⟨w, d, comps⟩]) r) : MonoP orc m acc r := by
  obtain ⟨hx, hrest⟩ := h
  obtain ⟨hx1, hlev⟩ := hlev
  refine ⟨SimSt.Ext.trans hx1 (SimSt.Ext.trans hx2 hx), fun hok hnp hs hle => ?_⟩
  obtain ⟨hgd, _, hdel⟩ := delMaster_ok m.sim comps w hok.good
  obtain ⟨hg2, hnew⟩ := hlev hgd
  have hnew := hnew (RunNoPast.of_ext (SimSt.Ext.trans hx2 hx) hnp)
  obtain ⟨⟨e0, he0, rfl⟩, hmin⟩ := (firstWakeups_snd_eq_some_iff _ w).mp (by rw [hfw])
  -- the tick's time is a wakeup of the master, hence not before the ticker time
  have hacc : ∀ x ∈ acc, x.time ≤ e0.2 := fun x hx' =>
    Int.le_trans (hle x hx') (hok.wake_ge e0 he0)
  refine hrest (hok' hg2 fun e he => (hnew "" e he).elim (fun h1 => (hdel "" e h1).elim (hmin e) id) id) hnp ?_ ?_
  · rw [List.map_append, List.pairwise_append]
    refine ⟨hs, by simp, fun a ha b hb => ?_⟩
    obtain ⟨x, hx', rfl⟩ := List.mem_map.1 ha
    cases List.mem_singleton.1 hb
    exact hacc x hx'
  · rw [htt]
    intro x hx'
    rcases List.mem_append.1 hx' with hx' | hx'
    · exact hacc x hx'
    · cases List.mem_singleton.1 hx'
      exact Int.le_refl _

theorem MonoP.endT {orc : Oracle} {m : MasterSt} (e : Int) {acc : List TickRec}
    {r : MasterSt × List TickRec} (h : MonoP orc { m with lastReal := e, now := e } acc r) :
    MonoP orc m acc r :=
  ⟨h.1, fun hok => h.2 ⟨hok.good, hok.wake_ge, Int.le_refl _⟩⟩

theorem masterRun_mono (S : Static) (orc : Oracle) (fuel : Nat) (sp : Speed) :
    ∀ (steps nTicks : Nat) (m : MasterSt) (stims : List Stim) (acc : List TickRec)
      (m2 : MasterSt) (ticks : List TickRec),
      masterRun S orc fuel sp steps nTicks m stims acc = .ok (m2, ticks) → MonoP orc m acc (m2, ticks) :=
  fun steps nTicks m stims acc m2 ticks =>
    masterRun_elim (P := fun _ _ m _ acc r => MonoP orc m acc r) (fun _ _ m _ acc _ => .stop orc m acc)
      (fun _ _ _ _ _ st _ _ _ h => h.stim S fuel sp st)
      (fun _ _ _ _ _ _ _ _ _ _ _ hfw hr h => .tick hfw (tickLevel_ok S orc _ _ _ _ _ _ _ _ hr)
        (SimSt.Ext.refl _) rfl (fun hg hw => ⟨hg, hw, Int.le_refl _⟩) h)
      (fun _ _ m _ acc _ _ => .stop orc m acc) steps nTicks m stims acc (m2, ticks)

end TimeMono

end Tickit
