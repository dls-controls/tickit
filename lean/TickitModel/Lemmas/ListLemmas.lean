/-
Facts about `Option`, `Except` and plain lists that the library lacks, by subject: splitting a list at
an index or at an element of an append and reading `l.set i a`, `l ++ [a]`, `a :: l` by index; lists as
sets (`Nodup`, `filter (· != c)`, `eraseIdx`); sums of a `map`, and `lsum`, the sums of the fuel bound
of C09; `dropWhile` at both ends, `findSome?` searches that return the element with what was found,
filters that keep whole blocks of a `flatMap`.  The file imports nothing.
-/

namespace Tickit

theorem Except.map_eq_ok_iff {ε α β : Type} {f : α → β} {x : Except ε α} {b : β} :
    x.map f = .ok b ↔ ∃ a, x = .ok a ∧ f a = b := by
  cases x with
  | error e => exact ⟨nofun, fun ⟨_, h, _⟩ => nomatch h⟩
  | ok a => exact ⟨fun h => ⟨a, rfl, Except.ok.inj h⟩, fun ⟨_, h, hb⟩ => Except.ok.inj h ▸ hb ▸ rfl⟩

/-- for a model whose steps are `Option (Except ε _)`, `none` = not enabled. -/
theorem map_map_eq_ok {ε α β : Type} {x : Option (Except ε α)} {f : α → β} {y : β}
    (h : x.map (fun r => r.map f) = some (.ok y)) : ∃ b, x = some (.ok b) ∧ y = f b :=
  match x, h with
  | some (.ok b), h => ⟨b, rfl, (Except.ok.inj (Option.some.inj h)).symm⟩
  | some (.error _), h => nomatch Option.some.inj h

/-- a decidable fact about the value of a computed option is decided by computing the option
(the concrete executions in `Props/C08Msg.lean` and `Props/C08MsgRun.lean` are checked so). -/
instance Option.decidableExistsEqSomeAnd {α : Type} (o : Option α) (P : α → Prop)
    [DecidablePred P] : Decidable (∃ a, o = some a ∧ P a) :=
  match o with
  | none => isFalse fun ⟨_, h, _⟩ => nomatch h
  | some a => decidable_of_iff (P a) ⟨fun h => ⟨a, rfl, h⟩, fun ⟨_, h, hp⟩ => Option.some.inj h ▸ hp⟩

theorem append_eq_append_cons {α : Type} {l1 l2 pre post : List α} {x : α}
    (h : l1 ++ l2 = pre ++ x :: post) :
    (∃ post', l1 = pre ++ x :: post' ∧ post = post' ++ l2) ∨
      (∃ pre', pre = l1 ++ pre' ∧ l2 = pre' ++ x :: post) := by
  rcases List.append_eq_append_iff.1 h with ⟨as, h1, h2⟩ | ⟨bs, h1, h2⟩
  · exact Or.inr ⟨as, h1, h2⟩
  · cases bs with
    | nil =>
      refine Or.inr ⟨[], by simpa using h1.symm, by simpa using h2.symm⟩
    | cons b bs =>
      simp only [List.cons_append, List.cons.injEq] at h2
      obtain ⟨rfl, rfl⟩ := h2
      exact Or.inl ⟨bs, h1, rfl⟩

theorem flatten_map_split {α β : Type} (f : α → List β) {l : List α} {pre post : List β} {y : β}
    (h : (l.map f).flatten = pre ++ y :: post) :
    ∃ l1 r l2 s1 s2, l = l1 ++ r :: l2 ∧ f r = s1 ++ y :: s2 ∧ pre = (l1.map f).flatten ++ s1 ∧
      post = s2 ++ (l2.map f).flatten := by
  induction l generalizing pre with
  | nil => simp at h
  | cons a l ih =>
    simp only [List.map_cons, List.flatten_cons] at h
    rcases append_eq_append_cons h with ⟨post', h1, h2⟩ | ⟨pre', h1, h2⟩
    · exact ⟨[], a, l, pre, post', rfl, h1, by simp, h2⟩
    · obtain ⟨l1, r, l2, s1, s2, e1, e2, e3, e4⟩ := ih h2
      refine ⟨a :: l1, r, l2, s1, s2, by rw [e1]; rfl, e2, ?_, e4⟩
      rw [h1, e3]
      simp

theorem getElem?_split {α : Type} {l : List α} {i : Nat} {d : α} (h : l[i]? = some d) :
    ∃ p1 p2, l = p1 ++ d :: p2 ∧ l.eraseIdx i = p1 ++ p2 := by
  induction l generalizing i with
  | nil => simp at h
  | cons a l ih =>
    cases i with
    | zero =>
      simp at h; subst h
      exact ⟨[], l, rfl, rfl⟩
    | succ i =>
      simp at h
      obtain ⟨p1, p2, h1, h2⟩ := ih h
      exact ⟨a :: p1, p2, by simp [h1], by simp [h2]⟩

theorem lt_length_of_getElem?_eq_some {α : Type} {l : List α} {i : Nat} {s : α} (h : l[i]? = some s) : i < l.length :=
  (List.getElem?_eq_some_iff.1 h).1

theorem getElem?_set_some {α : Type} {l : List α} {i j : Nat} {a s t : α} (h : l[i]? = some s) :
    (l.set i a)[j]? = some t ↔ (j = i ∧ t = a) ∨ (j ≠ i ∧ l[j]? = some t) := by
  by_cases hij : i = j
  · subst hij; simp [List.getElem?_set_self (lt_length_of_getElem?_eq_some h), eq_comm]
  · simp [List.getElem?_set_ne hij, Ne.symm hij]

theorem getElem?_append_singleton_some {α : Type} {l : List α} {a t : α} {j : Nat} :
    (l ++ [a])[j]? = some t ↔ l[j]? = some t ∨ (j = l.length ∧ t = a) := by
  rcases Nat.lt_trichotomy j l.length with h | rfl | h
  · simp [List.getElem?_append_left h, Nat.ne_of_lt h]
  · simp [eq_comm]
  · have hn : (l ++ [a])[j]? = none := List.getElem?_eq_none (by simp; omega)
    simp [hn, List.getElem?_eq_none (Nat.le_of_lt h), Nat.ne_of_gt h]

theorem map_set_of_eq {α β : Type} {f : α → β} {l : List α} {j : Nat} {d b : α} (hd : l[j]? = some d)
    (hb : f b = f d) : (l.set j b).map f = l.map f := by
  obtain ⟨hlt, e⟩ := List.getElem?_eq_some_iff.1 hd
  rw [List.map_set, hb, ← e, ← List.getElem_map f (h := by rw [List.length_map]; exact hlt)]
  exact List.set_getElem_self _

theorem forall_mem_set {α : Type} {P : α → Prop} {l : List α} {i : Nat} {r' : α}
    (hl : ∀ x ∈ l, P x) (hr : P r') : ∀ x ∈ l.set i r', P x :=
  fun x hx => (List.mem_or_eq_of_mem_set hx).elim (hl x) (· ▸ hr)

theorem getElem?_cons_sub {α : Type} {l : List α} {n k : Nat} (hk : k ≤ n) (a : α) :
    (a :: l)[n + 1 - k]? = l[n - k]? := by
  rw [Nat.succ_sub hk]
  rfl

theorem mem_set_iff {α : Type} {l : List α} {j : Nat} (hj : j < l.length) {a b : α} :
    a ∈ l.set j b ↔ a = b ∨ a ∈ l.eraseIdx j := by
  rw [List.set_eq_take_append_cons_drop, if_pos hj, List.eraseIdx_eq_take_drop_succ]
  simp only [List.mem_append, List.mem_cons]
  exact ⟨fun h => h.elim (fun h => .inr (.inl h)) (fun h => h.elim .inl (fun h => .inr (.inr h))),
    fun h => h.elim (fun h => .inr (.inl h)) (fun h => h.elim .inl (fun h => .inr (.inr h)))⟩

theorem eq_of_filter_length_le_one {α : Type} {l : List α} {p : α → Bool}
    (h : (l.filter p).length ≤ 1) {x y : α} (hx : x ∈ l) (hy : y ∈ l) (px : p x = true)
    (py : p y = true) : x = y := by
  have mx : x ∈ l.filter p := List.mem_filter.2 ⟨hx, px⟩
  have my : y ∈ l.filter p := List.mem_filter.2 ⟨hy, py⟩
  match hl : l.filter p, h, mx, my with
  | [], _, mx, _ => simp at mx
  | [z], _, mx, my =>
    simp at mx my; rw [mx, my]
  | _ :: _ :: _, h, _, _ => simp at h

theorem mem_eraseIdx_iff_of_nodup_map {α β : Type} {f : α → β} {l : List α}
    (hn : (l.map f).Nodup) {i : Nat} {d : α} (hd : l[i]? = some d) {x : α} :
    x ∈ l.eraseIdx i ↔ x ∈ l ∧ f x ≠ f d := by
  obtain ⟨p1, p2, rfl, he⟩ := getElem?_split hd
  rw [he]
  simp only [List.map_append, List.map_cons, List.nodup_append, List.nodup_cons, List.mem_map,
    List.mem_cons, forall_exists_index, and_imp] at hn
  obtain ⟨_, ⟨h2, _⟩, h12⟩ := hn
  simp only [List.mem_append, List.mem_cons]
  constructor
  · rintro (hx | hx)
    · exact ⟨Or.inl hx, fun e => h12 _ x hx rfl _ (Or.inl e) rfl⟩
    · exact ⟨Or.inr (Or.inr hx), fun e => h2 ⟨x, hx, e⟩⟩
  · rintro ⟨hx | rfl | hx, hne⟩
    · exact Or.inl hx
    · exact absurd rfl hne
    · exact Or.inr hx

theorem isEmpty_congr {α : Type} {l1 l2 : List α} (h : ∀ c, c ∈ l1 ↔ c ∈ l2) :
    l1.isEmpty = l2.isEmpty := by
  rw [Bool.eq_iff_iff, List.isEmpty_iff, List.isEmpty_iff, List.eq_nil_iff_forall_not_mem,
    List.eq_nil_iff_forall_not_mem]
  exact forall_congr' fun c => not_congr (h c)

/-- `set.discard` is written `l.filter (· != c)` in the model. -/
theorem mem_filter_ne {α : Type} [BEq α] [LawfulBEq α] {c x : α} {l : List α} (h : x ∈ l)
    (hne : x ≠ c) : x ∈ l.filter (· != c) :=
  List.mem_filter.mpr ⟨h, bne_iff_ne.mpr hne⟩

theorem not_mem_filter_ne_self {α : Type} [BEq α] [LawfulBEq α] {c : α} {l : List α} :
    c ∉ l.filter (· != c) :=
  fun h => bne_iff_ne.mp (List.mem_filter.mp h).2 rfl

theorem nodup_snoc {α : Type} {l : List α} {d : α} (h : l.Nodup) (hd : d ∉ l) :
    (l ++ [d]).Nodup :=
  List.nodup_append.2 ⟨h, List.nodup_cons.2 ⟨List.not_mem_nil, List.nodup_nil⟩,
    fun _ ha _ hb hab => hd (List.mem_singleton.1 hb ▸ hab ▸ ha)⟩

theorem filter_bne_head_of_nodup {α : Type} [DecidableEq α] {w : α} {ws : List α}
    (h : (w :: ws).Nodup) : (w :: ws).filter (· != w) = ws := by
  rw [List.nodup_cons] at h
  rw [List.filter_cons_of_neg (by simp), List.filter_eq_self]
  intro a ha
  exact bne_iff_ne.2 fun e => h.1 (e ▸ ha)

theorem nodup_map_snoc {α β : Type} {f : α → β} {l : List α} (h : (l.map f).Nodup) {b : α}
    (hb : ∀ a ∈ l, f a ≠ f b) : ((l ++ [b]).map f).Nodup :=
  List.map_append ▸ nodup_snoc h fun hm => let ⟨a, ha, e⟩ := List.mem_map.1 hm; hb a ha e

theorem mem_set_iff_of_nodup_map {α β : Type} {f : α → β} {l : List α} (hn : (l.map f).Nodup)
    {j : Nat} {d : α} (hd : l[j]? = some d) {b x : α} :
    x ∈ l.set j b ↔ x = b ∨ (x ∈ l ∧ f x ≠ f d) := by
  rw [mem_set_iff (List.getElem?_eq_some_iff.1 hd).1, mem_eraseIdx_iff_of_nodup_map hn hd]

theorem mem_eraseIdx_or_eq {α : Type} {l : List α} {a b : α} {j : Nat} (ha : a ∈ l)
    (hj : l[j]? = some b) : a = b ∨ a ∈ l.eraseIdx j := by
  obtain ⟨i, hi⟩ := List.mem_iff_getElem?.1 ha
  by_cases hij : i = j
  · subst hij
    rw [hj] at hi
    exact Or.inl (Option.some.inj hi).symm
  · exact Or.inr (List.mem_eraseIdx_iff_getElem?.2 ⟨i, hij, hi⟩)

/-- the rank is the number of predecessors in `l`. -/
theorem exists_rank_of_order {α : Type} (l : List α) (R : α → α → Prop) (hirr : ∀ x, ¬ R x x)
    (htr : ∀ x y z, R x y → R y z → R x z) :
    ∃ rank : α → Nat, ∀ x y, x ∈ l → R x y → rank x < rank y := by
  classical
  have key : ∀ (m : List α) (p q : α → Prop) [DecidablePred p] [DecidablePred q],
      (∀ x, p x → q x) → (m.filter p).length ≤ (m.filter q).length ∧
        ((∃ x ∈ m, q x ∧ ¬ p x) → (m.filter p).length < (m.filter q).length) := by
    intro m p q _ _ hpq
    induction m with
    | nil => exact ⟨Nat.le_refl _, fun ⟨_, h, _⟩ => nomatch h⟩
    | cons a m ih =>
      by_cases hp : p a
      · have hq := hpq a hp
        simp only [List.filter_cons, hp, hq, decide_true, if_true, List.length_cons]
        refine ⟨Nat.succ_le_succ ih.1, fun ⟨x, hx, hqx, hpx⟩ => Nat.succ_lt_succ (ih.2 ⟨x, ?_, hqx, hpx⟩)⟩
        exact (List.mem_cons.1 hx).resolve_left (fun e => hpx (e ▸ hp))
      · by_cases hq : q a
        · simp only [List.filter_cons, hp, hq, decide_true, decide_false, if_true, List.length_cons]
          exact ⟨Nat.le_succ_of_le ih.1, fun _ => Nat.lt_succ_of_le ih.1⟩
        · simp only [List.filter_cons, hp, hq, decide_false]
          refine ⟨ih.1, fun ⟨x, hx, hqx, hpx⟩ => ih.2 ⟨x, ?_, hqx, hpx⟩⟩
          exact (List.mem_cons.1 hx).resolve_left (fun e => hq (e ▸ hqx))
  refine ⟨fun y => (l.filter (fun x => R x y)).length, fun x y hx hxy => ?_⟩
  exact (key l _ _ (fun z hz => htr z x y hz hxy)).2 ⟨x, hx, hxy, hirr x⟩

theorem sum_map_set {α : Type} (f : α → Nat) (l : List α) (i : Nat) (r r' : α)
    (h : l[i]? = some r) : ((l.set i r').map f).sum + f r = (l.map f).sum + f r' := by
  induction l generalizing i with
  | nil => cases h
  | cons x l ih =>
    cases i with
    | zero =>
      cases h
      simp only [List.set_cons_zero, List.map_cons, List.sum_cons]
      omega
    | succ i =>
      have := ih i h
      simp only [List.set_cons_succ, List.map_cons, List.sum_cons]
      omega

theorem sum_map_le {α : Type} (f : α → Nat) (k : Nat) (l : List α) (h : ∀ x ∈ l, f x ≤ k) :
    (l.map f).sum ≤ k * l.length := by
  induction l with
  | nil => exact Nat.le_refl 0
  | cons a l ih =>
    rw [List.map_cons, List.sum_cons, List.length_cons, Nat.mul_succ, Nat.add_comm]
    exact Nat.add_le_add (ih fun x hx => h x (List.mem_cons_of_mem _ hx)) (h a List.mem_cons_self)

theorem sum_map_filter {α : Type} (f : α → Nat) (p : α → Bool) (l : List α)
    (h : ∀ x ∈ l, p x = false → f x = 0) : ((l.filter p).map f).sum = (l.map f).sum := by
  induction l with
  | nil => rfl
  | cons a l ih =>
    have ih' := ih (fun x hx => h x (List.mem_cons_of_mem _ hx))
    cases hp : p a with
    | true => simp [hp, ih']
    | false =>
      have := h a List.mem_cons_self hp
      simp [hp, ih', this]

def lsum {α : Type} (l : List α) (f : α → Nat) : Nat := (l.map f).sum

section LSum
variable {α β : Type}

@[simp] theorem lsum_nil (f : α → Nat) : lsum [] f = 0 := rfl

@[simp] theorem lsum_cons (x : α) (l : List α) (f : α → Nat) : lsum (x :: l) f = f x + lsum l f := by
  simp [lsum]

theorem lsum_le_lsum {l : List α} {f g : α → Nat} (h : ∀ x ∈ l, f x ≤ g x) : lsum l f ≤ lsum l g := by
  induction l with
  | nil => simp
  | cons x l ih =>
    have h1 := h x (by simp)
    have h2 := ih (fun y hy => h y (List.mem_cons_of_mem _ hy))
    simp only [lsum_cons]
    omega

theorem lsum_add (l : List α) (f g : α → Nat) :
    lsum l (fun x => f x + g x) = lsum l f + lsum l g := by
  induction l with
  | nil => simp
  | cons x l ih => simp only [lsum_cons, ih]; omega

theorem lsum_zero (l : List α) : lsum l (fun _ => 0) = 0 := by
  induction l with
  | nil => simp
  | cons x l ih => simp [ih]

theorem lsum_one (l : List α) : lsum l (fun _ => 1) = l.length := by
  induction l with
  | nil => simp
  | cons x l ih => simp only [lsum_cons, ih, List.length_cons]; omega

theorem lsum_comm (l : List α) (m : List β) (f : α → β → Nat) :
    lsum l (fun x => lsum m (fun y => f x y)) = lsum m (fun y => lsum l (fun x => f x y)) := by
  induction l with
  | nil => simp [lsum_zero]
  | cons x l ih => simp only [lsum_cons, ih, lsum_add]

theorem lsum_mem_le {l : List α} {x : α} (h : x ∈ l) (f : α → Nat) : f x ≤ lsum l f := by
  induction l with
  | nil => simp at h
  | cons y l ih =>
    simp only [lsum_cons]
    rcases List.mem_cons.1 h with rfl | h
    · omega
    · have := ih h; omega

theorem lsum_congr {l : List α} {f g : α → Nat} (h : ∀ x ∈ l, f x = g x) : lsum l f = lsum l g :=
  congrArg List.sum (List.map_congr_left h)

theorem lsum_eq_zero {l : List α} {f : α → Nat} (h : ∀ x ∈ l, f x = 0) : lsum l f = 0 :=
  (lsum_congr h).trans (lsum_zero l)

theorem lsum_le_of_at_most_one {l : List α} (hn : l.Nodup) {g : α → Nat} {M : Nat}
    (h1 : ∀ x ∈ l, ∀ y ∈ l, g x ≠ 0 → g y ≠ 0 → x = y) (hM : ∀ x ∈ l, g x ≤ M) : lsum l g ≤ M := by
  induction l with
  | nil => exact Nat.zero_le _
  | cons x l ih =>
    rw [List.nodup_cons] at hn
    rw [lsum_cons]
    by_cases hx : g x = 0
    · rw [hx, Nat.zero_add]
      exact ih hn.2 (fun a ha b hb => h1 a (List.mem_cons_of_mem _ ha) b (List.mem_cons_of_mem _ hb))
        (fun a ha => hM a (List.mem_cons_of_mem _ ha))
    · rw [lsum_eq_zero, Nat.add_zero]
      · exact hM x List.mem_cons_self
      · intro y hy
        apply Classical.byContradiction
        intro hy0
        exact hn.1 (h1 x List.mem_cons_self y (List.mem_cons_of_mem _ hy) hx hy0 ▸ hy)

theorem ite_zero_le (c : Prop) [Decidable c] (n : Nat) : (if c then n else 0) ≤ n := by
  split
  · exact Nat.le_refl n
  · exact Nat.zero_le n

theorem lsum_if_add_le {l : List α} {a : α} (ha : a ∈ l) (p : α → Prop) [DecidablePred p]
    (hpa : ¬ p a) (w : α → Nat) : lsum l (fun x => if p x then w x else 0) + w a ≤ lsum l w := by
  induction l with
  | nil => cases ha
  | cons x l ih =>
    rw [lsum_cons, lsum_cons]
    rcases List.mem_cons.1 ha with rfl | ha'
    · rw [if_neg hpa, Nat.zero_add, Nat.add_comm]
      exact Nat.add_le_add_left (lsum_le_lsum (fun y _ => ite_zero_le _ _)) _
    · rw [Nat.add_assoc]
      exact Nat.add_le_add (ite_zero_le _ _) (ih ha')

theorem lsum_below_add_le {l : List α} {a : α} (ha : a ∈ l) (rk : α → Nat) (w : α → Nat) :
    lsum l (fun x => if rk x < rk a then w x else 0) + w a ≤ lsum l w :=
  lsum_if_add_le ha (fun x => rk x < rk a) (Nat.lt_irrefl _) w

theorem lsum_below_add_le_below {l : List α} {a a'' : α} (ha : a'' ∈ l) (rk : α → Nat)
    (hr : rk a'' < rk a) (w : α → Nat) :
    lsum l (fun x => if rk x < rk a'' then w x else 0) + w a'' ≤
      lsum l (fun x => if rk x < rk a then w x else 0) := by
  have h := lsum_if_add_le ha (fun x => rk x < rk a'') (Nat.lt_irrefl _)
    (fun x => if rk x < rk a then w x else 0)
  rw [if_pos hr] at h
  refine Nat.le_trans (Nat.add_le_add_right (Nat.le_of_eq (lsum_congr (fun x _ => ?_))) _) h
  split
  · rename_i hx; rw [if_pos (Nat.lt_trans hx hr)]
  · rfl

end LSum

/-- Python's `str.strip`. -/
theorem dropWhile_both_ends_spec {α : Type} (p : α → Bool) (s : List α) :
    let r := ((s.dropWhile p).reverse.dropWhile p).reverse
    ∃ pre post, s = pre ++ r ++ post ∧ (∀ c ∈ pre, p c = true) ∧
      (∀ c ∈ post, p c = true) ∧
      (∀ c, r.head? = some c → p c = false) ∧
      (∀ c, r.getLast? = some c → p c = false) := by
  intro r
  let d := s.dropWhile p
  have hs : s = s.takeWhile p ++ d := (List.takeWhile_append_dropWhile).symm
  have hd : d = r ++ (d.reverse.takeWhile p).reverse := by
    show d = (d.reverse.dropWhile p).reverse ++ (d.reverse.takeWhile p).reverse
    rw [← List.reverse_append, List.takeWhile_append_dropWhile, List.reverse_reverse]
  refine ⟨s.takeWhile p, (d.reverse.takeWhile p).reverse, ?_, ?_, ?_, ?_, ?_⟩
  · rw [List.append_assoc, ← hd]; exact hs
  · intro c hc; exact List.all_eq_true.mp List.all_takeWhile c hc
  · intro c hc; exact List.all_eq_true.mp List.all_takeWhile c (List.mem_reverse.mp hc)
  · intro c hc
    have hdh : d.head? = some c := by
      rw [hd]
      cases hr : r with
      | nil => rw [hr] at hc; simp at hc
      | cons x xs => rw [hr] at hc; simpa using hc
    have := List.head?_dropWhile_not p s
    rw [show s.dropWhile p = d from rfl, hdh] at this
    simpa using this
  · intro c hc
    have : r.getLast? = (d.reverse.dropWhile p).head? := by simp [r, d]
    rw [this] at hc
    have := List.head?_dropWhile_not p d.reverse
    rw [hc] at this
    simpa using this

/-- every resolver of `Core/Http.lean` is a search of this shape. -/
theorem findSome?_pair_eq_some_iff {α β : Type} (f : α → Option β) (l : List α) (x : α) (b : β) :
    l.findSome? (fun y => (f y).map (fun c => (y, c))) = some (x, b) ↔
      ∃ i : Nat, l[i]? = some x ∧ f x = some b ∧
        ∀ j : Nat, j < i → ∀ y : α, l[j]? = some y → f y = none := by
  rw [List.findSome?_eq_some_iff]
  constructor
  · rintro ⟨l₁, y, l₂, rfl, hy, hall⟩
    obtain ⟨c, hc, h⟩ := Option.map_eq_some_iff.mp hy
    cases h
    refine ⟨l₁.length, ?_, hc, fun j hj y hy => ?_⟩
    · rw [List.getElem?_append_right (Nat.le_refl _), Nat.sub_self]
      rfl
    · rw [List.getElem?_append_left hj] at hy
      exact Option.map_eq_none_iff.mp (hall y (List.mem_of_getElem? hy))
  · rintro ⟨i, hi, hx, hall⟩
    obtain ⟨hlt, rfl⟩ := List.getElem?_eq_some_iff.mp hi
    refine ⟨l.take i, l[i], l.drop (i + 1), ?_, by rw [hx]; rfl, fun y hy => ?_⟩
    · rw [List.getElem_cons_drop, List.take_append_drop]
    · obtain ⟨j, hj, rfl⟩ := List.mem_take_iff_getElem.mp hy
      rw [hall j (Nat.lt_of_lt_of_le hj (Nat.min_le_left ..)) _ (List.getElem?_eq_getElem _)]
      rfl

theorem findSome?_pair_eq_none_iff {α β : Type} (f : α → Option β) (l : List α) :
    l.findSome? (fun y => (f y).map (fun c => (y, c))) = none ↔ ∀ y ∈ l, f y = none := by
  simp only [List.findSome?_eq_none_iff, Option.map_eq_none_iff]

theorem findSome?_pair_filter {α β : Type} (q : α → Bool) (f : α → Option β) (l : List α) :
    (l.filter q).findSome? (fun y => (f y).map (fun c => (y, c))) =
      l.findSome? (fun y => (if q y then f y else none).map (fun c => (y, c))) := by
  induction l with
  | nil => rfl
  | cons x t ih =>
    rw [List.filter_cons, List.findSome?_cons (a := x)]
    cases q x
    · exact ih
    · rw [if_pos rfl, List.findSome?_cons, ih]; rfl

theorem findSome?_countdown {β : Type} (g : Nat → Option β) (n : Nat) (b : β) :
    ((List.range n).reverse).findSome? g = some b ↔
      ∃ k, k < n ∧ g k = some b ∧ ∀ k', k < k' → k' < n → g k' = none := by
  induction n with
  | zero => exact ⟨nofun, fun ⟨_, h, _⟩ => absurd h (Nat.not_lt_zero _)⟩
  | succ n ih =>
    rw [List.range_succ, List.reverse_append, List.reverse_singleton, List.singleton_append,
      List.findSome?_cons]
    cases hg : g n with
    | some y =>
      constructor
      · rintro ⟨⟩
        exact ⟨n, Nat.lt_succ_self n, hg,
          fun k' h1 h2 => absurd (Nat.le_of_lt_succ h2) (Nat.not_le_of_gt h1)⟩
      · rintro ⟨k, hk, hgk, hall⟩
        rcases Nat.lt_or_eq_of_le (Nat.le_of_lt_succ hk) with hlt | rfl
        · rw [hall n hlt (Nat.lt_succ_self n)] at hg
          cases hg
        · exact hg.symm.trans hgk
    | none =>
      rw [ih]
      constructor
      · rintro ⟨k, hk, hgk, hall⟩
        refine ⟨k, Nat.lt_succ_of_lt hk, hgk, fun k' h1 h2 => ?_⟩
        rcases Nat.lt_or_eq_of_le (Nat.le_of_lt_succ h2) with hlt | rfl
        · exact hall k' h1 hlt
        · exact hg
      · rintro ⟨k, hk, hgk, hall⟩
        rcases Nat.lt_or_eq_of_le (Nat.le_of_lt_succ hk) with hlt | rfl
        · exact ⟨k, hlt, hgk, fun k' h1 h2 => hall k' h1 (Nat.lt_succ_of_lt h2)⟩
        · rw [hg] at hgk
          cases hgk

theorem findSome?_countdown_eq_none {β : Type} (g : Nat → Option β) (n : Nat) :
    ((List.range n).reverse).findSome? g = none ↔ ∀ k, k < n → g k = none := by
  simp only [List.findSome?_eq_none_iff, List.mem_reverse, List.mem_range]

theorem filter_eq_of_forall {α : Type} {l : List α} {p : α → Bool} {P : Prop} [Decidable P]
    (h : ∀ x ∈ l, p x = true ↔ P) : l.filter p = if P then l else [] := by
  split
  · exact List.filter_eq_self.mpr fun x hx => (h x hx).mpr ‹P›
  · exact List.filter_eq_nil_iff.mpr fun x hx hp => ‹¬P› ((h x hx).mp hp)

theorem filter_flatMap_zipIdx {α β : Type} (p : β → Bool) (B : α → Nat → List β) (i : Nat)
    (hB : ∀ a k, (B a k).filter p = if k = i then B a k else []) (l : List α) (k : Nat) :
    ((l.zipIdx k).flatMap (fun ai => B ai.1 ai.2)).filter p =
      if k ≤ i then (match l[i - k]? with | some a => B a i | none => []) else [] := by
  induction l generalizing k with
  | nil => split <;> rfl
  | cons a l ih =>
    rw [List.zipIdx_cons, List.flatMap_cons, List.filter_append, hB, ih]
    rcases Nat.lt_trichotomy k i with h | rfl | h
    · rw [if_neg (Nat.ne_of_lt h), if_pos (Nat.succ_le_of_lt h), if_pos (Nat.le_of_lt h),
        List.nil_append, (Nat.succ_pred_eq_of_pos (Nat.sub_pos_of_lt h)).symm]
      rfl
    · rw [if_pos rfl, if_neg (Nat.not_succ_le_self k), if_pos (Nat.le_refl k), Nat.sub_self,
        List.append_nil]
      rfl
    · rw [if_neg (Nat.ne_of_gt h), if_neg (Nat.not_le_of_gt (Nat.lt_succ_of_lt h)),
        if_neg (Nat.not_le_of_gt h)]
      rfl

end Tickit
