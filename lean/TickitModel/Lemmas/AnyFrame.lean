/-
Any-order nested tick: what EVERY execution of a tick of a level satisfies (whatever the
answer orders): it touches only what lies at or below the level, keeps the wakeup maps dicts, and
the exposed output changes form a dict (`LevelPost1`).  A level passes `LevelPost1` on from its inner
ticks (`levelPost1_hereditary`): an answer touches only the footprint `Foot` of the answering child
(`AnsP.frame_foot`), and the loop invariant `Inv1` records of the level's ticker only that its state
is one of a tick with arbitrary answers (`TickSys.Run` with the predicate `True`): that pending
dispatches go to components of the level and carry dicts is read off the run.
-/
import TickitModel.Lemmas.StaticValid
import TickitModel.Lemmas.AnyLoc

namespace Tickit

/-- `Static.Own` (`Lemmas/SimLemmas.lean`) without its guard that the level is not the master `""`, so
that it also describes what a tick of the master level may touch -/
def AtOrBelow (S : Static) (lvl x : Comp) : Prop := x = lvl ∨ S.Below lvl x

def Foot (S : Static) (L : Level) (c x : Comp) : Prop := alookup S.parent c = some L.name ∧ S.Own c x

/-- the region of a child `c` of level `L` is written `Foot S L c` where answers are concerned and
`AtOrBelow S c` where ticks are; it lies below `L` -/
theorem Foot.atOrBelow {S : Static} {L : Level} {c x : Comp} (h : Foot S L c x) : AtOrBelow S c x :=
  h.2.imp_right (·.2)

theorem AtOrBelow.foot {S : Static} (hS : S.Valid) {L : Level} {c x : Comp}
    (hpar : alookup S.parent c = some L.name) (h : AtOrBelow S c x) : Foot S L c x :=
  ⟨hpar, h.imp_right (⟨hS.child_ne_master hpar, ·⟩)⟩

theorem Foot.below {S : Static} {L : Level} {c x : Comp} (h : Foot S L c x) : S.Below L.name x :=
  h.2.below h.1

section

variable {S : Static}

theorem Foot.ne_level (hS : S.Valid) {L : Level} {c x : Comp} (h : Foot S L c x) : x ≠ L.name := by
  intro hx
  subst hx
  exact hS.own_not_parent h.1 h.2

theorem Foot.unique (hS : S.Valid) {L : Level} {c c' x : Comp} (h : Foot S L c x) (h' : Foot S L c' x) :
    c = c' :=
  Static.Own.unique hS.toWF h.1 h'.1 h.2 h'.2

end

/-- a property of ONE execution; determinism relates two -/
structure LevelPost1 (S : Static) (lvl : Comp) (st : SimSt) (r : SimSt × List (Port × V)) : Prop where
  frame : ∀ x, x ≠ lvl → ¬ S.Below lvl x → r.1.loc x = st.loc x
  wf : st.WakeWF → r.1.WakeWF
  nodup : (akeys r.2).Nodup

theorem LevelPost1.frame' {S : Static} {lvl : Comp} {st : SimSt} {r : SimSt × List (Port × V)}
    (h : LevelPost1 S lvl st r) {x : Comp} (hx : ¬ AtOrBelow S lvl x) : r.1.loc x = st.loc x :=
  h.frame x (fun e => hx (Or.inl e)) (fun hb => hx (Or.inr hb))

section Answer

variable {S : Static} {orc : Oracle} {inner : LevelRel}

/-- the guards of `AnsP.external` and `AnsP.expose` fail for a system component -/
theorem sys_not_pseudo (hS : S.Valid) {c : Comp} (h : S.isSys c = true) (n : Comp) :
    (n != "" && c == pseudoExternal) = false ∧ (n != "" && c == pseudoExpose) = false := by
  obtain ⟨_, _, h3, h4⟩ := hS.pseudo_fresh
  have e1 : (c == pseudoExternal) = false := beq_eq_false_iff_ne.2 fun e => by rw [e, h3] at h; cases h
  have e2 : (c == pseudoExpose) = false := beq_eq_false_iff_ne.2 fun e => by rw [e, h4] at h; cases h
  rw [e1, e2, Bool.and_false]
  exact ⟨rfl, rfl⟩

theorem AnsP.sys_inv {L : Level} {inCh : List (Port × V)} {st : SimSt} {c : Comp} {t : SimTime}
    {ins : List (Port × V)} {res : SimSt × List (Port × V) × Option SimTime}
    (a : AnsP S orc inner L inCh st (.input c t ins) res)
    (h1 : (L.name != "" && c == pseudoExternal) = false)
    (h2 : (L.name != "" && c == pseudoExpose) = false) (h3 : S.isSys c = true) :
    inner c t (sysRoots S st c t) ins (sysPre st c t) (res.1, res.2.1) ∧
      res.2.2 = sysCallAt res.1 c t := by
  cases a with
  | external e1 => rw [h1] at e1; cases e1
  | expose _ e2 => rw [h2] at e2; cases e2
  | dev _ _ e3 _ _ => rw [h3] at e3; cases e3
  | sys _ _ _ e4 => exact ⟨e4, rfl⟩

theorem SimSt.WakeWF.setSched {st : SimSt} (h : st.WakeWF) (k : Comp) {sc : SchedSt}
    (hsc : UniqueKeys sc.wake) : ({ st with scheds := upsert st.scheds k sc } : SimSt).WakeWF := by
  intro s
  rw [SimSt.sched_upsert]
  split
  · exact hsc
  · exact h s

theorem SimSt.WakeWF.sysPre {st : SimSt} (h : st.WakeWF) (c : Comp) (t : SimTime) :
    (sysPre st c t).WakeWF :=
  h.setSched c (delWakeups_unique _ (h c) _)

theorem SimSt.WakeWF.anyWake {st : SimSt} (h : st.WakeWF) (lvl c : Comp) (ca : Option SimTime) :
    (anyWake st lvl c ca).WakeWF := by
  rw [anyWake_eq]
  exact h.setSched lvl (wakeUpd_unique (h lvl) _ _)

theorem AnsP.wf (hin : ∀ c t ro i s r, inner c t ro i s r → LevelPost1 S c s r)
    {L : Level} {inCh : List (Port × V)} {st : SimSt} {d : Dispatch V}
    {res : SimSt × List (Port × V) × Option SimTime} (a : AnsP S orc inner L inCh st d res)
    (h : st.WakeWF) : res.1.WakeWF := by
  cases a with
  | skip => exact h
  | external _ => exact h
  | expose _ _ => exact h
  | sys _ _ _ h4 => exact (hin _ _ _ _ _ _ h4).wf (h.sysPre _ _)
  | dev _ _ _ _ _ => exact fun s => (devAfter_sched ..).symm ▸ h s

theorem AnsP.nodup (hin : ∀ c t ro i s r, inner c t ro i s r → LevelPost1 S c s r)
    {L : Level} {inCh : List (Port × V)} {st : SimSt} {d : Dispatch V}
    {res : SimSt × List (Port × V) × Option SimTime} (a : AnsP S orc inner L inCh st d res)
    (h : (akeys inCh).Nodup) : (akeys res.2.1).Nodup := by
  cases a with
  | skip => simp
  | external _ => exact h
  | expose _ _ => simp
  | sys _ _ _ h4 => exact (hin _ _ _ _ _ _ h4).nodup
  | dev _ _ _ _ _ =>
    rw [devAfter_changes]
    exact nodup_akeys_filter (Det.nodup_akeys_normDict _) _

/-- `AnsP.frameA` of `Lemmas/SimLoop.lean` for `loc`, that is with the observations; proved on its
own because an inner tick is known here by `LevelPost1`, which speaks of `loc`, not by `FrameRel` -/
theorem AnsP.frame_foot (hS : S.Valid)
    (hin : ∀ c t ro i s r, inner c t ro i s r → LevelPost1 S c s r)
    {L : Level} (hL : L ∈ S.levels) {inCh : List (Port × V)} {st : SimSt} {d : Dispatch V}
    {res : SimSt × List (Port × V) × Option SimTime} (a : AnsP S orc inner L inCh st d res)
    (hdc : d.comp ∈ L.wiring.components) {x : Comp} (hx : ¬ Foot S L d.comp x) :
    res.1.loc x = st.loc x := by
  cases a with
  | skip => rfl
  | external _ => rfl
  | expose _ _ => rfl
  | @sys c t ins st2 outCh h1 h2 h3 h4 =>
    have hxc : ¬ AtOrBelow S c x := fun h => hx (h.foot hS (hS.toWF.parent_of_member hL hdc h1 h2))
    show st2.loc x = st.loc x
    rw [(hin _ _ _ _ _ _ h4).frame' hxc, loc_sysPre_ne _ _ _ fun h => hxc (Or.inl h)]
  | @dev c t ins resp h1 h2 _ _ _ =>
    exact loc_devAfter_ne _ _ _ _ _ fun h => hx ⟨hS.toWF.parent_of_member hL hdc h1 h2, Or.inl h⟩

end Answer

/-- the invariant of the loop of level `L` (tick started in `st0`) that needs no ghost state -/
structure Inv1 (S : Static) (L : Level) (st0 : SimSt) (ls : LoopSt) : Prop where
  run : ∃ t roots tr, TickSys.Run L.wiring (fun _ _ => True) t roots ⟨ls.tk, ls.pending, tr⟩
  frame : ∀ x, x ≠ L.name → ¬ S.Below L.name x → ls.st.loc x = st0.loc x
  wf : st0.WakeWF → ls.st.WakeWF
  outn : (akeys ls.outCh).Nodup

theorem Inv1.pend_comp {S : Static} {L : Level} {st0 : SimSt} {ls : LoopSt} (inv : Inv1 S L st0 ls) :
    ∀ d ∈ ls.pending, d.comp ∈ L.wiring.components := by
  obtain ⟨_, _, _, hr⟩ := inv.run
  exact fun d hd => (Wiring.ups_isSome_iff' L.wiring _).1 (hr.inv.ups d (hr.inv.pre.pend_trace d hd))

theorem Inv1.init {S : Static} {L : Level} {t : SimTime} {roots : List Comp} {tk : Ticker V}
    {ds : List (Dispatch V)}
    (hcall : (Ticker.call L.wiring t roots : Except TickErr (Ticker V × List (Dispatch V))) = .ok (tk, ds))
    (st : SimSt) : Inv1 S L st ⟨tk, ds, [], st⟩ := by
  exact
    { run := ⟨t, roots, _, .call hcall⟩
      frame := fun _ _ _ => rfl
      wf := fun h => h
      outn := by simp }

theorem Inv1.step {S : Static} (hS : S.Valid) {orc : Oracle} {inner : LevelRel}
    (hin : ∀ c t ro i s r, inner c t ro i s r → LevelPost1 S c s r)
    {L : Level} (hL : L ∈ S.levels) {inCh : List (Port × V)} {st0 : SimSt} {ls : LoopSt}
    (inv : Inv1 S L st0 ls) {i : Nat} {d : Dispatch V} (hd : ls.pending[i]? = some d)
    {st' : SimSt} {changes : List (Port × V)} {callAt : Option SimTime}
    (ha : AnsP S orc inner L inCh ls.st d (st', changes, callAt))
    {tk' : Ticker V} {ds : List (Dispatch V)}
    (hprop : ls.tk.propagate L.wiring d.comp d.time changes = .ok (tk', ds)) :
    Inv1 S L st0 ⟨tk', ls.pending.eraseIdx i ++ ds, (exposeIns L d).getD ls.outCh,
      anyWake st' L.name d.comp callAt⟩ := by
  obtain ⟨t, roots, _, hr⟩ := inv.run
  exact
    { run := ⟨t, roots, _, hr.answer hd trivial hprop⟩
      frame := fun x hx hnb => by
        show (anyWake st' L.name d.comp callAt).loc x = _
        rw [loc_anyWake_ne _ _ _ _ hx, ha.frame_foot hS hin hL
          (inv.pend_comp d (List.mem_of_getElem? hd)) fun hf => hnb hf.below]
        exact inv.frame x hx hnb
      wf := fun h => (ha.wf hin (inv.wf h)).anyWake _ _ _
      outn := by
        show (akeys ((exposeIns L d).getD ls.outCh)).Nodup
        cases he : exposeIns L d with
        | none => exact inv.outn
        | some ins =>
          obtain ⟨_, _, rfl⟩ := exposeIns_eq_some.1 he
          exact (Det.run_insInv (hS.routerOK hL) hr).2 _
            (hr.inv.pre.pend_trace _ (List.mem_of_getElem? hd)) }

theorem levelPost1_hereditary {S : Static} (hS : S.Valid) (orc : Oracle) :
    Hereditary S orc fun lvl _ _ _ st r => LevelPost1 S lvl st r := by
  intro inner hin lvl t roots inCh st r hl
  obtain ⟨L, tk, ds, hLv, hcall, hl⟩ := hl
  obtain ⟨hL, rfl⟩ := Static.level_some hLv
  obtain ⟨ls, inv, _, _, rfl⟩ := hl.invariant (I := Inv1 S L st)
    (fun inv h1 h2 h3 => inv.step hS hin hL h1 h2 h3) (Inv1.init hcall st)
  exact ⟨inv.frame, inv.wf, inv.outn⟩

theorem tickLevelAny_post1 {S : Static} (hS : S.Valid) {orc : Oracle} {lvl : Comp} {t : SimTime}
    {roots : List Comp} {inCh : List (Port × V)} {st : SimSt} {r : SimSt × List (Port × V)}
    (h : TickLevelAny S orc lvl t roots inCh st r) : LevelPost1 S lvl st r :=
  (levelPost1_hereditary hS orc).tickLevelAny h

end Tickit
