/-
Shared by the in-memory bus and the contract bus: the projection of a delivery list
`(consumer, topic, value)` to one consumer and topic.  Both models write this projection out in
their own definition (`Bus.received`, `CBus.deliveredTo`); `Bus.received_eq_recvOf` and
`CBus.deliveredTo_eq_recvOf` bring them here.
-/

namespace Tickit

def recvOf (es : List (Nat × String × Int)) (k : Nat) (T : String) : List Int :=
  (es.filter (fun e => e.1 == k && e.2.1 == T)).map (·.2.2)

theorem recvOf_append (es es' : List (Nat × String × Int)) (k : Nat) (T : String) :
    recvOf (es ++ es') k T = recvOf es k T ++ recvOf es' k T := by
  unfold recvOf; rw [List.filter_append, List.map_append]

theorem recvOf_cons (e : Nat × String × Int) (es : List (Nat × String × Int)) (k : Nat) (T : String) :
    recvOf (e :: es) k T = (if e.1 = k ∧ e.2.1 = T then [e.2.2] else []) ++ recvOf es k T := by
  have hc : ((e.1 == k && e.2.1 == T) = true) = (e.1 = k ∧ e.2.1 = T) := by
    simp only [Bool.and_eq_true, beq_iff_eq]
  unfold recvOf
  rw [List.filter_cons]
  simp only [hc]
  split <;> rfl

theorem recvOf_singleton (k' : Nat) (T' : String) (v : Int) (k : Nat) (T : String) :
    recvOf [(k', T', v)] k T = if k' = k ∧ T' = T then [v] else [] := by
  rw [recvOf_cons]; exact List.append_nil _

theorem recvOf_eq_nil (es : List (Nat × String × Int)) (k : Nat) (T : String)
    (h : ∀ e ∈ es, e.2.1 ≠ T) : recvOf es k T = [] := by
  unfold recvOf
  rw [List.map_eq_nil_iff, List.filter_eq_nil_iff]
  intro e he
  simp [h e he]

theorem recvOf_map_cid (ks : List Nat) (T : String) (v : Int) (k : Nat) (T' : String)
    (hnd : ks.Nodup) :
    recvOf (ks.map (fun k' => (k', T, v))) k T' = if T = T' ∧ k ∈ ks then [v] else [] := by
  induction ks with
  | nil => simp [recvOf]
  | cons a ks ih =>
    rw [List.nodup_cons] at hnd
    rw [List.map_cons, recvOf_cons, ih hnd.2]
    by_cases hT : T = T'
    · by_cases hak : a = k
      · subst hak; simp [hT, hnd.1]
      · have hka : ¬ k = a := fun h => hak h.symm
        simp [hT, hak, hka]
    · simp [hT]

theorem recvOf_map_val (vs : List Int) (k : Nat) (T : String) (k' : Nat) (T' : String) :
    recvOf (vs.map (fun v => (k, T, v))) k' T' = if k = k' ∧ T = T' then vs else [] := by
  induction vs with
  | nil => simp [recvOf]
  | cons a vs ih =>
    rw [List.map_cons, recvOf_cons, ih]
    by_cases hc : k = k' ∧ T = T' <;> simp [hc]

end Tickit
