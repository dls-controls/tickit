/-
Invariants of the master run loop's flag protocol (`Core/MasterLoop.lean`).
-/
import TickitModel.Core.MasterLoop
import TickitModel.Lemmas.Wakeups
import TickitModel.Lemmas.RunOpt

namespace Tickit

/-- the part of the invariant that holds for the repaired AND for the original loop. -/
structure LoopBase (s : MLoopSt) : Prop where
  /-- `self.wakeups` is a dict -/
  uniq : UniqueKeys s.wake
  served : ∀ c ∈ s.pc.chosen, (alookup s.wake c).isSome = true
  /-- `new` completes only after a `set()` that has not been cleared -/
  observed : s.pc.isRacing = true → s.flagTaskDone = true → s.flag = true
  racingWork : s.pc.isRacing = true → s.wake ≠ []

theorem LoopBase.init : LoopBase {} :=
  ⟨List.nodup_nil, (fun _ h => nomatch h), (fun h => nomatch h), (fun h => nomatch h)⟩

inductive MLoopSt.Step (fixed : Bool) (s : MLoopSt) : MLoopAct → MLoopSt → Prop
  | add (c : Comp) (t : SimTime) : s.pc ≠ .dead →
      Step fixed s (.addWakeup c t) { s with wake := addWakeup s.wake c t, flag := true }
  | observe : s.pc.isRacing = true → s.flag = true →
      Step fixed s .newTaskRuns { s with flagTaskDone := true }
  | expire (cs : List Comp) (w : SimTime) : s.pc = .sleeping cs w →
      Step fixed s .sleepExpires { s with pc := .sleptNotResumed cs w }
  | idle : s.pc = .top → s.wake = [] →
      Step fixed s .step
        (if fixed then { s with flag := false, pc := .waiting } else { s with pc := .waiting })
  | choose : s.pc = .top → s.wake ≠ [] → Step fixed s .step s.choose
  | woken : s.pc = .waiting → s.flag = true →
      Step fixed s .step (if fixed then { s with pc := .top } else s.choose)
  | preempted (cs : List Comp) (w : SimTime) : s.pc = .sleeping cs w → s.flagTaskDone = true →
      Step fixed s .step { s with pc := .top }
  | both (cs : List Comp) (w : SimTime) : s.pc = .sleptNotResumed cs w → s.flagTaskDone = true →
      Step fixed s .step { s with pc := .top }
  | serve (cs : List Comp) (w : SimTime) : s.pc = .sleptNotResumed cs w →
      s.flagTaskDone = false →
      Step fixed s .step
        (if fixed then s.serveFirst else { s with wake := delWakeups s.wake cs, pc := .ticking cs w })
  | done (cs : List Comp) (w : SimTime) : s.pc = .ticking cs w →
      Step fixed s .step { s with pc := .top }

theorem MLoopSt.Step.of_step {fixed : Bool} {s s' : MLoopSt} {a : MLoopAct}
    (hs : s.step fixed a = some s') : MLoopSt.Step fixed s a s' := by
  cases a with
  | addWakeup c t =>
    obtain ⟨hd, hs⟩ := Option.ite_none_left_eq_some.mp hs
    cases hs; exact .add c t hd
  | newTaskRuns =>
    obtain ⟨hc, hs⟩ := Option.ite_none_right_eq_some.mp hs
    cases hs
    rw [Bool.and_eq_true] at hc
    exact .observe hc.1 hc.2
  | sleepExpires =>
    cases hpc : s.pc <;> simp only [MLoopSt.step, hpc] at hs <;> cases hs
    exact .expire _ _ hpc
  | step =>
    cases hpc : s.pc <;> simp only [MLoopSt.step, hpc] at hs
    · by_cases hw : s.wake = []
      · rw [if_pos hw] at hs; cases hs; exact .idle hpc hw
      · rw [if_neg hw] at hs; cases hs; exact .choose hpc hw
    · obtain ⟨hf, hs⟩ := Option.ite_none_right_eq_some.mp hs
      cases hs; exact .woken hpc hf
    · obtain ⟨hd, hs⟩ := Option.ite_none_right_eq_some.mp hs
      cases hs; exact .preempted _ _ hpc hd
    · cases hd : s.flagTaskDone
      · rw [if_neg (Bool.eq_false_iff.mp hd)] at hs; cases hs; exact .serve _ _ hpc hd
      · rw [if_pos hd] at hs; cases hs; exact .both _ _ hpc hd
    · cases hs; exact .done _ _ hpc
    · cases hs

theorem step_into_ticking (s s' : MLoopSt) (cs' : List Comp) (w' : SimTime)
    (hs : s.step true .step = some s') (hpc' : s'.pc = .ticking cs' w') :
    (∃ cs w, s.pc = .sleptNotResumed cs w) ∧ firstWakeups s.wake = (cs', some w') ∧
      s'.wake = delWakeups s.wake cs' := by
  cases MLoopSt.Step.of_step hs with
  | idle | woken | preempted | both | done => cases hpc'
  | choose =>
    unfold MLoopSt.choose at hpc'
    split at hpc' <;> cases hpc'
  | serve cs w hpc =>
    refine ⟨⟨cs, w, hpc⟩, ?_⟩
    rw [if_pos rfl] at hpc' ⊢
    cases hf : firstWakeups s.wake with
    | mk cs'' o =>
      cases o with
      | none => simp only [MLoopSt.serveFirst, hf] at hpc'; cases hpc'
      | some w'' =>
        simp only [MLoopSt.serveFirst, hf] at hpc' ⊢
        cases hpc'
        exact ⟨rfl, rfl⟩

theorem MLoopSt.run_eq_runOpt (fixed : Bool) (s : MLoopSt) (acts : List MLoopAct) :
    s.run fixed acts = runOpt (MLoopSt.step fixed) s acts :=
  eq_runOpt_of_rec (fun _ => rfl) (fun s a _ => by rw [MLoopSt.run]; cases s.step fixed a <;> rfl)
    s acts

theorem MLoopPc.chosen_of_not_racing {p : MLoopPc} (h : p.isRacing = false) : p.chosen = [] := by
  cases p <;> first | rfl | cases h

theorem LoopBase.of_not_racing {s : MLoopSt} (hu : UniqueKeys s.wake)
    (hr : s.pc.isRacing = false) : LoopBase s := by
  refine ⟨hu, ?_, ?_, ?_⟩
  · rw [MLoopPc.chosen_of_not_racing hr]; nofun
  · rw [hr]; nofun
  · rw [hr]; nofun

theorem serveFirst_of_ne_nil (s : MLoopSt) (h : s.wake ≠ []) :
    ∃ cs w, firstWakeups s.wake = (cs, some w) ∧
      s.serveFirst = { s with wake := delWakeups s.wake cs, pc := .ticking cs w } := by
  obtain ⟨cs, w, hf⟩ := firstWakeups_some_of_ne_nil s.wake h
  exact ⟨cs, w, hf, by simp only [MLoopSt.serveFirst, hf]⟩

theorem LoopBase.serveFirst {s : MLoopSt} (h : LoopBase s) : LoopBase s.serveFirst := by
  unfold MLoopSt.serveFirst
  split
  · exact .of_not_racing (delWakeups_unique _ h.uniq _) rfl
  · exact .of_not_racing h.uniq rfl

theorem LoopBase.choose {s : MLoopSt} (h : LoopBase s) : LoopBase s.choose := by
  unfold MLoopSt.choose
  split
  · rename_i cs w hf
    refine ⟨h.uniq, ?_, nofun, fun _ => ne_nil_of_firstWakeups_some hf⟩
    intro c hc
    rw [((firstWakeups_spec _ h.uniq cs w hf).1 c).mp hc]
    rfl
  · exact .of_not_racing h.uniq rfl

theorem LoopBase.step {fixed : Bool} {s s' : MLoopSt} {a : MLoopAct} (h : LoopBase s)
    (hs : s.step fixed a = some s') : LoopBase s' := by
  cases MLoopSt.Step.of_step hs with
  | add c t =>
    exact ⟨addWakeup_unique _ h.uniq c t, fun c' hc' => addWakeup_isSome _ c c' t (h.served c' hc'),
      fun _ _ => rfl, fun _ => upsert_ne_nil _ c t⟩
  | observe _ hf => exact ⟨h.uniq, h.served, fun _ _ => hf, h.racingWork⟩
  | expire cs w hpc =>
    -- `sleeping` and `sleptNotResumed` race alike and have chosen the same components
    obtain ⟨hu, hsv, hob, hrw⟩ := h
    rw [hpc] at hsv hob hrw
    exact ⟨hu, hsv, hob, hrw⟩
  | idle => cases fixed <;> exact .of_not_racing h.uniq rfl
  | choose => exact h.choose
  | woken =>
    cases fixed
    · exact h.choose
    · exact .of_not_racing h.uniq rfl
  | preempted | both | done => exact .of_not_racing h.uniq rfl
  | serve =>
    cases fixed
    · exact .of_not_racing (delWakeups_unique _ h.uniq _) rfl
    · exact h.serveFirst

theorem LoopBase.run {fixed : Bool} {s : MLoopSt} (h : LoopBase s) (acts : List MLoopAct) :
    LoopBase (s.run fixed acts) :=
  MLoopSt.run_eq_runOpt .. ▸ runOpt_induction LoopBase.step h acts

/-- the invariant of the REPAIRED loop. -/
structure MLoopInv (s : MLoopSt) : Prop where
  base : LoopBase s
  /-- the assertion has not failed -/
  alive : s.pc ≠ .dead
  waitIff : s.pc = .waiting → (s.flag = true ↔ s.wake ≠ [])

theorem MLoopInv.init : MLoopInv {} :=
  ⟨LoopBase.init, nofun, nofun⟩

theorem choose_pc_of_ne_nil (s : MLoopSt) (h : s.wake ≠ []) :
    ∃ cs w, s.choose.pc = .sleeping cs w := by
  obtain ⟨cs, w, hf⟩ := firstWakeups_some_of_ne_nil s.wake h
  exact ⟨cs, w, by simp only [MLoopSt.choose, hf]⟩

theorem MLoopInv.of_pc {s : MLoopSt} (hb : LoopBase s) (hd : s.pc ≠ .dead)
    (hw : s.pc ≠ .waiting) : MLoopInv s :=
  ⟨hb, hd, fun h => absurd h hw⟩

theorem MLoopInv.step {s s' : MLoopSt} {a : MLoopAct} (h : MLoopInv s)
    (hs : s.step true a = some s') : MLoopInv s' := by
  have hb := h.base.step hs
  cases MLoopSt.Step.of_step hs with
  | add c t =>
    exact ⟨hb, h.alive, fun _ => ⟨fun _ => upsert_ne_nil _ c t, fun _ => rfl⟩⟩
  | observe => exact ⟨hb, h.alive, h.waitIff⟩
  | expire | woken | preempted | both | done => exact .of_pc hb nofun nofun
  | idle _ hw => exact ⟨hb, nofun, fun _ => ⟨nofun, fun hne => absurd hw hne⟩⟩
  | choose _ hne =>
    obtain ⟨cs, w, hpc⟩ := choose_pc_of_ne_nil s hne
    exact .of_pc hb (by rw [hpc]; nofun) (by rw [hpc]; nofun)
  | serve cs w hpc =>
    -- while the sleep races there is a wakeup, so the re-evaluation finds one
    obtain ⟨cs', w', _, he⟩ := serveFirst_of_ne_nil s (h.base.racingWork (by rw [hpc]; rfl))
    rw [if_pos rfl, he] at hb ⊢
    exact .of_pc hb nofun nofun

theorem MLoopInv.run {s : MLoopSt} (h : MLoopInv s) (acts : List MLoopAct) :
    MLoopInv (s.run true acts) :=
  MLoopSt.run_eq_runOpt .. ▸ runOpt_induction MLoopInv.step h acts

end Tickit
