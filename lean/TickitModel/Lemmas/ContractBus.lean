/-
The synchronous in-memory bus (`Core/Bus.lean`) against the state-interface contract bus
(`Core/Contract.lean`): every FINAL state of the in-memory bus that satisfies the exactly-once
invariant is the image of some contract execution (`contract_exec_of_inv`).  The execution is a
canonical one built from that final state alone (produce every log in full, then every subscriber
subscribes and catches up); it matches the topic logs, who is subscribed, and what each consumer
received from each topic, not the global order of deliveries and not the prefixes of a history.
-/
import TickitModel.Core.Contract
import TickitModel.Lemmas.BusLemmas
import TickitModel.Lemmas.ContractLemmas

namespace Tickit

def CBus.Reach (c c' : CBus) : Prop := ∃ acts, CExec c acts c'

theorem CBus.Reach.refl (c : CBus) : c.Reach c := ⟨[], .nil c⟩

theorem CBus.Reach.trans {c c' c'' : CBus} (h₁ : c.Reach c') (h₂ : c'.Reach c'') : c.Reach c'' :=
  h₁.elim fun _ e₁ => h₂.elim fun _ e₂ => ⟨_, e₁.append e₂⟩

theorem CBus.Reach.step {c c' : CBus} {a : CAct} (h : c.step a = some c') : c.Reach c' :=
  ⟨[a], .cons h (.nil c')⟩

/-- visiting every member of a list once: `obs` is what is observed of a state at each point of `α`,
`d` its value where nothing has happened. -/
theorem CBus.Reach.visit_all {α β : Type} [DecidableEq α] (obs : CBus → α → β) (d : β) (tgt : α → β)
    (J : CBus → Prop)
    (hvisit : ∀ c x, J c → obs c x = d →
      ∃ c', c.Reach c' ∧ J c' ∧ ∀ y, obs c' y = if x = y then tgt x else obs c y)
    (l : List α) (c : CBus) (hJ : J c) (hc : ∀ y, obs c y = d) :
    ∃ c', c.Reach c' ∧ J c' ∧ ∀ y, obs c' y = if y ∈ l then tgt y else d := by
  induction l with
  | nil => exact ⟨c, .refl c, hJ, fun y => by simp [hc]⟩
  | cons x l ih =>
    obtain ⟨c₁, hr₁, hJ₁, ho₁⟩ := ih
    by_cases hx : x ∈ l
    · refine ⟨c₁, hr₁, hJ₁, fun y => ?_⟩
      rw [ho₁]
      by_cases hy : y = x
      · simp [hy, hx]
      · simp [hy]
    · obtain ⟨c₂, hr₂, hJ₂, ho₂⟩ := hvisit c₁ x hJ₁ (by rw [ho₁, if_neg hx])
      refine ⟨c₂, hr₁.trans hr₂, hJ₂, fun y => ?_⟩
      rw [ho₂, ho₁]
      by_cases hy : x = y
      · simp [hy]
      · simp [hy, Ne.symm hy]

theorem CBus.Reach.produce (T : CTopic) (l : List Int) (c : CBus) :
    ∃ c', c.Reach c' ∧ c'.cursors = c.cursors ∧
      ∀ T', c'.log T' = if T = T' then c.log T ++ l else c.log T' := by
  induction l generalizing c with
  | nil => exact ⟨c, .refl c, rfl, fun T' => by split <;> simp [*]⟩
  | cons v l ih =>
    obtain ⟨c', hr, hcur, hlog⟩ := ih { c with logs := upsert c.logs T (c.log T ++ [v]) }
    refine ⟨c', (CBus.Reach.step (a := .produce T v) rfl).trans hr, hcur, fun T' => ?_⟩
    simp only [hlog, CBus.log_produce]
    by_cases hT : T = T' <;> simp [hT]

theorem CBus.Reach.catch_up (k : Nat) (T : CTopic) (m i : Nat) (c : CBus)
    (hc : alookup c.cursors (k, T) = some i) (hm : i + m = (c.log T).length) :
    ∃ c', c.Reach c' ∧ c'.logs = c.logs ∧ ∀ p, alookup c'.cursors p =
      if (k, T) = p then some (c.log T).length else alookup c.cursors p := by
  induction m generalizing i c with
  | zero =>
    refine ⟨c, .refl c, rfl, fun p => ?_⟩
    split
    · next hp => rw [← hp, hc, ← hm]; rfl
    · rfl
  | succ m ih =>
    have hlt : i < (c.log T).length := hm ▸ Nat.lt_add_of_pos_right (Nat.succ_pos m)
    obtain ⟨c', hr, hlogs, hcur⟩ := ih (i + 1)
      { c with cursors := upsert c.cursors (k, T) (i + 1),
               delivered := c.delivered ++ [(k, T, (c.log T)[i])] }
      ((alookup_upsert ..).trans (if_pos rfl)) ((Nat.add_right_comm i 1 m).trans hm)
    refine ⟨c', (CBus.Reach.step (CBus.step_deliver_of hc (List.getElem?_eq_getElem hlt))).trans hr,
      hlogs, fun p => (hcur p).trans ?_⟩
    show (if (k, T) = p then some (c.log T).length else alookup (upsert c.cursors (k, T) (i + 1)) p) = _
    rw [alookup_upsert]
    by_cases hp : (k, T) = p <;> simp [hp]

theorem CBus.Reach.subscribe (k : Nat) (T : CTopic) (c : CBus) (hc : alookup c.cursors (k, T) = none) :
    ∃ c', c.Reach c' ∧ c'.logs = c.logs ∧ ∀ p, alookup c'.cursors p =
      if (k, T) = p then some (c.log T).length else alookup c.cursors p := by
  obtain ⟨c', hr, hlogs, hcur⟩ := CBus.Reach.catch_up k T (c.log T).length 0
    { c with cursors := upsert c.cursors (k, T) 0 } ((alookup_upsert ..).trans (if_pos rfl))
    (Nat.zero_add _)
  refine ⟨c', (CBus.Reach.step (CBus.step_subscribe_of hc)).trans hr, hlogs,
    fun p => (hcur p).trans ?_⟩
  show (if (k, T) = p then some (c.log T).length else alookup (upsert c.cursors (k, T) 0) p) = _
  rw [alookup_upsert]
  by_cases hp : (k, T) = p <;> simp [hp]

theorem contract_exec_of_inv (b : Bus) (hinv : b.Inv) :
    ∃ (acts : List CAct) (c : CBus), CExec {} acts c ∧
      (∀ T, c.log T = b.log T) ∧
      (∀ k T, c.deliveredTo k T = b.received k T) ∧
      (∀ k T, k ∈ b.subsOf T ↔ (alookup c.cursors (k, T)).isSome) := by
  obtain ⟨c₁, hr₁, hcur₁, hlog₁⟩ := CBus.Reach.visit_all CBus.log [] b.log (fun c => c.cursors = [])
    (fun c T hJ hc => by
      obtain ⟨c', hr, hcur, hlog⟩ := CBus.Reach.produce T (b.log T) c
      exact ⟨c', hr, hcur.trans hJ, fun T' => by rw [hlog, hc, List.nil_append]⟩)
    (akeys b.topics) {} rfl (fun _ => rfl)
  have hlog₁' : ∀ T, c₁.log T = b.log T := fun T => by
    rw [hlog₁]
    split
    · rfl
    · next hT => rw [Bus.log, agetD_eq, alookup_eq_none_iff.mpr hT]; rfl
  let ps := (akeys b.subs).flatMap (fun T => (b.subsOf T).map (·, T))
  have hps : ∀ k T, (k, T) ∈ ps ↔ k ∈ b.subsOf T := by
    intro k T
    simp only [ps, List.mem_flatMap, List.mem_map, Prod.mk.injEq]
    constructor
    · rintro ⟨_, _, _, hk, rfl, rfl⟩
      exact hk
    · intro hk
      refine ⟨T, Classical.byContradiction fun hn => ?_, k, hk, rfl, rfl⟩
      rw [Bus.subsOf, agetD_eq, alookup_eq_none_iff.mpr hn] at hk
      cases hk
  obtain ⟨c₂, hr₂, hlogs₂, hcur₂⟩ := CBus.Reach.visit_all (fun c p => alookup c.cursors p) none
    (fun p => some (c₁.log p.2).length) (fun c => c.logs = c₁.logs)
    (fun c p hJ hc => by
      obtain ⟨c', hr, hlogs, hcur⟩ := CBus.Reach.subscribe p.1 p.2 c hc
      exact ⟨c', hr, hlogs.trans hJ, fun q => by rw [hcur, CBus.log, hJ]; rfl⟩)
    ps c₁ rfl (fun _ => by rw [hcur₁]; rfl)
  have hlog₂ : ∀ T, c₂.log T = b.log T := fun T => by rw [← hlog₁', CBus.log, hlogs₂]; rfl
  have hcur : ∀ k T, alookup c₂.cursors (k, T) =
      if k ∈ b.subsOf T then some (b.log T).length else none := fun k T => by
    rw [hcur₂, hlog₁']
    exact ite_congr (propext (hps k T)) (fun _ => rfl) (fun _ => rfl)
  obtain ⟨acts, hex⟩ := hr₁.trans hr₂
  refine ⟨acts, c₂, hex, hlog₂, fun k T => ?_, fun k T => ?_⟩
  · rw [((hex.inv CBus.Inv.empty) k T).2, agetD_eq, hcur, hinv k T, hlog₂]
    split
    · exact List.take_length
    · rfl
  · rw [hcur]
    by_cases hk : k ∈ b.subsOf T <;> simp [hk]

end Tickit
