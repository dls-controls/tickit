/-
C09, the static part (no tick is run here): the flattened configuration `S.flatten n` is a valid
configuration (one level, no systems), `resolve` is trivial on it, and its wires are the resolved
sources (`Static.Valid.flatten_flatInputs`).

That it is valid needs the resolved wiring `S.flatW n` to be acyclic; `Static.Valid.flatten` takes
this as a hypothesis (`S.FlatRank n`), and the last section proves it for every fuel: every wire of
the resolved wiring is a pair of the order `S.Feeds` of `Lemmas/StaticValid.lean`
(`flat_wire_feeds`), since `S.resolve` follows an output through `expose` into systems and through
`external` out of them, and where it ends relative to where it started is one of three positions
(`Upstream`).  Hence `Static.Valid.flatten_valid`.
-/
import TickitModel.Lemmas.ListLemmas
import TickitModel.Lemmas.Resolve

namespace Tickit

def Static.flatW (S : Static) (n : Nat) : Wiring := Wiring.fromInverse (S.flatInverse n)

def Static.FlatRank (S : Static) (n : Nat) : Prop :=
  ∃ rank : Comp → Nat, ∀ c q a p, c ∈ S.devices →
    alookup (S.flatInputs n c) q = some (a, p) → rank a < rank c

theorem Static.Valid.devices_nodup {S : Static} (hS : S.Valid) : S.devices.Nodup := by
  unfold Static.devices
  exact List.Sublist.nodup (List.Sublist.map _ List.filter_sublist) hS.parent_unique

theorem Static.flatInverse_wf {S : Static} (hS : S.Valid) (n : Nat) : (S.flatInverse n).WF := by
  refine ⟨?_, ?_⟩
  · unfold DictWF Static.flatInverse
    rw [akeys_map_mk]
    exact hS.devices_nodup
  · intro e he
    unfold Static.flatInverse at he
    obtain ⟨c, _, rfl⟩ := List.mem_map.1 he
    exact S.flatInputs_nodup n c

theorem Static.flatInverse_conn (S : Static) (n : Nat) (a : Comp) (p : Port) (c : Comp) (q : Port) :
    (S.flatInverse n).Conn a p c q ↔ c ∈ S.devices ∧ alookup (S.flatInputs n c) q = some (a, p) := by
  unfold InvWiring.Conn Static.flatInverse
  rw [alookup_map_mk]
  by_cases hc : c ∈ S.devices
  · simp [hc]
  · simp [hc]

theorem Static.flatW_conn {S : Static} (hS : S.Valid) (n : Nat) (a : Comp) (p : Port) (c : Comp)
    (q : Port) :
    (S.flatW n).Conn a p c q ↔ c ∈ S.devices ∧ alookup (S.flatInputs n c) q = some (a, p) := by
  unfold Static.flatW
  rw [conn_fromInverse _ (S.flatInverse_wf hS n), S.flatInverse_conn]

theorem Static.Valid.flatInputs_device {S : Static} (hS : S.Valid) {n : Nat} {c : Comp} {q : Port}
    {a : Comp} {p : Port} (h : alookup (S.flatInputs n c) q = some (a, p)) : a ∈ S.devices := by
  obtain ⟨_, _, _, _, _, _, _, hr⟩ := hS.flatInputs_resolves h
  exact Static.mem_devices_iff.2 hr.isDevice

theorem Static.flatW_components {S : Static} (hS : S.Valid) (n : Nat) (c : Comp) :
    c ∈ (S.flatW n).components ↔ c ∈ S.devices := by
  have hwf : (S.flatW n).WF := Wiring.wf_fromInverse' _
  rw [Wiring.mem_components_iff' hwf]
  constructor
  · rintro (hk | ⟨a, p, q, hconn⟩)
    · unfold Static.flatW at hk
      rw [keys_fromInverse _ (S.flatInverse_wf hS n)] at hk
      rcases hk with hk | ⟨p, b, q, hconn⟩
      · unfold Static.flatInverse at hk
        rwa [akeys_map_mk] at hk
      · rw [S.flatInverse_conn] at hconn
        exact hS.flatInputs_device hconn.2
    · exact ((S.flatW_conn hS n _ _ _ _).1 hconn).1
  · intro hc
    left
    unfold Static.flatW
    rw [keys_fromInverse _ (S.flatInverse_wf hS n)]
    left
    unfold Static.flatInverse
    rwa [akeys_map_mk]

theorem Static.flatten_level (S : Static) (n : Nat) :
    (S.flatten n).level "" = some ⟨"", S.flatW n⟩ := rfl

theorem Static.flatten_levels (S : Static) (n : Nat) :
    (S.flatten n).levels = [⟨"", S.flatW n⟩] := rfl

theorem Static.flatten_isSys (S : Static) (n : Nat) (c : Comp) : (S.flatten n).isSys c = false := by
  simp [Static.flatten, Static.isSys]

theorem Static.flatten_parent (S : Static) (n : Nat) (c : Comp) :
    alookup (S.flatten n).parent c = if c ∈ S.devices then some "" else none := by
  unfold Static.flatten
  exact alookup_map_mk S.devices (fun _ => "") c

theorem Static.flatten_parent_device (S : Static) (n : Nat) {d : Comp} (hd : S.isDevice d) :
    alookup (S.flatten n).parent d = some "" := by
  rw [S.flatten_parent, if_pos (Static.mem_devices_iff.2 hd)]

theorem Static.not_mem_devices {S : Static} {x : Comp} (hx : alookup S.parent x = none) :
    x ∉ S.devices :=
  fun h => nomatch hx ▸ (Static.mem_devices_iff.1 h).1

theorem Static.Valid.flatten {S : Static} (hS : S.Valid) {n : Nat} (hrank : S.FlatRank n) :
    (S.flatten n).Valid := by
  have hwf : (S.flatW n).WF := Wiring.wf_fromInverse' _
  have hlev : ∀ L ∈ (S.flatten n).levels, L = ⟨"", S.flatW n⟩ := by
    intro L hL
    rw [S.flatten_levels] at hL
    simpa using hL
  have hpar : ∀ c p, alookup (S.flatten n).parent c = some p → p = "" ∧ c ∈ S.devices := by
    intro c p h
    rw [S.flatten_parent] at h
    by_cases hc : c ∈ S.devices
    · simp only [hc, if_true, Option.some.injEq] at h
      exact ⟨h.symm, hc⟩
    · simp [hc] at h
  exact
    { parent_level := by
        intro c p h
        obtain ⟨rfl, hc⟩ := hpar c p h
        exact ⟨_, S.flatten_level n, (S.flatW_components hS n c).2 hc, Or.inl rfl⟩
      members := by
        intro L hL c hc
        rw [hlev L hL] at hc ⊢
        left
        rw [S.flatten_parent, if_pos ((S.flatW_components hS n c).1 hc)]
      sys_level := by
        intro c h; rw [S.flatten_isSys] at h; cases h
      pseudo_fresh := by
        refine ⟨?_, ?_, S.flatten_isSys n _, S.flatten_isSys n _⟩
        · rw [S.flatten_parent, if_neg (Static.not_mem_devices hS.pseudo_fresh.1)]
        · rw [S.flatten_parent, if_neg (Static.not_mem_devices hS.pseudo_fresh.2.1)]
      sys_parent := by
        intro c h; rw [S.flatten_isSys] at h; cases h
      nesting := ⟨fun _ => 0, fun c p h hne => absurd (hpar c p h).1 hne⟩
      ups_defined := by
        intro L hL c hc
        exact (Wiring.ups_isSome_iff' L.wiring c).2 hc
      level_names := by
        rw [S.flatten_levels]; simp
      wiring_wf := by
        intro L hL
        rw [hlev L hL]
        exact ⟨hwf, Wiring.oneSource_fromInverse _ (S.flatInverse_wf hS n)⟩
      acyclic := by
        intro L hL
        rw [hlev L hL]
        obtain ⟨rank, hr⟩ := hrank
        refine ⟨rank, fun c us u hus hu => ?_⟩
        obtain ⟨p, q, hconn⟩ := (Wiring.mem_ups_iff' hwf hus u).1 hu
        obtain ⟨hc, hfi⟩ := (S.flatW_conn hS n _ _ _ _).1 hconn
        exact hr c q u p hc hfi
      parent_unique := by
        show (akeys (S.devices.map (fun c => (c, "")))).Nodup
        rw [akeys_map_mk S.devices (fun _ => "")]
        exact hS.devices_nodup
      pseudo_dir := by
        intro L hL a p b q hconn
        rw [hlev L hL] at hconn
        obtain ⟨hb, hfi⟩ := (S.flatW_conn hS n _ _ _ _).1 hconn
        have ha := hS.flatInputs_device hfi
        exact ⟨fun h => Static.not_mem_devices hS.pseudo_fresh.1 (h ▸ hb),
          fun h => Static.not_mem_devices hS.pseudo_fresh.2.1 (h ▸ ha)⟩
      master_fresh := by
        rw [S.flatten_parent, if_neg (Static.not_mem_devices hS.master_fresh)] }

theorem Static.flatten_resolve_master (S : Static) (n m : Nat) (a : Comp) (p : Port) :
    (S.flatten n).resolve (m + 1) "" a p = if a = pseudoExternal then none else some (a, p) := by
  rw [Static.resolve_succ]
  by_cases ha : a = pseudoExternal
  · simp [ha]
  · simp [ha, S.flatten_isSys]

/-- 2: on the flattened configuration a resolution makes at most one step, from `external` of a
device "level" to the master, where every component is a device -/
theorem Static.flatten_resolveStable (S : Static) (n : Nat) : (S.flatten n).ResolveStable 2 := by
  refine Static.resolveStable_of_suff (fun lvl a p => Static.suff_succ (k := 1) ?_ ?_)
  · intro P LP a' p' _ _ hP _ _
    rw [S.flatten_parent] at hP
    split at hP
    · cases hP
      exact Static.suff_succ (k := 0) (fun _ _ _ _ _ hm => absurd rfl hm)
        (fun _ _ _ _ hs => by rw [S.flatten_isSys] at hs; cases hs)
    · cases hP
  · intro La a' p' _ hs
    rw [S.flatten_isSys] at hs
    cases hs

/-- where the device `x` that drives an output of component `a` of level `L` lives -/
inductive Upstream (S : Static) (L : Level) (a x : Comp) : Prop
  | inside : alookup S.parent a = some L.name → S.Own a x → Upstream S L a x
  /-- inside a sibling `c` wired into `a`: `a` is a system that passes an input through to an output -/
  | side (c : Comp) : alookup S.parent c = some L.name → alookup S.parent a = some L.name →
      L.wiring.Path c a → S.Own c x → Upstream S L a x
  | out (M : Level) (c1 c2 : Comp) : M ∈ S.levels → alookup S.parent c1 = some M.name →
      alookup S.parent c2 = some M.name → M.wiring.Path c1 c2 → S.Own c1 x → S.Own c2 L.name →
      Upstream S L a x

section

variable {S : Static}

theorem Static.Resolves.upstream (hS : S.Valid) {lvl a : Comp} {p : Port} {y : CPort}
    (h : S.Resolves lvl a p y) : ∀ L, S.level lvl = some L → Upstream S L a y.1 := by
  induction h with
  | device hpar _ =>
    intro L hL
    obtain ⟨_, rfl⟩ := Static.level_some hL
    exact .inside hpar (Or.inl rfl)
  | @system lvl a _ La _ _ _ hpar hsys hLa _ _ ih =>
    intro L hLv
    obtain ⟨hL, rfl⟩ := Static.level_some hLv
    have hane : a ≠ "" := hS.sys_ne_master hsys
    obtain ⟨_, hLa2⟩ := Static.level_some hLa
    rcases ih La hLa with ⟨h1, h2⟩ | ⟨c, h1, _, _, h4⟩ | ⟨M, c1, c2, hM, h1, h2, h3, h4, h5⟩
    · exact .inside hpar (Or.inr ⟨hane, h2.below (hLa2 ▸ h1)⟩)
    · exact .inside hpar (Or.inr ⟨hane, h4.below (hLa2 ▸ h1)⟩)
    · rcases (hLa2 ▸ h5).parent_cases hpar with rfl | h5'
      · -- `c2` is `a` itself: `M` is the level `L`
        cases hS.level_inj hM hL (Option.some.inj (h2.symm.trans hpar))
        exact .side c1 h1 hpar h3 h4
      · exact .out M c1 c2 hM h1 h2 h3 h4 h5'
  | @external lvl p P LP a' p' _ hP hLP hc _ ih =>
    intro L hLv
    obtain ⟨_, rfl⟩ := Static.level_some hLv
    obtain ⟨hLP1, rfl⟩ := Static.level_some hLP
    have he : LP.wiring.Edge a' L.name := ⟨p', p, hc⟩
    rcases ih LP hLP with ⟨h1, h2⟩ | ⟨c, h1, _, h3, h4⟩ | ⟨M, c1, c2, hM, h1, h2, h3, h4, h5⟩
    · exact .out LP a' L.name hLP1 h1 hP (.single he) h2 (Or.inl rfl)
    · exact .out LP c L.name hLP1 h1 hP (h3.snoc he) h4 (Or.inl rfl)
    · exact .out M c1 c2 hM h1 h2 h3 h4 (h5.child hS (hS.child_ne_master h2) hP)

theorem flat_wire_feeds (hS : S.Valid) (n : Nat) {x : Comp} {p : Port} {y : Comp} {q : Port}
    (h : (S.flatW n).Conn x p y q) : S.Feeds x y := by
  obtain ⟨lvl, L, a, p', hpy, hLv, hconn, hr⟩ :=
    hS.flatInputs_resolves ((S.flatW_conn hS n x p y q).1 h).2
  obtain ⟨hL, rfl⟩ := Static.level_some hLv
  have he : L.wiring.Edge a y := ⟨p', q, hconn⟩
  rcases hr.upstream hS L hLv with ⟨h1, h2⟩ | ⟨c, h1, _, h3, h4⟩ | ⟨M, c1, c2, hM, h1, h2, h3, h4, h5⟩
  · exact ⟨L, hL, a, y, h1, hpy, .single he, h2, Or.inl rfl⟩
  · exact ⟨L, hL, c, y, h1, hpy, h3.snoc he, h4, Or.inl rfl⟩
  · exact ⟨M, hM, c1, c2, h1, h2, h3, h4, h5.child hS (hS.child_ne_master h2) hpy⟩

theorem Static.Valid.flatRank (hS : S.Valid) (n : Nat) : S.FlatRank n := by
  obtain ⟨rank, hr⟩ := exists_rank_of_order S.devices S.Feeds (fun _ => hS.feeds_irrefl)
    (fun _ _ _ => hS.feeds_trans)
  refine ⟨rank, fun c q a p hc hfi => hr a c (hS.flatInputs_device hfi) ?_⟩
  exact flat_wire_feeds hS n ((S.flatW_conn hS n a p c q).2 ⟨hc, hfi⟩)

theorem Static.Valid.flatten_valid (hS : S.Valid) (n : Nat) : (S.flatten n).Valid :=
  hS.flatten (hS.flatRank n)

end

theorem Static.Valid.flatten_flatInputs {S : Static} (hS : S.Valid) {n : Nat}
    {c : Comp} (hc : c ∈ S.devices) (q : Port) :
    alookup ((S.flatten n).flatInputs 2 c) q = alookup (S.flatInputs n c) q := by
  apply Option.ext
  rintro ⟨a, p⟩
  rw [(hS.flatten_valid n).flatInputs_spec 2 c q]
  constructor
  · rintro ⟨lvl, L, a', p', hp, hL, hconn, hr⟩
    rw [S.flatten_parent, if_pos hc] at hp
    cases hp
    rw [S.flatten_level] at hL
    cases hL
    obtain ⟨_, hfi⟩ := (S.flatW_conn hS n _ _ _ _).1 hconn
    have ha' : a' ≠ pseudoExternal :=
      fun h => Static.not_mem_devices hS.pseudo_fresh.1 (h ▸ hS.flatInputs_device hfi)
    rw [S.flatten_resolve_master, if_neg ha'] at hr
    cases hr
    exact hfi
  · intro hfi
    have ha' : a ≠ pseudoExternal :=
      fun h => Static.not_mem_devices hS.pseudo_fresh.1 (h ▸ hS.flatInputs_device hfi)
    refine ⟨"", ⟨"", S.flatW n⟩, a, p, ?_, S.flatten_level n, (S.flatW_conn hS n _ _ _ _).2 ⟨hc, hfi⟩, ?_⟩
    · rw [S.flatten_parent, if_pos hc]
    · rw [S.flatten_resolve_master, if_neg ha']

end Tickit
