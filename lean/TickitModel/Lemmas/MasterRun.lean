/-
The master loop `masterRun` of the whole-simulation model taken apart: which stimulus is handled
before the next tick (`stimSel`) and what handling it does to the master (`stimStep`, `delMaster`),
the four things the loop does as equations with the counters, and the elimination rule
`masterRun_elim` that goes with them; what `raiseInterrupt` does to the state (level by level along the
chain of parents: `raiseInterrupt_rel`); at the end, what the loop reads of the master state besides the
wakeup table (`MasterSt.SameClock`).
-/
import TickitModel.Lemmas.RouterWiring
import TickitModel.Lemmas.Wakeups
import TickitModel.Lemmas.SimLemmas

namespace Tickit

namespace TimeMono

/-! `masterRun` has its pieces inline.  They are named here (`stimWhen` in `Lemmas/Wakeups.lean`), and
these are the names lemmas are stated for: `stimSel`, `stimWhen`, `stimStep`, `delMaster`;
`masterRun_unfold` is `masterRun` in these terms.  They carry the namespace `TimeMono` (that of
`Lemmas/TimeMonoLemmas.lean`, one of the users), though nothing in this file is about monotone time.
The same functions exist under other names where a definition of the model needed them, each equal to
the one here by `rfl`:
* `nextStim`, `Tickit.stimStep`, `tickStart` of `Core/SimAnyRun.lean`, in which `MasterRunAny` is written
  (`nextStim_eq_stimSel` in `Lemmas/AnyRun.lean`).  Trap: a file that imports `Core/SimAnyRun.lean` and
  opens `TimeMono` sees two `stimStep` and has to write `TimeMono.stimStep`;
* `stimFirstC`, `stimStepC`, `delMasterC` of `Core/SimCost.lean`, in which the loop with processing costs
  is written (`stimFirstC_eq`, `stimStepC_eq`, `delMasterC_eq` in `Lemmas/CostTrace.lean`);
* `SimSt.delWake` below is `delMaster` in dot notation (the flattening files use it);
* `stimWhen` is `MSt.intWhen` on the wakeup table of the bookkeeping model `MSt`
  (`MSt.intWhen_eq_stimWhen` in `Lemmas/MasterLemmas.lean`), and the table that
  `intWake` of `Core/FlatInt.lean` returns is `addWakeup wake c (stimWhen wake c stamp)`
  (`RefineStim.intWake_eq_stimWhen`). -/

def stimSel (m : MasterSt) (s : Speed) (whenT : Option SimTime) :
    List Stim → Option (Stim × List Stim)
  | [] => none
  | st :: rest => match whenT.map (dueReal m s) with
    | none => some (st, rest)
    | some d => if st.real ≤ d then some (st, rest) else none

def stimStep (S : Static) (fuel : Nat) (s : Speed) (m : MasterSt) (st : Stim) : MasterSt :=
  let now := if st.real < m.now then m.now else st.real
  let r := raiseInterrupt S fuel st.comp m.sim
  let stamp := interruptStamp m.tickerTime now m.lastReal s
  let sc := r.1.sched ""
  let when := stimWhen sc.wake r.2 stamp
  { m with
    sim := { r.1 with scheds := upsert r.1.scheds "" { sc with wake := addWakeup sc.wake r.2 when } }
    now := now }

def delMaster (st : SimSt) (cs : List Comp) : SimSt :=
  let sc := st.sched ""
  { st with scheds := upsert st.scheds "" { sc with wake := delWakeups sc.wake cs } }

theorem masterRun_unfold (S : Static) (orc : Oracle) (fuel : Nat) (s : Speed) (steps nTicks : Nat)
    (m : MasterSt) (stims : List Stim) (acc : List TickRec) :
    masterRun S orc fuel s (steps + 1) (nTicks + 1) m stims acc =
      match stimSel m s (firstWakeups (m.sim.sched "").wake).2 stims with
      | some (st, rest) =>
        masterRun S orc fuel s steps (nTicks + 1) (stimStep S fuel s m st) rest acc
      | none =>
        match firstWakeups (m.sim.sched "").wake with
        | (comps, some w) =>
          match tickLevel S orc fuel "" w comps [] (delMaster m.sim comps) with
          | .error e => .error e
          | .ok (sim2, _) =>
            masterRun S orc fuel s steps nTicks
              { sim := sim2, tickerTime := w, lastReal := dueReal m s w, now := dueReal m s w } stims
              (acc ++ [⟨w, dueReal m s w, comps⟩])
        | (_, none) => .ok (m, acc) := by
  rw [masterRun]
  cases hfw : firstWakeups (m.sim.sched "").wake with
  | mk comps whenT =>
    cases stims with
    | nil =>
      cases whenT with
      | none => simp [stimSel]
      | some w => simp only [stimSel, Option.map_some]; rfl
    | cons st rest =>
      cases whenT with
      | none => simp only [stimSel, Option.map_none]; rfl
      | some w =>
        simp only [stimSel, Option.map_some]
        by_cases hle : st.real ≤ dueReal m s w
        · simp only [hle, if_true]; rfl
        · simp only [hle, if_false]; rfl

theorem stimSel_mem {m : MasterSt} {s : Speed} {whenT : Option SimTime} {stims : List Stim}
    {st : Stim} {rest : List Stim} (h : stimSel m s whenT stims = some (st, rest)) :
    stims = st :: rest := by
  cases stims with
  | nil => simp [stimSel] at h
  | cons st0 rest0 =>
    simp only [stimSel] at h
    split at h
    · cases h; rfl
    · split at h
      · cases h; rfl
      · cases h

section
variable {S : Static} {orc : Oracle} {fuel : Nat} {sp : Speed} {steps nTicks : Nat} {m : MasterSt}
  {stims : List Stim} {acc : List TickRec}

theorem masterRun_stop (h : steps = 0 ∨ nTicks = 0) :
    masterRun S orc fuel sp steps nTicks m stims acc = .ok (m, acc) := by
  rcases h with rfl | rfl
  · rw [masterRun]
  · cases steps with
    | zero => rw [masterRun]
    | succ k => rw [masterRun.eq_2 _ _ _ _ _ _ _ _ (by simp)]

theorem masterRun_stim {st : Stim} {rest : List Stim}
    (hs : stimSel m sp (firstWakeups (m.sim.sched "").wake).2 stims = some (st, rest)) :
    masterRun S orc fuel sp (steps + 1) (nTicks + 1) m stims acc =
      masterRun S orc fuel sp steps (nTicks + 1) (stimStep S fuel sp m st) rest acc := by
  rw [masterRun_unfold, hs]

theorem masterRun_tick {comps : List Comp} {w : SimTime}
    (hs : stimSel m sp (firstWakeups (m.sim.sched "").wake).2 stims = none)
    (hfw : firstWakeups (m.sim.sched "").wake = (comps, some w)) :
    masterRun S orc fuel sp (steps + 1) (nTicks + 1) m stims acc =
      (tickLevel S orc fuel "" w comps [] (delMaster m.sim comps)).bind fun r =>
        masterRun S orc fuel sp steps nTicks
          { sim := r.1, tickerTime := w, lastReal := dueReal m sp w, now := dueReal m sp w } stims
          (acc ++ [⟨w, dueReal m sp w, comps⟩]) := by
  rw [masterRun_unfold, hs, hfw]
  simp only [] -- reduces the `match (comps, some w) with …`
  cases tickLevel S orc fuel "" w comps [] (delMaster m.sim comps) <;> rfl

theorem masterRun_idle (hs : stimSel m sp (firstWakeups (m.sim.sched "").wake).2 stims = none)
    (hn : (firstWakeups (m.sim.sched "").wake).2 = none) :
    masterRun S orc fuel sp (steps + 1) (nTicks + 1) m stims acc = .ok (m, acc) := by
  rw [masterRun_unfold, hs]
  cases hfw : firstWakeups (m.sim.sched "").wake with
  | mk comps whenT => rw [hfw] at hn; cases hn; rfl

end

theorem masterRun_elim {S : Static} {orc : Oracle} {fuel : Nat} {sp : Speed}
    {P : Nat → Nat → MasterSt → List Stim → List TickRec → MasterSt × List TickRec → Prop}
    (stop : ∀ steps nTicks m stims acc, steps = 0 ∨ nTicks = 0 → P steps nTicks m stims acc (m, acc))
    (stim : ∀ steps nTicks m stims acc st rest r,
      stimSel m sp (firstWakeups (m.sim.sched "").wake).2 stims = some (st, rest) →
      P steps (nTicks + 1) (stimStep S fuel sp m st) rest acc r →
      P (steps + 1) (nTicks + 1) m stims acc r)
    (tick : ∀ steps nTicks m stims acc comps w sim2 out r,
      stimSel m sp (firstWakeups (m.sim.sched "").wake).2 stims = none →
      firstWakeups (m.sim.sched "").wake = (comps, some w) →
      tickLevel S orc fuel "" w comps [] (delMaster m.sim comps) = .ok (sim2, out) →
      P steps nTicks { sim := sim2, tickerTime := w, lastReal := dueReal m sp w, now := dueReal m sp w }
        stims (acc ++ [⟨w, dueReal m sp w, comps⟩]) r → P (steps + 1) (nTicks + 1) m stims acc r)
    (idle : ∀ steps nTicks m stims acc,
      stimSel m sp (firstWakeups (m.sim.sched "").wake).2 stims = none →
      (firstWakeups (m.sim.sched "").wake).2 = none → P (steps + 1) (nTicks + 1) m stims acc (m, acc)) :
    ∀ (steps nTicks : Nat) (m : MasterSt) (stims : List Stim) (acc : List TickRec)
      (r : MasterSt × List TickRec),
      masterRun S orc fuel sp steps nTicks m stims acc = .ok r → P steps nTicks m stims acc r := by
  intro steps
  induction steps with
  | zero =>
    intro nTicks m stims acc r h
    cases (masterRun_stop (Or.inl rfl)).symm.trans h
    exact stop _ _ _ _ _ (Or.inl rfl)
  | succ steps ih =>
    intro nTicks m stims acc r h
    cases nTicks with
    | zero =>
      cases (masterRun_stop (Or.inr rfl)).symm.trans h
      exact stop _ _ _ _ _ (Or.inr rfl)
    | succ nTicks =>
      cases hs : stimSel m sp (firstWakeups (m.sim.sched "").wake).2 stims with
      | some p =>
        rw [masterRun_stim hs] at h
        exact stim _ _ _ _ _ _ _ _ hs (ih _ _ _ _ _ h)
      | none =>
        cases hfw : firstWakeups (m.sim.sched "").wake with
        | mk comps whenT =>
          cases whenT with
          | none =>
            have hn : (firstWakeups (m.sim.sched "").wake).2 = none := by rw [hfw]
            cases (masterRun_idle hs hn).symm.trans h
            exact idle _ _ _ _ _ hs hn
          | some w =>
            rw [masterRun_tick hs hfw] at h
            cases ht : tickLevel S orc fuel "" w comps [] (delMaster m.sim comps) with
            | error e => rw [ht] at h; cases h
            | ok x => rw [ht] at h; exact tick _ _ _ _ _ _ _ _ _ _ hs hfw ht (ih _ _ _ _ _ h)

end TimeMono

def SimSt.delWake (st : SimSt) (cs : List Comp) : SimSt :=
  let sc := st.sched ""
  { st with scheds := upsert st.scheds "" { sc with wake := delWakeups sc.wake cs } }

theorem SimSt.delWake_devs (st : SimSt) (cs : List Comp) : (st.delWake cs).devs = st.devs := rfl
theorem SimSt.delWake_count (st : SimSt) (cs : List Comp) : (st.delWake cs).count = st.count := rfl

theorem SimSt.delWake_sched_ne (st : SimSt) (cs : List Comp) {L : Comp} (h : L ≠ "") :
    (st.delWake cs).sched L = st.sched L := by
  unfold SimSt.delWake
  simp only [] -- reduces the `let sc := …` that `unfold` leaves
  rw [SimSt.sched_upsert, if_neg (Ne.symm h)]

theorem SimSt.delWake_sched_master (st : SimSt) (cs : List Comp) :
    ((st.delWake cs).sched "").wake = delWakeups (st.sched "").wake cs := by
  unfold SimSt.delWake
  simp only []
  rw [SimSt.sched_upsert, if_pos rfl]

def SimSt.queueInt (st : SimSt) (p c : Comp) : SimSt :=
  let sc := st.sched p
  { st with scheds := upsert st.scheds p { sc with interrupts := sinsert sc.interrupts c } }

theorem SimSt.queueInt_sched (st : SimSt) (p c s : Comp) :
    (st.queueInt p c).sched s =
      if p = s then { st.sched p with interrupts := sinsert (st.sched p).interrupts c }
      else st.sched s :=
  SimSt.sched_upsert st p _ s

theorem SimSt.mem_queueInt (st : SimSt) (p c s c' : Comp) :
    c' ∈ ((st.queueInt p c).sched s).interrupts ↔
      c' ∈ (st.sched s).interrupts ∨ (p = s ∧ c' = c) := by
  rw [SimSt.queueInt_sched]
  split
  · next h => subst h; simp [mem_sinsert]
  · next h => simp [h]

theorem raiseInterrupt_succ (S : Static) (f : Nat) (c : Comp) (st : SimSt) :
    raiseInterrupt S (f + 1) c st =
      match alookup S.parent c with
      | none => (st, c)
      | some p => if p == "" then (st, c) else raiseInterrupt S f p (st.queueInt p c) := by
  rw [raiseInterrupt]
  rfl

theorem raiseInterrupt_top (S : Static) (fuel : Nat) {c : Comp} (st : SimSt)
    (h : alookup S.parent c = some "") : raiseInterrupt S fuel c st = (st, c) := by
  cases fuel with
  | zero => rfl
  | succ fuel => rw [raiseInterrupt_succ, h]; rfl

theorem raiseInterrupt_step (S : Static) (f : Nat) {c p : Comp} (st : SimSt)
    (h : alookup S.parent c = some p) (hp : p ≠ "") :
    raiseInterrupt S (f + 1) c st = raiseInterrupt S f p (st.queueInt p c) := by
  rw [raiseInterrupt_succ, h]
  simp [hp]

/-- the chain of parents along which `raiseInterrupt` queues does not depend on the state -/
theorem raiseInterrupt_rel (S : Static) {R : SimSt → SimSt → Prop}
    (hq : ∀ {a b : SimSt}, R a b → ∀ p c : Comp, R (a.queueInt p c) (b.queueInt p c)) :
    ∀ (fuel : Nat) (c : Comp) {a b : SimSt}, R a b →
      (raiseInterrupt S fuel c a).2 = (raiseInterrupt S fuel c b).2 ∧
        R (raiseInterrupt S fuel c a).1 (raiseInterrupt S fuel c b).1 := by
  intro fuel
  induction fuel with
  | zero => intro c a b h; exact ⟨rfl, h⟩
  | succ fuel ih =>
    intro c a b h
    rw [raiseInterrupt_succ, raiseInterrupt_succ]
    split
    · exact ⟨rfl, h⟩
    · split
      · exact ⟨rfl, h⟩
      · exact ih _ (hq h _ c)

theorem raiseInterrupt_frame_all (S : Static) (fuel : Nat) (c : Comp) (st : SimSt) :
    (raiseInterrupt S fuel c st).1.devs = st.devs ∧ (raiseInterrupt S fuel c st).1.count = st.count ∧
    (raiseInterrupt S fuel c st).1.obs = st.obs ∧
    ∀ s, ((raiseInterrupt S fuel c st).1.sched s).wake = (st.sched s).wake ∧
      ((raiseInterrupt S fuel c st).1.sched s).firstDone = (st.sched s).firstDone := by
  refine (raiseInterrupt_rel S (R := fun σ _ => σ.devs = st.devs ∧ σ.count = st.count ∧
    σ.obs = st.obs ∧ ∀ s, (σ.sched s).wake = (st.sched s).wake ∧
      (σ.sched s).firstDone = (st.sched s).firstDone) ?_ fuel c (a := st) (b := st)
    ⟨rfl, rfl, rfl, fun _ => ⟨rfl, rfl⟩⟩).2
  rintro σ _ ⟨h1, h2, h3, h4⟩ p c'
  refine ⟨h1, h2, h3, fun s => ?_⟩
  rw [SimSt.queueInt_sched]
  split
  · next h => subst h; exact h4 p
  · exact h4 s

theorem raiseInterrupt_wake (S : Static) (fuel : Nat) (c : Comp) (st : SimSt) (s : Comp) :
    ((raiseInterrupt S fuel c st).1.sched s).wake = (st.sched s).wake :=
  ((raiseInterrupt_frame_all S fuel c st).2.2.2 s).1

def SimSt.addMasterWake (st : SimSt) (c : Comp) (w : SimTime) : SimSt :=
  let sc := st.sched ""
  { st with scheds := upsert st.scheds "" { sc with wake := addWakeup sc.wake c w } }

theorem SimSt.addMasterWake_sched_ne (st : SimSt) (c : Comp) (w : SimTime) {s : Comp} (h : s ≠ "") :
    (st.addMasterWake c w).sched s = st.sched s := by
  unfold SimSt.addMasterWake
  simp only [] -- reduces the `let sc := …` that `unfold` leaves
  rw [SimSt.sched_upsert, if_neg (Ne.symm h)]

theorem SimSt.addMasterWake_master (st : SimSt) (c : Comp) (w : SimTime) :
    (st.addMasterWake c w).sched "" =
      { st.sched "" with wake := addWakeup (st.sched "").wake c w } := by
  unfold SimSt.addMasterWake
  simp only []
  rw [SimSt.sched_upsert, if_pos rfl]

theorem SimSt.addMasterWake_lookup (st : SimSt) (c : Comp) (w : SimTime) (x : Comp) :
    alookup ((st.addMasterWake c w).sched "").wake x =
      if x = c then some w else alookup (st.sched "").wake x := by
  rw [SimSt.addMasterWake_master]
  exact addWakeup_lookup _ _ _ _

theorem SimSt.addMasterWake_unique {st : SimSt} (h : ∀ L, UniqueKeys (st.sched L).wake) (c : Comp)
    (w : SimTime) (L : Comp) : UniqueKeys ((st.addMasterWake c w).sched L).wake := by
  by_cases hL : L = ""
  · subst hL
    rw [SimSt.addMasterWake_master]
    exact addWakeup_unique _ (h "") _ _
  · rw [SimSt.addMasterWake_sched_ne _ _ _ hL]
    exact h L

theorem raise_wake_lookup (S : Static) (fuel : Nat) (x : Comp) (σ : SimSt) (top : Comp) (w : SimTime)
    (L c : Comp) :
    alookup (((raiseInterrupt S fuel x σ).1.addMasterWake top w).sched L).wake c =
      if L = "" ∧ c = top then some w else alookup (σ.sched L).wake c := by
  by_cases hL : L = ""
  · subst hL
    rw [SimSt.addMasterWake_lookup, raiseInterrupt_wake]
    simp
  · rw [SimSt.addMasterWake_sched_ne _ _ _ hL, raiseInterrupt_wake]
    simp [hL]

namespace TimeMono

theorem stimStep_sim (S : Static) (fuel : Nat) (s : Speed) (m : MasterSt) (st : Stim) :
    (stimStep S fuel s m st).sim =
      (raiseInterrupt S fuel st.comp m.sim).1.addMasterWake (raiseInterrupt S fuel st.comp m.sim).2
        (stimWhen ((raiseInterrupt S fuel st.comp m.sim).1.sched "").wake
          (raiseInterrupt S fuel st.comp m.sim).2
          (interruptStamp m.tickerTime (if st.real < m.now then m.now else st.real) m.lastReal s)) :=
  rfl

theorem stimStep_wake (S : Static) (fuel : Nat) (sp : Speed) (m : MasterSt) (st : Stim) :
    ((stimStep S fuel sp m st).sim.sched "").wake =
      addWakeup (m.sim.sched "").wake (raiseInterrupt S fuel st.comp m.sim).2
        (stimWhen (m.sim.sched "").wake (raiseInterrupt S fuel st.comp m.sim).2
          (interruptStamp m.tickerTime (if st.real < m.now then m.now else st.real) m.lastReal sp)) := by
  rw [stimStep_sim, SimSt.addMasterWake_master]
  simp only [] -- reduces the projection `{ … with wake := … }.wake`
  rw [raiseInterrupt_wake]

theorem stimStep_obs (S : Static) (fuel : Nat) (s : Speed) (m : MasterSt) (st : Stim) :
    (stimStep S fuel s m st).sim.obs = m.sim.obs :=
  (raiseInterrupt_frame_all S fuel st.comp m.sim).2.2.1

end TimeMono

/-! Between ticks the loop reads of the master state, besides the wakeup table, only the three clocks
(all of `MasterSt` but `sim`).  The runs that are compared step by step (nested and flattened, two answer
orders, two interleavings) keep `SameClock`; that they stamp a stimulus alike is
`RefineStim.stampOf_congr` of `Lemmas/PacingLemmas.lean`. -/

def MasterSt.SameClock (m m' : MasterSt) : Prop :=
  m.tickerTime = m'.tickerTime ∧ m.lastReal = m'.lastReal ∧ m.now = m'.now

theorem dueReal_congr {m m' : MasterSt} (h : m.SameClock m') (s : Speed) (w : SimTime) :
    dueReal m s w = dueReal m' s w := by
  obtain ⟨h1, h2, h3⟩ := h
  simp [dueReal, h1, h2, h3]

theorem stimSel_congr {m m' : MasterSt} (h : m.SameClock m') (s : Speed) (whenT : Option SimTime)
    (stims : List Stim) : TimeMono.stimSel m s whenT stims = TimeMono.stimSel m' s whenT stims := by
  cases stims with
  | nil => rfl
  | cons st rest =>
    cases whenT with
    | none => rfl
    | some w => simp only [TimeMono.stimSel, Option.map_some, dueReal_congr h]

end Tickit
