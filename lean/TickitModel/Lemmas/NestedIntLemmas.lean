/-
The nested scheduler's interrupt queue (`NSt`, `Core/NestedInt.lean`): the invariant `NInv` and the
step facts: what only the beginning of `c`'s update can undo (`root_step`, `obl_step`, `owed_step`),
and that everything queued has been passed up (`told_step`).  Of `MasterLemmas` only `IsRoot` is
used.
-/
import TickitModel.Core.NestedInt
import TickitModel.Lemmas.MasterLemmas

namespace Tickit

structure NInv (s : NSt) : Prop where
  owed : ∀ c ∈ s.owed, (∃ rem, s.ticking = some rem ∧ c ∈ rem) ∨ (c ∈ s.queued ∧ s.upOwed = true)

inductive NSt.Step (s : NSt) : NAct → NSt → Prop
  | interrupt (c : Comp) : Step s (.interrupt c)
      { s with queued := sinsert s.queued c, upOwed := true, owed := sinsert s.owed c }
  | startTick (due : List Comp) : s.ticking = none → Step s (.startTick due)
      { s with ticking := some (sunion s.queued due), queued := [], upOwed := false }
  | beginUpdate (c : Comp) (rem : List Comp) : s.ticking = some rem → Step s (.beginUpdate c)
      { s with ticking := some (rem.filter (· != c)), owed := s.owed.filter (· != c) }
  | endTick : s.ticking = some [] → Step s .endTick { s with ticking := none }

theorem NSt.Step.of_step {s s' : NSt} {a : NAct} (hs : s.step a = some s') : NSt.Step s a s' := by
  cases a with
  | interrupt c => cases hs; exact .interrupt c
  | startTick due =>
    cases ht : s.ticking <;> simp only [NSt.step, ht] at hs <;> cases hs
    exact .startTick due ht
  | beginUpdate c =>
    cases ht : s.ticking <;> simp only [NSt.step, ht] at hs <;> cases hs
    exact .beginUpdate c _ ht
  | endTick =>
    rcases ht : s.ticking with _ | _ | _ <;> simp only [NSt.step, ht] at hs <;> cases hs
    exact .endTick ht

theorem NSt.run_eq_runOpt (s : NSt) (acts : List NAct) : s.run acts = runOpt NSt.step s acts :=
  eq_runOpt_of_rec (fun _ => rfl) (fun s a _ => by rw [NSt.run]; cases s.step a <;> rfl) s acts

theorem NSt.root_step {s s' : NSt} {a : NAct} {c : Comp} (hr : IsRoot s.ticking c)
    (hs : s.step a = some s') (ha : a ≠ .beginUpdate c) : IsRoot s'.ticking c := by
  cases NSt.Step.of_step hs with
  | interrupt => exact hr
  | startTick due ht => exact absurd ht hr.ne_none
  | beginUpdate c' rem ht =>
    exact isRoot_some.mpr (mem_filter_ne (hr.mem ht) fun h => ha (congrArg _ h.symm))
  | endTick ht => exact absurd (hr.mem ht) List.not_mem_nil

/-- the obligation to update `c` has two forms (unbegun root, queued for the next inner tick):
`startTick` turns the second into the first. -/
theorem NSt.obl_step {s s' : NSt} {a : NAct} {c : Comp} (ho : IsRoot s.ticking c ∨ c ∈ s.queued)
    (hs : s.step a = some s') (ha : a ≠ .beginUpdate c) :
    IsRoot s'.ticking c ∨ c ∈ s'.queued := by
  rcases ho with hr | hq
  · exact Or.inl (NSt.root_step hr hs ha)
  · cases NSt.Step.of_step hs with
    | interrupt => exact Or.inr (mem_sinsert.mpr (Or.inl hq))
    | startTick => exact Or.inl (isRoot_some.mpr (mem_sunion_left _ _ _ hq))
    | beginUpdate | endTick => exact Or.inr hq

theorem NSt.root_of_startTick {s s' : NSt} {c : Comp} {due : List Comp}
    (ho : IsRoot s.ticking c ∨ c ∈ s.queued) (hs : s.step (.startTick due) = some s') :
    IsRoot s'.ticking c := by
  cases NSt.Step.of_step hs with
  | startTick _ ht =>
    exact isRoot_some.mpr (mem_sunion_left _ _ _ (ho.resolve_left fun hr => hr.ne_none ht))

theorem NSt.not_owed_of_beginUpdate {s s' : NSt} {c : Comp}
    (hs : s.step (.beginUpdate c) = some s') : c ∉ s'.owed := by
  cases NSt.Step.of_step hs
  exact not_mem_filter_ne_self

theorem NSt.owed_step {s s' : NSt} {a : NAct} {c : Comp} (hc : c ∈ s.owed)
    (hs : s.step a = some s') (ha : a ≠ .beginUpdate c) : c ∈ s'.owed := by
  cases NSt.Step.of_step hs with
  | interrupt => exact mem_sinsert.mpr (Or.inl hc)
  | startTick | endTick => exact hc
  | beginUpdate c' => exact mem_filter_ne hc fun h => ha (congrArg _ h.symm)

theorem NSt.told_step {s s' : NSt} {a : NAct} (h : ∀ c ∈ s.queued, s.upOwed = true)
    (hs : s.step a = some s') : ∀ c ∈ s'.queued, s'.upOwed = true := by
  cases NSt.Step.of_step hs with
  | interrupt => exact fun _ _ => rfl
  | startTick => exact nofun
  | beginUpdate | endTick => exact h

theorem NInv.init : NInv {} := ⟨fun _ h => nomatch h⟩

theorem NInv.step {s s' : NSt} {a : NAct} (h : NInv s) (hs : s.step a = some s') : NInv s' := by
  refine ⟨fun c hc' => ?_⟩
  cases NSt.Step.of_step hs with
  | interrupt c' =>
    rcases mem_sinsert.mp hc' with hc | rfl
    · exact (h.owed c hc).imp_right fun ⟨hq, _⟩ => ⟨mem_sinsert.mpr (Or.inl hq), rfl⟩
    · exact Or.inr ⟨mem_sinsert.mpr (Or.inr rfl), rfl⟩
  | startTick due ht =>
    rcases h.owed c hc' with hr | ⟨hq, _⟩
    · exact absurd ht (IsRoot.ne_none hr)
    · exact Or.inl (isRoot_some.mpr (mem_sunion_left _ _ _ hq))
  | beginUpdate c' rem ht =>
    obtain ⟨hc, hne⟩ := List.mem_filter.mp hc'
    exact (h.owed c hc).imp_left fun hr =>
      isRoot_some.mpr (mem_filter_ne (IsRoot.mem hr ht) (bne_iff_ne.mp hne))
  | endTick ht =>
    exact (h.owed c hc').imp_left fun hr => absurd (IsRoot.mem hr ht) List.not_mem_nil

theorem NInv.run {s : NSt} (h : NInv s) (acts : List NAct) : NInv (s.run acts) :=
  NSt.run_eq_runOpt .. ▸ runOpt_induction NInv.step h acts

end Tickit
