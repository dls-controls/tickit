/-
The master loop with costs (`Core/SimCost.lean`) as a small-step trace, for C12 and C07 with
processing costs.

`stimFirstC`, `stimStepC`, `delMasterC` of `Core/SimCost.lean` are word for word `stimSel`,
`stimStep`, `delMaster` of `Lemmas/MasterRun.lean` (a model file cannot import a lemma file);
`stimFirstC_eq`, `stimStepC_eq`, `delMasterC_eq` carry the facts of `Lemmas/PacingLemmas.lean`
across.

A configuration is the master state, the stimuli left, the tick records written, and a phase:
between ticks, or a tick in progress until real time `e`.  Both kinds of stimulus step are
`stimStepC`, and the initial tick is a tick in progress at the start, so that `masterInitialC`
followed by `masterRunC` is one trace (`Lemmas/CostRun.lean`, `initial_traceC`).  What holds of
every handled stimulus is then either an invariant of configurations, read at the step that handles
it (`TraceC.at_event`), or a property of the trace that follows it, by induction on that trace.
-/
import TickitModel.Core.SimCost
import TickitModel.Lemmas.PacingLemmas
import TickitModel.Lemmas.TimeMonoLemmas

namespace Tickit
namespace CostRun

open TimeMono Pacing

theorem stimFirstC_eq (m : MasterSt) (s : Speed) (whenT : Option SimTime) (stims : List Stim) :
    stimFirstC m s whenT stims = stimSel m s whenT stims := by
  cases stims with
  | nil => rfl
  | cons st rest => rfl

theorem stimStepC_eq (S : Static) (fuel : Nat) (s : Speed) (m : MasterSt) (st : Stim) :
    stimStepC S fuel s m st = stimStep S fuel s m st := rfl

theorem delMasterC_eq (st : SimSt) (cs : List Comp) : delMasterC st cs = delMaster st cs := rfl

theorem delMasterC_wake (st : SimSt) (cs : List Comp) :
    ((delMasterC st cs).sched "").wake = delWakeups (st.sched "").wake cs := by
  unfold delMasterC
  simp only []
  rw [SimSt.sched_upsert, if_pos rfl]

theorem stimStepC_tickerTime (S : Static) (fuel : Nat) (s : Speed) (m : MasterSt) (st : Stim) :
    (stimStepC S fuel s m st).tickerTime = m.tickerTime := rfl

theorem stimStepC_lastReal (S : Static) (fuel : Nat) (s : Speed) (m : MasterSt) (st : Stim) :
    (stimStepC S fuel s m st).lastReal = m.lastReal := rfl

theorem stimStepC_now (S : Static) (fuel : Nat) (s : Speed) (m : MasterSt) (st : Stim) :
    (stimStepC S fuel s m st).now = if st.real < m.now then m.now else st.real := rfl

theorem stimStepC_obs (S : Static) (fuel : Nat) (s : Speed) (m : MasterSt) (st : Stim) :
    (stimStepC S fuel s m st).sim.obs = m.sim.obs := stimStep_obs S fuel s m st

theorem stimStepC_now_ge (S : Static) (fuel : Nat) (s : Speed) (m : MasterSt) (st : Stim) :
    m.now ≤ (stimStepC S fuel s m st).now := le_stimNow _ _

theorem stimStepC_now_le (S : Static) (fuel : Nat) (s : Speed) (m : MasterSt) (st : Stim)
    {D : Int} (h1 : m.now ≤ D) (h2 : st.real ≤ D) : (stimStepC S fuel s m st).now ≤ D :=
  stimNow_le h2 h1

theorem masterRunC_unfold (S : Static) (orc : Oracle) (fuel : Nat) (s : Speed) (cost : Nat → Nat)
    (steps nTicks : Nat) (m : MasterSt) (stims : List Stim) (acc : List TickRec) :
    masterRunC S orc fuel s cost (steps + 1) (nTicks + 1) m stims acc =
      match stimFirstC m s (firstWakeups (m.sim.sched "").wake).2 stims with
      | some (st, rest) =>
        masterRunC S orc fuel s cost steps (nTicks + 1) (stimStepC S fuel s m st) rest acc
      | none =>
        match firstWakeups (m.sim.sched "").wake with
        | (comps, some w) =>
          match tickLevel S orc fuel "" w comps [] (delMasterC m.sim comps) with
          | .error e => .error e
          | .ok (sim2, _) =>
            masterRunC S orc fuel s cost steps nTicks
              (endTick S fuel s sim2 w (dueReal m s w) (dueReal m s w + cost acc.length) stims).1
              (endTick S fuel s sim2 w (dueReal m s w) (dueReal m s w + cost acc.length) stims).2
              (acc ++ [⟨w, dueReal m s w, comps⟩])
        | (_, none) => .ok (m, acc) := by
  rw [masterRunC]
  rfl

theorem masterRunC_zero_ticks (S : Static) (orc : Oracle) (fuel : Nat) (s : Speed) (cost : Nat → Nat)
    (steps : Nat) (m : MasterSt) (stims : List Stim) (acc : List TickRec) :
    masterRunC S orc fuel s cost steps 0 m stims acc = .ok (m, acc) := by
  cases steps with
  | zero => rw [masterRunC]
  | succ n => rw [masterRunC.eq_2 _ _ _ _ _ _ _ _ _ (by simp)]

theorem midTick_empty (S : Static) (fuel : Nat) (s : Speed) (e : Int) (m : MasterSt)
    (stims : List Stim) (h : e ≤ m.lastReal + 1) : midTick S fuel s e m stims = (m, stims) := by
  cases stims with
  | nil => rfl
  | cons st rest =>
    rw [midTick, if_neg]
    omega

theorem midTick_nil (S : Static) (fuel : Nat) (s : Speed) (e : Int) (m : MasterSt) :
    midTick S fuel s e m [] = (m, []) := rfl

theorem midTick_preserves (S : Static) (fuel : Nat) (s : Speed) (e : Int) (P : MasterSt → Prop)
    (hP : ∀ m st, m.lastReal < st.real ∧ st.real < e → P m → P (stimStepC S fuel s m st))
    (m : MasterSt) (stims : List Stim) (h : P m) : P (midTick S fuel s e m stims).1 := by
  induction stims generalizing m with
  | nil => exact h
  | cons st rest ih =>
    rw [midTick]
    split
    · exact ih _ (hP m st ‹_› h)
    · exact h

theorem midTick_frame (S : Static) (fuel : Nat) (s : Speed) (e : Int) (m : MasterSt)
    (stims : List Stim) :
    (midTick S fuel s e m stims).1.tickerTime = m.tickerTime ∧
    (midTick S fuel s e m stims).1.lastReal = m.lastReal ∧
    m.now ≤ (midTick S fuel s e m stims).1.now ∧
    (m.now ≤ e → (midTick S fuel s e m stims).1.now ≤ e) :=
  midTick_preserves S fuel s e
    (fun m' => m'.tickerTime = m.tickerTime ∧ m'.lastReal = m.lastReal ∧ m.now ≤ m'.now ∧
      (m.now ≤ e → m'.now ≤ e))
    (fun m' st hg ⟨h1, h2, h3, h4⟩ => ⟨h1, h2, Int.le_trans h3 (stimStepC_now_ge S fuel s m' st),
      fun h => stimStepC_now_le S fuel s m' st (h4 h) (Int.le_of_lt hg.2)⟩)
    m stims ⟨rfl, rfl, Int.le_refl _, id⟩

theorem midTick_obs (S : Static) (fuel : Nat) (s : Speed) (e : Int) (m : MasterSt)
    (stims : List Stim) : (midTick S fuel s e m stims).1.sim.obs = m.sim.obs :=
  midTick_preserves S fuel s e (·.sim.obs = m.sim.obs)
    (fun m' st _ h => (stimStepC_obs S fuel s m' st).trans h) m stims rfl

theorem endTick_fst (S : Static) (fuel : Nat) (s : Speed) (sim : SimSt) (w : SimTime) (d e : Int)
    (stims : List Stim) :
    (endTick S fuel s sim w d e stims).1.tickerTime = w ∧
    (endTick S fuel s sim w d e stims).1.lastReal = e ∧
    (endTick S fuel s sim w d e stims).1.now = e := by
  refine ⟨?_, rfl, rfl⟩
  exact (midTick_frame S fuel s e { sim := sim, tickerTime := w, lastReal := d, now := d } stims).1

theorem endTick_obs (S : Static) (fuel : Nat) (s : Speed) (sim : SimSt) (w : SimTime) (d e : Int)
    (stims : List Stim) : (endTick S fuel s sim w d e stims).1.sim.obs = sim.obs :=
  midTick_obs S fuel s e _ stims

theorem endTick_nil (S : Static) (fuel : Nat) (s : Speed) (sim : SimSt) (w : SimTime) (d e : Int) :
    endTick S fuel s sim w d e [] = ({ sim := sim, tickerTime := w, lastReal := e, now := e }, []) :=
  rfl

theorem endTick_zero (S : Static) (fuel : Nat) (s : Speed) (sim : SimSt) (w : SimTime) (d : Int)
    (stims : List Stim) :
    endTick S fuel s sim w d d stims = ({ sim := sim, tickerTime := w, lastReal := d, now := d }, stims) := by
  unfold endTick
  simp only []
  rw [midTick_empty S fuel s d _ stims (by show d ≤ d + 1; omega)]

/-- `masterRunC_zero_cost` of `Props/C12Cost.lean`, here for the lemma files
(`Lemmas/CostRun.lean`, `Pacing.initial_links`). -/
theorem masterRunC_zero (S : Static) (orc : Oracle) (fuel : Nat) (s : Speed) (cost : Nat → Nat)
    (hc : ∀ k, cost k = 0) :
    ∀ (steps nTicks : Nat) (m : MasterSt) (stims : List Stim) (acc : List TickRec),
      masterRunC S orc fuel s cost steps nTicks m stims acc =
        masterRun S orc fuel s steps nTicks m stims acc := by
  intro steps
  induction steps with
  | zero =>
    intro nTicks m stims acc
    rw [masterRunC, masterRun]
  | succ steps ih =>
    intro nTicks m stims acc
    cases nTicks with
    | zero =>
      rw [masterRunC_zero_ticks, masterRun.eq_2 _ _ _ _ _ _ _ _ (by simp)]
    | succ nTicks =>
      rw [masterRunC_unfold, masterRun_unfold, stimFirstC_eq]
      cases hsel : stimSel m s (firstWakeups (m.sim.sched "").wake).2 stims with
      | some p =>
        obtain ⟨st, rest⟩ := p
        simp only []
        rw [ih, stimStepC_eq]
      | none =>
        simp only []
        cases hfw : firstWakeups (m.sim.sched "").wake with
        | mk comps whenT =>
          cases whenT with
          | none => rfl
          | some w =>
            simp only []
            rw [delMasterC_eq]
            cases ht : tickLevel S orc fuel "" w comps [] (delMaster m.sim comps) with
            | error e => rfl
            | ok r =>
              simp only []
              rw [hc, Int.natCast_zero, Int.add_zero, endTick_zero, ih]

/-- `masterInitialC_zero_cost` of `Props/C12Cost.lean`, here for the lemma files. -/
theorem masterInitialC_zero (S : Static) (orc : Oracle) (fuel : Nat) (s : Speed) (cost : Nat → Nat)
    (hc : cost 0 = 0) (t0 : SimTime) (now : Int) (stims : List Stim) :
    masterInitialC S orc fuel s cost t0 now stims =
      (masterInitial S orc fuel t0 now).map (fun r => (r.1, r.2, stims)) := by
  unfold masterInitialC masterInitial
  cases S.level "" with
  | none => rfl
  | some L =>
    simp only []
    cases tickLevel S orc fuel "" t0 L.wiring.components [] {} with
    | error e => rfl
    | ok r =>
      simp only []
      rw [hc, Int.natCast_zero, Int.add_zero, endTick_zero]
      rfl

/-- `mid = true`: handled in the middle of tick number `k - 1`; `false`: between ticks. -/
structure StimEvC extends StimEv where
  mid : Bool

/-- `tickEnd = some e`: a tick is in progress (`m.tickerTime` its time, `m.lastReal` its start, `e`
its end); `none`: between ticks (`m.lastReal` is the end of the last tick). -/
structure Cfg where
  tickEnd : Option Int
  m : MasterSt
  stims : List Stim
  acc : List TickRec

section
variable (S : Static) (orc : Oracle) (fuel : Nat) (sp : Speed) (cost : Nat → Nat)

/-- `stim` and `mid` are `schedule_interrupt`, between ticks and while `await self.ticker(…)` is
running; `tick` is `_do_tick` up to the first `self.last_time = time_ns()` (the tick itself stays
atomic: its result `sim2` is there at once); `endT` is the second `self.last_time = time_ns()`,
when the ticker returns (`midTick` stops at the first stimulus that does not fall inside the
tick). -/
inductive StepC : Cfg → List StimEvC → Cfg → Prop
  | stim {m : MasterSt} {stims : List Stim} {acc : List TickRec} {st : Stim} {rest : List Stim}
      (hsel : stimFirstC m sp (firstWakeups (m.sim.sched "").wake).2 stims = some (st, rest)) :
      StepC ⟨none, m, stims, acc⟩ [⟨⟨m, st, acc.length⟩, false⟩]
        ⟨none, stimStepC S fuel sp m st, rest, acc⟩
  | tick {m : MasterSt} {stims : List Stim} {acc : List TickRec} {comps : List Comp} {w : SimTime}
      {sim2 : SimSt} {out : List (Port × V)}
      (hsel : stimFirstC m sp (firstWakeups (m.sim.sched "").wake).2 stims = none)
      (hfw : firstWakeups (m.sim.sched "").wake = (comps, some w))
      (htick : tickLevel S orc fuel "" w comps [] (delMasterC m.sim comps) = .ok (sim2, out)) :
      StepC ⟨none, m, stims, acc⟩ []
        ⟨some (dueReal m sp w + cost acc.length),
          { sim := sim2, tickerTime := w, lastReal := dueReal m sp w, now := dueReal m sp w },
          stims, acc ++ [⟨w, dueReal m sp w, comps⟩]⟩
  | mid {e : Int} {m : MasterSt} {st : Stim} {rest : List Stim} {acc : List TickRec}
      (hin : m.lastReal < st.real ∧ st.real < e) :
      StepC ⟨some e, m, st :: rest, acc⟩ [⟨⟨m, st, acc.length⟩, true⟩]
        ⟨some e, stimStepC S fuel sp m st, rest, acc⟩
  | endT {e : Int} {m : MasterSt} {stims : List Stim} {acc : List TickRec}
      (hout : ∀ st, stims.head? = some st → ¬(m.lastReal < st.real ∧ st.real < e)) :
      StepC ⟨some e, m, stims, acc⟩ [] ⟨none, { m with lastReal := e, now := e }, stims, acc⟩

inductive TraceC : Cfg → List StimEvC → Cfg → Prop
  | done (c : Cfg) : TraceC c [] c
  | step {c c' c2 : Cfg} {l log : List StimEvC} (hs : StepC S orc fuel sp cost c l c')
      (ht : TraceC c' log c2) : TraceC c (l ++ log) c2

end

section
variable {S : Static} {orc : Oracle} {fuel : Nat} {sp : Speed} {cost : Nat → Nat}

/-- The fourth conjunct has `c'` on both sides: it gives `c'.tickEnd`, `c'.m`, `c'.acc` (the stimuli
are the third) in the form in which `rw` turns `c'` into a constructor term. -/
theorem StepC.event {c c' : Cfg} {ev : StimEvC} (h : StepC S orc fuel sp cost c [ev] c') :
    ev.m = c.m ∧ ev.k = c.acc.length ∧ c.stims = ev.st :: c'.stims ∧
    c' = ⟨c.tickEnd, stimStepC S fuel sp ev.m ev.st, c'.stims, c.acc⟩ ∧
    match c.tickEnd with
    | none => ev.mid = false
    | some e => ev.mid = true ∧ c.m.lastReal < ev.st.real ∧ ev.st.real < e := by
  cases h with
  | stim hsel =>
    exact ⟨rfl, rfl, stimSel_mem ((stimFirstC_eq _ _ _ _).symm.trans hsel), rfl, rfl⟩
  | mid hin => exact ⟨rfl, rfl, rfl, rfl, rfl, hin⟩

theorem StepC.log_cases {c c' : Cfg} {l : List StimEvC} (h : StepC S orc fuel sp cost c l c') :
    l = [] ∨ ∃ ev, l = [ev] := by
  cases h with
  | stim => exact Or.inr ⟨_, rfl⟩
  | tick => exact Or.inl rfl
  | mid => exact Or.inr ⟨_, rfl⟩
  | endT => exact Or.inl rfl

theorem TraceC.append {c c' c2 : Cfg} {l1 l2 : List StimEvC} (h1 : TraceC S orc fuel sp cost c l1 c')
    (h2 : TraceC S orc fuel sp cost c' l2 c2) : TraceC S orc fuel sp cost c (l1 ++ l2) c2 := by
  induction h1 with
  | done => exact h2
  | step hs _ ih => rw [List.append_assoc]; exact .step hs (ih h2)

theorem TraceC.prefix {c c2 : Cfg} {log : List StimEvC} (h : TraceC S orc fuel sp cost c log c2) :
    ∃ tail, c2.acc = c.acc ++ tail := by
  induction h with
  | done => exact ⟨[], (List.append_nil _).symm⟩
  | step hs _ ih =>
    obtain ⟨t, ht⟩ := ih
    cases hs with
    | stim => exact ⟨t, ht⟩
    | tick => exact ⟨_ :: t, by rw [ht, List.append_assoc]; rfl⟩
    | mid => exact ⟨t, ht⟩
    | endT => exact ⟨t, ht⟩

theorem TraceC.ext {c c2 : Cfg} {log : List StimEvC} (h : TraceC S orc fuel sp cost c log c2) :
    c.m.sim.Ext c2.m.sim := by
  induction h with
  | done => exact SimSt.Ext.refl _
  | step hs _ ih =>
    refine SimSt.Ext.trans ?_ ih
    cases hs with
    | stim => exact ⟨[], by rw [List.append_nil]; exact stimStepC_obs ..⟩
    | tick _ _ htick => exact (tickLevel_ok S orc _ _ _ _ _ _ _ _ htick).1
    | mid => exact ⟨[], by rw [List.append_nil]; exact stimStepC_obs ..⟩
    | endT => exact SimSt.Ext.refl _

theorem TraceC.inv_end {I : Cfg → Prop}
    (hI : ∀ c l c', I c → StepC S orc fuel sp cost c l c' → I c')
    {c c2 : Cfg} {log : List StimEvC} (h : TraceC S orc fuel sp cost c log c2) (h0 : I c) : I c2 := by
  induction h with
  | done => exact h0
  | step hs _ ih => exact ih (hI _ _ _ h0 hs)

theorem TraceC.at_event {I : Cfg → Prop}
    (hI : ∀ c l c', I c → StepC S orc fuel sp cost c l c' → I c')
    {c c2 : Cfg} {log : List StimEvC} (h : TraceC S orc fuel sp cost c log c2) (h0 : I c) :
    ∀ pre ev post, log = pre ++ ev :: post →
      ∃ c1 c1', I c1 ∧ StepC S orc fuel sp cost c1 [ev] c1' ∧
        TraceC S orc fuel sp cost c1' post c2 := by
  induction h with
  | done => intro pre ev post hlog; cases pre <;> cases hlog
  | @step c c' c2 l log hs ht ih =>
    intro pre ev post hlog
    rcases hs.log_cases with rfl | ⟨ev0, rfl⟩
    · exact ih (hI _ _ _ h0 hs) pre ev post hlog
    · cases pre with
      | nil =>
        obtain ⟨rfl, rfl⟩ := List.cons.inj hlog
        exact ⟨c, c', h0, hs, ht⟩
      | cons p pre => exact ih (hI _ _ _ h0 hs) pre ev post (List.cons.inj hlog).2

theorem TraceC.log_stims {c c2 : Cfg} {log : List StimEvC}
    (h : TraceC S orc fuel sp cost c log c2) : c.stims = log.map (·.st) ++ c2.stims := by
  induction h with
  | done => rfl
  | step hs _ ih =>
    rcases hs.log_cases with rfl | ⟨ev, rfl⟩
    · cases hs <;> exact ih
    · obtain ⟨_, _, hstims, _⟩ := hs.event
      rw [hstims, ih]
      rfl

theorem StepC.acc_le {c c' : Cfg} {l : List StimEvC} (hs : StepC S orc fuel sp cost c l c') :
    c.acc.length ≤ c'.acc.length := by
  obtain ⟨t, ht⟩ := (TraceC.step hs (.done _)).prefix
  rw [ht, List.length_append]
  exact Nat.le_add_right _ _

theorem TraceC.log_k_ge {c c2 : Cfg} {log : List StimEvC}
    (h : TraceC S orc fuel sp cost c log c2) : ∀ ev ∈ log, c.acc.length ≤ ev.k := by
  induction h with
  | done => intro ev hev; cases hev
  | step hs _ ih =>
    intro ev hev
    rcases List.mem_append.1 hev with hev | hev
    · rcases hs.log_cases with rfl | ⟨ev0, rfl⟩
      · cases hev
      · cases List.mem_singleton.1 hev
        obtain ⟨_, hk, _⟩ := hs.event
        exact Nat.le_of_eq hk.symm
    · exact Nat.le_trans hs.acc_le (ih ev hev)

end

end CostRun
end Tickit
