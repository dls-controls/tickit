/-
The ticker (`Core/Ticker`, `Core/TickSys`).  `Ticker.call` and `Ticker.propagate` are its two entry points and every loop of
every layer drives it through them, so everything is stated on these two: what they return, what they do to the tick
invariant `PreInv`, that they cannot fail, and that an acyclic wiring does not stall.  `TickSys.Run` is the tick in which a
pending dispatch may be answered by anything a predicate admits (inner ticks and oracles are no functions of the dispatch);
the closed system `TickSys.Reachable` is the case "the answer is the reaction".

Which invariant to use.  `PreInv` (gate, once, inside the extent) speaks of the raw fields and also holds between the two
halves of `propagate` (`PreInv.answer`, `PreInv.schedule`).  In every state of a tick it comes packaged with `Complete` and
the tick's time: as `TickSys.RunInv` for `TickSys.Run` (`TickSys.Run.inv`), as `TickInv` for the closed system
(`TickSys.Reachable.inv`).  What the dispatches carry is `TrPre` of `TickEqLemmas` (`TickSys.Run.trPre`).  A proof about a
tick starts from `Run.inv` and `Run.trPre` (through `Reachable.run` for the closed system).
-/
import TickitModel.Core.TickSys
import TickitModel.Lemmas.DictLemmas
import TickitModel.Lemmas.ListLemmas

namespace Tickit

def Wiring.Acyclic (w : Wiring) : Prop :=
  ∃ rank : Comp → Nat, ∀ c us u, w.ups c = some us → u ∈ us → rank u < rank c

/-- a finite check for a concrete wiring. -/
theorem Wiring.acyclic_of_rank {w : Wiring} (rank : Comp → Nat)
    (h : ∀ e ∈ w.inverseTree, ∀ u ∈ e.2, rank u < rank e.1) : w.Acyclic :=
  ⟨rank, fun c us u hus hu => h (c, us) (mem_of_alookup_eq_some hus) u hu⟩

variable {Val : Type}

@[simp] theorem akeys_markDispatched (tu : List (Comp × Bool)) (cs : List Comp) :
    akeys (markDispatched tu cs) = akeys tu := by
  induction tu with
  | nil => rfl
  | cons e tu ih =>
    simp only [markDispatched, List.map_cons, akeys_cons] at *
    rw [ih]; split <;> rfl

@[simp] theorem length_markDispatched (tu : List (Comp × Bool)) (cs : List Comp) :
    (markDispatched tu cs).length = tu.length := by simp [markDispatched]

theorem markDispatched_eq_nil {tu : List (Comp × Bool)} {cs : List Comp} :
    markDispatched tu cs = [] ↔ tu = [] := by simp [markDispatched]

theorem alookup_markDispatched (tu : List (Comp × Bool)) (cs : List Comp) (c : Comp) :
    alookup (markDispatched tu cs) c = (alookup tu c).map (fun b => b || decide (c ∈ cs)) := by
  induction tu with
  | nil => rfl
  | cons e tu ih =>
    obtain ⟨k, v⟩ := e
    simp only [markDispatched, List.map_cons] at *
    by_cases hk : k = c
    · subst hk
      by_cases hm : k ∈ cs <;> simp [hm, alookup_cons]
    · by_cases hm : k ∈ cs <;> simp [hm, alookup_cons, hk, ih]

theorem alookup_markDispatched_eq_none {tu : List (Comp × Bool)} {cs : List Comp} {c : Comp} :
    alookup (markDispatched tu cs) c = none ↔ alookup tu c = none := by
  simp [alookup_markDispatched]

theorem alookup_markDispatched_eq_true {tu : List (Comp × Bool)} {cs : List Comp} {c : Comp} :
    alookup (markDispatched tu cs) c = some true ↔
      alookup tu c = some true ∨ (alookup tu c = some false ∧ c ∈ cs) := by
  rw [alookup_markDispatched]
  cases h : alookup tu c with
  | none => simp
  | some b => cases b <;> simp

theorem alookup_markDispatched_eq_true_of {tu : List (Comp × Bool)} {cs : List Comp}
    (h : ∀ c ∈ cs, alookup tu c = some false) {c : Comp} :
    alookup (markDispatched tu cs) c = some true ↔ alookup tu c = some true ∨ c ∈ cs :=
  alookup_markDispatched_eq_true.trans (or_congr_right ⟨And.right, fun hc => ⟨h c hc, hc⟩⟩)

theorem alookup_markDispatched_eq_false {tu : List (Comp × Bool)} {cs : List Comp} {c : Comp} :
    alookup (markDispatched tu cs) c = some false ↔ alookup tu c = some false ∧ c ∉ cs := by
  rw [alookup_markDispatched]
  cases h : alookup tu c with
  | none => simp
  | some b => cases b <;> simp

def FreshTU (tu : List (Comp × Bool)) : Prop :=
  (akeys tu).Nodup ∧ ∀ c, alookup tu c ≠ some true

theorem FreshTU.upsert {tu : List (Comp × Bool)} (h : FreshTU tu) (c : Comp) :
    FreshTU (upsert tu c false) := by
  refine ⟨UniqueKeys.upsert h.1 c false, fun x => ?_⟩
  rw [alookup_upsert]
  split
  · simp
  · exact h.2 x

theorem startTick_toUpdate (w : Wiring) (t : SimTime) (roots : List Comp) :
    akeys (Ticker.startTick w t roots : Ticker Val).toUpdate = extent w roots := rfl

theorem startTick_fresh (w : Wiring) (t : SimTime) (roots : List Comp) :
    FreshTU (Ticker.startTick w t roots : Ticker Val).toUpdate := by
  simp only [Ticker.startTick]
  exact foldl_inv FreshTU _ roots
    (fun r _ _ h => foldl_inv FreshTU _ (w.dependants r) (fun c _ _ h => h.upsert c) _ h) []
    ⟨List.nodup_nil, fun _ => nofun⟩

-- `simp only []` substitutes the `let ins := …` of `decide`, so that `split` finds the `if`
@[simp] theorem Ticker.decide_comp (tk : Ticker Val) (c : Comp) : (tk.decide c).comp = c := by
  unfold Ticker.decide; simp only []; split <;> rfl

@[simp] theorem Ticker.decide_time (tk : Ticker Val) (c : Comp) : (tk.decide c).time = tk.time := by
  unfold Ticker.decide; simp only []; split <;> rfl

theorem Ticker.decide_cases (tk : Ticker Val) (c : Comp) :
    (tk.decide c = .input c tk.time (agetD tk.inputs c []) ∧
        (agetD tk.inputs c [] ≠ [] ∨ c ∈ tk.roots)) ∨
      (tk.decide c = .skip c tk.time ∧ agetD tk.inputs c [] = [] ∧ c ∉ tk.roots) := by
  unfold Ticker.decide
  simp only []
  split
  · rename_i h
    simp only [Bool.or_eq_true, Bool.not_eq_true', List.isEmpty_eq_false_iff, decide_eq_true_eq]
      at h
    exact Or.inl ⟨rfl, h⟩
  · rename_i h
    simp only [Bool.or_eq_true, Bool.not_eq_true', List.isEmpty_eq_false_iff, decide_eq_true_eq,
      not_or, Classical.not_not] at h
    exact Or.inr ⟨rfl, h⟩

theorem Ticker.blocked_eq_false {tk : Ticker Val} {us : List Comp} :
    tk.blocked us = false ↔ ∀ u ∈ us, alookup tk.toUpdate u = none := by
  simp [Ticker.blocked]

theorem Ticker.blocked_eq_true {tk : Ticker Val} {us : List Comp} :
    tk.blocked us = true ↔ ∃ u ∈ us, alookup tk.toUpdate u ≠ none := by
  simp [Ticker.blocked, Option.isSome_iff_ne_none]

/-- the selection made by one pass of `schedule_possible_updates`. -/
def Ticker.selects (w : Wiring) (tk : Ticker Val) (e : Comp × Bool) : Bool :=
  !e.2 && !tk.blocked ((w.ups e.1).getD [])

theorem Ticker.selects_eq_true_iff {w : Wiring} {tk : Ticker Val} {e : Comp × Bool} :
    tk.selects w e = true ↔ e.2 = false ∧ tk.blocked ((w.ups e.1).getD []) = false := by
  rw [Ticker.selects, Bool.and_eq_true, Bool.not_eq_true', Bool.not_eq_true']

theorem scheduleLoop_spec {w : Wiring} {tk : Ticker Val} {l : List (Comp × Bool)}
    {ds : List (Dispatch Val)} (h : Ticker.scheduleLoop w tk l = .ok ds) :
    ds = (l.filter (tk.selects w)).map (fun e => tk.decide e.1) ∧
      ∀ e ∈ l, e.2 = false → (w.ups e.1).isSome = true := by
  induction l generalizing ds with
  | nil =>
    simp only [Ticker.scheduleLoop] at h
    cases h; simp
  | cons e l ih =>
    obtain ⟨c, flag⟩ := e
    rw [List.forall_mem_cons]
    simp only [Ticker.scheduleLoop] at h
    cases flag with
    | true =>
      obtain ⟨h1, h2⟩ := ih h
      exact ⟨by simp [Ticker.selects, ← h1], Bool.noConfusion, h2⟩
    | false =>
      simp only [Bool.false_eq_true, if_false] at h
      cases hu : w.ups c with
      | none => simp [hu] at h
      | some ups =>
        simp only [hu] at h
        cases hb : tk.blocked ups with
        | true =>
          simp only [hb, if_true] at h
          obtain ⟨h1, h2⟩ := ih h
          exact ⟨by simp [Ticker.selects, hu, hb, ← h1], fun _ => rfl, h2⟩
        | false =>
          simp only [hb, Bool.false_eq_true, if_false] at h
          obtain ⟨ds', hr, rfl⟩ := Except.map_eq_ok_iff.1 h
          obtain ⟨h1, h2⟩ := ih hr
          exact ⟨by simp [Ticker.selects, hu, hb, ← h1], fun _ => rfl, h2⟩

theorem scheduleLoop_ok {w : Wiring} (tk : Ticker Val) {l : List (Comp × Bool)}
    (h : ∀ e ∈ l, e.2 = false → (w.ups e.1).isSome = true) :
    ∃ ds, Ticker.scheduleLoop w tk l = .ok ds := by
  induction l with
  | nil => exact ⟨[], rfl⟩
  | cons e l ih =>
    obtain ⟨c, flag⟩ := e
    obtain ⟨ds, hds⟩ := ih (fun e he => h e (List.mem_cons_of_mem _ he))
    simp only [Ticker.scheduleLoop]
    cases flag with
    | true => exact ⟨ds, by simpa using hds⟩
    | false =>
      have := h (c, false) (by simp) rfl
      obtain ⟨ups, hu⟩ := Option.isSome_iff_exists.1 this
      simp only [Bool.false_eq_true, if_false, hu, hds]
      split
      · exact ⟨_, rfl⟩
      · exact ⟨_, rfl⟩

theorem scheduleLoop_comps {w : Wiring} {tk : Ticker Val} {l : List (Comp × Bool)}
    {ds : List (Dispatch Val)} (h : Ticker.scheduleLoop w tk l = .ok ds) :
    ds.map Dispatch.comp = (l.filter (tk.selects w)).map (·.1) := by
  rw [(scheduleLoop_spec h).1, List.map_map]
  apply List.map_congr_left
  intro e _; simp

theorem mem_scheduleLoop_comps {w : Wiring} {tk : Ticker Val} {l : List (Comp × Bool)}
    {ds : List (Dispatch Val)} (hn : (akeys l).Nodup) (h : Ticker.scheduleLoop w tk l = .ok ds)
    {c : Comp} :
    c ∈ ds.map Dispatch.comp ↔
      alookup l c = some false ∧ ∃ us, w.ups c = some us ∧ ∀ u ∈ us, alookup tk.toUpdate u = none := by
  rw [scheduleLoop_comps h]
  have h2 := (scheduleLoop_spec h).2
  constructor
  · intro hc
    obtain ⟨e, he, rfl⟩ := List.mem_map.1 hc
    obtain ⟨he, hsel⟩ := List.mem_filter.1 he
    obtain ⟨c, b⟩ := e
    rw [Ticker.selects_eq_true_iff] at hsel
    obtain ⟨hb, hbl⟩ := hsel
    subst hb
    obtain ⟨us, hus⟩ := Option.isSome_iff_exists.1 (h2 _ he rfl)
    refine ⟨alookup_eq_some_of_mem hn he, us, hus, ?_⟩
    simp only [hus, Option.getD_some] at hbl
    exact Ticker.blocked_eq_false.1 hbl
  · rintro ⟨hl, us, hus, hall⟩
    refine List.mem_map.2 ⟨(c, false), List.mem_filter.2 ⟨mem_of_alookup_eq_some hl, ?_⟩, rfl⟩
    rw [Ticker.selects_eq_true_iff, hus]
    exact ⟨rfl, Ticker.blocked_eq_false.2 hall⟩

theorem of_mem_scheduleLoop {w : Wiring} {tk : Ticker Val} {l : List (Comp × Bool)}
    {ds : List (Dispatch Val)} (h : Ticker.scheduleLoop w tk l = .ok ds) {d : Dispatch Val}
    (hd : d ∈ ds) :
    d = tk.decide d.comp ∧ (d.comp, false) ∈ l ∧ (w.ups d.comp).isSome = true := by
  obtain ⟨hspec, hups⟩ := scheduleLoop_spec h
  rw [hspec] at hd
  obtain ⟨⟨c, b⟩, he, rfl⟩ := List.mem_map.1 hd
  obtain ⟨he, hsel⟩ := List.mem_filter.1 he
  rw [Ticker.selects_eq_true_iff] at hsel
  cases hsel.1
  exact ⟨by rw [Ticker.decide_comp], by rwa [Ticker.decide_comp], by rw [Ticker.decide_comp]; exact hups _ he rfl⟩

theorem filter_isDispatchOf_eq_nil {tr : List (Ev Val)} {c : Comp}
    (h : ∀ d, Ev.dispatch d ∈ tr → d.comp ≠ c) : tr.filter (Ev.isDispatchOf c) = [] := by
  rw [List.filter_eq_nil_iff]
  intro e he
  cases e with
  | dispatch d => simpa [Ev.isDispatchOf] using h d he
  | answer c' ch => simp [Ev.isDispatchOf]

theorem filter_isAnswerOf_eq_nil {tr : List (Ev Val)} {c : Comp}
    (h : ∀ ch, Ev.answer c ch ∉ tr) : tr.filter (Ev.isAnswerOf c) = [] := by
  rw [List.filter_eq_nil_iff]
  intro e he
  cases e with
  | dispatch d => simp [Ev.isAnswerOf]
  | answer c' ch =>
    simp only [Ev.isAnswerOf, beq_iff_eq]
    intro hc; subst hc; exact h ch he

theorem filter_isDispatchOf_append_answer (tr : List (Ev Val)) (a c : Comp) (ch : List (Port × Val)) :
    (tr ++ [Ev.answer a ch]).filter (Ev.isDispatchOf c) = tr.filter (Ev.isDispatchOf c) := by
  rw [List.filter_append]
  exact List.append_nil _

theorem length_filter_isAnswerOf_append_answer (tr : List (Ev Val)) (a c : Comp)
    (ch : List (Port × Val)) :
    ((tr ++ [Ev.answer a ch]).filter (Ev.isAnswerOf c)).length =
      (tr.filter (Ev.isAnswerOf c)).length + if a = c then 1 else 0 := by
  rw [List.filter_append, List.length_append]
  by_cases h : a = c
  · rw [if_pos h, List.filter_cons_of_pos (show Ev.isAnswerOf c (Ev.answer a ch) = true from beq_iff_eq.2 h)]
    rfl
  · rw [if_neg h, List.filter_cons_of_neg (show ¬ Ev.isAnswerOf c (Ev.answer a ch) = true from mt beq_iff_eq.1 h)]
    rfl

theorem filter_isAnswerOf_map_dispatch (ds : List (Dispatch Val)) (c : Comp) :
    (ds.map Ev.dispatch).filter (Ev.isAnswerOf c) = [] := by
  apply filter_isAnswerOf_eq_nil
  intro ch h
  simp at h

theorem dispatch_mem_append_answer {tr : List (Ev Val)} {d : Dispatch Val} {a : Comp}
    {ch : List (Port × Val)} : Ev.dispatch d ∈ tr ++ [Ev.answer a ch] ↔ Ev.dispatch d ∈ tr := by
  simp

theorem answer_mem_append_answer {tr : List (Ev Val)} {a c : Comp} {ch ch' : List (Port × Val)} :
    Ev.answer c ch' ∈ tr ++ [Ev.answer a ch] ↔ Ev.answer c ch' ∈ tr ∨ (c = a ∧ ch' = ch) := by
  simp

theorem dispatch_split_append_answer {tr pre post : List (Ev Val)} {d : Dispatch Val} {a : Comp}
    {ch : List (Port × Val)} (h : tr ++ [Ev.answer a ch] = pre ++ Ev.dispatch d :: post) :
    ∃ post', tr = pre ++ Ev.dispatch d :: post' := by
  rcases append_eq_append_cons h with ⟨post', h1, _⟩ | ⟨pre', _, h2⟩
  · exact ⟨post', h1⟩
  · cases pre' <;> simp at h2

theorem dispatch_mem_append_dispatches {tr : List (Ev Val)} {ds : List (Dispatch Val)}
    {d : Dispatch Val} : Ev.dispatch d ∈ tr ++ ds.map Ev.dispatch ↔ Ev.dispatch d ∈ tr ∨ d ∈ ds := by
  simp

theorem answer_mem_append_dispatches {tr : List (Ev Val)} {ds : List (Dispatch Val)} {c : Comp}
    {ch : List (Port × Val)} : Ev.answer c ch ∈ tr ++ ds.map Ev.dispatch ↔ Ev.answer c ch ∈ tr := by
  simp

theorem dispatch_split_append_dispatches {tr pre post : List (Ev Val)} {ds : List (Dispatch Val)}
    {d : Dispatch Val} (h : tr ++ ds.map Ev.dispatch = pre ++ Ev.dispatch d :: post) :
    (∃ post', tr = pre ++ Ev.dispatch d :: post') ∨
      (d ∈ ds ∧ ∀ a ch, Ev.answer a ch ∈ pre ↔ Ev.answer a ch ∈ tr) := by
  rcases append_eq_append_cons h with ⟨post', h1, _⟩ | ⟨pre', rfl, h2⟩
  · exact Or.inl ⟨post', h1⟩
  · have hsub : ∀ e, e ∈ pre' ∨ e = Ev.dispatch d → e ∈ ds.map Ev.dispatch := fun e he => by
      rw [h2, List.mem_append, List.mem_cons]
      exact he.imp_right Or.inl
    refine Or.inr ⟨by simpa using hsub _ (Or.inr rfl), fun a ch => ?_⟩
    have := hsub (Ev.answer a ch)
    simp at this
    simp [this]

theorem length_filter_isDispatchOf_map_dispatch_eq (ds : List (Dispatch Val)) (c : Comp) :
    ((ds.map Ev.dispatch).filter (Ev.isDispatchOf c)).length = (ds.map Dispatch.comp).count c := by
  rw [← List.countP_eq_length_filter, List.countP_map, List.count_eq_countP, List.countP_map]
  rfl

/-- The part of the tick invariant that relates `to_update`, the pending dispatches and the
trace; it also holds in the intermediate state between "answer removed from `to_update`" and
the following `schedule_possible_updates`. -/
structure PreInv (w : Wiring) (t : SimTime) (roots : List Comp) (tu : List (Comp × Bool))
    (pending : List (Dispatch Val)) (trace : List (Ev Val)) : Prop where
  nodup : (akeys tu).Nodup
  pend_flag : ∀ c, (∃ d ∈ pending, d.comp = c) ↔ alookup tu c = some true
  pend_nodup : (pending.map Dispatch.comp).Nodup
  pend_trace : ∀ d ∈ pending, Ev.dispatch d ∈ trace
  gate : ∀ c, alookup tu c = some true → ∀ us, w.ups c = some us → ∀ u ∈ us, alookup tu u = none
  keys_ext : ∀ c, alookup tu c ≠ none → c ∈ extent w roots
  resolved : ∀ c ∈ extent w roots, (alookup tu c = none ↔ ∃ ch, Ev.answer c ch ∈ trace)
  disp_ext : ∀ d, Ev.dispatch d ∈ trace → d.comp ∈ extent w roots ∧ d.time = t
  disp_flag : ∀ d, Ev.dispatch d ∈ trace → alookup tu d.comp ≠ some false
  order : ∀ pre d post, trace = pre ++ Ev.dispatch d :: post → ∀ us, w.ups d.comp = some us →
    ∀ u ∈ us, u ∈ extent w roots → ∃ ch, Ev.answer u ch ∈ pre
  count : ∀ c, (trace.filter (Ev.isDispatchOf c)).length ≤ 1 ∧
    (trace.filter (Ev.isAnswerOf c)).length ≤ (trace.filter (Ev.isDispatchOf c)).length

/-- post-schedule completeness: every unflagged member of `to_update` is blocked.  (Not the
"complete tick" of the lemmas named `…_of_complete`: that is `toUpdate = []`.) -/
def Complete (w : Wiring) (tu : List (Comp × Bool)) : Prop :=
  ∀ c, alookup tu c = some false → ∃ us, w.ups c = some us ∧ ∃ u ∈ us, alookup tu u ≠ none

theorem PreInv.start (w : Wiring) (t : SimTime) (roots : List Comp) :
    PreInv (Val := Val) w t roots (Ticker.startTick w t roots : Ticker Val).toUpdate [] [] := by
  have hf := startTick_fresh (Val := Val) w t roots
  have hk := startTick_toUpdate (Val := Val) w t roots
  exact
    { nodup := hf.1
      pend_flag := fun c => ⟨by simp, fun h => absurd h (hf.2 c)⟩
      pend_nodup := List.nodup_nil
      pend_trace := by simp
      gate := fun c h => absurd h (hf.2 c)
      keys_ext := fun c h => hk ▸ alookup_ne_none_iff.1 h
      resolved := fun c hc => ⟨fun h => absurd (hk ▸ hc) (alookup_eq_none_iff.1 h), by simp⟩
      disp_ext := by simp
      disp_flag := by simp
      order := by simp
      count := fun _ => ⟨Nat.zero_le 1, Nat.le_refl 0⟩ }

theorem PreInv.not_answered {w : Wiring} {t : SimTime} {roots : List Comp} {tu : List (Comp × Bool)}
    {pending : List (Dispatch Val)} {trace : List (Ev Val)} (h : PreInv w t roots tu pending trace)
    {d : Dispatch Val} (hd : d ∈ pending) (ch : List (Port × Val)) :
    Ev.answer d.comp ch ∉ trace := fun hm => by
  -- pending, so flagged `true`, so present in `to_update`; answered, so absent (`resolved`)
  have h0 := (h.pend_flag _).1 ⟨d, hd, rfl⟩
  exact nomatch h0.symm.trans ((h.resolved _ (h.keys_ext _ (h0 ▸ nofun))).2 ⟨ch, hm⟩)

theorem PreInv.answer {w : Wiring} {t : SimTime} {roots : List Comp} {tu : List (Comp × Bool)}
    {pending : List (Dispatch Val)} {trace : List (Ev Val)} (h : PreInv w t roots tu pending trace)
    {i : Nat} {d : Dispatch Val} (hd : pending[i]? = some d) (ch : List (Port × Val)) :
    PreInv w t roots (aerase tu d.comp) (pending.eraseIdx i) (trace ++ [Ev.answer d.comp ch]) := by
  have hdm : d ∈ pending := List.mem_of_getElem? hd
  have hmem : ∀ {d'}, d' ∈ pending.eraseIdx i ↔ d' ∈ pending ∧ d'.comp ≠ d.comp :=
    mem_eraseIdx_iff_of_nodup_map h.pend_nodup hd
  have hsome : ∀ {c b}, alookup (aerase tu d.comp) c = some b → alookup tu c = some b :=
    fun hc => ((alookup_aerase_eq_some h.nodup).1 hc).1
  exact
    { nodup := UniqueKeys.aerase h.nodup _
      pend_flag := fun c => by
        rw [alookup_aerase_eq_some h.nodup, ← h.pend_flag]
        exact ⟨fun ⟨d', hd', hc⟩ => ⟨⟨d', (hmem.1 hd').1, hc⟩, hc ▸ (hmem.1 hd').2⟩,
          fun ⟨⟨d', hd', hc⟩, hne⟩ => ⟨d', hmem.2 ⟨hd', hc ▸ hne⟩, hc⟩⟩
      pend_nodup := ((List.eraseIdx_sublist pending i).map _).nodup h.pend_nodup
      pend_trace := fun d' hd' => List.mem_append_left _ (h.pend_trace d' (hmem.1 hd').1)
      gate := fun c hc us hus u hu => alookup_aerase_eq_none (h.gate c (hsome hc) us hus u hu)
      keys_ext := fun c hc => h.keys_ext c (mt alookup_aerase_eq_none hc)
      resolved := fun c hc => by
        simp only [alookup_aerase h.nodup, answer_mem_append_answer]
        split
        · next hcd => exact iff_of_true rfl ⟨ch, Or.inr ⟨hcd, rfl⟩⟩
        · next hcd =>
          rw [h.resolved c hc]
          exact exists_congr fun ch' => (or_iff_left fun h' => hcd h'.1).symm
      disp_ext := fun d' hd' => h.disp_ext d' (dispatch_mem_append_answer.1 hd')
      disp_flag := fun d' hd' hf => h.disp_flag d' (dispatch_mem_append_answer.1 hd') (hsome hf)
      order := fun pre d' post htr us hus u hu hue => by
        obtain ⟨post', h1⟩ := dispatch_split_append_answer htr
        exact h.order pre d' post' h1 us hus u hu hue
      count := fun c => by
        have hc := h.count c
        rw [filter_isDispatchOf_append_answer, length_filter_isAnswerOf_append_answer]
        split
        · next hcd =>
          subst hcd
          rw [filter_isAnswerOf_eq_nil (h.not_answered hdm)]
          exact ⟨hc.1, List.length_pos_of_mem
            (List.mem_filter.2 ⟨h.pend_trace d hdm, by simp [Ev.isDispatchOf]⟩)⟩
        · exact hc }

theorem PreInv.schedule {w : Wiring} {t : SimTime} {roots : List Comp} {tk : Ticker Val}
    {pending : List (Dispatch Val)} {trace : List (Ev Val)} {ds : List (Dispatch Val)}
    (h : PreInv w t roots tk.toUpdate pending trace) (ht : tk.time = t)
    (hs : Ticker.scheduleLoop w tk tk.toUpdate = .ok ds) :
    PreInv w t roots (markDispatched tk.toUpdate (ds.map Dispatch.comp)) (pending ++ ds)
        (trace ++ ds.map Ev.dispatch) ∧
      Complete w (markDispatched tk.toUpdate (ds.map Dispatch.comp)) := by
  have hmem {c : Comp} := mem_scheduleLoop_comps h.nodup hs (c := c)
  have hnd : (ds.map Dispatch.comp).Nodup := by
    rw [scheduleLoop_comps hs]
    exact List.Sublist.nodup (List.Sublist.map _ List.filter_sublist) h.nodup
  have hsel : ∀ c ∈ ds.map Dispatch.comp, alookup tk.toUpdate c = some false :=
    fun c hc => (hmem.1 hc).1
  have hgate : ∀ c ∈ ds.map Dispatch.comp, ∀ us, w.ups c = some us → ∀ u ∈ us,
      alookup tk.toUpdate u = none := by
    intro c hc us hus
    obtain ⟨_, us', hus', hall⟩ := hmem.1 hc
    exact Option.some.inj (hus'.symm.trans hus) ▸ hall
  refine ⟨?_, ?_⟩
  · exact
    { nodup := (akeys_markDispatched _ _).symm ▸ h.nodup
      pend_flag := fun c => by
        -- pending after = pending before or newly selected, flagged after = flagged before or
        -- newly selected: both sides become membership in a mapped append
        rw [alookup_markDispatched_eq_true_of hsel, ← h.pend_flag, ← List.mem_map, ← List.mem_map,
          List.map_append, List.mem_append]
      pend_nodup := by
        rw [List.map_append, List.nodup_append]
        refine ⟨h.pend_nodup, hnd, fun c hc _ hc' hcc => ?_⟩
        subst hcc
        exact nomatch ((h.pend_flag c).1 (List.mem_map.1 hc)).symm.trans (hsel c hc')
      pend_trace := fun d hd =>
        dispatch_mem_append_dispatches.2 ((List.mem_append.1 hd).imp_left (h.pend_trace d))
      gate := fun c hc us hus u hu => alookup_markDispatched_eq_none.2 <|
        ((alookup_markDispatched_eq_true_of hsel).1 hc).elim (fun hc => h.gate c hc us hus u hu)
          (fun hc => hgate c hc us hus u hu)
      keys_ext := fun c hc => h.keys_ext c (mt alookup_markDispatched_eq_none.2 hc)
      resolved := fun c hc => by
        simp only [alookup_markDispatched_eq_none, answer_mem_append_dispatches]
        exact h.resolved c hc
      disp_ext := fun d hd => by
        rcases dispatch_mem_append_dispatches.1 hd with hd | hd
        · exact h.disp_ext d hd
        · exact ⟨h.keys_ext _ (by rw [hsel _ (List.mem_map_of_mem hd)]; nofun),
            by rw [(of_mem_scheduleLoop hs hd).1, Ticker.decide_time, ht]⟩
      disp_flag := fun d hd hf => by
        obtain ⟨hf, hnm⟩ := alookup_markDispatched_eq_false.1 hf
        exact (dispatch_mem_append_dispatches.1 hd).elim (fun hd => h.disp_flag d hd hf)
          (fun hd => hnm (List.mem_map_of_mem hd))
      order := fun pre d post htr us hus u hu hue => by
        rcases dispatch_split_append_dispatches htr with ⟨post', h1⟩ | ⟨hd, hpre⟩
        · exact h.order _ _ _ h1 us hus u hu hue
        · simp only [hpre]
          exact (h.resolved u hue).1 (hgate _ (List.mem_map_of_mem hd) us hus u hu)
      count := fun c => by
        have hc := h.count c
        have h1 := hnd.count (a := c)
        rw [List.filter_append, List.filter_append, filter_isAnswerOf_map_dispatch, List.length_append,
          List.append_nil, length_filter_isDispatchOf_map_dispatch_eq, h1]
        split
        · next hm =>
          -- a newly selected component had flag `false`, so by `disp_flag` no dispatch of it is
          -- in the trace yet
          rw [filter_isDispatchOf_eq_nil fun d hd hdc => h.disp_flag d hd (hdc ▸ hsel c hm)] at hc ⊢
          exact ⟨Nat.le_refl 1, Nat.le_succ_of_le hc.2⟩
        · exact hc }
  · intro c hc
    obtain ⟨hf, hnm⟩ := alookup_markDispatched_eq_false.1 hc
    obtain ⟨us, hus⟩ := Option.isSome_iff_exists.1
      ((scheduleLoop_spec hs).2 (c, false) (mem_of_alookup_eq_some hf) rfl)
    cases hb : tk.blocked us with
    | false => exact absurd (hmem.2 ⟨hf, us, hus, Ticker.blocked_eq_false.1 hb⟩) hnm
    | true =>
      obtain ⟨u, hu, hne⟩ := Ticker.blocked_eq_true.1 hb
      exact ⟨us, hus, u, hu, mt alookup_markDispatched_eq_none.1 hne⟩

/-- the ticker state inside `propagate` after the answer of `src` has been taken in and
before `schedule_possible_updates` runs. -/
def Ticker.afterAnswer (w : Wiring) (tk : Ticker Val) (src : Comp) (changes : List (Port × Val)) :
    Ticker Val :=
  { tk with toUpdate := aerase tk.toUpdate src, inputs := addInputs tk.inputs (w.route src changes) }

/-- the ticker after `schedule_possible_updates` has dispatched `ds`. -/
def Ticker.dispatched (tk : Ticker Val) (ds : List (Dispatch Val)) : Ticker Val :=
  { tk with toUpdate := markDispatched tk.toUpdate (ds.map Dispatch.comp) }

theorem Ticker.propagate_eq_ok_iff {w : Wiring} {tk : Ticker Val} {src : Comp} {t : SimTime}
    {changes : List (Port × Val)} {r : Ticker Val × List (Dispatch Val)} :
    tk.propagate w src t changes = .ok r ↔
      alookup tk.toUpdate src ≠ none ∧ t = tk.time ∧
      ∃ ds, Ticker.scheduleLoop w (tk.afterAnswer w src changes) (aerase tk.toUpdate src) = .ok ds ∧
        r = ({ (tk.afterAnswer w src changes).dispatched ds with
                finished := ((tk.afterAnswer w src changes).dispatched ds).toUpdate.isEmpty
                  || tk.finished }, ds) := by
  unfold Ticker.propagate
  cases h1 : alookup tk.toUpdate src with
  | none => exact ⟨nofun, fun h => absurd rfl h.1⟩
  | some b =>
    rw [if_neg (by exact Bool.false_ne_true)]
    by_cases h2 : t = tk.time
    · rw [if_neg (not_not_intro h2)]
      show ((Ticker.scheduleLoop w (tk.afterAnswer w src changes) (aerase tk.toUpdate src)).map
        (fun ds => ((tk.afterAnswer w src changes).dispatched ds, ds))).map _ = _ ↔ _
      cases Ticker.scheduleLoop w (tk.afterAnswer w src changes) (aerase tk.toUpdate src) with
      | error e =>
        refine ⟨nofun, ?_⟩
        rintro ⟨_, _, _, h, _⟩
        cases h
      | ok ds =>
        simp only [Except.map, Except.ok.injEq, exists_eq_left', h2, ne_eq, reduceCtorEq,
          not_false_eq_true, true_and]
        rw [eq_comm]
        -- the `if` raising `finished` is the `||` of the statement
        cases ((tk.afterAnswer w src changes).dispatched ds).toUpdate.isEmpty <;> exact Iff.rfl
    · rw [if_pos h2]
      exact ⟨nofun, fun h => absurd h.2.1 h2⟩

theorem Ticker.call_eq_ok_iff {w : Wiring} {t : SimTime} {roots : List Comp}
    {r : Ticker Val × List (Dispatch Val)} :
    Ticker.call w t roots = .ok r ↔
      ∃ ds, Ticker.scheduleLoop w (Ticker.startTick w t roots : Ticker Val)
          (Ticker.startTick w t roots : Ticker Val).toUpdate = .ok ds ∧
        r = ((Ticker.startTick w t roots : Ticker Val).dispatched ds, ds) :=
  Except.map_eq_ok_iff.trans (exists_congr fun _ => and_congr_right fun _ => eq_comm)

/-- for users that do not want the record substituted. -/
theorem Ticker.propagate_eq_ok {w : Wiring} {tk tk' : Ticker Val} {src : Comp} {t : SimTime}
    {changes : List (Port × Val)} {ds : List (Dispatch Val)}
    (h : tk.propagate w src t changes = .ok (tk', ds)) :
    alookup tk.toUpdate src ≠ none ∧ t = tk.time ∧
      Ticker.scheduleLoop w (tk.afterAnswer w src changes) (aerase tk.toUpdate src) = .ok ds ∧
      tk'.toUpdate = markDispatched (aerase tk.toUpdate src) (ds.map Dispatch.comp) ∧
      tk'.inputs = addInputs tk.inputs (w.route src changes) ∧
      tk'.time = tk.time ∧ tk'.roots = tk.roots := by
  obtain ⟨h1, h2, _, hs, hr⟩ := Ticker.propagate_eq_ok_iff.1 h
  cases hr
  exact ⟨h1, h2, hs, rfl, rfl, rfl, rfl⟩

theorem Ticker.propagate_dispatches {w : Wiring} {tk tk' : Ticker Val} {src : Comp} {t : SimTime}
    {changes : List (Port × Val)} {ds : List (Dispatch Val)}
    (h : tk.propagate w src t changes = .ok (tk', ds)) {d : Dispatch Val} (hd : d ∈ ds) :
    d = tk'.decide d.comp ∧ (w.ups d.comp).isSome = true := by
  obtain ⟨_, _, _, hs, hr⟩ := Ticker.propagate_eq_ok_iff.1 h
  cases hr
  exact ⟨(of_mem_scheduleLoop hs hd).1, (of_mem_scheduleLoop hs hd).2.2⟩

theorem Ticker.call_dispatches {w : Wiring} {t : SimTime} {roots : List Comp} {tk : Ticker Val}
    {ds : List (Dispatch Val)} (h : Ticker.call w t roots = .ok (tk, ds)) {d : Dispatch Val}
    (hd : d ∈ ds) : d = tk.decide d.comp ∧ (w.ups d.comp).isSome = true := by
  obtain ⟨_, hs, hr⟩ := Ticker.call_eq_ok_iff.1 h
  cases hr
  exact ⟨(of_mem_scheduleLoop hs hd).1, (of_mem_scheduleLoop hs hd).2.2⟩

theorem Ticker.decide_of_root {tk : Ticker Val} {c : Comp} (h : c ∈ tk.roots) :
    tk.decide c = .input c tk.time (agetD tk.inputs c []) := by
  simp [Ticker.decide, h]

theorem Ticker.propagate_resolved {w : Wiring} {tk tk' : Ticker Val} {src : Comp} {t : SimTime}
    {changes : List (Port × Val)} {ds : List (Dispatch Val)} (hn : (akeys tk.toUpdate).Nodup)
    (h : tk.propagate w src t changes = .ok (tk', ds)) (x : Comp) :
    alookup tk'.toUpdate x = none ↔ x = src ∨ alookup tk.toUpdate x = none := by
  rw [(Ticker.propagate_eq_ok h).2.2.2.1, alookup_markDispatched_eq_none, alookup_aerase hn]
  by_cases hx : x = src <;> simp [hx]

theorem Ticker.propagate_resolved_ne {w : Wiring} {tk tk' : Ticker Val} {src : Comp} {t : SimTime}
    {changes : List (Port × Val)} {ds : List (Dispatch Val)}
    (h : tk.propagate w src t changes = .ok (tk', ds)) {x : Comp} (hx : x ≠ src) :
    alookup tk'.toUpdate x = none ↔ alookup tk.toUpdate x = none := by
  rw [(Ticker.propagate_eq_ok h).2.2.2.1, alookup_markDispatched_eq_none, alookup_aerase_ne _ hx]

theorem Ticker.propagate_length {w : Wiring} {tk tk' : Ticker Val} {src : Comp} {t : SimTime}
    {changes : List (Port × Val)} {ds : List (Dispatch Val)}
    (h : tk.propagate w src t changes = .ok (tk', ds)) :
    tk'.toUpdate.length + 1 = tk.toUpdate.length := by
  obtain ⟨hne, _, _, htu, _⟩ := Ticker.propagate_eq_ok h
  rw [htu, length_markDispatched]
  exact length_aerase (alookup_ne_none_iff.1 hne)

theorem Ticker.call_resolved {w : Wiring} {t : SimTime} {roots : List Comp} {tk : Ticker Val}
    {ds : List (Dispatch Val)} (h : Ticker.call w t roots = .ok (tk, ds)) (x : Comp) :
    alookup tk.toUpdate x = none ↔ x ∉ extent w roots := by
  obtain ⟨_, _, hr⟩ := Ticker.call_eq_ok_iff.1 h
  cases hr
  exact alookup_markDispatched_eq_none.trans alookup_eq_none_iff

theorem PreInv.call {w : Wiring} {t : SimTime} {roots : List Comp} {tk : Ticker Val}
    {ds : List (Dispatch Val)} (hc : Ticker.call w t roots = .ok (tk, ds)) :
    PreInv w t roots tk.toUpdate ds (ds.map Ev.dispatch) ∧ Complete w tk.toUpdate ∧
      tk.time = t ∧ tk.roots = roots ∧ tk.inputs = [] ∧ tk.finished = false := by
  obtain ⟨ds', hs, hr⟩ := Ticker.call_eq_ok_iff.1 hc
  cases hr
  have := (PreInv.start (Val := Val) w t roots).schedule rfl hs
  exact ⟨this.1, this.2, rfl, rfl, rfl, rfl⟩

theorem PreInv.propagate {w : Wiring} {t : SimTime} {roots : List Comp} {tk tk' : Ticker Val}
    {pending ds : List (Dispatch Val)} {trace : List (Ev Val)} {i : Nat} {d : Dispatch Val}
    {ch : List (Port × Val)} (h : PreInv w t roots tk.toUpdate pending trace) (ht : tk.time = t)
    (hd : pending[i]? = some d) (hp : tk.propagate w d.comp d.time ch = .ok (tk', ds)) :
    PreInv w t roots tk'.toUpdate (pending.eraseIdx i ++ ds)
        (trace ++ [Ev.answer d.comp ch] ++ ds.map Ev.dispatch) ∧
      Complete w tk'.toUpdate ∧ tk'.time = t ∧ tk'.roots = tk.roots := by
  obtain ⟨_, _, ds', hs, hr⟩ := Ticker.propagate_eq_ok_iff.1 hp
  cases hr
  have := PreInv.schedule (tk := tk.afterAnswer w d.comp ch) (h.answer hd ch) ht hs
  exact ⟨this.1, this.2, ht, rfl⟩

theorem Ticker.propagate_finished {w : Wiring} {tk tk' : Ticker Val} {src : Comp} {t : SimTime}
    {changes : List (Port × Val)} {ds : List (Dispatch Val)}
    (h : tk.propagate w src t changes = .ok (tk', ds)) (hf : tk.finished = true → tk.toUpdate = []) :
    tk'.finished = true ↔ tk'.toUpdate = [] := by
  obtain ⟨hne, _, _, _, hr⟩ := Ticker.propagate_eq_ok_iff.1 h
  cases hr
  refine Bool.or_eq_true_iff.trans ⟨fun h' => h'.elim List.isEmpty_iff.1 fun hf' => ?_,
    fun h' => Or.inl (List.isEmpty_iff.2 h')⟩
  rw [hf hf'] at hne
  exact absurd rfl hne

theorem Ticker.call_ok {w : Wiring} (t : SimTime) {roots : List Comp}
    (hroots : ∀ c ∈ extent w roots, (w.ups c).isSome = true) :
    ∃ tk ds, (Ticker.call w t roots : Except TickErr (Ticker Val × List (Dispatch Val))) =
      .ok (tk, ds) := by
  obtain ⟨ds, hds⟩ := scheduleLoop_ok (w := w) (Ticker.startTick w t roots : Ticker Val)
    (l := (Ticker.startTick w t roots : Ticker Val).toUpdate)
    (fun e he _ => hroots e.1 (startTick_toUpdate (Val := Val) w t roots ▸ mem_akeys_of_mem he))
  exact ⟨_, _, Ticker.call_eq_ok_iff.2 ⟨ds, hds, rfl⟩⟩

theorem Ticker.propagate_ok {w : Wiring} {tk : Ticker Val} {src : Comp} {t : SimTime}
    (changes : List (Port × Val)) (h1 : alookup tk.toUpdate src ≠ none) (h2 : t = tk.time)
    (hups : ∀ e ∈ aerase tk.toUpdate src, e.2 = false → (w.ups e.1).isSome = true) :
    ∃ tk' ds, tk.propagate w src t changes = .ok (tk', ds) := by
  obtain ⟨ds, hds⟩ := scheduleLoop_ok (w := w) (tk.afterAnswer w src changes)
    (l := aerase tk.toUpdate src) hups
  exact ⟨_, _, Ticker.propagate_eq_ok_iff.2 ⟨h1, h2, ds, hds, rfl⟩⟩

theorem PreInv.propagate_ok {w : Wiring} {t : SimTime} {roots : List Comp}
    (hroots : ∀ c ∈ extent w roots, (w.ups c).isSome = true) {tk : Ticker Val}
    {pending : List (Dispatch Val)} {trace : List (Ev Val)}
    (h : PreInv w t roots tk.toUpdate pending trace) (ht : tk.time = t) {d : Dispatch Val}
    (hd : d ∈ pending) (ch : List (Port × Val)) :
    ∃ tk' ds, tk.propagate w d.comp d.time ch = .ok (tk', ds) :=
  Ticker.propagate_ok ch (by rw [(h.pend_flag _).1 ⟨d, hd, rfl⟩]; nofun)
    ((h.disp_ext d (h.pend_trace d hd)).2.trans ht.symm)
    (fun e he _ => hroots e.1 (h.keys_ext e.1 (alookup_ne_none_iff.2
      (mem_akeys_of_mem_akeys_aerase (mem_akeys_of_mem he)))))

theorem PreInv.progress {w : Wiring} (hacyc : w.Acyclic) {t : SimTime} {roots : List Comp}
    {tu : List (Comp × Bool)} {pending : List (Dispatch Val)} {trace : List (Ev Val)}
    (hp : PreInv w t roots tu pending trace) (hc : Complete w tu) (hne : tu ≠ []) :
    pending ≠ [] := by
  obtain ⟨rank, hr⟩ := hacyc
  have key : ∀ n c, rank c < n → alookup tu c ≠ none → pending ≠ [] := by
    intro n
    induction n with
    | zero => intro c hc; omega
    | succ n ih =>
      intro c hcn hcne
      cases hl : alookup tu c with
      | none => exact absurd hl hcne
      | some b =>
        cases b with
        | true =>
          obtain ⟨d, hd, _⟩ := (hp.pend_flag c).2 hl
          exact List.ne_nil_of_mem hd
        | false =>
          obtain ⟨us, hus, u, hu, hune⟩ := hc c hl
          have := hr c us u hus hu
          exact ih u (by omega) hune
  cases htu : tu with
  | nil => exact absurd htu hne
  | cons e rest =>
    refine key (rank e.1 + 1) e.1 (Nat.lt_succ_self _) ?_
    rw [htu, alookup_ne_none_iff]; simp

theorem TickSys.init_eq_ok_iff {w : Wiring} {t : SimTime} {roots : List Comp} {s : TickSys Val} :
    TickSys.init w t roots = .ok s ↔
      ∃ tk ds, Ticker.call w t roots = .ok (tk, ds) ∧ s = ⟨tk, ds, ds.map Ev.dispatch⟩ :=
  Except.map_eq_ok_iff.trans
    ⟨fun ⟨r, h, e⟩ => ⟨r.1, r.2, h, e.symm⟩, fun ⟨tk, ds, h, e⟩ => ⟨(tk, ds), h, e.symm⟩⟩

theorem TickSys.step_eq {w : Wiring} {react : React Val} {s : TickSys Val} {i : Nat}
    {d : Dispatch Val} (hi : s.pending[i]? = some d) :
    s.step w react i = some ((s.tk.propagate w d.comp d.time (answerOf react d)).map (fun r =>
      ⟨r.1, s.pending.eraseIdx i ++ r.2,
       s.trace ++ [Ev.answer d.comp (answerOf react d)] ++ r.2.map Ev.dispatch⟩)) := by
  simp only [TickSys.step, hi]

theorem TickSys.step_eq_ok_iff {w : Wiring} {react : React Val} {s s' : TickSys Val} {i : Nat} :
    s.step w react i = some (.ok s') ↔
      ∃ d tk' ds, s.pending[i]? = some d ∧
        s.tk.propagate w d.comp d.time (answerOf react d) = .ok (tk', ds) ∧
        s' = ⟨tk', s.pending.eraseIdx i ++ ds,
          s.trace ++ [Ev.answer d.comp (answerOf react d)] ++ ds.map Ev.dispatch⟩ := by
  constructor
  · intro h
    cases hd : s.pending[i]? with
    | none => simp [TickSys.step, hd] at h
    | some d =>
      rw [TickSys.step_eq hd, Option.some_inj, Except.map_eq_ok_iff] at h
      obtain ⟨r, h1, h2⟩ := h
      exact ⟨d, r.1, r.2, rfl, h1, h2.symm⟩
  · rintro ⟨d, tk', ds, hd, h1, rfl⟩
    rw [TickSys.step_eq hd, h1]
    rfl

structure TickInv (w : Wiring) (t : SimTime) (roots : List Comp) (s : TickSys Val) : Prop where
  pre : PreInv w t roots s.tk.toUpdate s.pending s.trace
  complete : Complete w s.tk.toUpdate
  time : s.tk.time = t
  fin : s.tk.finished = true → s.tk.toUpdate = []

theorem TickInv.init {w : Wiring} {t : SimTime} {roots : List Comp} {s : TickSys Val}
    (h : TickSys.init w t roots = .ok s) : TickInv w t roots s := by
  obtain ⟨tk, ds, hc, rfl⟩ := TickSys.init_eq_ok_iff.1 h
  obtain ⟨h1, h2, h3, _, _, h4⟩ := PreInv.call hc
  exact ⟨h1, h2, h3, fun hf => nomatch h4.symm.trans hf⟩

theorem TickInv.finished_iff {w : Wiring} {react : React Val} {t : SimTime} {roots : List Comp}
    {s s' : TickSys Val} {i : Nat} (hs : TickInv w t roots s)
    (h : s.step w react i = some (.ok s')) :
    s'.tk.finished = true ↔ s'.tk.toUpdate = [] := by
  obtain ⟨d, tk', ds, _, hp, rfl⟩ := TickSys.step_eq_ok_iff.1 h
  exact Ticker.propagate_finished hp hs.fin

theorem TickInv.step {w : Wiring} {react : React Val} {t : SimTime} {roots : List Comp}
    {s s' : TickSys Val} {i : Nat} (hs : TickInv w t roots s)
    (h : s.step w react i = some (.ok s')) : TickInv w t roots s' := by
  have hfin := (hs.finished_iff h).1
  obtain ⟨d, tk', ds, hd, hp, rfl⟩ := TickSys.step_eq_ok_iff.1 h
  obtain ⟨h1, h2, h3, _⟩ := hs.pre.propagate hs.time hd hp
  exact ⟨h1, h2, h3, hfin⟩

theorem TickSys.Reachable.inv {w : Wiring} {react : React Val} {t : SimTime} {roots : List Comp}
    {s : TickSys Val} (hs : s.Reachable w react t roots) : TickInv w t roots s := by
  induction hs with
  | init h => exact TickInv.init h
  | step _ h ih => exact ih.step h

theorem TickSys.init_ok_of {w : Wiring} (t : SimTime) {roots : List Comp}
    (hroots : ∀ c ∈ extent w roots, (w.ups c).isSome) :
    ∃ s : TickSys Val, TickSys.init w t roots = .ok s :=
  let ⟨_, _, h⟩ := Ticker.call_ok (Val := Val) t hroots
  ⟨_, TickSys.init_eq_ok_iff.2 ⟨_, _, h, rfl⟩⟩

theorem TickInv.step_ok {w : Wiring} {react : React Val} {t : SimTime} {roots : List Comp}
    (hroots : ∀ c ∈ extent w roots, (w.ups c).isSome)
    {s : TickSys Val} (hs : TickInv w t roots s) {i : Nat} (hi : i < s.pending.length) :
    ∃ s', s.step w react i = some (.ok s') :=
  let ⟨_, _, h⟩ := hs.pre.propagate_ok hroots hs.time (List.getElem_mem hi)
    (answerOf react s.pending[i])
  ⟨_, TickSys.step_eq_ok_iff.2 ⟨_, _, _, List.getElem?_eq_getElem hi, h, rfl⟩⟩

theorem TickInv.progress {w : Wiring} (hacyc : w.Acyclic) {t : SimTime} {roots : List Comp}
    {s : TickSys Val} (hs : TickInv w t roots s) (hne : s.tk.toUpdate ≠ []) : s.pending ≠ [] :=
  hs.pre.progress hacyc hs.complete hne

theorem TickSys.step_measure' {w : Wiring} {react : React Val} {s s' : TickSys Val} {i : Nat}
    (h : s.step w react i = some (.ok s')) :
    s'.tk.toUpdate.length + 1 = s.tk.toUpdate.length := by
  obtain ⟨d, tk', ds, _, hp, rfl⟩ := TickSys.step_eq_ok_iff.1 h
  exact Ticker.propagate_length hp

inductive TickSys.Run (w : Wiring) (P : Dispatch Val → List (Port × Val) → Prop) (t : SimTime)
    (roots : List Comp) : TickSys Val → Prop
  | call {tk : Ticker Val} {ds : List (Dispatch Val)} :
      Ticker.call w t roots = .ok (tk, ds) → Run w P t roots ⟨tk, ds, ds.map Ev.dispatch⟩
  | answer {s : TickSys Val} {i : Nat} {d : Dispatch Val} {ch : List (Port × Val)}
      {tk' : Ticker Val} {ds : List (Dispatch Val)} :
      Run w P t roots s → s.pending[i]? = some d → P d ch →
      s.tk.propagate w d.comp d.time ch = .ok (tk', ds) →
      Run w P t roots ⟨tk', s.pending.eraseIdx i ++ ds,
        s.trace ++ [Ev.answer d.comp ch] ++ ds.map Ev.dispatch⟩

structure TickSys.RunInv (w : Wiring) (P : Dispatch Val → List (Port × Val) → Prop) (t : SimTime)
    (roots : List Comp) (s : TickSys Val) : Prop where
  pre : PreInv w t roots s.tk.toUpdate s.pending s.trace
  complete : Complete w s.tk.toUpdate
  time : s.tk.time = t
  roots : s.tk.roots = roots
  ans : ∀ a ch, Ev.answer a ch ∈ s.trace → ∃ d, Ev.dispatch d ∈ s.trace ∧ d.comp = a ∧ P d ch
  ups : ∀ d, Ev.dispatch d ∈ s.trace → (w.ups d.comp).isSome = true

theorem TickSys.Run.inv {w : Wiring} {P : Dispatch Val → List (Port × Val) → Prop} {t : SimTime}
    {roots : List Comp} {s : TickSys Val} (h : s.Run w P t roots) : TickSys.RunInv w P t roots s := by
  induction h with
  | call hc =>
    obtain ⟨h1, h2, h3, h4, _⟩ := PreInv.call hc
    exact ⟨h1, h2, h3, h4, fun a ch hm => by simp at hm,
      fun d hd => (Ticker.call_dispatches hc (by simpa using hd)).2⟩
  | @answer s i d ch tk' ds _ hd hP hprop ih =>
    obtain ⟨h1, h2, h3, h4⟩ := ih.pre.propagate ih.time hd hprop
    refine ⟨h1, h2, h3, h4.trans ih.roots, fun a c hm => ?_, fun d' hd' =>
      (dispatch_mem_append_dispatches.1 hd').elim
        (fun h => ih.ups d' (dispatch_mem_append_answer.1 h))
        fun h => (Ticker.propagate_dispatches hprop h).2⟩
    rcases answer_mem_append_answer.1 (answer_mem_append_dispatches.1 hm) with hm | ⟨rfl, rfl⟩
    · obtain ⟨d', h5, h6⟩ := ih.ans a c hm
      exact ⟨d', by simp [h5], h6⟩
    · exact ⟨d, by simp [ih.pre.pend_trace d (List.mem_of_getElem? hd)], rfl, hP⟩

theorem TickSys.Reachable.run {w : Wiring} {react : React Val} {t : SimTime} {roots : List Comp}
    {s : TickSys Val} (h : s.Reachable w react t roots) :
    s.Run w (fun d ch => ch = answerOf react d) t roots := by
  induction h with
  | init hi =>
    obtain ⟨tk, ds, hc, rfl⟩ := TickSys.init_eq_ok_iff.1 hi
    exact .call hc
  | step _ hst ih =>
    obtain ⟨d, tk', ds, hd, hprop, rfl⟩ := TickSys.step_eq_ok_iff.1 hst
    exact .answer ih hd rfl hprop

theorem Ticker.eq_decide_cases {tk : Ticker Val} {d : Dispatch Val} (h : d = tk.decide d.comp) :
    (∀ ins, d = .input d.comp tk.time ins →
      ins = agetD tk.inputs d.comp [] ∧ (d.comp ∈ tk.roots ∨ ins ≠ [])) ∧
    (d = .skip d.comp tk.time → d.comp ∉ tk.roots ∧ agetD tk.inputs d.comp [] = []) := by
  rcases tk.decide_cases d.comp with ⟨h1, h2⟩ | ⟨h1, h2, h3⟩
  · rw [← h] at h1
    refine ⟨fun ins hi => ?_, fun hs => (nomatch h1.symm.trans hs)⟩
    cases (Dispatch.input.inj (hi.symm.trans h1)).2.2
    exact ⟨rfl, h2.symm⟩
  · rw [← h] at h1
    exact ⟨fun ins hi => (nomatch h1.symm.trans hi), fun _ => ⟨h3, h2⟩⟩

end Tickit
