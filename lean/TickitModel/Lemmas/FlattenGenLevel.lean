/-
C09: the device-level description of an arbitrary tick of one level of a nested configuration, in
three steps: the answer to one `Input` (device, system component, `external`, `expose`); the loop
invariant of `tickLoop` (`GenVal`; it complements `LoopInv`) with one scheduling pass; the
post-condition `GenPost` of `tickLevel`, by induction on the fuel of `tickLevel` (an inner tick runs
with one unit less).
-/
import TickitModel.Lemmas.FlattenGenDefs

namespace Tickit

theorem Static.DecG.mono {S : Static} {D₀ : Comp → Prop} {L : Level} {tu tu' : List (Comp × Bool)}
    {a₀ : Comp} (h : S.DecG D₀ L tu a₀) (htu : ∀ c, alookup tu c = none → alookup tu' c = none) :
    S.DecG D₀ L tu' a₀ := by
  rcases h with h | ⟨h1, h2⟩
  · exact Or.inl h
  · exact Or.inr ⟨h1, fun c hc ho => htu c (h2 c hc ho)⟩

theorem Static.DecG.not_own {S : Static} {D₀ : Comp → Prop} {L : Level} {tu : List (Comp × Bool)}
    {a₀ : Comp} (h : S.DecG D₀ L tu a₀) (hd0 : ∀ x, D₀ x → ¬ S.Below L.name x) {c : Comp}
    (hc : alookup S.parent c = some L.name) (hopen : alookup tu c ≠ none) : ¬ S.Own c a₀ := by
  intro ho
  rcases h with h | ⟨_, h2⟩
  · exact hd0 a₀ h (ho.below hc)
  · exact hopen (h2 c hc ho)

theorem Static.DecG.final {S : Static} {D₀ : Comp → Prop} {L : Level} {tu : List (Comp × Bool)}
    {y : Comp} (h : S.DecG D₀ L tu y) : D₀ y ∨ S.Below L.name y :=
  h.elim Or.inl (fun h' => Or.inr h'.1)

theorem Static.AnsOKG.transport {S : Static} {orc : Oracle} {n : Nat} {σ₀ : SimSt}
    {Dec Dec' : Comp → Prop} {L : Level} {mobs mobs' : List Obs} {a : Comp} {chs : List (Port × V)}
    (h : S.AnsOKG orc n σ₀ Dec L mobs a chs) (hdec : ∀ y, Dec y → Dec' y)
    (hm : ∀ y, Dec y → (y ∈ mobs.map Obs.comp ↔ y ∈ mobs'.map Obs.comp)) :
    S.AnsOKG orc n σ₀ Dec' L mobs' a chs :=
  ⟨h.1, fun p b q hc => ⟨fun v => ((h.2 p b q hc).1 v).trans (Static.ValG.congr (h.2 p b q hc).2 hm v),
    (h.2 p b q hc).2.mono hdec⟩⟩

theorem Static.PendOKG.transport {S : Static} {orc : Oracle} {n : Nat} {σ₀ : SimSt}
    {Dec Dec' : Comp → Prop} {L : Level} {mobs mobs' : List Obs} {c : Comp} {ins : List (Port × V)}
    (h : S.PendOKG orc n σ₀ Dec L mobs c ins) (hdec : ∀ y, Dec y → Dec' y)
    (hm : ∀ y, Dec y → (y ∈ mobs.map Obs.comp ↔ y ∈ mobs'.map Obs.comp)) :
    S.PendOKG orc n σ₀ Dec' L mobs' c ins := by
  refine ⟨h.1, fun q v => ?_, fun q a p hc => (h.2.2 q a p hc).mono hdec⟩
  rw [h.2.1 q v]
  constructor
  · rintro ⟨a, p, hc, hv⟩
    exact ⟨a, p, hc, (Static.ValG.congr (h.2.2 q a p hc) hm v).1 hv⟩
  · rintro ⟨a, p, hc, hv⟩
    exact ⟨a, p, hc, (Static.ValG.congr (h.2.2 q a p hc) hm v).2 hv⟩

theorem Static.SkipOKG.transport {S : Static} {orc : Oracle} {n : Nat} {σ₀ : SimSt}
    {Dec Dec' : Comp → Prop} {L : Level} {mobs mobs' : List Obs} {c : Comp}
    (h : S.SkipOKG orc n σ₀ Dec L mobs c) (hdec : ∀ y, Dec y → Dec' y)
    (hm : ∀ y, Dec y → (y ∈ mobs.map Obs.comp ↔ y ∈ mobs'.map Obs.comp)) :
    S.SkipOKG orc n σ₀ Dec' L mobs' c :=
  fun q a p hc => ⟨fun v hv => (h q a p hc).1 v ((Static.ValG.congr (h q a p hc).2 hm v).2 hv),
    (h q a p hc).2.mono hdec⟩

/-- what the enclosing tick guarantees when it starts the tick of level `lvl`; `mobs` are the
observations made since the master tick began, `D₀` the devices whose status the caller regards
as decided -/
structure GenPre (S : Static) (orc : Oracle) (n : Nat) (σ₀ : SimSt) (Root : Comp → Prop)
    (D₀ : Comp → Prop) (lvl : Comp) (L : Level) (roots : List Comp) (inCh : List (Port × V))
    (st : SimSt) (mobs : List Obs) : Prop where
  hroots : ∀ c ∈ L.wiring.components, c ≠ pseudoExternal → (c ∈ roots ↔ Root c)
  ext_root : lvl ≠ "" → pseudoExternal ∈ roots
  obs_eq : st.obs = σ₀.obs ++ mobs
  fresh_obs : ∀ x, S.Below lvl x → x ∉ mobs.map Obs.comp
  fresh_dev : ∀ x, S.Below lvl x →
    agetD st.devs x {} = agetD σ₀.devs x {} ∧ agetD st.count x 0 = agetD σ₀.count x 0
  fresh_sched : ∀ s, S.Below lvl s → st.sched s = σ₀.sched s
  in_nodup : (akeys inCh).Nodup
  in_ok : ∀ p v, alookup inCh p = some v ↔ S.ValG orc n σ₀ mobs lvl pseudoExternal p v
  in_dec : ∀ p, S.SrcDec n D₀ lvl pseudoExternal p
  d0_out : ∀ a₀, D₀ a₀ → ¬ S.Below lvl a₀

theorem GenPre.master (S : Static) (orc : Oracle) (n : Nat) {σ₀ st : SimSt} {Root : Comp → Prop}
    {L : Level} {roots : List Comp}
    (hroots : ∀ c ∈ L.wiring.components, c ≠ pseudoExternal → (c ∈ roots ↔ Root c))
    (hobs : st.obs = σ₀.obs) (hdev : st.devs = σ₀.devs ∧ st.count = σ₀.count)
    (hsched : ∀ s, S.Below "" s → st.sched s = σ₀.sched s) :
    GenPre S orc n σ₀ Root (fun _ => False) "" L roots [] st [] :=
  have hnone : ∀ p, S.resolve n "" pseudoExternal p = none := fun p => S.resolve_ext_master n p
  { hroots := hroots
    ext_root := fun h => absurd rfl h
    obs_eq := hobs.trans (List.append_nil _).symm
    fresh_obs := by simp
    fresh_dev := fun _ _ => ⟨by rw [hdev.1], by rw [hdev.2]⟩
    fresh_sched := hsched
    in_nodup := by simp
    in_ok := by
      intro p v
      constructor
      · intro h; simp at h
      · rintro ⟨a₀, p₀, hr, _⟩
        rw [hnone p] at hr; cases hr
    in_dec := by
      intro p a₀ p₀ hr
      rw [hnone p] at hr; cases hr
    d0_out := fun _ h => h.elim }

theorem GenPre.initial (S : Static) (orc : Oracle) (n : Nat) (L : Level) :
    GenPre S orc n {} (fun _ => True) (fun _ => False) "" L L.wiring.components [] {} [] :=
  GenPre.master S orc n (fun _ hc _ => ⟨fun _ => trivial, fun _ => hc⟩) rfl ⟨rfl, rfl⟩ (fun _ _ => rfl)

def GenPost (S : Static) (orc : Oracle) (n : Nat) (σ₀ : SimSt) (Root : Comp → Prop)
    (D₀ : Comp → Prop) (lvl : Comp) (L : Level) (st st' : SimSt) (out : List (Port × V))
    (mobs : List Obs) : Prop :=
  ∃ new, st'.obs = st.obs ++ new ∧
    (∀ x, S.isDevice x → S.Below lvl x →
      DevValOK S orc n σ₀ Root (fun a₀ => D₀ a₀ ∨ S.Below lvl a₀) (mobs ++ new) st' x) ∧
    S.PendOKG orc n σ₀ (fun a₀ => D₀ a₀ ∨ S.Below lvl a₀) L (mobs ++ new) pseudoExpose out

def GenIH (S : Static) (orc : Oracle) (n : Nat) (σ₀ : SimSt) (t : SimTime) (Root : Comp → Prop)
    (fuel : Nat) : Prop :=
  ∀ D₀ lvl L roots inCh st st' out mobs,
    tickLevel S orc fuel lvl t roots inCh st = .ok (st', out) → S.level lvl = some L →
    GenPre S orc n σ₀ Root D₀ lvl L roots inCh st mobs →
    GenPost S orc n σ₀ Root D₀ lvl L st st' out mobs

theorem GenPre.sys {S : Static} (hS : S.Valid) {orc : Oracle} {n : Nat} (hst : S.ResolveStable n)
    {σ₀ : SimSt} {t : SimTime} {Root : Comp → Prop} (ctx : TickCtx S σ₀ t Root)
    {D₀ : Comp → Prop} {L : Level} (hL : L ∈ S.levels)
    (hd0 : ∀ x, D₀ x → ¬ S.Below L.name x) {tu : List (Comp × Bool)} {st : SimSt} {mobs : List Obs}
    (hobs : st.obs = σ₀.obs ++ mobs) {c : Comp} {ins : List (Port × V)}
    (hpar : alookup S.parent c = some L.name) (hsys : S.isSys c = true) {Lc : Level}
    (hLc : S.level c = some Lc) (hopen : alookup tu c ≠ none)
    (hfo : ∀ x, S.Own c x → x ∉ mobs.map Obs.comp)
    (hfd : ∀ x, S.Own c x →
      agetD st.devs x {} = agetD σ₀.devs x {} ∧ agetD st.count x 0 = agetD σ₀.count x 0)
    (hfs : ∀ s, S.Own c s → st.sched s = σ₀.sched s)
    (hpend : S.PendOKG orc n σ₀ (S.DecG D₀ L tu) L mobs c ins) :
    GenPre S orc n σ₀ Root (S.DecG D₀ L tu) c Lc (sysRoots S st c t) ins (sysPre st c t) mobs :=
  have hcne : c ≠ "" := hS.child_ne_master hpar
  have hirr : ¬ S.Below c c := Static.Below.irrefl hS.toWF hcne
  have hsc : st.sched c = σ₀.sched c := hfs c (Static.Own.refl S c)
  { hroots := by
      intro c' hc' hne'
      rw [sysRoots_of_level hLc, hsc]
      exact ctx.roots_sys c Lc hsys hLc c' hc' hne'
    ext_root := fun _ => external_mem_sysRoots S st c t
    obs_eq := hobs
    fresh_obs := fun x hb => hfo x (Or.inr ⟨hcne, hb⟩)
    fresh_dev := fun x hb => hfd x (Or.inr ⟨hcne, hb⟩)
    fresh_sched := by
      intro s hb
      have hsc' : c ≠ s := fun h => hirr (h ▸ hb)
      rw [sysPre_sched_ne st t hsc']
      exact hfs s (Or.inr ⟨hcne, hb⟩)
    in_nodup := hpend.1
    in_ok := fun p v => (hpend.2.1 p v).trans
      (Static.exists_resolve_iff (hS.resolve_external hst hL hpar p)
        (fun a₀ p₀ => a₀ ∈ mobs.map Obs.comp ∧ alookup (stepChg orc σ₀ a₀) p₀ = some v))
    in_dec := by
      intro p a₀ p₀ hr0
      obtain ⟨a, p', hconn, hr1⟩ := (hS.resolve_external hst hL hpar p _).1 hr0
      exact hpend.2.2 p a p' hconn a₀ p₀ hr1
    d0_out := fun a₀ hdec hb => hdec.not_own hd0 hpar hopen (Or.inr ⟨hcne, hb⟩) }

/-- the answer to one `Input` for component `c` of level `L`.  `tu`, `tu'`: the unresolved components
before and after; `hfo`/`hfd`/`hfs`: nothing at or below `c` has been touched in this tick yet; `hwhy`:
why the ticker sent an `Input` (a root, or a changed input): it becomes the `upd_iff` of the updated
device.  A system component hands on to the induction hypothesis `IH` about its inner tick
(`GenPre.sys`). -/
theorem AnsP.gen {S : Static} (hS : S.Valid) {orc : Oracle} {n : Nat} (hst : S.ResolveStable n)
    {σ₀ : SimSt} {t : SimTime} {Root : Comp → Prop} (ctx : TickCtx S σ₀ t Root) {fuel : Nat}
    (IH : GenIH S orc n σ₀ t Root fuel) {D₀ : Comp → Prop} {L : Level} (hL : L ∈ S.levels)
    (hd0 : ∀ x, D₀ x → ¬ S.Below L.name x) {roots : List Comp}
    (hroots : ∀ c ∈ L.wiring.components, c ≠ pseudoExternal → (c ∈ roots ↔ Root c))
    {tu tu' : List (Comp × Bool)} {inCh : List (Port × V)} {st : SimSt} {mobs : List Obs}
    (hobs : st.obs = σ₀.obs ++ mobs)
    (hin : S.AnsOKG orc n σ₀ (S.DecG D₀ L tu) L mobs pseudoExternal inCh ∨ L.name = "")
    {c : Comp} {ins : List (Port × V)} (hc : c ∈ L.wiring.components)
    (hopen : alookup tu c ≠ none)
    (htu' : ∀ c', alookup tu' c' = none ↔ c' = c ∨ alookup tu c' = none)
    (hfo : alookup S.parent c = some L.name → ∀ x, S.Own c x → x ∉ mobs.map Obs.comp)
    (hfd : alookup S.parent c = some L.name → ∀ x, S.Own c x →
      agetD st.devs x {} = agetD σ₀.devs x {} ∧ agetD st.count x 0 = agetD σ₀.count x 0)
    (hfs : alookup S.parent c = some L.name → ∀ s, S.Own c s → st.sched s = σ₀.sched s)
    (hpend : S.PendOKG orc n σ₀ (S.DecG D₀ L tu) L mobs c ins)
    (hwhy : c ∈ roots ∨ ins ≠ [])
    {st' : SimSt} {changes : List (Port × V)} {callAt : Option SimTime}
    (h : AnsP S orc (fifoRel S orc fuel) L inCh st (.input c t ins) (st', changes, callAt)) :
    ∃ new1, st'.obs = st.obs ++ new1 ∧
      S.AnsOKG orc n σ₀ (S.DecG D₀ L tu') L (mobs ++ new1) c changes ∧
      (alookup S.parent c = some L.name → ∀ x, S.isDevice x → S.Own c x →
        DevValOK S orc n σ₀ Root (S.DecG D₀ L tu') (mobs ++ new1) st' x) ∧
      (alookup S.parent c ≠ some L.name → new1 = []) := by
  have hmono : ∀ y, S.DecG D₀ L tu y → S.DecG D₀ L tu' y :=
    fun y hy => hy.mono (fun c' hc' => (htu' c').2 (Or.inr hc'))
  have hclosed' : alookup tu' c = none := (htu' c).2 (Or.inl rfl)
  cases h with
  | external h1 =>
    obtain ⟨hne, rfl⟩ := flt_isMock.1 h1
    refine ⟨[], (List.append_nil _).symm, ?_, ?_, fun _ => rfl⟩
    · rw [List.append_nil]
      exact (hin.resolve_right hne).transport hmono (fun _ _ => Iff.rfl)
    · intro hp; rw [hS.pseudo_fresh.1] at hp; cases hp
  | expose _ h2 =>
    obtain ⟨_, rfl⟩ := flt_isMock.1 h2
    refine ⟨[], (List.append_nil _).symm, ⟨List.nodup_nil, fun p b q hconn => ?_⟩, ?_, fun _ => rfl⟩
    · exact absurd rfl (hS.pseudo_dir L hL _ _ _ _ hconn).2
    · intro hp; rw [hS.pseudo_fresh.2.1] at hp; cases hp
  | sys h1 h2 hsys hr =>
    have hpar := hS.toWF.parent_of_member hL hc h1 h2
    have hcne : c ≠ "" := hS.child_ne_master hpar
    obtain ⟨Lc, hLc, _⟩ := tickLevel_ok_roots hr
    obtain ⟨new1, hobs1, hdev, hout⟩ := IH (S.DecG D₀ L tu) _ _ _ _ _ _ _ mobs hr hLc
      (GenPre.sys hS hst ctx hL hd0 hobs hpar hsys hLc hopen (hfo hpar) (hfd hpar) (hfs hpar) hpend)
    obtain ⟨_, rfl⟩ := Static.level_some hLc
    -- from the callee's notion of "decided" to ours
    have hconv : ∀ y, (S.DecG D₀ L tu y ∨ S.Below Lc.name y) → S.DecG D₀ L tu' y := by
      rintro y (hy | hy)
      · exact hmono y hy
      · exact Static.DecG.of_own hS hpar hclosed' (Or.inr ⟨hcne, hy⟩)
    refine ⟨new1, hobs1, ⟨hout.1, fun p b q hconn => ⟨fun v => ?_, ?_⟩⟩, ?_, fun h => absurd hpar h⟩
    · exact (hout.2.1 p v).trans
        (Static.exists_resolve_iff (hS.resolve_system hst hsys hLc _ p)
          (fun a₀ p₀ => a₀ ∈ (mobs ++ new1).map Obs.comp ∧ alookup (stepChg orc σ₀ a₀) p₀ = some v))
    · intro a₀ p₀ hr0
      obtain ⟨a, p', hconn', hr1⟩ := (hS.resolve_system hst hsys hLc _ p _).1 hr0
      exact hconv _ (hout.2.2 p a p' hconn' a₀ p₀ hr1)
    · intro _ x hxd hown
      have hxb : S.Below Lc.name x := by
        rcases hown with rfl | ⟨_, hb⟩
        · exact absurd hsys (by simp [hxd.2])
        · exact hb
      exact (hdev x hxd hxb).transport hconv (fun o ho => ho)
        (fun o ho hno => absurd ho hno) ⟨rfl, rfl⟩
  | @dev _ _ _ resp h1 h2 hsys hresp hraise =>
    have hpar := hS.toWF.parent_of_member hL hc h1 h2
    have hcx : c ≠ pseudoExternal := hS.toWF.child_ne_external hpar
    have hcne : c ≠ "" := hS.child_ne_master hpar
    obtain ⟨hd0', hk0⟩ := hfd hpar c (Static.Own.refl S c)
    have hsr : stepResp orc σ₀ c = some resp := by
      unfold stepResp; rw [← hk0]; exact hresp
    have hch : (devAfter st c t ins resp).2 = stepChg orc σ₀ c := by
      show outChanges (agetD st.devs c {}).lastOutputs _ = _
      unfold stepChg
      rw [hsr, ← hd0']
    have hcm : c ∉ mobs.map Obs.comp := hfo hpar c (Static.Own.refl S c)
    have hmm : ∀ y, S.DecG D₀ L tu y → (y ∈ mobs.map Obs.comp ↔
        y ∈ (mobs ++ [(⟨c, t, (agetD st.devs c {}).merge ins⟩ : Obs)]).map Obs.comp) := by
      intro y hy
      refine flt_mem_map_append_iff fun hm => hy.not_own hd0 hpar hopen (Or.inl ?_)
      exact List.mem_singleton.1 hm
    have hpend' := hpend.transport hmono hmm
    have hflat := hS.flatInputs_child hL hpar n
    have hdevin : ∀ q v, alookup ins q = some v ↔ S.DevIn orc n σ₀
        (mobs ++ [(⟨c, t, (agetD st.devs c {}).merge ins⟩ : Obs)]) c q v := by
      intro q v
      rw [hpend'.2.1]
      constructor
      · rintro ⟨a, p, hconn, a₀, p₀, hr0, hm, hv⟩
        exact ⟨a₀, p₀, (hflat q _).2 ⟨a, p, hconn, hr0⟩, hm, hv⟩
      · rintro ⟨a₀, p₀, hfi, hm, hv⟩
        obtain ⟨a, p, hconn, hr0⟩ := (hflat q _).1 hfi
        exact ⟨a, p, hconn, a₀, p₀, hr0, hm, hv⟩
    have hcdec : S.DecG D₀ L tu' c := Static.DecG.of_own hS hpar hclosed' (Static.Own.refl S c)
    refine ⟨[⟨c, t, (agetD st.devs c {}).merge ins⟩], rfl, ?_, ?_, fun h => absurd hpar h⟩
    · rw [hch]
      refine ⟨flt_nodup_stepChg orc σ₀ c, fun p b q hconn => ⟨fun v => ?_, ?_⟩⟩
      · unfold Static.ValG
        rw [hst.device hcx hsys p]
        constructor
        · intro hv
          exact ⟨c, p, rfl, flt_comp_mem_append_singleton mobs _, hv⟩
        · rintro ⟨a₀, p₀, he, _, hv⟩
          cases he
          exact hv
      · intro a₀ p₀ hr0
        rw [hst.device hcx hsys p] at hr0
        cases hr0
        exact hcdec
    · intro _ x hxd hown
      have hxc : x = c := hS.toWF.own_of_not_sys hsys hown
      subst hxc
      exact
        { upd_iff := by
            refine ⟨fun _ => ?_, fun _ => flt_comp_mem_append_singleton mobs _⟩
            rcases hwhy with hr | hne
            · exact Or.inl ((hroots x hc hcx).1 hr)
            · obtain ⟨q, v, hq⟩ := ne_nil_iff_exists_alookup.1 hne
              exact Or.inr ⟨q, v, (hdevin q v).1 hq⟩
          src := by
            intro q a₀ p₀ hfi
            obtain ⟨a, p, hconn, hr0⟩ := (hflat q _).1 hfi
            exact hpend'.2.2 q a p hconn a₀ p₀ hr0
          upd := by
            intro o ho hox
            have hoeq : o = ⟨x, t, (agetD st.devs x {}).merge ins⟩ := by
              rcases List.mem_append.1 ho with ho | ho
              · exact absurd (List.mem_map.2 ⟨o, ho, hox⟩) hcm
              · exact List.mem_singleton.1 ho
            subst hoeq
            refine ⟨ins, resp, hpend.1, ?_, hdevin, hsr, hraise, devAfter_devs_self st x t ins resp, ?_⟩
            · show (agetD st.devs x {}).merge ins = _
              rw [hd0']
            · rw [devAfter_count_self, hk0]
          frame := fun hx => absurd (flt_comp_mem_append_singleton mobs _) hx }

/-- what `schedule_possible_updates` hands out for a component all of whose sources are closed
(answered, or outside the tick) -/
theorem Static.PendOKG.of_decide {S : Static} {orc : Oracle} {n : Nat} {σ₀ : SimSt}
    {Dec : Comp → Prop} {L : Level} (hwf : L.wiring.WF) {roots : List Comp} {mobs : List Obs}
    {tk : Ticker V} {trace : List (Ev V)} (hin : InputsInv L.wiring tk.inputs trace)
    (hnod : ∀ c, (akeys (agetD tk.inputs c [])).Nodup)
    (hans : ∀ a chs, Ev.answer a chs ∈ trace → S.AnsOKG orc n σ₀ Dec L mobs a chs)
    (hout : ∀ a ∈ L.wiring.components, a ∉ extent L.wiring roots → S.AnsOKG orc n σ₀ Dec L mobs a [])
    {d : Dispatch V} (hdec : d = tk.decide d.comp)
    (hsrc : ∀ a p q, L.wiring.Conn a p d.comp q → a ∈ extent L.wiring roots →
      ∃ ch, Ev.answer a ch ∈ trace) {t : SimTime} (ht : tk.time = t) (hro : tk.roots = roots) :
    (∀ ins, d = .input d.comp t ins →
      S.PendOKG orc n σ₀ Dec L mobs d.comp ins ∧ (d.comp ∈ roots ∨ ins ≠ [])) ∧
    (d = .skip d.comp t → d.comp ∉ roots ∧ S.SkipOKG orc n σ₀ Dec L mobs d.comp) := by
  subst ht hro
  have hcl := hin.closed_sources (c := d.comp) (fun a chs hm => (hans a chs hm).2) fun a p q hc =>
    (Classical.em (a ∈ extent L.wiring tk.roots)).imp (hsrc a p q hc) fun hae =>
      have h := (hout a (Wiring.conn_mem_components hwf hc).1 hae).2 p _ q hc
      ⟨fun v hv => (nomatch (h.1 v).2 hv), h.2⟩
  obtain ⟨hI, hSk⟩ := Ticker.eq_decide_cases hdec
  refine ⟨fun ins hi => ?_, fun hs => ?_⟩
  · obtain ⟨rfl, hwhy⟩ := hI ins hi
    exact ⟨⟨hnod _, hcl⟩, hwhy⟩
  · obtain ⟨hnr, he⟩ := hSk hs
    refine ⟨hnr, fun q a p hc => ⟨fun v hv => ?_, hcl.2 q a p hc⟩⟩
    exact nomatch he ▸ (hcl.1 q v).2 ⟨a, p, hc, hv⟩

theorem Static.SkipOKG.pendOKG_nil {S : Static} {orc : Oracle} {n : Nat} {σ₀ : SimSt}
    {Dec : Comp → Prop} {L : Level} {mobs : List Obs} {c : Comp}
    (h : S.SkipOKG orc n σ₀ Dec L mobs c) : S.PendOKG orc n σ₀ Dec L mobs c [] :=
  ⟨List.nodup_nil, fun q v => ⟨nofun, fun ⟨a, p, hc, hv⟩ => absurd hv ((h q a p hc).1 v)⟩,
    fun q a p hc => (h q a p hc).2⟩

/-- invariant of `tickLoop` in an arbitrary tick of level `L` (complements `LoopInv`); `mobs0`
are the observations made in this master tick before the level's tick began.  It has a trace and
`pre`, `obs_eq` of its own beside those of `LoopInv`: `GenVal.step` identifies the two `new` and does
not need the two traces to agree.  Nothing reads `ans_ext`: `GenVal.start` and `GenVal.step` only keep it. -/
structure GenVal (S : Static) (orc : Oracle) (n : Nat) (σ₀ : SimSt) (t : SimTime)
    (Root : Comp → Prop) (D₀ : Comp → Prop) (L : Level) (roots : List Comp) (st0 : SimSt)
    (mobs0 : List Obs) (ls : LoopSt) (trace : List (Ev V)) (new : List Obs) : Prop where
  pre : PreInv L.wiring t roots ls.tk.toUpdate ls.pending trace
  obs_eq : ls.st.obs = st0.obs ++ new
  inputs : InputsInv L.wiring ls.tk.inputs trace
  ins_nodup : ∀ c, (akeys (agetD ls.tk.inputs c [])).Nodup
  ans_ext : ∀ a chs, Ev.answer a chs ∈ trace → a ∈ extent L.wiring roots
  ans_ok : ∀ a chs, Ev.answer a chs ∈ trace →
    S.AnsOKG orc n σ₀ (S.DecG D₀ L ls.tk.toUpdate) L (mobs0 ++ new) a chs
  out_ok : ∀ a ∈ L.wiring.components, a ∉ extent L.wiring roots →
    S.AnsOKG orc n σ₀ (S.DecG D₀ L ls.tk.toUpdate) L (mobs0 ++ new) a []
  pend_ok : ∀ d ∈ ls.pending,
    (∀ ins, d = .input d.comp t ins →
      S.PendOKG orc n σ₀ (S.DecG D₀ L ls.tk.toUpdate) L (mobs0 ++ new) d.comp ins ∧
        (d.comp ∈ roots ∨ ins ≠ [])) ∧
    (d = .skip d.comp t → d.comp ∉ roots ∧
      S.SkipOKG orc n σ₀ (S.DecG D₀ L ls.tk.toUpdate) L (mobs0 ++ new) d.comp)
  closed_dev : ∀ c, alookup S.parent c = some L.name → alookup ls.tk.toUpdate c = none →
    ∀ x, S.isDevice x → S.Own c x →
      DevValOK S orc n σ₀ Root (S.DecG D₀ L ls.tk.toUpdate) (mobs0 ++ new) ls.st x
  open_fresh : ∀ c, alookup S.parent c = some L.name → alookup ls.tk.toUpdate c ≠ none →
    (∀ x, S.Own c x → x ∉ (mobs0 ++ new).map Obs.comp ∧
      agetD ls.st.devs x {} = agetD σ₀.devs x {} ∧ agetD ls.st.count x 0 = agetD σ₀.count x 0) ∧
    (∀ s, S.Own c s → ls.st.sched s = σ₀.sched s)
  out_none : (∀ ch, Ev.answer pseudoExpose ch ∉ trace) → ls.outCh = []
  out_exp : (∃ ch, Ev.answer pseudoExpose ch ∈ trace) →
    S.PendOKG orc n σ₀ (S.DecG D₀ L ls.tk.toUpdate) L (mobs0 ++ new) pseudoExpose ls.outCh

/-- `tu`, `tu'`: the unresolved components before and after the answer; `o`: the exposed output
changes of the level so far -/
theorem AnsP.gen_any {S : Static} (hS : S.Valid) {orc : Oracle} {n : Nat} (hst : S.ResolveStable n)
    {σ₀ : SimSt} {t : SimTime} {Root : Comp → Prop} (ctx : TickCtx S σ₀ t Root) {fuel : Nat}
    (IH : GenIH S orc n σ₀ t Root fuel) {D₀ : Comp → Prop} {L : Level} (hL : L ∈ S.levels)
    {roots : List Comp} {st0 : SimSt} {mobs0 : List Obs} {inCh : List (Port × V)}
    (hpre0 : GenPre S orc n σ₀ Root D₀ L.name L roots inCh st0 mobs0)
    {tu tu' : List (Comp × Bool)} {st : SimSt} {mobs : List Obs} (hobs : st.obs = σ₀.obs ++ mobs)
    (hin : S.AnsOKG orc n σ₀ (S.DecG D₀ L tu) L mobs pseudoExternal inCh ∨ L.name = "")
    {d : Dispatch V} (hdc : d.comp ∈ L.wiring.components) (hdt : d.time = t)
    (hopen : alookup tu d.comp ≠ none)
    (htu' : ∀ c', alookup tu' c' = none ↔ c' = d.comp ∨ alookup tu c' = none)
    (hfresh : alookup S.parent d.comp = some L.name →
      (∀ x, S.Own d.comp x → x ∉ mobs.map Obs.comp ∧
        agetD st.devs x {} = agetD σ₀.devs x {} ∧ agetD st.count x 0 = agetD σ₀.count x 0) ∧
      (∀ s, S.Own d.comp s → st.sched s = σ₀.sched s))
    (hpend : (∀ ins, d = .input d.comp t ins →
        S.PendOKG orc n σ₀ (S.DecG D₀ L tu) L mobs d.comp ins ∧ (d.comp ∈ roots ∨ ins ≠ [])) ∧
      (d = .skip d.comp t → d.comp ∉ roots ∧ S.SkipOKG orc n σ₀ (S.DecG D₀ L tu) L mobs d.comp))
    {o : List (Port × V)} (ho : d.comp = pseudoExpose → o = []) {st' : SimSt}
    {changes : List (Port × V)} {callAt : Option SimTime}
    (h : AnsP S orc (fifoRel S orc fuel) L inCh st d (st', changes, callAt)) :
    ∃ new1, st'.obs = st.obs ++ new1 ∧
      S.AnsOKG orc n σ₀ (S.DecG D₀ L tu') L (mobs ++ new1) d.comp changes ∧
      (alookup S.parent d.comp = some L.name → ∀ x, S.isDevice x → S.Own d.comp x →
        DevValOK S orc n σ₀ Root (S.DecG D₀ L tu') (mobs ++ new1) st' x) ∧
      (d.comp = pseudoExpose →
        S.PendOKG orc n σ₀ (S.DecG D₀ L tu') L (mobs ++ new1) pseudoExpose
          ((exposeIns L d).getD o)) := by
  have hmono : ∀ y, S.DecG D₀ L tu y → S.DecG D₀ L tu' y :=
    fun y hy => hy.mono (fun c' hc' => (htu' c').2 (Or.inr hc'))
  cases d with
  | skip c t' =>
    obtain rfl : t' = t := hdt
    cases h
    obtain ⟨hnr0, hskip⟩ := hpend.2 rfl
    have hskip' := hskip.transport hmono (fun _ _ => Iff.rfl)
    -- a child of the level that is skipped was not ticked
    have hunt := fun hpar : alookup S.parent c = some L.name =>
      unticked_ok hS hst ctx hL hpar
        (fun hr => hnr0 ((hpre0.hroots c hdc (hS.toWF.child_ne_external hpar)).2 hr))
        ((htu' c).2 (Or.inl rfl)) hskip' (fun x hx => ((hfresh hpar).1 x hx).1)
        (fun x hx => ((hfresh hpar).1 x hx).2)
    refine ⟨[], (List.append_nil _).symm, ?_⟩
    rw [List.append_nil]
    refine ⟨?_, fun hpar => (hunt hpar).2, fun he =>
      (ho he ▸ he ▸ hskip'.pendOKG_nil : S.PendOKG orc n σ₀ (S.DecG D₀ L tu') L mobs pseudoExpose o)⟩
    by_cases hpar : alookup S.parent c = some L.name
    · exact (hunt hpar).1
    · rcases hS.members L hL c hdc with h' | ⟨hnn, h' | h'⟩
      · exact absurd h' hpar
      · exact absurd (h' ▸ hpre0.ext_root hnn) hnr0
      · exact ⟨List.nodup_nil, fun p b q hconn => absurd h' (hS.pseudo_dir L hL _ _ _ _ hconn).2⟩
  | input c t' ins =>
    obtain rfl : t' = t := hdt
    obtain ⟨hpend, hwhy⟩ := hpend.1 ins rfl
    obtain ⟨new1, hobs1, hans1, hdev1, hmock⟩ :=
      h.gen hS hst ctx IH hL hpre0.d0_out hpre0.hroots hobs hin hdc hopen htu'
        (fun hpar x hx => ((hfresh hpar).1 x hx).1) (fun hpar x hx => ((hfresh hpar).1 x hx).2)
        (fun hpar => (hfresh hpar).2) hpend hwhy
    refine ⟨new1, hobs1, hans1, hdev1, fun he => ?_⟩
    obtain rfl : c = pseudoExpose := he
    -- `expose` makes no observation and hands on what it is given
    rw [hmock (fun hp => nomatch hS.pseudo_fresh.2.1.symm.trans hp), List.append_nil,
      exposeIns_getD_expose (hS.toWF.mock_nested hL hdc hS.pseudo_fresh.2.1)]
    exact hpend.transport hmono (fun _ _ => Iff.rfl)

/-! `GenVal.start`, `GenVal.step`, `GenVal.finish` are the three arguments of `LoopP.invariant` in
`tickLevel_gen`.  In `.step` an answer that is a nested tick is dealt with by the induction
hypothesis on the fuel (`IH`, through `AnsP.gen_any`); `.start` settles, by induction on the rank in
the level's wiring, the components outside the extent of the roots, which no step will touch. -/

theorem GenVal.step {S : Static} (hS : S.Valid) {orc : Oracle} {n : Nat} (hst : S.ResolveStable n)
    {σ₀ : SimSt} {t : SimTime} {Root : Comp → Prop} (ctx : TickCtx S σ₀ t Root) {fuel : Nat}
    (IH : GenIH S orc n σ₀ t Root fuel) {D₀ : Comp → Prop} {L : Level} (hL : L ∈ S.levels)
    {roots : List Comp} {st0 : SimSt} {mobs0 : List Obs} {inCh : List (Port × V)}
    (hpre0 : GenPre S orc n σ₀ Root D₀ L.name L roots inCh st0 mobs0)
    {ls : LoopSt} {tr_ : List (Ev V)} {new_ : List Obs} (linv : LoopInv S L t roots st0 ls tr_ new_)
    {trace : List (Ev V)} {new : List Obs}
    (iv : GenVal S orc n σ₀ t Root D₀ L roots st0 mobs0 ls trace new)
    {i : Nat} {d : Dispatch V} (hd : ls.pending[i]? = some d)
    {st' : SimSt} {changes : List (Port × V)} {callAt : Option SimTime}
    (hA : AnsP S orc (fifoRel S orc fuel) L inCh ls.st d (st', changes, callAt))
    {tk' : Ticker V} {ds : List (Dispatch V)}
    (hprop : ls.tk.propagate L.wiring d.comp d.time changes = .ok (tk', ds)) :
    ∃ new1, GenVal S orc n σ₀ t Root D₀ L roots st0 mobs0
      ⟨tk', ls.pending.eraseIdx i ++ ds, (exposeIns L d).getD ls.outCh,
        anyWake st' L.name d.comp callAt⟩
      (trace ++ [Ev.answer d.comp changes] ++ ds.map Ev.dispatch) (new ++ new1) := by
  have hdm : d ∈ ls.pending := List.mem_of_getElem? hd
  have hsub : ∀ d' ∈ ls.pending.eraseIdx i, d' ∈ ls.pending := fun _ => List.mem_of_mem_eraseIdx
  have hopen : alookup ls.tk.toUpdate d.comp ≠ none := by
    rw [(iv.pre.pend_flag _).1 ⟨d, hdm, rfl⟩]; nofun
  have hdc : d.comp ∈ L.wiring.components := linv.pend_comp d hdm
  -- `new_ = new`
  cases List.append_cancel_left (linv.obs_eq.symm.trans iv.obs_eq)
  have hd0' : ∀ x, D₀ x → ¬ S.Below L.name x := hpre0.d0_out
  obtain ⟨hpre', hin', hnod', htk', hro', hnone, hsched⟩ := Ticker.propagate_spec (hS.routerOK hL)
    iv.pre hd linv.time iv.inputs iv.ins_nodup hprop
  have hmono : ∀ y, S.DecG D₀ L ls.tk.toUpdate y → S.DecG D₀ L tk'.toUpdate y :=
    fun y hy => hy.mono (fun c' hc' => (hnone c').2 (Or.inr hc'))
  -- either `L` is the master, or the answer of `external` is the level's `inCh` (`hpre0.in_ok`), moved
  -- from `mobs0` to `mobs0 ++ new_` because its sources are decided outside the level
  -- (`hpre0.in_dec`, `d0_out`) and the level observes only below itself
  have hext_in : S.AnsOKG orc n σ₀ (S.DecG D₀ L ls.tk.toUpdate) L (mobs0 ++ new_) pseudoExternal inCh ∨
      L.name = "" := by
    refine (Classical.em _).symm.imp_left fun _ => ⟨hpre0.in_nodup, fun p b q _ =>
      ⟨fun v => (hpre0.in_ok p v).trans ?_, fun a₀ p₀ hr => Or.inl (hpre0.in_dec p a₀ p₀ hr)⟩⟩
    refine Static.ValG.congr (Dec := D₀) (hpre0.in_dec p) (fun y hy => flt_mem_map_append_iff ?_) v
    intro hm
    obtain ⟨o, ho, rfl⟩ := List.mem_map.1 hm
    obtain ⟨_, _, c', hc', _, hown'⟩ := linv.obs_own o ho
    exact hd0' _ hy (hown'.below hc')
  obtain ⟨⟨newA, hobsA, hownA⟩, hfa⟩ := hA.own hS.toWF hL hdc
  obtain ⟨new1, hobs1, hans1, hdev1, hexp1⟩ := hA.gen_any hS hst ctx IH hL hpre0
    (iv.obs_eq.trans (hpre0.obs_eq ▸ List.append_assoc ..)) hext_in hdc
    (iv.pre.disp_ext d (iv.pre.pend_trace d hdm)).2 hopen hnone
    (fun hpar => iv.open_fresh _ hpar hopen) (iv.pend_ok d hdm)
    (fun he => iv.out_none fun ch => he ▸ iv.pre.not_answered hdm ch)
  cases List.append_cancel_left (hobsA.symm.trans hobs1)
  rw [List.append_assoc] at hans1 hdev1 hexp1
  replace hin' := hin' hans1.1
  -- observations of this answer belong to the addressed component, which was open
  have hnotdec : ∀ y, S.DecG D₀ L ls.tk.toUpdate y → y ∉ newA.map Obs.comp := by
    intro y hy hm
    obtain ⟨o, ho, rfl⟩ := List.mem_map.1 hm
    exact hy.not_own hd0' (hownA o ho).1 hopen (hownA o ho).2
  have hmm : ∀ y, S.DecG D₀ L ls.tk.toUpdate y →
      (y ∈ (mobs0 ++ new_).map Obs.comp ↔ y ∈ (mobs0 ++ (new_ ++ newA)).map Obs.comp) :=
    fun y hy => List.append_assoc .. ▸ flt_mem_map_append_iff (hnotdec y hy)
  have hansA : ∀ a chs, Ev.answer a chs ∈ trace ++ [Ev.answer d.comp changes] →
      S.AnsOKG orc n σ₀ (S.DecG D₀ L tk'.toUpdate) L (mobs0 ++ (new_ ++ newA)) a chs := fun a chs hm =>
    (answer_mem_append_answer.1 hm).elim (fun hm => (iv.ans_ok a chs hm).transport hmono hmm)
      (fun h => h.1 ▸ h.2 ▸ hans1)
  have houtA : ∀ a ∈ L.wiring.components, a ∉ extent L.wiring roots →
      S.AnsOKG orc n σ₀ (S.DecG D₀ L tk'.toUpdate) L (mobs0 ++ (new_ ++ newA)) a [] :=
    fun a ha hae => (iv.out_ok a ha hae).transport hmono hmm
  have hdisj : ∀ c, alookup S.parent c = some L.name → c ≠ d.comp → ∀ x, S.Own c x → ¬ S.Own d.comp x :=
    fun c hc hne x ho => hS.own_disjoint hL hc hdc hne ho
  exact ⟨newA,
    { pre := hpre'
      obs_eq := hobs1.trans (iv.obs_eq ▸ List.append_assoc ..)
      inputs := hin'.congr fun _ _ => answer_mem_append_dispatches.symm
      ins_nodup := hnod'
      ans_ext := fun a chs hm =>
        (answer_mem_append_answer.1 (answer_mem_append_dispatches.1 hm)).elim (iv.ans_ext a chs)
          (fun h => h.1 ▸ iv.pre.keys_ext _ hopen)
      ans_ok := fun a chs hm => hansA a chs (answer_mem_append_dispatches.1 hm)
      out_ok := houtA
      pend_ok := fun d' hd' => (List.mem_append.1 hd').elim
        (fun hd' =>
          have h := iv.pend_ok d' (hsub d' hd')
          ⟨fun ins hi => ⟨((h.1 ins hi).1).transport hmono hmm, (h.1 ins hi).2⟩,
            fun hs => ⟨(h.2 hs).1, ((h.2 hs).2).transport hmono hmm⟩⟩)
        (fun hd' => Static.PendOKG.of_decide (hS.wiring_wf L hL).1 hin' hnod' hansA houtA (hsched d' hd').1
          (hsched d' hd').2 htk' (hro'.trans linv.troots))
      closed_dev := by
        intro c hc hcn x hxd hown
        rcases (hnone c).1 hcn with rfl | hcn'
        · exact (hdev1 hc x hxd hown).transport (fun _ h => h) (fun o ho => ho)
            (fun o ho hno => absurd ho hno) ⟨rfl, rfl⟩
        · have hno := hdisj c hc (fun h' => hopen (h' ▸ hcn')) x hown
          refine (iv.closed_dev c hc hcn' x hxd hown).transport hmono
            (fun o ho => List.append_assoc .. ▸ List.mem_append_left _ ho) ?_
            ⟨hfa.devs x hno, hfa.count x hno⟩
          intro o ho hnm
          have hoA : o ∈ newA := ((List.mem_append.1 (List.append_assoc .. ▸ ho)).resolve_left hnm)
          exact ⟨fun he => hno (he ▸ (hownA o hoA).2),
            fun hdec => hnotdec _ hdec (List.mem_map_of_mem hoA)⟩
      open_fresh := by
        intro c hc hcn
        have hcd : c ≠ d.comp := fun h' => hcn ((hnone c).2 (Or.inl h'))
        obtain ⟨hof, hos⟩ := iv.open_fresh c hc (fun h' => hcn ((hnone c).2 (Or.inr h')))
        refine ⟨fun x hx => ?_, fun s hs => ?_⟩
        · have hno := hdisj c hc hcd x hx
          obtain ⟨f1, f2, f3⟩ := hof x hx
          refine ⟨?_, (hfa.devs x hno).trans f2, (hfa.count x hno).trans f3⟩
          rw [← List.append_assoc, List.map_append, List.mem_append, not_or]
          refine ⟨f1, fun hm => ?_⟩
          obtain ⟨o, ho, rfl⟩ := List.mem_map.1 hm
          exact hno (hownA o ho).2
        · have hsl' : L.name ≠ s := fun h' => hS.own_not_parent hc (h' ▸ hs)
          exact (anyWake_sched_ne _ _ _ hsl').trans
            ((hfa.sched s (hdisj c hc hcd s hs)).trans (hos s hs))
      out_none := fun hno => by
        have hne' : d.comp ≠ pseudoExpose := fun he => hno changes (by rw [← he]; simp)
        exact (exposeIns_getD_of_ne L hne' _).trans (iv.out_none fun ch hm => hno ch (by simp [hm]))
      out_exp := by
        rintro ⟨ch, hm⟩
        by_cases he : d.comp = pseudoExpose
        · exact hexp1 he
        · show S.PendOKG orc n σ₀ (S.DecG D₀ L tk'.toUpdate) L _ pseudoExpose
            ((exposeIns L d).getD ls.outCh)
          rw [exposeIns_getD_of_ne L he]
          refine (iv.out_exp ?_).transport hmono hmm
          rcases answer_mem_append_answer.1 (answer_mem_append_dispatches.1 hm) with hm | h
          · exact ⟨ch, hm⟩
          · exact absurd h.1.symm he }⟩

theorem GenVal.start {S : Static} (hS : S.Valid) {orc : Oracle} {n : Nat} (hst : S.ResolveStable n)
    {σ₀ : SimSt} {t : SimTime} {Root : Comp → Prop} (ctx : TickCtx S σ₀ t Root)
    {D₀ : Comp → Prop} {L : Level} (hL : L ∈ S.levels) {roots : List Comp} {st : SimSt}
    {mobs0 : List Obs} {inCh : List (Port × V)}
    (hpre0 : GenPre S orc n σ₀ Root D₀ L.name L roots inCh st mobs0)
    {tk : Ticker V} {ds : List (Dispatch V)} (hcall : Ticker.call L.wiring t roots = .ok (tk, ds)) :
    GenVal S orc n σ₀ t Root D₀ L roots st mobs0 ⟨tk, ds, [], st⟩ (ds.map Ev.dispatch) [] := by
  have hwf := (hS.wiring_wf L hL).1
  obtain ⟨hP, hinp, htk, hro, hnone, hsched⟩ := Ticker.call_spec (hS.routerOK hL) hcall
  have hin : InputsInv L.wiring tk.inputs [] := hinp ▸ InputsInv.nil L.wiring
  have hnod : ∀ c, (akeys (agetD tk.inputs c [])).Nodup := fun c => by rw [hinp]; exact List.nodup_nil
  obtain ⟨rank, hrank⟩ := hS.edge_rank hL
  have key : ∀ k a, rank a < k → a ∈ L.wiring.components → a ∉ extent L.wiring roots →
      S.AnsOKG orc n σ₀ (S.DecG D₀ L tk.toUpdate) L mobs0 a [] ∧
      (alookup S.parent a = some L.name → ∀ x, S.isDevice x → S.Own a x →
        DevValOK S orc n σ₀ Root (S.DecG D₀ L tk.toUpdate) mobs0 st x) := by
    intro k
    induction k with
    | zero => intro a h; omega
    | succ k ih =>
      intro a hk ha hae
      by_cases hpar : alookup S.parent a = some L.name
      · have hax : a ≠ pseudoExternal := hS.toWF.child_ne_external hpar
        have hnr : ¬ Root a := by
          intro hr
          exact hae (mem_extent_of_mem_roots ((hpre0.hroots a ha hax).2 hr))
        have hskip : S.SkipOKG orc n σ₀ (S.DecG D₀ L tk.toUpdate) L mobs0 a := by
          intro q a2 p2 hconn
          have ha2 := (Wiring.conn_mem_components hwf hconn).1
          have ha2e : a2 ∉ extent L.wiring roots :=
            fun h => hae (extent_closed h ⟨p2, q, hconn⟩)
          have hr := hrank a2 a ⟨p2, q, hconn⟩
          obtain ⟨hok, _⟩ := ih a2 (by omega) ha2 ha2e
          obtain ⟨h1, h2⟩ := hok.2 p2 a q hconn
          exact ⟨fun v hv => by have := (h1 v).2 hv; simp at this, h2⟩
        have hres := unticked_ok hS hst ctx hL (st := st) hpar hnr ((hnone a).2 hae) hskip
          (fun x hx => hpre0.fresh_obs x (hx.below hpar))
          (fun x hx => hpre0.fresh_dev x (hx.below hpar))
        exact ⟨hres.1, fun _ => hres.2⟩
      · refine ⟨?_, fun h => absurd h hpar⟩
        rcases hS.members L hL a ha with h' | ⟨hnn, h' | h'⟩
        · exact absurd h' hpar
        · exact absurd (mem_extent_of_mem_roots (h' ▸ hpre0.ext_root hnn)) hae
        · refine ⟨by simp, fun p b q hconn => ?_⟩
          exact absurd h' (hS.pseudo_dir L hL _ _ _ _ hconn).2
  have hout : ∀ a ∈ L.wiring.components, a ∉ extent L.wiring roots →
      S.AnsOKG orc n σ₀ (S.DecG D₀ L tk.toUpdate) L mobs0 a [] :=
    fun a ha hae => (key (rank a + 1) a (Nat.lt_succ_self _) ha hae).1
  exact
    { pre := hP
      obs_eq := (List.append_nil _).symm
      inputs := hin.congr fun _ _ => (answer_mem_append_dispatches (tr := [])).symm
      ins_nodup := hnod
      ans_ext := by simp
      ans_ok := by simp
      out_ok := by rw [List.append_nil]; exact hout
      pend_ok := fun d hd => by
        rw [List.append_nil]
        exact Static.PendOKG.of_decide (trace := []) hwf hin hnod nofun hout (hsched d hd).1
          (fun a p q hc hae => absurd hae ((hsched d hd).2 a p q hc)) htk hro
      closed_dev := by
        intro c hc hcn x hxd hown
        have hce : c ∉ extent L.wiring roots := (hnone c).1 hcn
        obtain ⟨Lc, hLc, hcm, _⟩ := hS.parent_level c L.name hc
        rw [hS.level_of_mem hL] at hLc; cases hLc
        rw [List.append_nil]
        exact (key (rank c + 1) c (Nat.lt_succ_self _) hcm hce).2 hc x hxd hown
      open_fresh := by
        intro c hc _
        refine ⟨fun x hx => ?_, fun s hs => hpre0.fresh_sched s (hs.below hc)⟩
        have hb := hx.below hc
        exact ⟨by rw [List.append_nil]; exact hpre0.fresh_obs x hb, hpre0.fresh_dev x hb⟩
      out_none := fun _ => rfl
      out_exp := by simp }

theorem GenVal.finish {S : Static} (hS : S.Valid) {orc : Oracle} {n : Nat} {σ₀ : SimSt} {t : SimTime}
    {Root : Comp → Prop} {D₀ : Comp → Prop} {L : Level} (hL : L ∈ S.levels) {roots : List Comp}
    {st0 : SimSt} {mobs0 : List Obs} {ls : LoopSt} {trace : List (Ev V)} {new : List Obs}
    (iv : GenVal S orc n σ₀ t Root D₀ L roots st0 mobs0 ls trace new) (htu : ls.tk.toUpdate = []) :
    GenPost S orc n σ₀ Root D₀ L.name L st0 ls.st ls.outCh mobs0 := by
  have hwf := (hS.wiring_wf L hL).1
  refine ⟨new, iv.obs_eq, ?_, ?_⟩
  · intro x hxd hb
    obtain ⟨c, hc, hown⟩ := hb.top
    exact (iv.closed_dev c hc (by rw [htu]; rfl) x hxd hown).transport
      (fun y hy => hy.final) (fun o ho => ho) (fun o ho hno => absurd ho hno) ⟨rfl, rfl⟩
  · by_cases hex : ∃ ch, Ev.answer pseudoExpose ch ∈ trace
    · exact (iv.out_exp hex).transport (fun y hy => hy.final) (fun _ _ => Iff.rfl)
    · rw [iv.out_none (fun ch hm => hex ⟨ch, hm⟩)]
      -- `expose` was not part of the tick, so neither were the sources of its inputs
      have hsrc : ∀ a p q, L.wiring.Conn a p pseudoExpose q →
          S.AnsOKG orc n σ₀ (S.DecG D₀ L ls.tk.toUpdate) L (mobs0 ++ new) a [] := by
        intro a p q hconn
        obtain ⟨hac, hec⟩ := Wiring.conn_mem_components hwf hconn
        refine iv.out_ok a hac (fun hae => ?_)
        have hee := extent_closed hae ⟨p, q, hconn⟩
        exact hex ((iv.pre.resolved _ hee).1 (by rw [htu]; rfl))
      refine ⟨by simp, fun q v => ?_, fun q a p hconn => ?_⟩
      · constructor
        · intro h; simp at h
        · rintro ⟨a, p, hconn, hv⟩
          have := (((hsrc a p q hconn).2 p _ _ hconn).1 v).2 hv
          simp at this
      · exact (((hsrc a p q hconn).2 p _ _ hconn).2).mono (fun y hy => hy.final)

theorem tickLevel_gen {S : Static} (hS : S.Valid) (orc : Oracle) {n : Nat} (hst : S.ResolveStable n)
    {σ₀ : SimSt} {t : SimTime} {Root : Comp → Prop} (ctx : TickCtx S σ₀ t Root) :
    ∀ fuel, GenIH S orc n σ₀ t Root fuel := by
  intro fuel
  induction fuel with
  | zero =>
    intro D₀ lvl L roots inCh st st' out mobs h
    obtain ⟨_, _, _, _, hf, _⟩ := tickLevel_eq_ok h
    cases hf
  | succ fuel IH =>
    intro D₀ lvl L roots inCh st st' out mobs h hLv hpre0
    obtain ⟨_, hf, L', tk, ds, hLv', hcall, hloop⟩ := tickLevel_levelP h
    cases hf
    cases hLv.symm.trans hLv'
    obtain ⟨hL, rfl⟩ := Static.level_some hLv
    obtain ⟨ls', ⟨_, _, trace, new, _, iv⟩, -, he, hr⟩ := hloop.invariant
      (I := fun ls => ∃ tr_ new_ trace new, LoopInv S L t roots st ls tr_ new_ ∧
        GenVal S orc n σ₀ t Root D₀ L roots st mobs ls trace new)
      (fun ⟨tr_, new_, trace, new, linv, iv⟩ hd ha hprop => by
        obtain ⟨tr_', new_', linv'⟩ := linv.step hS.toWF (fun _ _ _ _ _ _ h =>
          (levelPost_hereditary hS.toWF orc).tickLevel fuel _ _ _ _ _ _ h) hL hd ha hprop
        obtain ⟨new1, iv'⟩ := iv.step hS hst ctx IH hL hpre0 linv hd ha hprop
        exact ⟨_, _, _, _, linv', iv'⟩)
      ⟨_, _, _, _, LoopInv.start hcall st, GenVal.start hS hst ctx hL hpre0 hcall⟩
    cases hr
    exact iv.finish hS hL he

end Tickit
