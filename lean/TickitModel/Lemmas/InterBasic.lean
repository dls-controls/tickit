/-
Interleaved nested tick (`Core/SimInter.lean`): basic facts about runs, and the ATOMIC
executions are interleaved executions: a `TickLevelAny` execution is the interleaving in which an
inner level, once opened, takes all its steps before anything else happens.
-/
import TickitModel.Core.SimInter
import TickitModel.Lemmas.OneLevel
import TickitModel.Lemmas.SimLemmas

namespace Tickit

variable {S : Static} {orc : Oracle}

theorem ITree.fr_node (fr : IFrame) (kids : List ITree) : (ITree.node fr kids).fr = fr := rfl

theorem ITree.name_node (fr : IFrame) (kids : List ITree) : (ITree.node fr kids).name = fr.L.name :=
  rfl

theorem IRun.single {a b : SimSt × ITree} (h : IStep S orc a b) : IRun S orc a b := .step h .refl

theorem IRun.trans {a b c : SimSt × ITree} (h1 : IRun S orc a b) (h2 : IRun S orc b c) :
    IRun S orc a c := by
  induction h1 with
  | refl => exact h2
  | step h _ ih => exact .step h (ih h2)

theorem IStep.root_same {a b : SimSt × ITree} (h : IStep S orc a b) :
    b.2.fr.L = a.2.fr.L ∧ b.2.fr.t = a.2.fr.t ∧ b.2.fr.inCh = a.2.fr.inCh := by
  cases h <;> exact ⟨rfl, rfl, rfl⟩

theorem IRun.root_same {a b : SimSt × ITree} (h : IRun S orc a b) :
    b.2.fr.L = a.2.fr.L ∧ b.2.fr.t = a.2.fr.t ∧ b.2.fr.inCh = a.2.fr.inCh := by
  induction h with
  | refl => exact ⟨rfl, rfl, rfl⟩
  | step h _ ih =>
    obtain ⟨h1, h2, h3⟩ := h.root_same
    exact ⟨ih.1.trans h1, ih.2.1.trans h2, ih.2.2.trans h3⟩

theorem IRun.lift {a b : SimSt × ITree} (h : IRun S orc a b) :
    ∀ (fr : IFrame) (kids : List ITree) (j : Nat), kids[j]? = some a.2 →
      IRun S orc (a.1, .node fr kids) (b.1, .node fr (kids.set j b.2)) := by
  induction h with
  | @refl a =>
    intro fr kids j hj
    have : kids.set j a.2 = kids := by
      obtain ⟨hlt, e⟩ := List.getElem?_eq_some_iff.1 hj
      rw [← e]
      exact List.set_getElem_self hlt
    rw [this]
    exact .refl
  | @step a b c hs _ ih =>
    intro fr kids j hj
    have h1 : IStep S orc (a.1, .node fr kids) (b.1, .node fr (kids.set j b.2)) :=
      .inner (k := a.2) (k' := b.2) hj hs
    have hj' : (kids.set j b.2)[j]? = some b.2 :=
      List.getElem?_set_self (List.getElem?_eq_some_iff.1 hj).1
    have := ih fr (kids.set j b.2) j hj'
    rw [List.set_set] at this
    exact .step h1 this

theorem AnsP.now_or_sys {inner : LevelRel} {L : Level} {inCh : List (Port × V)} {st : SimSt}
    {d : Dispatch V} {st' : SimSt} {ch : List (Port × V)} {ca : Option SimTime}
    (a : AnsP S orc inner L inCh st d (st', ch, ca)) (o : List (Port × V)) :
    AnswerNow S orc L inCh st o d (st', (exposeIns L d).getD o, ch, ca) ∨
      ∃ c t ins, d = .input c t ins ∧ (L.name != "" && c == pseudoExternal) = false ∧
        (L.name != "" && c == pseudoExpose) = false ∧ S.isSys c = true ∧
        inner c t (sysRoots S st c t) ins (sysPre st c t) (st', ch) ∧ ca = sysCallAt st' c t ∧
        (exposeIns L d).getD o = o := by
  cases a with
  | skip => exact .inl .skip
  | external h1 => exact .inl (by simpa [exposeIns, h1] using AnswerNow.external (outCh0 := o) h1)
  | expose h1 h2 => exact .inl (by simpa [exposeIns, h1, h2] using AnswerNow.expose (outCh0 := o) h1 h2)
  | sys h1 h2 h3 h4 => exact .inr ⟨_, _, _, rfl, h1, h2, h3, h4, rfl, by simp [exposeIns, h1, h2]⟩
  | dev h1 h2 h3 h4 h5 =>
    exact .inl (by simpa [exposeIns, h1, h2] using AnswerNow.dev (outCh0 := o) h1 h2 h3 h4 h5)

theorem AnswerNow.ansP {inner : LevelRel} {L : Level} {inCh : List (Port × V)} {st : SimSt}
    {o : List (Port × V)} {d : Dispatch V} {st' : SimSt} {o' ch : List (Port × V)}
    {ca : Option SimTime} (a : AnswerNow S orc L inCh st o d (st', o', ch, ca)) :
    AnsP S orc inner L inCh st d (st', ch, ca) ∧ o' = (exposeIns L d).getD o := by
  cases a with
  | skip => exact ⟨.skip, rfl⟩
  | external h1 => exact ⟨.external h1, by simp [exposeIns, h1]⟩
  | expose h1 h2 => exact ⟨.expose h1 h2, by simp [exposeIns, h1, h2]⟩
  | dev h1 h2 h3 h4 h5 => exact ⟨.dev h1 h2 h3 h4 h5, by simp [exposeIns, h1, h2]⟩

theorem AnswerNow.answerAny {L : Level} {inCh : List (Port × V)} {st : SimSt} {o : List (Port × V)}
    {d : Dispatch V} {r : SimSt × List (Port × V) × List (Port × V) × Option SimTime}
    (a : AnswerNow S orc L inCh st o d r) : AnswerAny S orc L inCh st o d r :=
  answerAny_iff.2 a.ansP

theorem TickInter.inv {lvl : Comp} {t : SimTime} {roots : List Comp} {inCh : List (Port × V)}
    {st : SimSt} {r : SimSt × List (Port × V)} (h : TickInter S orc lvl t roots inCh st r) :
    ∃ (L : Level) (tk : Ticker V) (ds : List (Dispatch V)) (fr : IFrame), S.level lvl = some L ∧
      (Ticker.call L.wiring t roots : Except TickErr (Ticker V × List (Dispatch V))) = .ok (tk, ds) ∧
      IRun S orc (st, .node ⟨L, t, inCh, tk, ds, []⟩ []) (r.1, .node fr []) ∧
      fr.pending = [] ∧ fr.tk.toUpdate.isEmpty = true ∧ r.2 = fr.outCh := by
  cases h with
  | mk h1 h2 h3 h4 h5 => exact ⟨_, _, _, _, h1, h2, h3, h4, h5, rfl⟩

/-- Only the `TickInter` half of the inner relation is used; the conjunction is the shape in which
`TickLevelAny.strong_induct` hands over the loop.  `t` is the time stored in the level's frame; only
the `close` of an enclosing level reads it, so here it is arbitrary. -/
theorem LoopP.interRun {L : Level} {inCh : List (Port × V)} {ls : LoopSt}
    {r : SimSt × List (Port × V)}
    (a : LoopP S orc (fun c t ro i s r => TickLevelAny S orc c t ro i s r ∧ TickInter S orc c t ro i s r)
      L inCh ls r) (t : SimTime) :
    ∃ fr' : IFrame, IRun S orc (ls.st, .node ⟨L, t, inCh, ls.tk, ls.pending, ls.outCh⟩ [])
      (r.1, .node fr' []) ∧ fr'.pending = [] ∧ fr'.tk.toUpdate.isEmpty = true ∧ fr'.outCh = r.2 := by
  induction a with
  | @done ls h1 h2 => exact ⟨_, .refl, h1, h2, rfl⟩
  | @step ls i d st' changes callAt tk' ds r h1 ha h3 _ ih =>
    obtain ⟨fr', hrun, hp, hu, ho⟩ := ih
    refine ⟨fr', ?_, hp, hu, ho⟩
    rcases ha.now_or_sys ls.outCh with hnow | ⟨c, t', ins, rfl, e1, e2, e3, ⟨_, hI⟩, rfl, hout⟩
    · exact .step (.answer (fr := ⟨L, t, inCh, ls.tk, ls.pending, ls.outCh⟩) h1 hnow h3) hrun
    · -- a system component: `opn`, the inner run lifted into the frame, `close`
      obtain ⟨Lc, tk, ds', g, hLv, hcall, hirun, hgp, hgu, hgo⟩ := hI.inv
      simp only at hirun hgo -- reduces the projections of the result pair
      subst hgo
      obtain ⟨gL, gt, gi⟩ := hirun.root_same
      simp only [ITree.fr_node] at gL gt gi
      have hgn : g.L.name = c := by rw [gL]; exact (Static.level_some hLv).2
      have s1 : IStep S orc (ls.st, .node ⟨L, t, inCh, ls.tk, ls.pending, ls.outCh⟩ [])
          (sysPre ls.st c t', .node ⟨L, t, inCh, ls.tk, ls.pending, ls.outCh⟩
            ([] ++ [.node ⟨Lc, t', ins, tk, ds', []⟩ []])) :=
        .opn (i := i) h1 e1 e2 e3 (fun _ hk => nomatch hk) hLv hcall
      have s2 := hirun.lift ⟨L, t, inCh, ls.tk, ls.pending, ls.outCh⟩
        [.node ⟨Lc, t', ins, tk, ds', []⟩ []] 0 rfl
      simp only [List.set_cons_zero] at s2
      have s3 : IStep S orc (st', .node ⟨L, t, inCh, ls.tk, ls.pending, ls.outCh⟩ [.node g []])
          (anyWake st' L.name g.L.name (sysCallAt st' g.L.name g.t),
            .node { (⟨L, t, inCh, ls.tk, ls.pending, ls.outCh⟩ : IFrame) with
              tk := tk', pending := ls.pending.eraseIdx i ++ ds } ([.node g []].eraseIdx 0)) := by
        refine .close (j := 0) (i := i) rfl hgp hgu ?_ ?_
        · show ls.pending[i]? = _
          rw [h1, hgn, gt, gi]
        · show ls.tk.propagate L.wiring g.L.name g.t g.outCh = _
          rw [hgn, gt]
          exact h3
      rw [hgn, gt] at s3
      rw [hout] at hrun
      exact (IRun.step s1 (s2.trans (.single s3))).trans hrun

theorem tickLevelAny_inter {lvl : Comp} {t : SimTime} {roots : List Comp} {inCh : List (Port × V)}
    {st : SimSt} {r : SimSt × List (Port × V)} (h : TickLevelAny S orc lvl t roots inCh st r) :
    TickInter S orc lvl t roots inCh st r := by
  refine TickLevelAny.strong_induct (Q := TickInter S orc) ?_ h
  rintro lvl t roots inCh st r ⟨L, tk, ds, hL, hcall, hl⟩
  obtain ⟨fr', hrun, hp, hu, ho⟩ := hl.interRun t
  have : r = (r.1, fr'.outCh) := by rw [ho]
  rw [this]
  exact .mk hL hcall hrun hp hu

end Tickit
