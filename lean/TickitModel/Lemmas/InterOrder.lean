/-
Interleaved nested tick: C01 through nesting, the ORDER of updates, fully concurrent
(`tickInter_ordered`).

In an interleaved execution the global observation list is written in real-time order by all active
levels.  That whatever feeds an updated device (`S.Feeds`) was updated BEFORE it is proved directly
on the small-step semantics.  `ILive T x`: in configuration tree `T`, `x` MAY still be updated in
this tick — it belongs to a component of an active level that the level's ticker still has in
`to_update` and whose inner tick (if any) is not open, or it is live in an open inner level.  A
device is updated only while it is live, and no step creates liveness (`to_update` only shrinks; an
inner level is opened only for a live component).  When a device `y` is updated, no `x` that feeds
`y` is live any more (`no_live_feeder`): at the level where the places of `x` and `y` in the nesting
tree separate, the component that holds `y` has been dispatched, so the component that holds `x` is
no longer in `to_update` (C01 of that level's ticker, field `gate` of `PreInv`, along the path of
wires: `PreInv.path_none` of `Lemmas/AnyOrder.lean`) — whereas a live `x` needs it there.  The
`PreInv` of an active level is that of its virtual atomic loop (`IVirt`).
-/
import TickitModel.Lemmas.ListLemmas
import TickitModel.Lemmas.AnyOrder
import TickitModel.Lemmas.InterSim

namespace Tickit

variable {S : Static} {orc : Oracle}

/-- Nothing to do with `LiveQ`, `LiveAns`, `AnsP.live` of `Lemmas/AnyLive.lean`, where "live" means
that the FIFO model completes the tick. -/
inductive ILive (S : Static) : ITree → Comp → Prop
  | here {fr : IFrame} {kids : List ITree} {c x : Comp} :
      alookup S.parent c = some fr.L.name → S.Own c x → alookup fr.tk.toUpdate c ≠ none →
      (∀ k ∈ kids, k.name ≠ c) → ILive S (.node fr kids) x
  | inner {fr : IFrame} {kids : List ITree} {k : ITree} {x : Comp} :
      k ∈ kids → ILive S k x → ILive S (.node fr kids) x

/-- the `Input` of every open inner level is still pending at the outer level -/
inductive IKids : ITree → Prop
  | mk {fr : IFrame} {kids : List ITree} :
      (∀ k ∈ kids, Dispatch.input k.name k.fr.t k.fr.inCh ∈ fr.pending) →
      (∀ k ∈ kids, IKids k) → IKids (.node fr kids)

theorem ILive.below_level (hS : S.Valid) {T : ITree} {x : Comp} (h : ILive S T x) :
    ∀ {st : SimSt} {roots : List Comp} {σ0 σ : SimSt}, IVirt S orc st T roots σ0 σ →
      S.Below T.name x := by
  induction h with
  | here hpar hown _ _ => intro st roots σ0 σ _; exact hown.below hpar
  | @inner fr kids k x hk _ ih =>
    intro st roots σ0 σ hv
    cases hv with
    | mk kr kv hL hcall hreach hown hinj hkid hrec =>
      obtain ⟨k1, k2, _⟩ := hkid k hk
      exact (ih (hrec k hk)).lift k2 (hS.sys_ne_master k1)

/-- The flag of `cj` (dispatched, not answered) says nothing about feeders of `y` inside `cj` itself:
`hsub` assumes the claim for the open inner level of `cj`, if there is one, and `hnot` that `cj` holds
no such feeder, if there is none.  For a device's own update `hnot` is irreflexivity of `Feeds`; for
an observation inside an open inner level its premise is false. -/
theorem no_live_feeder (hS : S.Valid) {st : SimSt} {fr : IFrame} {kids : List ITree}
    {roots : List Comp} {σ0 σ : SimSt} (hv : IVirt S orc st (.node fr kids) roots σ0 σ)
    (hk : IKids (.node fr kids)) {cj y : Comp} (hcj : Foot S fr.L cj y)
    (hflag : alookup fr.tk.toUpdate cj = some true)
    (hsub : ∀ k ∈ kids, k.name = cj → ∀ x, S.Feeds x y → ¬ ILive S k x)
    (hnot : (∀ k ∈ kids, k.name ≠ cj) → ∀ x, S.Own cj x → S.Feeds x y → False)
    {x : Comp} (hf : S.Feeds x y) : ¬ ILive S (.node fr kids) x := by
  obtain ⟨hL, _, _, hkid, hrec, tr, hp⟩ := hv.facts
  have hw := hS.routerOK hL
  have hwf := (hS.wiring_wf _ hL).1
  have hud := hS.ups_defined _ hL
  cases hk with
  | mk hkp _ =>
    intro hl
    cases hl with
    | @here _ _ c' _ hpar' hown' htu' hnk' =>
      by_cases hcc : c' = cj
      · subst hcc
        exact hnot hnk' x hown' hf
      · have hpath := feeds_sep hS hL ⟨hpar', hown'⟩ hcj hcc hf
        exact htu' (hp.path_none hw hwf hud hpath hflag)
    | @inner _ _ k _ hk' hlk =>
      by_cases hkc : k.name = cj
      · exact hsub k hk' hkc x hf hlk
      · obtain ⟨rk, s0, s1, hvk⟩ := hrec k hk'
        have hb : S.Below k.name x := hlk.below_level hS hvk
        have hfoot : Foot S fr.L k.name x := AtOrBelow.foot hS (hkid k hk').2 (Or.inr hb)
        have hpath := feeds_sep hS hL hfoot hcj hkc hf
        have hnone := hp.path_none hw hwf hud hpath hflag
        have hfl : alookup fr.tk.toUpdate k.name = some true :=
          (hp.pend_flag k.name).1 ⟨_, hkp k hk', rfl⟩
        rw [hfl] at hnone
        cases hnone

structure StepOrd (S : Static) (a b : SimSt × ITree) : Prop where
  kids : IKids b.2
  mono : ∀ x, ILive S b.2 x → ILive S a.2 x
  obs : b.1.obs = a.1.obs ∨ ∃ o, b.1.obs = a.1.obs ++ [o] ∧ ILive S a.2 o.comp ∧
    ∀ x, S.Feeds x o.comp → ¬ ILive S a.2 x

/-- only a device's answer makes an observation; the device was flagged, hence live, and
`no_live_feeder` applies at this level -/
theorem StepOrd.answer_step (hS : S.Valid) {st : SimSt} {fr : IFrame} {kids : List ITree}
    {roots : List Comp} {σ0 σ : SimSt} (hv : IVirt S orc st (.node fr kids) roots σ0 σ)
    (hk : IKids (.node fr kids)) {i : Nat} {d : Dispatch V} {st' : SimSt}
    {outCh' changes : List (Port × V)} {callAt : Option SimTime} {tk' : Ticker V}
    {ds : List (Dispatch V)} (h1 : fr.pending[i]? = some d)
    (hans : AnswerNow S orc fr.L fr.inCh st fr.outCh d (st', outCh', changes, callAt))
    (h3 : fr.tk.propagate fr.L.wiring d.comp d.time changes = .ok (tk', ds)) :
    StepOrd S (st, .node fr kids) (anyWake st' fr.L.name d.comp callAt,
      .node { fr with tk := tk', pending := fr.pending.eraseIdx i ++ ds, outCh := outCh' } kids) := by
  obtain ⟨hL, hpc, _, hkid, _, tr, hp⟩ := hv.facts
  have hres := Ticker.propagate_resolved hp.nodup h3
  have hdm : d ∈ fr.pending := List.mem_of_getElem? h1
  have hk0 := hk
  cases hk with
  | mk hkp hkr =>
    refine ⟨.mk ?_ hkr, ?_, ?_⟩
    · -- the dispatches of the open inner levels are not the one answered now
      intro k hk'
      obtain ⟨k1, _⟩ := hkid k hk'
      obtain ⟨p1, p2⟩ := sys_not_pseudo hS k1 fr.L.name
      rcases mem_eraseIdx_or_eq (hkp k hk') h1 with heq | hmem
      · exfalso
        subst heq
        cases hans with
        | external e1 => rw [p1] at e1; cases e1
        | expose _ e2 => rw [p2] at e2; cases e2
        | dev _ _ e3 _ _ => rw [k1] at e3; cases e3
      · exact List.mem_append_left _ hmem
    · intro x hl
      cases hl with
      | here hpar hown htu hnk => exact .here hpar hown (fun h => htu ((hres _).2 (Or.inr h))) hnk
      | inner hk' hl' => exact .inner hk' hl'
    · cases hans with
      | skip => exact Or.inl rfl
      | external _ => exact Or.inl rfl
      | expose _ _ => exact Or.inl rfl
      | @dev c t ins resp e1 e2 e3 e4 e5 =>
        have hdc : c ∈ fr.L.wiring.components := hpc _ hdm
        have hpar := hS.toWF.parent_of_member hL hdc e1 e2
        have hflag : alookup fr.tk.toUpdate c = some true := (hp.pend_flag c).1 ⟨_, hdm, rfl⟩
        have hnk : ∀ k ∈ kids, k.name ≠ c := by
          intro k hk' hn
          have := (hkid k hk').1
          rw [hn, e3] at this
          cases this
        refine Or.inr ⟨⟨c, t, (agetD st.devs c {}).merge ins⟩, rfl, ?_, ?_⟩
        · exact .here hpar (Static.Own.refl S c) (by rw [hflag]; simp) hnk
        · intro x hf
          refine no_live_feeder hS hv hk0 (cj := c) (y := c) ⟨hpar, Or.inl rfl⟩ hflag ?_ ?_ hf
          · intro k hk' hn
            exact absurd hn (hnk k hk')
          · intro _ x' hown' hf'
            have hx : x' = c := hS.toWF.own_of_not_sys e3 hown'
            subst hx
            exact hS.feeds_irrefl hf'

/-- the new inner level is live only where its component was -/
theorem StepOrd.open_step (hS : S.Valid) {st : SimSt} {fr : IFrame} {kids : List ITree}
    {roots : List Comp} {σ0 σ : SimSt} (hv : IVirt S orc st (.node fr kids) roots σ0 σ)
    (hk : IKids (.node fr kids)) {i : Nat} {c : Comp} {t : SimTime} {ins : List (Port × V)}
    {Lc : Level} {tk : Ticker V} {ds : List (Dispatch V)}
    (h1 : fr.pending[i]? = some (.input c t ins))
    (e1 : (fr.L.name != "" && c == pseudoExternal) = false)
    (e2 : (fr.L.name != "" && c == pseudoExpose) = false) (e3 : S.isSys c = true)
    (hfresh : ∀ k ∈ kids, k.name ≠ c) (hLv : S.level c = some Lc) :
    StepOrd S (st, .node fr kids)
      (sysPre st c t, .node fr (kids ++ [.node ⟨Lc, t, ins, tk, ds, []⟩ []])) := by
  obtain ⟨hL, hpc, _, _, _, tr, hp⟩ := hv.facts
  obtain ⟨_, hname⟩ := Static.level_some hLv
  subst hname
  have hdm : Dispatch.input Lc.name t ins ∈ fr.pending := List.mem_of_getElem? h1
  have hdc : Lc.name ∈ fr.L.wiring.components := hpc _ hdm
  have hpar := hS.toWF.parent_of_member hL hdc e1 e2
  have hflag : alookup fr.tk.toUpdate Lc.name = some true := (hp.pend_flag _).1 ⟨_, hdm, rfl⟩
  cases hk with
  | mk hkp hkr =>
    refine ⟨.mk ?_ ?_, ?_, Or.inl rfl⟩
    · intro k hk'
      rcases List.mem_append.1 hk' with h | h
      · exact hkp k h
      · simp only [List.mem_singleton] at h
        subst h
        exact hdm
    · intro k hk'
      rcases List.mem_append.1 hk' with h | h
      · exact hkr k h
      · simp only [List.mem_singleton] at h
        subst h
        exact .mk (fun _ hk => nomatch hk) (fun _ hk => nomatch hk)
    · intro x hl
      cases hl with
      | here hpar' hown' htu' hnk' =>
        exact .here hpar' hown' htu' (fun k hk' => hnk' k (List.mem_append_left _ hk'))
      | @inner _ _ k _ hk' hl' =>
        rcases List.mem_append.1 hk' with h | h
        · exact .inner h hl'
        · simp only [List.mem_singleton] at h
          subst h
          have hb : S.Below Lc.name x := by
            cases hl' with
            | here hp' ho' _ _ => exact ho'.below hp'
            | inner hk'' _ => simp at hk''
          exact .here hpar (AtOrBelow.foot hS hpar (Or.inr hb)).2 (by rw [hflag]; simp) hfresh

/-- the component of the closing level leaves `to_update`, so nothing becomes live although its inner
level no longer shields it -/
theorem StepOrd.close_step {st : SimSt} {fr : IFrame} {kids : List ITree}
    {roots : List Comp} {σ0 σ : SimSt} (hv : IVirt S orc st (.node fr kids) roots σ0 σ)
    (hk : IKids (.node fr kids)) {j : Nat} {g : IFrame} {i : Nat} {tk' : Ticker V}
    {ds : List (Dispatch V)} (hj : kids[j]? = some (.node g []))
    (h1 : fr.pending[i]? = some (.input g.L.name g.t g.inCh))
    (h3 : fr.tk.propagate fr.L.wiring g.L.name g.t g.outCh = .ok (tk', ds)) :
    StepOrd S (st, .node fr kids)
      (anyWake st fr.L.name g.L.name (sysCallAt st g.L.name g.t),
        .node { fr with tk := tk', pending := fr.pending.eraseIdx i ++ ds } (kids.eraseIdx j)) := by
  obtain ⟨_, _, hinj, _, _, tr, hp⟩ := hv.facts
  have hres := Ticker.propagate_resolved hp.nodup h3
  have hmem : ∀ k, k ∈ kids.eraseIdx j ↔ k ∈ kids ∧ k.name ≠ g.L.name :=
    fun _ => mem_eraseIdx_iff_of_nodup_map hinj hj
  cases hk with
  | mk hkp hkr =>
    refine ⟨.mk ?_ (fun k hk' => hkr k ((hmem k).1 hk').1), ?_, Or.inl rfl⟩
    · intro k hk'
      obtain ⟨hkm, hne⟩ := (hmem k).1 hk'
      rcases mem_eraseIdx_or_eq (hkp k hkm) h1 with heq | hm
      · exact absurd (congrArg Dispatch.comp heq) hne
      · exact List.mem_append_left _ hm
    · intro x hl
      cases hl with
      | @here _ _ c' _ hpar' hown' htu' hnk' =>
        refine .here hpar' hown' (fun h => htu' ((hres _).2 (Or.inr h))) ?_
        intro k hk' hn
        by_cases hg : k.name = g.L.name
        · -- the closing level's component has left `to_update`
          rw [← hn, hg] at htu'
          exact htu' ((hres _).2 (Or.inl rfl))
        · exact hnk' k ((hmem k).2 ⟨hk', hg⟩) hn
      | inner hk' hl' => exact .inner ((hmem _).1 hk').1 hl'

/-- if the inner step updates a device, nothing that feeds it is live in the inner level (`ih`), nor
outside it (`no_live_feeder` at this level) -/
theorem StepOrd.inner_step (hS : S.Valid) {st st' : SimSt} {fr : IFrame} {kids : List ITree}
    {roots : List Comp} {σ0 σ : SimSt} (hv : IVirt S orc st (.node fr kids) roots σ0 σ)
    (hk : IKids (.node fr kids)) {j : Nat} {k k' : ITree} (hj : kids[j]? = some k)
    (hsame : k'.fr.L = k.fr.L ∧ k'.fr.t = k.fr.t ∧ k'.fr.inCh = k.fr.inCh)
    (ih : ∀ rk s0 s1, IVirt S orc st k rk s0 s1 → IKids k → StepOrd S (st, k) (st', k')) :
    StepOrd S (st, .node fr kids) (st', .node fr (kids.set j k')) := by
  obtain ⟨hL, _, hinj, hkid, hrec, tr, hp⟩ := hv.facts
  have hkm : k ∈ kids := List.mem_of_getElem? hj
  have k2 := (hkid k hkm).2
  obtain ⟨rk, s0, s1, hvk⟩ := hrec k hkm
  have hname : k'.name = k.name := congrArg Level.name hsame.1
  have hk0 := hk
  cases hk with
  | mk hkp hkr =>
    obtain ⟨ik, im, io⟩ := ih _ _ _ hvk (hkr k hkm)
    simp only at ik im io -- reduces the projections of the two configurations
    have hmem : ∀ k0, k0 ∈ kids.set j k' ↔ k0 = k' ∨ (k0 ∈ kids ∧ k0.name ≠ k.name) :=
      fun _ => mem_set_iff_of_nodup_map hinj hj
    have hflag : alookup fr.tk.toUpdate k.name = some true :=
      (hp.pend_flag k.name).1 ⟨_, hkp k hkm, rfl⟩
    refine ⟨.mk ?_ ?_, ?_, ?_⟩
    · intro k0 hk0'
      rcases (hmem k0).1 hk0' with rfl | h
      · rw [hname, hsame.2.1, hsame.2.2]
        exact hkp k hkm
      · exact hkp k0 h.1
    · intro k0 hk0'
      rcases (hmem k0).1 hk0' with rfl | h
      · exact ik
      · exact hkr k0 h.1
    · intro x hl
      cases hl with
      | @here _ _ c' _ hpar' hown' htu' hnk' =>
        refine .here hpar' hown' htu' ?_
        intro k0 hk0' hn
        by_cases hk : k0.name = k.name
        · exact hnk' k' ((hmem k').2 (Or.inl rfl)) (hname.trans (hk ▸ hn))
        · exact hnk' k0 ((hmem k0).2 (Or.inr ⟨hk0', hk⟩)) hn
      | @inner _ _ k0 _ hk0' hl' =>
        rcases (hmem k0).1 hk0' with rfl | h
        · exact .inner hkm (im x hl')
        · exact .inner h.1 hl'
    · rcases io with h | ⟨o, ho, hlo, hfo⟩
      · exact Or.inl h
      · refine Or.inr ⟨o, ho, .inner hkm hlo, ?_⟩
        intro x hf
        have hb : S.Below k.name o.comp := hlo.below_level hS hvk
        have hfoot : Foot S fr.L k.name o.comp := AtOrBelow.foot hS k2 (Or.inr hb)
        refine no_live_feeder hS hv hk0 hfoot hflag ?_ ?_ hf
        · intro k0 hk0' hn x' hf' hl'
          rcases mem_eraseIdx_or_eq hk0' hj with rfl | e
          · exact hfo x' hf' hl'
          · exact absurd hn ((mem_eraseIdx_iff_of_nodup_map hinj hj).1 e).2
        · intro hno
          exact absurd rfl (hno k hkm)

theorem IStep.ord (hS : S.Valid) {a b : SimSt × ITree} (h : IStep S orc a b) :
    ∀ (roots : List Comp) (σ0 σ : SimSt), IVirt S orc a.1 a.2 roots σ0 σ → IKids a.2 →
      StepOrd S a b := by
  induction h with
  | answer h1 h2 h3 => intro roots σ0 σ hv hk; exact .answer_step hS hv hk h1 h2 h3
  | opn h1 e1 e2 e3 hf hLv _ => intro roots σ0 σ hv hk; exact .open_step hS hv hk h1 e1 e2 e3 hf hLv
  | close hj _ _ h1 h3 => intro roots σ0 σ hv hk; exact .close_step hv hk hj h1 h3
  | inner hj hs ih => intro roots σ0 σ hv hk; exact .inner_step hS hv hk hj hs.root_same ih

structure RunOrd (S : Static) (base : List Obs) (c : SimSt × ITree) (new : List Obs) : Prop where
  obs_eq : c.1.obs = base ++ new
  below : ∀ o ∈ new, S.Below c.2.name o.comp
  ordered : ObsOrdered S new
  sealed : ∀ oy ∈ new, ∀ x, S.Feeds x oy.comp → ¬ ILive S c.2 x

theorem RunOrd.step (hS : S.Valid) {base : List Obs} {a b : SimSt × ITree} {new : List Obs}
    (h : RunOrd S base a new) {roots : List Comp} {σ0 σ : SimSt}
    (hv : IVirt S orc a.1 a.2 roots σ0 σ) (hn : b.2.name = a.2.name) (ho : StepOrd S a b) :
    ∃ new', RunOrd S base b new' := by
  obtain ⟨_, hmono, hobs⟩ := ho
  rcases hobs with he | ⟨o, he, hlo, hfo⟩
  · exact ⟨new, ⟨by rw [he]; exact h.obs_eq, fun o ho' => hn ▸ h.below o ho', h.ordered,
      fun oy hoy x hf hl => h.sealed oy hoy x hf (hmono x hl)⟩⟩
  · -- a device is updated: it was live, so it feeds none of the earlier ones (`sealed`)
    refine ⟨new ++ [o], ⟨?_, ?_, ?_, ?_⟩⟩
    · rw [he, h.obs_eq, List.append_assoc]
    · intro o' ho'
      rw [hn]
      rcases List.mem_append.1 ho' with h' | h'
      · exact h.below o' h'
      · rw [List.mem_singleton.1 h']
        exact hlo.below_level hS hv
    · exact obsOrdered_snoc h.ordered hS.feeds_irrefl fun oy hoy hf => h.sealed oy hoy o.comp hf hlo
    · intro oy hoy x hf hl
      rcases List.mem_append.1 hoy with h' | h'
      · exact h.sealed oy h' x hf (hmono x hl)
      · rw [List.mem_singleton.1 h'] at hf
        exact hfo x hf (hmono x hl)

theorem IRun.ord (hS : S.Valid) {base : List Obs} {a b : SimSt × ITree} (h : IRun S orc a b) :
    ∀ (roots : List Comp) (σ0 σ : SimSt) (new : List Obs), IVirt S orc a.1 a.2 roots σ0 σ →
      IKids a.2 → RunOrd S base a new → ∃ new', RunOrd S base b new' := by
  induction h with
  | refl => intro roots σ0 σ new _ _ hr; exact ⟨new, hr⟩
  | @step a b c hs _ ih =>
    intro roots σ0 σ new hv hk hr
    have ho := hs.ord hS roots σ0 σ hv hk
    obtain ⟨σ1, hv1, _⟩ := hs.sim hS roots σ0 σ hv
    have hn : b.2.name = a.2.name := congrArg Level.name hs.root_same.1
    obtain ⟨new1, hr1⟩ := hr.step hS hv hn ho
    exact ih roots σ0 σ1 new1 hv1 ho.kids hr1

/-- C01 through nesting, order, fully concurrent: in every complete interleaved execution of a
tick the new observations are made below the level, in an order in which whatever feeds an updated
device comes first. -/
theorem tickInter_ordered (hS : S.Valid) {lvl : Comp} {t : SimTime} {roots : List Comp}
    {inCh : List (Port × V)} {st : SimSt} {r : SimSt × List (Port × V)}
    (h : TickInter S orc lvl t roots inCh st r) :
    ∃ new, r.1.obs = st.obs ++ new ∧ (∀ o ∈ new, S.Below lvl o.comp) ∧ ObsOrdered S new := by
  obtain ⟨L, tk, ds, fr, hLv, hcall, hrun, _, _, _⟩ := h.inv
  obtain ⟨hL, hname⟩ := Static.level_some hLv
  subst hname
  have h0 : RunOrd S st.obs (st, .node ⟨L, t, inCh, tk, ds, []⟩ []) [] :=
    ⟨by simp, by simp, obsOrdered_nil S, by simp⟩
  obtain ⟨new, hr⟩ := hrun.ord hS roots st st [] (IVirt.leaf hL hcall fun _ _ => rfl)
    (.mk (fun _ hk => nomatch hk) (fun _ hk => nomatch hk)) h0
  have hn : (ITree.node fr []).name = L.name := congrArg Level.name hrun.root_same.1
  exact ⟨new, hr.obs_eq, fun o ho => hn ▸ hr.below o ho, hr.ordered⟩

/-- The order of updates in an execution with atomic inner ticks has no proof of its own: an atomic
execution is the interleaving in which an inner level, once opened, runs to its end
(`tickLevelAny_inter`). -/
theorem tickLevelAny_ordered (hS : S.Valid) {lvl : Comp} {t : SimTime} {roots : List Comp}
    {inCh : List (Port × V)} {st : SimSt} {r : SimSt × List (Port × V)}
    (h : TickLevelAny S orc lvl t roots inCh st r) :
    ∃ new, r.1.obs = st.obs ++ new ∧ (∀ o ∈ new, S.Below lvl o.comp) ∧ ObsOrdered S new :=
  tickInter_ordered hS (tickLevelAny_inter h)

end Tickit
