/-
C09: `Σ_L |components L| + 1` units of fuel are enough for `Static.resolve` (`Static.Suff` of
`Lemmas/Resolve.lean`).

Every step of a resolution chain sits at a pair (level, component of that level), and in a valid
configuration no pair is visited twice: inside one level the chain walks strictly upstream (the
level is acyclic), an excursion into a system stays inside that system until it leaves it through
`external` — strictly upstream of the system — and never comes back.  Hence the number of pairs,
`Σ_L |components L|`, bounds the length of every chain.  The proof lays the pairs out on the
naturals (depth-first, upstream first) so that every step goes down.  The sums are `lsum` of
`Lemmas/ListLemmas.lean`.
-/
import TickitModel.Lemmas.Resolve

namespace Tickit

/-- the induction runs on a bound for the depths, for which the sum of all depths serves -/
theorem Static.Valid.down_induct {S : Static} (hS : S.Valid) {motive : Comp → Prop}
    (step : ∀ c P, alookup S.parent c = some P →
      (∀ c', alookup S.parent c' = some c → motive c') → motive c) :
    ∀ c P, alookup S.parent c = some P → motive c := by
  obtain ⟨depth, hdepth⟩ := hS.nesting
  have hD : ∀ c P, alookup S.parent c = some P → depth c ≤ lsum S.parent (fun e => depth e.1) :=
    fun c P h => lsum_mem_le (mem_of_alookup_eq_some h) (fun e : Comp × Comp => depth e.1)
  have key : ∀ k c P, lsum S.parent (fun e => depth e.1) < depth c + k →
      alookup S.parent c = some P → motive c := by
    intro k
    induction k with
    | zero =>
      intro c P hk hP
      have := hD c P hP
      omega
    | succ k ih =>
      intro c P hk hP
      refine step c P hP (fun c' hc' => ih c' c ?_ hc')
      have := hdepth c' c hc' (hS.child_ne_master hP)
      omega
  exact fun c P hP => key (lsum S.parent (fun e => depth e.1) + 1) c P (by omega) hP

open Classical in
/-- number of (level, component) pairs at or below the level named `s` -/
noncomputable def Static.subW (S : Static) (s : Comp) : Nat :=
  lsum S.levels (fun L' => if (L'.name = s ∨ S.Below s L'.name) then L'.wiring.components.length else 0)

noncomputable def Static.wt (S : Static) (x : Comp) : Nat := if S.isSys x then 1 + S.subW x else 1

open Classical in
/-- the weights of the components of level `Ls` fit into the pairs at or below `Ls`: a level strictly
below `Ls` lies under exactly one child of `Ls` and is counted in that child's weight only, the level
`Ls` itself under none and pays for the `1` of each component (`hd`); then sum over all levels -/
theorem Static.Valid.lsum_wt_le {S : Static} (hS : S.Valid) {Ls : Level} (hLs : Ls ∈ S.levels) :
    lsum Ls.wiring.components S.wt ≤ S.subW Ls.name := by
  let f : Level → Nat := fun L' => L'.wiring.components.length
  let G : Comp → Level → Nat := fun x L' =>
    if S.isSys x = true ∧ (L'.name = x ∨ S.Below x L'.name) then f L' else 0
  have hwt : ∀ x, S.wt x = 1 + lsum S.levels (G x) := by
    intro x
    unfold Static.wt
    by_cases hx : S.isSys x = true
    · rw [if_pos hx, Static.subW]
      refine congrArg _ (lsum_congr (fun L' _ => ?_))
      simp only [G, hx, true_and]
      rfl
    · rw [if_neg hx, lsum_eq_zero (fun L' _ => if_neg (fun h => hx h.1))]
  have hb : lsum Ls.wiring.components S.wt =
      Ls.wiring.components.length +
        lsum S.levels (fun L' => lsum Ls.wiring.components (fun x => G x L')) := by
    rw [lsum_congr (fun x _ => hwt x), lsum_add, lsum_one, lsum_comm]
  have hc : Ls.wiring.components.length ≤
      lsum S.levels (fun L' => if L'.name = Ls.name then f L' else 0) := by
    have := lsum_mem_le hLs (fun L' => if L'.name = Ls.name then f L' else 0)
    simpa [f] using this
  have hfact : ∀ x ∈ Ls.wiring.components, ∀ L', G x L' ≠ 0 →
      alookup S.parent x = some Ls.name ∧ S.Own x L'.name := by
    intro x hx L' hG
    simp only [G] at hG
    split at hG
    · rename_i hcond
      obtain ⟨hsys, hown⟩ := hcond
      have hpar := hS.sys_member hLs hx hsys
      refine ⟨hpar, ?_⟩
      rcases hown with h | h
      · exact Or.inl h
      · exact Or.inr ⟨hS.child_ne_master hpar, h⟩
    · exact absurd rfl hG
  have hd : ∀ L' ∈ S.levels,
      (if L'.name = Ls.name then f L' else 0) + lsum Ls.wiring.components (fun x => G x L') ≤
        (if (L'.name = Ls.name ∨ S.Below Ls.name L'.name) then f L' else 0) := by
    intro L' _
    by_cases hname : L'.name = Ls.name
    · have hz : lsum Ls.wiring.components (fun x => G x L') = 0 := by
        refine lsum_eq_zero (fun x hx => ?_)
        apply Classical.byContradiction
        intro hG
        obtain ⟨hpar, hown⟩ := hfact x hx L' hG
        exact hS.own_not_parent hpar (hname ▸ hown)
      simp [hname, hz]
    · simp only [hname, if_false, false_or, Nat.zero_add]
      by_cases hbel : S.Below Ls.name L'.name
      · simp only [hbel, if_true]
        refine lsum_le_of_at_most_one (Wiring.components_nodup _) ?_ ?_
        · intro x hx y hy hGx hGy
          obtain ⟨hpx, hox⟩ := hfact x hx L' hGx
          obtain ⟨hpy, hoy⟩ := hfact y hy L' hGy
          exact Static.Own.unique hS.toWF hpx hpy hox hoy
        · exact fun x _ => ite_zero_le _ _
      · simp only [hbel, if_false, Nat.le_zero_eq]
        refine lsum_eq_zero (fun x hx => ?_)
        apply Classical.byContradiction
        intro hG
        obtain ⟨hpar, hown⟩ := hfact x hx L' hG
        exact hbel (hown.below hpar)
  have he := lsum_le_lsum hd
  rw [lsum_add] at he
  show lsum Ls.wiring.components S.wt ≤
    lsum S.levels (fun L' => if (L'.name = Ls.name ∨ S.Below Ls.name L'.name) then f L' else 0)
  rw [hb]
  omega

/-- where the pairs of component `a` end in the layout of its level: everything strictly upstream,
then `a` -/
noncomputable def Static.layoutEnd (S : Static) (rk : Comp → Nat) (C : List Comp) (a : Comp) : Nat :=
  lsum C (fun x => if rk x < rk a then S.wt x else 0) + S.wt a

theorem Static.Valid.layout_le_subW {S : Static} (hS : S.Valid) (rk : Comp → Nat) {L : Level}
    (hL : L ∈ S.levels) {a : Comp} (ha : a ∈ L.wiring.components) :
    S.layoutEnd rk L.wiring.components a ≤ S.subW L.name :=
  Nat.le_trans (lsum_below_add_le ha rk S.wt) (hS.lsum_wt_le hL)

/-- what the enclosing level guarantees to the system `L.name` -/
def Static.FuelHyp (S : Static) (L : Level) (b : Nat) : Prop :=
  ∀ P LP p a' p', alookup S.parent L.name = some P → S.level P = some LP →
    LP.wiring.sourceOf L.name p = some (a', p') → S.Suff b P a' p'

/-- the layout of level `L` and of everything below it, starting at `b`: every component `a` of `L`
is resolved with fuel `b +` the end of `a`'s slot, and every component of every system level below `L`
with fuel `b + subW L` -/
def Static.FuelRes (S : Static) (rk : Comp → Comp → Nat) (L : Level) (b : Nat) : Prop :=
  (∀ a ∈ L.wiring.components, ∀ p,
    S.Suff (b + S.layoutEnd (rk L.name) L.wiring.components a) L.name a p) ∧
  (∀ s', S.isSys s' = true → S.Below L.name s' → ∀ Ls', S.level s' = some Ls' →
    ∀ a ∈ Ls'.wiring.components, ∀ p, S.Suff (b + S.subW L.name) s' a p)

theorem Static.Valid.fuel_level {S : Static} (hS : S.Valid) {rk : Comp → Comp → Nat}
    (hrk : ∀ L ∈ S.levels, ∀ a b, L.wiring.Edge a b → rk L.name a < rk L.name b)
    {L : Level} (hL : L ∈ S.levels) (b : Nat)
    (IHsys : ∀ a ∈ L.wiring.components, S.isSys a = true → ∀ La, S.level a = some La →
      ∀ b', S.FuelHyp La b' → S.FuelRes rk La b')
    (hyp : L.name ≠ "" → S.FuelHyp L b) : S.FuelRes rk L b := by
  obtain ⟨hwf, hos⟩ := hS.wiring_wf L hL
  have hLv : S.level L.name = some L := hS.level_of_mem hL
  let below : Comp → Nat := fun a =>
    lsum L.wiring.components (fun x => if rk L.name x < rk L.name a then S.wt x else 0)
  have hend : ∀ a, S.layoutEnd (rk L.name) L.wiring.components a = below a + S.wt a := fun _ => rfl
  have key : ∀ n a, a ∈ L.wiring.components → rk L.name a < n →
      (∀ p, S.Suff (b + S.layoutEnd (rk L.name) L.wiring.components a) L.name a p) ∧
      (S.isSys a = true → ∀ La, S.level a = some La → S.FuelRes rk La (b + below a)) := by
    intro n
    induction n with
    | zero => intro a _ h; omega
    | succ n ih =>
      intro a ha hlt
      have hres : S.isSys a = true → ∀ La, S.level a = some La → S.FuelRes rk La (b + below a) := by
        intro hsys La hLa
        obtain ⟨hLa1, hLa2⟩ := Static.level_some hLa
        refine IHsys a ha hsys La hLa _ ?_
        intro P LP p a'' p'' hP hLP hsrc
        rw [hLa2, hS.sys_member hL ha hsys] at hP
        cases hP
        rw [hLv] at hLP
        cases hLP
        rw [hLa2] at hsrc
        have hconn := (Wiring.sourceOf_eq_some hwf hos).1 hsrc
        have ha'' := (Wiring.conn_mem_components hwf hconn).1
        have hr := hrk L hL a'' a ⟨p'', p, hconn⟩
        refine ((ih a'' ha'' (by omega)).1 p'').mono ?_
        have : below a'' + S.wt a'' ≤ below a := lsum_below_add_le_below ha'' (rk L.name) hr S.wt
        rw [hend]
        show b + (below a'' + S.wt a'') ≤ b + below a
        omega
      refine ⟨fun p => ?_, hres⟩
      have h1 : 1 ≤ S.wt a := by unfold Static.wt; split <;> omega
      refine (Static.suff_succ (k := b + below a + (S.wt a - 1)) ?_ ?_).mono (by rw [hend]; omega)
      · intro P LP a' p' _ hm hP hLP hsrc
        exact (hyp hm P LP p a' p' hP hLP hsrc).mono (by omega)
      · intro La a' p' _ hsys hLa hsrc
        obtain ⟨hLa1, hLa2⟩ := Static.level_some hLa
        obtain ⟨hwfa, hosa⟩ := hS.wiring_wf La hLa1
        have ha' := (Wiring.conn_mem_components hwfa ((Wiring.sourceOf_eq_some hwfa hosa).1 hsrc)).1
        have hwa : S.wt a = 1 + S.subW a := by unfold Static.wt; simp [hsys]
        have := (hres hsys La hLa).1 a' ha' p'
        have h3 := hS.layout_le_subW (rk a) hLa1 ha'
        rw [hLa2] at this h3
        exact this.mono (by omega)
  have hQ : ∀ a ∈ L.wiring.components,
      (∀ p, S.Suff (b + S.layoutEnd (rk L.name) L.wiring.components a) L.name a p) ∧
      (S.isSys a = true → ∀ La, S.level a = some La → S.FuelRes rk La (b + below a)) :=
    fun a ha => key (rk L.name a + 1) a ha (Nat.lt_succ_self _)
  refine ⟨fun a ha p => (hQ a ha).1 p, ?_⟩
  intro s' hsys' hbel Ls' hLs' a' ha' p
  obtain ⟨c, hc, hown⟩ := hbel.top
  have hcC : c ∈ L.wiring.components := by
    obtain ⟨L0, hL0, hcm, _⟩ := hS.parent_level c L.name hc
    rw [hLv] at hL0; cases hL0
    exact hcm
  have hcne : c ≠ "" := hS.child_ne_master hc
  have hcsys : S.isSys c = true := by
    rcases hown with h | ⟨_, h⟩
    · rw [← h]; exact hsys'
    · rcases h.isSys hS.toWF with h' | h'
      · exact absurd h' hcne
      · exact h'
  obtain ⟨Lc, hLc, hLc2⟩ := hS.sys_level c hcsys
  obtain ⟨hLc1, _⟩ := Static.level_some hLc
  have hr := (hQ c hcC).2 hcsys Lc hLc
  have hwc : S.wt c = 1 + S.subW c := by unfold Static.wt; simp [hcsys]
  have hb1 : below c + S.wt c ≤ S.subW L.name := hS.layout_le_subW (rk L.name) hL hcC
  rcases hown with h | ⟨_, h⟩
  · subst h
    rw [hLc] at hLs'; cases hLs'
    have := hr.1 a' ha' p
    rw [hLc2] at this
    refine this.mono ?_
    have h3 := hS.layout_le_subW (rk s') hLc1 ha'
    rw [hLc2] at h3
    omega
  · have := hr.2 s' hsys' (by rw [hLc2]; exact h) Ls' hLs' a' ha' p
    refine this.mono ?_
    rw [hLc2]
    omega

theorem Static.Valid.fuel_all {S : Static} (hS : S.Valid) {L : Level} (hL : L ∈ S.levels)
    (hroot : L.name = "" ∨ S.isSys L.name = true) {a : Comp} (ha : a ∈ L.wiring.components)
    (p : Port) : S.Suff (S.subW "") L.name a p := by
  have hex : ∀ L : Level, ∃ rank : Comp → Nat, L ∈ S.levels →
      ∀ a b, L.wiring.Edge a b → rank a < rank b := by
    intro L
    by_cases hL : L ∈ S.levels
    · obtain ⟨rank, h⟩ := hS.edge_rank hL
      exact ⟨rank, fun _ => h⟩
    · exact ⟨fun _ => 0, fun h => absurd h hL⟩
  obtain ⟨R, hR⟩ := Classical.axiomOfChoice hex
  let rk : Comp → Comp → Nat := fun s a => match S.level s with
    | some L => R L a
    | none => 0
  have hrk : ∀ L ∈ S.levels, ∀ a b, L.wiring.Edge a b → rk L.name a < rk L.name b := by
    intro L hL a b he
    simp only [rk, hS.level_of_mem hL]
    exact hR L hL a b he
  have claim : ∀ c P, alookup S.parent c = some P → ∀ Lc, S.level c = some Lc → S.isSys c = true →
      ∀ b, S.FuelHyp Lc b → S.FuelRes rk Lc b :=
    hS.down_induct (fun c P _ ih Lc hLc _ b hyp => by
      obtain ⟨hLc1, rfl⟩ := Static.level_some hLc
      refine hS.fuel_level hrk hLc1 b ?_ (fun _ => hyp)
      intro a ha hsa La hLa b' hyp'
      exact ih a (hS.sys_member hLc1 ha hsa) La hLa hsa b' hyp')
  have hmaster : ∀ Lm, S.level "" = some Lm → S.FuelRes rk Lm 0 := by
    intro Lm hLm
    obtain ⟨hLm1, hLm2⟩ := Static.level_some hLm
    refine hS.fuel_level hrk hLm1 0 ?_ (fun h => absurd hLm2 h)
    intro a ha hsa La hLa b' hyp'
    exact claim a _ (hS.sys_member hLm1 ha hsa) La hLa hsa b' hyp'
  rcases hroot with hm | hsys
  · have hLm : S.level "" = some L := by rw [← hm]; exact hS.level_of_mem hL
    have := (hmaster L hLm).1 a ha p
    rw [hm] at this ⊢
    refine this.mono ?_
    have h3 := hS.layout_le_subW (rk "") hL ha
    rw [hm] at h3
    omega
  · have hbel : S.Below "" L.name := Static.below_master hS.toWF (hS.sys_parent _ hsys)
    obtain ⟨y, hy⟩ := hbel.exists_child
    obtain ⟨Lm, hLm, _, _⟩ := hS.parent_level y "" hy
    obtain ⟨_, hLm2⟩ := Static.level_some hLm
    have := (hmaster Lm hLm).2 L.name hsys (by rw [hLm2]; exact hbel) L (hS.level_of_mem hL) a ha p
    rw [hLm2] at this
    simpa using this

/-- The summand `S.levels.length` is slack that no proof uses: `Static.Valid.resolveStable` needs only
the (level, component) pairs plus one. -/
def Static.resolveFuel (S : Static) : Nat :=
  (S.levels.map (fun L => L.wiring.components.length)).sum + S.levels.length + 1

theorem Static.Valid.resolveStable {S : Static} (hS : S.Valid) {n : Nat} (hn : S.resolveFuel ≤ n) :
    S.ResolveStable n := by
  have hN : S.subW "" + 1 ≤ n := by
    have : S.subW "" ≤ lsum S.levels (fun L => L.wiring.components.length) :=
      lsum_le_lsum (fun L _ => by split <;> omega)
    unfold Static.resolveFuel at hn
    unfold lsum at this
    omega
  apply Static.resolveStable_of_suff
  intro lvl a p
  refine (Static.suff_succ (k := S.subW "") ?_ ?_).mono hN
  · intro P LP a' p' _ _ hP hLP hsrc
    obtain ⟨LP', hLP', _, hroot⟩ := hS.parent_level _ _ hP
    cases hLP.symm.trans hLP'
    obtain ⟨hLP1, hLP2⟩ := Static.level_some hLP
    obtain ⟨hwf, hos⟩ := hS.wiring_wf LP hLP1
    have hconn := (Wiring.sourceOf_eq_some hwf hos).1 hsrc
    have := hS.fuel_all hLP1 (by rw [hLP2]; exact hroot) (Wiring.conn_mem_components hwf hconn).1 p'
    rwa [hLP2] at this
  · intro La a' p' _ hsys hLa hsrc
    obtain ⟨hLa1, hLa2⟩ := Static.level_some hLa
    obtain ⟨hwf, hos⟩ := hS.wiring_wf La hLa1
    have hconn := (Wiring.sourceOf_eq_some hwf hos).1 hsrc
    have := hS.fuel_all hLa1 (by rw [hLa2]; exact Or.inr hsys) (Wiring.conn_mem_components hwf hconn).1 p'
    rwa [hLa2] at this

end Tickit
