/-
Refinement: one tick of the whole-simulation model on a FLAT configuration (one level
`""`, no system components) is a complete run `TickRun` of the closed tick system of
`Core/Flat.lean`, in lockstep: `tickLoop` answers the pending dispatches first-in first-out, i.e.
it always takes `TickSys.step … 0`.

Devices: the whole-simulation model reads the `k`-th recorded response of a device, where `k` is
the number of its updates so far.  A device is dispatched at most once per tick, so during a tick
the count it sees is the PRE-tick count: `devOf orc sim0` (pre-tick state `sim0`) is the device
function of the tick.
-/
import TickitModel.Core.Flat
import TickitModel.Lemmas.SimLoop

namespace Tickit.Refine

open Tickit

def devOf (orc : Oracle) (st : SimSt) : DevFn V := fun c _ _ =>
  match (agetD orc c [])[agetD st.count c 0]? with
  | some r => ⟨r.outs, r.callAt⟩
  | none => ⟨[], none⟩

theorem devOf_ext (orc : Oracle) (st : SimSt) : DevExt (devOf orc st) := fun _ _ _ _ _ => rfl

/-- the ghost log `reported` of the flat state has no counterpart and is unconstrained -/
structure R (sim : SimSt) (fl : FlatSt V) : Prop where
  comps : fl.comps = sim.devs
  wake : fl.wake = (sim.sched "").wake
  obs : fl.obs = sim.obs.map (fun o => (o.comp, o.time, o.inputs))

def Untouched (sim0 sim : SimSt) (c : Comp) : Prop :=
  agetD sim.devs c {} = agetD sim0.devs c {} ∧ agetD sim.count c 0 = agetD sim0.count c 0

theorem R.empty : R {} {} := ⟨rfl, rfl, rfl⟩

theorem simWake_obs (st : SimSt) (lvl c : Comp) (callAt : Option SimTime) :
    (simWake st lvl c callAt).obs = st.obs := rfl

theorem simAnswer_flat {S : Static} (hsys : S.systems = []) {orc : Oracle} {fuel : Nat} {L : Level}
    (hname : L.name = "") {inCh : List (Port × V)} {sim0 sim : SimSt} {fl0 fl : FlatSt V}
    {out0 : List (Port × V)} {d : Dispatch V} (t : SimTime)
    (hR0 : fl0.comps = sim0.devs) (hR : R sim fl) (hun : Untouched sim0 sim d.comp)
    {st' : SimSt} {outCh' changes : List (Port × V)} {callAt : Option SimTime}
    (h : simAnswer S orc fuel L inCh sim out0 d = .ok (st', outCh', changes, callAt)) :
    changes = answerOf (fl0.react (devOf orc sim0) t) d ∧
      R (anyWake st' "" d.comp callAt) (fl.absorb (devOf orc sim0) d) ∧
      ∀ c, c ≠ d.comp → agetD st'.devs c {} = agetD sim.devs c {} ∧
        agetD st'.count c 0 = agetD sim.count c 0 := by
  obtain ⟨a, _⟩ := simAnswer_fifo h
  cases a with
  | skip =>
    refine ⟨rfl, ⟨hR.comps, ?_, hR.obs⟩, fun c _ => ⟨rfl, rfl⟩⟩
    show fl.wake = _
    rw [anyWake_sched_own]
    exact hR.wake
  -- the only level is the master: no mock components, no system components
  | external hx => simp [hname] at hx
  | expose _ hy => simp [hname] at hy
  | sys _ _ hs _ => simp [Static.isSys, hsys] at hs
  | @dev c t' ins resp _ _ _ hresp _ =>
    obtain ⟨hun1, hun2⟩ := hun
    simp only [Dispatch.comp] at hun1 hun2 ⊢
    have hdev : ∀ t'' given, devOf orc sim0 c t'' given = ⟨resp.outs, resp.callAt⟩ := by
      intro t'' given
      simp only [devOf]
      rw [← hun2, hresp]
    have hcomp : fl.comp c = agetD sim.devs c {} := by
      simp only [FlatSt.comp, hR.comps]
    have hcomp0 : fl0.comp c = agetD sim.devs c {} := by
      simp only [FlatSt.comp, hR0, hun1]
    refine ⟨?_, ⟨?_, ?_, ?_⟩, ?_⟩
    · simp only [devAfter, answerOf, FlatSt.react, hdev, hcomp0, DevComp.onTick]
    · simp only [devAfter, FlatSt.absorb, hdev, hcomp, anyWake_devs, DevComp.onTick, hR.comps]
    · show (fl.absorb (devOf orc sim0) (.input c t' ins)).wake = _
      rw [anyWake_sched_own]
      simp only [FlatSt.absorb, hdev, hR.wake]
      cases resp.callAt <;> rfl
    · simp only [devAfter, FlatSt.absorb, hdev, hcomp, anyWake_obs, hR.obs, List.map_append,
        List.map_cons, List.map_nil]
    · exact fun c' hc' => ⟨devAfter_devs_ne sim (Ne.symm hc') t' ins resp,
        devAfter_count_ne sim (Ne.symm hc') t' ins resp⟩

theorem afterTick_append (fl : FlatSt V) (dev : DevFn V) (tr1 tr2 : List (Ev V)) :
    fl.afterTick dev (tr1 ++ tr2) = (fl.afterTick dev tr1).afterTick dev tr2 := by
  simp only [FlatSt.afterTick, List.foldl_append]

theorem afterTick_answer (fl : FlatSt V) (dev : DevFn V) (c : Comp) (ch : List (Port × V)) :
    fl.afterTick dev [Ev.answer c ch] = fl := rfl

/-- `s` and `fl` are the state of the closed system and the flat state that go with the loop state
`ls`, in a tick started in `sim0` / `fl0` -/
structure Lockstep (orc : Oracle) (L : Level) (sim0 : SimSt) (fl0 : FlatSt V) (t : SimTime)
    (roots : List Comp) (ls : LoopSt) (s : TickSys V) (fl : FlatSt V) : Prop where
  reach : s.Reachable L.wiring (fl0.react (devOf orc sim0) t) t roots
  tk : s.tk = ls.tk
  pending : s.pending = ls.pending
  rel : R ls.st fl
  fold : fl0.afterTick (devOf orc sim0) s.trace = fl.afterTick (devOf orc sim0) (ls.pending.map Ev.dispatch)
  untouched : ∀ c, alookup ls.tk.toUpdate c ≠ none → Untouched sim0 ls.st c

theorem Lockstep.step {S : Static} (hsys : S.systems = []) {orc : Oracle} {fuel : Nat} {L : Level}
    (hname : L.name = "") {inCh : List (Port × V)} {sim0 : SimSt} {fl0 : FlatSt V}
    (hR0 : fl0.comps = sim0.devs) {t : SimTime} {roots : List Comp} {ls : LoopSt} {s : TickSys V}
    {fl : FlatSt V} (inv : Lockstep orc L sim0 fl0 t roots ls s fl)
    {d : Dispatch V} {rest : List (Dispatch V)} (hp : ls.pending = d :: rest)
    {st1 : SimSt} {outCh1 changes : List (Port × V)} {callAt : Option SimTime}
    (ha : simAnswer S orc fuel L inCh ls.st ls.outCh d = .ok (st1, outCh1, changes, callAt))
    {tk' : Ticker V} {ds : List (Dispatch V)}
    (hprop : ls.tk.propagate L.wiring d.comp d.time changes = .ok (tk', ds)) :
    ∃ s' fl', Lockstep orc L sim0 fl0 t roots
      ⟨tk', rest ++ ds, outCh1, anyWake st1 L.name d.comp callAt⟩ s' fl' := by
  have pre := inv.reach.inv.pre
  rw [inv.tk, inv.pending] at pre
  have hdm : d ∈ ls.pending := by rw [hp]; simp
  have h0 : alookup ls.tk.toUpdate d.comp = some true := (pre.pend_flag _).1 ⟨d, hdm, rfl⟩
  obtain ⟨hch, hR', hframe⟩ :=
    simAnswer_flat hsys hname t hR0 inv.rel (inv.untouched _ (by rw [h0]; simp)) ha
  have hnone := Ticker.propagate_resolved pre.nodup hprop
  let s' : TickSys V := ⟨tk', rest ++ ds,
    s.trace ++ [Ev.answer d.comp changes] ++ ds.map Ev.dispatch⟩
  have hstep : s.step L.wiring (fl0.react (devOf orc sim0) t) 0 = some (.ok s') :=
    TickSys.step_eq_ok_iff.2 ⟨d, tk', ds, by rw [inv.pending, hp]; rfl,
      by rw [inv.tk, ← hch]; exact hprop, by rw [inv.pending, hp, ← hch]; rfl⟩
  refine ⟨s', fl.absorb (devOf orc sim0) d,
    { reach := .step inv.reach hstep, tk := rfl, pending := rfl, rel := by rw [hname]; exact hR'
      fold := ?_, untouched := ?_ }⟩
  · show fl0.afterTick (devOf orc sim0)
      (s.trace ++ [Ev.answer d.comp changes] ++ ds.map Ev.dispatch) = _
    rw [afterTick_append, afterTick_append, afterTick_answer, inv.fold, hp, List.map_append,
      afterTick_append]
    rfl
  · intro c hc
    have hc' : ¬ (c = d.comp ∨ alookup ls.tk.toUpdate c = none) :=
      fun h' => hc ((hnone c).2 h')
    obtain ⟨u1, u2⟩ := inv.untouched c (fun h' => hc' (Or.inr h'))
    obtain ⟨f1, f2⟩ := hframe c (fun h' => hc' (Or.inl h'))
    exact ⟨by rw [anyWake_devs, f1, u1], by rw [anyWake_count, f2, u2]⟩

theorem tickLevel_flat {S : Static} (hsys : S.systems = []) {orc : Oracle} {fuel : Nat} {L : Level}
    (hL : S.level "" = some L) {inCh : List (Port × V)} {sim0 sim' : SimSt} {fl0 : FlatSt V}
    (hR : R sim0 fl0) {t : SimTime} {roots : List Comp} {out : List (Port × V)}
    (h : tickLevel S orc fuel "" t roots inCh sim0 = .ok (sim', out)) :
    ∃ fl', TickRun L.wiring (devOf orc sim0) fl0 t roots fl' ∧ R sim' fl' := by
  obtain ⟨fuel, L', tk, ds, _, hL', hcall, h⟩ := tickLevel_eq_ok h
  cases hL.symm.trans hL'
  have hinit : TickSys.init L.wiring t roots = .ok ⟨tk, ds, ds.map Ev.dispatch⟩ :=
    TickSys.init_eq_ok_iff.2 ⟨tk, ds, hcall, rfl⟩
  obtain ⟨ls', ⟨s', fl', inv⟩, hp, he, hr⟩ := tickLoop_invariant
    (I := fun ls => ∃ s fl, Lockstep orc L sim0 fl0 t roots ls s fl)
    (fun _ _ _ _ _ _ _ _ _ ⟨_, _, inv⟩ hp ha hprop =>
      inv.step hsys (Static.level_some hL).2 hR.comps hp ha hprop)
    _ _ _ ⟨_, fl0,
      { reach := .init hinit, tk := rfl, pending := rfl, rel := hR
        fold := rfl, untouched := fun c _ => ⟨rfl, rfl⟩ }⟩ h
  cases hr
  refine ⟨_, ⟨s', inv.reach, by rw [inv.tk]; exact he, rfl⟩, ?_⟩
  rw [inv.fold, hp]
  exact inv.rel

end Tickit.Refine
