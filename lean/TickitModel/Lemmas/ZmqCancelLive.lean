/-
ZeroMQ push stream with cancellation, progress (`zlive_done`): from every state that satisfies the
invariant `CInv`, a task that is not cancelled can be brought to write the message it holds and
everything it had still to take by a finite schedule of sender moves (no cancellation, no new task,
no new message), whatever was cancelled before and wherever.
-/
import TickitModel.Lemmas.ZmqCancelInv

namespace Tickit

theorem zsteps_cons (i : Nat) (is : List Nat) : zsteps (i :: is) = .base (.step i) :: zsteps is := rfl

def ZReach (c c' : ZmqC) : Prop := ∃ sched, c.exec (zsteps sched) = some c'

theorem ZReach.trans {c c1 c2 : ZmqC} : ZReach c c1 → ZReach c1 c2 → ZReach c c2
  | ⟨is, h1⟩, ⟨js, h2⟩ => ⟨is ++ js, by
    rw [show zsteps (is ++ js) = zsteps is ++ zsteps js from List.map_append, ZmqC.exec_append h1]; exact h2⟩

theorem ZReach.step {c : ZmqC} {i : Nat} {s : Sender} {b : Zmq} (hi : i ∉ c.cancelled)
    (hs : c.base.senders[i]? = some s) (hc : ZStepCase c.base i s b) : ZReach c (c.after i b) :=
  ⟨[i], by simp only [zsteps, List.map, ZmqC.exec, ZmqC.act, if_neg hi, hc.sound hs, ZmqC.after]⟩

theorem ZReach.inv {c c' : ZmqC} : ZReach c c' → CInv c → CInv c'
  | ⟨_, he⟩, h => h.exec he

/-- what a schedule did for sender `k`: it went from record `s` to `s'` and wrote `ws`, and its
ledger (written ++ in hand ++ still to take) is the same list. -/
structure ZMoved (c c' : ZmqC) (k : Nat) (s s' : Sender) (ws : List Nat) : Prop where
  reach : ZReach c c'
  cancelled_eq : c'.cancelled = c.cancelled
  snd : c'.base.senders[k]? = some s'
  wr : c'.base.wr k = c.base.wr k ++ ws
  ledger : ws ++ s'.infl ++ c'.base.rest k s' = s.infl ++ c.base.rest k s

theorem ZMoved.refl {c : ZmqC} {k : Nat} {s : Sender} (h : c.base.senders[k]? = some s) : ZMoved c c k s s [] :=
  ⟨⟨[], rfl⟩, rfl, h, (List.append_nil _).symm, rfl⟩

theorem ZMoved.trans {c c1 c2 : ZmqC} {k : Nat} {s s1 s2 : Sender} {ws1 ws2 : List Nat}
    (h1 : ZMoved c c1 k s s1 ws1) (h2 : ZMoved c1 c2 k s1 s2 ws2) : ZMoved c c2 k s s2 (ws1 ++ ws2) := by
  refine ⟨h1.reach.trans h2.reach, h2.cancelled_eq.trans h1.cancelled_eq, h2.snd, ?_, ?_⟩
  · rw [h2.wr, h1.wr, List.append_assoc]
  · have e1 := h1.ledger
    have e2 := h2.ledger
    simp only [List.append_assoc] at e1 e2 ⊢
    rw [e2, e1]

theorem ZMoved.live {c c' : ZmqC} {k : Nat} {s s' : Sender} {ws : List Nat} (h : ZMoved c c' k s s' ws)
    (hk : k ∉ c.cancelled) : k ∉ c'.cancelled := h.cancelled_eq ▸ hk

theorem ZMoved.own {c : ZmqC} {k : Nat} {s s' : Sender} {b : Zmq} {ws : List Nat} (hlive : k ∉ c.cancelled)
    (hk : c.base.senders[k]? = some s) (hc : ZStepCase c.base k s b)
    (hsend : b.senders = c.base.senders.set k s') (hw : b.writes = c.base.writes ++ ws.map (Prod.mk k))
    (hled : ws ++ s'.infl ++ b.rest k s' = s.infl ++ c.base.rest k s) : ZMoved c (c.after k b) k s s' ws :=
  ⟨.step hlive hk hc, rfl, hsend ▸ List.getElem?_set_self (lt_length_of_getElem?_eq_some hk),
    (Zmq.wr_of_writes hw k).trans (by rw [if_pos rfl]), hled⟩

theorem ZMoved.other {c : ZmqC} {i k : Nat} {si si' s : Sender} {b : Zmq} (hlive : i ∉ c.cancelled)
    (hi : c.base.senders[i]? = some si) (hc : ZStepCase c.base i si b) (hki : k ≠ i)
    (hk : c.base.senders[k]? = some s) (hsend : b.senders = c.base.senders.set i si')
    (hw : b.writes = c.base.writes) (hq : b.queue = c.base.queue) : ZMoved c (c.after i b) k s s [] :=
  ⟨.step hlive hi hc, rfl,
    by show b.senders[k]? = some s; rw [hsend, List.getElem?_set_ne (Ne.symm hki)]; exact hk,
    by show b.wr k = _; rw [Zmq.wr, hw, List.append_nil]; rfl,
    by show [] ++ s.infl ++ b.rest k s = _; rw [Zmq.rest, hq]; rfl⟩

/-- `w` goes through `_ensure_socket` (creating the socket if there is none yet); any other sender
`k` is untouched. -/
theorem zlive_through {c : ZmqC} {w : Nat} {sw : Sender} (hlive : w ∉ c.cancelled)
    (hsw : c.base.senders[w]? = some sw) (hpc : sw.pc = .wantLock) (hl : c.base.lockHeld = none)
    (hm : (c.base.waiters.head? == some w || c.base.waiters.isEmpty) = true) :
    ∃ c', ZMoved c c' w sw { sw with pc := .ready } [] ∧ c'.base.lockHeld = none ∧
      c'.base.waiters = c.base.waiters.filter (· != w) ∧
      ∀ k s, k ≠ w → c.base.senders[k]? = some s → ZMoved c c' k s s [] := by
  have nil (l : List (Nat × Nat)) : l = l ++ [] := (List.append_nil l).symm
  cases hsk : c.base.socket with
  | true =>
    have hc := ZStepCase.pass hpc hl hm hsk
    exact ⟨_, .own hlive hsw hc rfl (nil _) (by simp [Sender.infl, hpc, Zmq.rest, setSender]), hl, rfl,
      fun k s hkw hk => .other hlive hsw hc hkw hk rfl rfl rfl⟩
  | false =>
    have hc := ZStepCase.call hpc hl hm hsk
    have m1 : ZMoved c _ w sw { sw with pc := .inFactory } [] :=
      .own hlive hsw hc rfl (nil _) (by simp [Sender.infl, hpc, Zmq.rest, setSender])
    refine ⟨_, m1.trans (.own (m1.live hlive) m1.snd (.made rfl) rfl (nil _)
      (by simp [Sender.infl, Zmq.rest, setSender])), rfl, rfl, fun k s hkw hk => ?_⟩
    have o1 := ZMoved.other hlive hsw hc hkw hk rfl rfl rfl
    exact o1.trans (.other (m1.live hlive) m1.snd (.made rfl) hkw o1.snd rfl rfl rfl)

/-- with the lock free, the queue before `k` drains head by head, then `k` goes through. -/
theorem zlive_queue (n : Nat) : ∀ {c : ZmqC} {k : Nat} {s : Sender}, CInv c → c.base.waiters.length = n →
    c.base.lockHeld = none → c.base.senders[k]? = some s → k ∉ c.cancelled → s.pc = .wantLock →
    ∃ c', ZMoved c c' k s { s with pc := .ready } [] := by
  induction n with
  | zero =>
    intro c k s hinv hn hl hk hlive hpc
    have : c.base.waiters = [] := List.eq_nil_of_length_eq_zero hn
    obtain ⟨c', hm, _⟩ := zlive_through hlive hk hpc hl (by simp [this])
    exact ⟨c', hm⟩
  | succ n ih =>
    intro c k s hinv hn hl hk hlive hpc
    cases hw : c.base.waiters with
    | nil => rw [hw] at hn; cases hn
    | cons w ws =>
      have hm : (c.base.waiters.head? == some w || c.base.waiters.isEmpty) = true := by simp [hw]
      by_cases hkw : k = w
      · subst hkw
        obtain ⟨c', hm, _⟩ := zlive_through hlive hk hpc hl hm
        exact ⟨c', hm⟩
      · obtain ⟨hwl, hp⟩ := hinv.wait w (by rw [hw]; exact List.mem_cons_self)
        obtain ⟨sw, hsw, hpcw⟩ := get_of_pcAt hp
        obtain ⟨c1, hmw, hl1, hw1, hothers⟩ := zlive_through hwl hsw hpcw hl hm
        have hm1 := hothers k s hkw hk
        have hn1 : c1.base.waiters.length = n := by
          rw [hw1, hw, filter_bne_head_of_nodup (hw ▸ hinv.nodup)]; rw [hw] at hn; exact Nat.succ.inj hn
        obtain ⟨c2, hm2⟩ := ih (hm1.reach.inv hinv) hn1 hl1 hm1.snd (hm1.live hlive) hpc
        exact ⟨c2, hm1.trans hm2⟩

/-- a live task inside `_ensure_socket` gets the socket, wherever it is. -/
theorem zlive_ensure {c : ZmqC} {k : Nat} {s : Sender} (hinv : CInv c) (hk : c.base.senders[k]? = some s)
    (hlive : k ∉ c.cancelled) (hpc : s.pc = .wantLock ∨ s.pc = .inFactory) :
    ∃ c', ZMoved c c' k s { s with pc := .ready } [] := by
  rcases hpc with hpc | hpc
  · cases hl : c.base.lockHeld with
    | none => exact zlive_queue _ hinv rfl hl hk hlive hpc
    | some h =>
      -- the factory returns for the holder `h`: the lock is free, `k` is untouched
      obtain ⟨hh, hp⟩ := hinv.held h hl
      obtain ⟨sh, hsh, hpch⟩ := get_of_pcAt hp
      have hkh : k ≠ h := by
        intro e; subst e
        rw [pcAt_of_get hk, hpc] at hp; cases hp
      have hm1 : ZMoved c _ k s s [] := .other hh hsh (.made hpch) hkh hk rfl rfl rfl
      obtain ⟨c2, hm2⟩ := zlive_queue _ (hm1.reach.inv hinv) rfl rfl hm1.snd (hm1.live hlive) hpc
      exact ⟨c2, hm1.trans hm2⟩
  · exact ⟨_, .own hlive hk (.made hpc) rfl (List.append_nil _).symm
      (by simp [Sender.infl, hpc, Zmq.rest, setSender])⟩

theorem zlive_write {c : ZmqC} {k : Nat} {s : Sender} (hk : c.base.senders[k]? = some s)
    (hlive : k ∉ c.cancelled) (hpc : s.pc = .ready) :
    ∃ c' s', ZMoved c c' k s s' s.cur.toList ∧ (s'.pc = .idle ∨ s'.pc = .draining) := by
  cases hcur : s.cur with
  | none =>
    exact ⟨_, _, .own hlive hk (.skip hpc hcur) rfl (List.append_nil _).symm
      (by simp [Sender.infl, hpc, hcur, Zmq.rest, setSender]), Or.inl rfl⟩
  | some m =>
    exact ⟨_, _, .own hlive hk (.write m hpc hcur) rfl rfl
      (by simp [Sender.infl, hpc, hcur, Zmq.rest, setSender]), Or.inr rfl⟩

/-- a live task that has started `send_message` (anywhere before the write) completes it. -/
theorem zlive_send {c : ZmqC} {k : Nat} {s : Sender} (hinv : CInv c) (hk : c.base.senders[k]? = some s)
    (hlive : k ∉ c.cancelled) (hpc : s.pc = .wantLock ∨ s.pc = .inFactory ∨ s.pc = .ready) :
    ∃ c' s', ZMoved c c' k s s' s.cur.toList ∧ (s'.pc = .idle ∨ s'.pc = .draining) := by
  have key : s.pc = .wantLock ∨ s.pc = .inFactory →
      ∃ c' s', ZMoved c c' k s s' s.cur.toList ∧ (s'.pc = .idle ∨ s'.pc = .draining) := fun hpc => by
    obtain ⟨c1, hm1⟩ := zlive_ensure hinv hk hlive hpc
    obtain ⟨c2, s2, hm2, hpc2⟩ := zlive_write hm1.snd (hm1.live hlive) rfl
    exact ⟨c2, s2, hm1.trans hm2, hpc2⟩
  rcases hpc with hpc | hpc | hpc
  · exact key (Or.inl hpc)
  · exact key (Or.inr hpc)
  · exact zlive_write hk hlive hpc

/-- a live task between two messages takes the next one and writes it -/
theorem zlive_round {c : ZmqC} {k m : Nat} {r : List Nat} {s : Sender} (hinv : CInv c)
    (hk : c.base.senders[k]? = some s) (hlive : k ∉ c.cancelled) (hpc : s.pc = .idle ∨ s.pc = .draining)
    (hr : c.base.rest k s = m :: r) :
    ∃ c' s' ws, ZMoved c c' k s s' ws ∧ (s'.pc = .idle ∨ s'.pc = .draining) ∧ c'.base.rest k s' = r := by
  obtain ⟨c1, s1, hm1, hpc1, hr1⟩ : ∃ c1 s1, ZMoved c c1 k s s1 [] ∧ s1.pc = .idle ∧ c1.base.rest k s1 = m :: r := by
    rcases hpc with hpc | hpc
    · exact ⟨c, s, .refl hk, hpc, hr⟩
    · exact ⟨_, _, .own hlive hk (.drained hpc) rfl (List.append_nil _).symm
        (by simp [Sender.infl, hpc, Zmq.rest, setSender]), rfl, hr⟩
  obtain ⟨c2, s2, hm2, hpc2, hr2⟩ : ∃ c2 s2, ZMoved c1 c2 k s1 s2 [] ∧ s2.pc = .wantLock ∧ c2.base.rest k s2 = r := by
    have hlive1 := hm1.live hlive
    unfold Zmq.rest at hr1
    by_cases hk0 : k = 0
    · rw [if_pos hk0] at hr1
      exact ⟨_, _, .own hlive1 hm1.snd (.takeQ m r hk0 hpc1 hr1) rfl (List.append_nil _).symm
        (by simp [Sender.infl, hpc1, Zmq.rest, setSender, hk0, hr1]), rfl, by simp [Zmq.rest, ZmqC.after, setSender, hk0]⟩
    · rw [if_neg hk0] at hr1
      exact ⟨_, _, .own hlive1 hm1.snd (.takeT m r hk0 hpc1 hr1) rfl (List.append_nil _).symm
        (by simp [Sender.infl, hpc1, Zmq.rest, hk0, hr1]), rfl, by simp [Zmq.rest, hk0]⟩
  have hm12 := hm1.trans hm2
  obtain ⟨c3, s3, hm3, hpc3⟩ := zlive_send (hm12.reach.inv hinv) hm2.snd (hm12.live hlive) (Or.inl hpc2)
  refine ⟨c3, s3, _, hm12.trans hm3, hpc3, ?_⟩
  -- the send wrote what `k` had in hand, so what is left to take is what was left before
  have := hm3.ledger
  rw [Sender.infl_rest hpc3, Sender.infl_busy (Or.inl hpc2), List.append_nil] at this
  exact (List.append_cancel_left this).trans hr2

theorem zlive_rounds (n : Nat) : ∀ {c : ZmqC} {k : Nat} {s : Sender}, CInv c → c.base.senders[k]? = some s →
    k ∉ c.cancelled → (s.pc = .idle ∨ s.pc = .draining) → (c.base.rest k s).length = n →
    ∃ c' s' ws, ZMoved c c' k s s' ws ∧ (s'.pc = .idle ∨ s'.pc = .draining) ∧ c'.base.rest k s' = [] := by
  induction n with
  | zero => exact fun _ hk _ hpc hn => ⟨_, _, _, .refl hk, hpc, List.eq_nil_of_length_eq_zero hn⟩
  | succ n ih =>
    intro c k s hinv hk hlive hpc hn
    cases hr : c.base.rest k s with
    | nil => rw [hr] at hn; cases hn
    | cons m r =>
      obtain ⟨c1, s1, ws1, hm1, hpc1, hr1⟩ := zlive_round hinv hk hlive hpc hr
      have hn1 : (c1.base.rest k s1).length = n := by rw [hr1]; rw [hr] at hn; exact Nat.succ.inj hn
      obtain ⟨c2, s2, ws2, hm2, hpc2, hr2⟩ := ih (hm1.reach.inv hinv) hm1.snd (hm1.live hlive) hpc1 hn1
      exact ⟨c2, s2, _, hm1.trans hm2, hpc2, hr2⟩

theorem zlive_done {c : ZmqC} {k : Nat} {s : Sender} (hinv : CInv c) (hk : c.base.senders[k]? = some s)
    (hlive : k ∉ c.cancelled) :
    ∃ c' s', ZReach c c' ∧ c'.cancelled = c.cancelled ∧ c'.base.senders[k]? = some s' ∧
      c'.base.wr k = c.base.wr k ++ (s.infl ++ c.base.rest k s) ∧ c'.base.rest k s' = [] := by
  obtain ⟨c1, s1, ws1, hm1, hpc1⟩ : ∃ c1 s1 ws1, ZMoved c c1 k s s1 ws1 ∧ (s1.pc = .idle ∨ s1.pc = .draining) := by
    have hpcs : (s.pc = .idle ∨ s.pc = .draining) ∨ (s.pc = .wantLock ∨ s.pc = .inFactory ∨ s.pc = .ready) := by
      cases s.pc <;> simp
    rcases hpcs with hpc | hpc
    · exact ⟨c, s, _, .refl hk, hpc⟩
    · obtain ⟨c1, s1, hm1, hpc1⟩ := zlive_send hinv hk hlive hpc
      exact ⟨c1, s1, _, hm1, hpc1⟩
  obtain ⟨c2, s2, ws2, hm2, hpc2, hr2⟩ :=
    zlive_rounds _ (hm1.reach.inv hinv) hm1.snd (hm1.live hlive) hpc1 rfl
  have hm := hm1.trans hm2
  refine ⟨c2, s2, hm.reach, hm.cancelled_eq, hm.snd, ?_, hr2⟩
  have := hm.ledger
  rw [Sender.infl_rest hpc2, hr2, List.append_nil, List.append_nil] at this
  rw [hm.wr, this]

end Tickit
