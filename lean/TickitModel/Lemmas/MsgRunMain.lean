/-
The multi-tick message-level model refines `FlatRun`: every reachable state is either before the
scheduler's start, or inside tick number `n` (the initial tick is number 0, so `n + 1` ticks have been
begun) whose pre-tick state is the empty state (`n = 0`) or (component by component) equivalent to
the state of `FlatRun … (n - 1)`; when tick number `n` completes, the state is equivalent to that of
`FlatRun … n`.  Liveness: inside
a tick every action of the single-tick bus model is mirrored by the run-level model, so every tick
in progress can be completed (`msg_tick_can_complete` lifted), whatever the start pattern of the
components.
-/
import TickitModel.Lemmas.MsgRunTick
import TickitModel.Lemmas.CallbackLemmas

set_option autoImplicit false

namespace Tickit

open Tickit.Det

-- `[DecidableEq Val]` is a section variable that few statements need
set_option linter.unusedSectionVars false

variable {Val : Type} [DecidableEq Val]

theorem MsgRunSt.step_startSched_ok {w : Wiring} {devs : DevSeq Val} {t0 : SimTime}
    {M M' : MsgRunSt Val} (h : M.step w devs t0 (.bus .startSched) = some (.ok M')) :
    ∃ b, M.bus.step w (rxOf M.comps (devs 0)) t0 w.components .startSched = some (.ok b) ∧
      M' = { M with bus := b, ticks := 1, tickTime := t0, tickRoots := w.components,
                    times := [t0] } :=
  map_map_eq_ok h

theorem MsgRunSt.step_bus_ok {w : Wiring} {devs : DevSeq Val} {t0 : SimTime}
    {M M' : MsgRunSt Val} {a : MsgAct} (ha : a ≠ .startSched)
    (h : M.step w devs t0 (.bus a) = some (.ok M')) :
    ∃ b, M.bus.step w (rxOf M.comps (devs (M.ticks - 1))) M.tickTime M.tickRoots a = some (.ok b) ∧
      M' = M.after (devs (M.ticks - 1)) b a := by
  rw [M.step_bus ha] at h
  exact map_map_eq_ok h

/-- the bus from which the next tick is begun: the `let b0` of `MsgRunSt.step … .nextTick`, which has
no name there, written out again (`step_nextTick_ok` brings the step to this form). -/
def MsgRunSt.resetBus (M : MsgRunSt Val) (cs : List Comp) : MsgSt Val :=
  { M.bus with tk := none, hist := [], wake := delWakeups M.bus.wake cs }

theorem MsgRunSt.step_nextTick_ok {w : Wiring} {devs : DevSeq Val} {t0 : SimTime}
    {M M' : MsgRunSt Val} (h : M.step w devs t0 .nextTick = some (.ok M')) :
    ∃ tk cs when b, M.bus.tk = some tk ∧ tk.toUpdate = [] ∧
      firstWakeups M.bus.wake = (cs, some when) ∧
      (M.resetBus cs).step w (rxOf M.comps (devs M.ticks)) when cs .startSched = some (.ok b) ∧
      M' = { M with bus := b, ticks := M.ticks + 1, tickTime := when, tickRoots := cs,
                    times := when :: M.times } := by
  simp only [MsgRunSt.step] at h
  split at h
  · cases h
  · rename_i tk htk
    split at h
    · rename_i hemp
      split at h
      · rename_i cs when hf
        obtain ⟨b, hb, rfl⟩ := map_map_eq_ok h
        exact ⟨tk, cs, when, b, htk, List.isEmpty_iff.1 hemp, hf, hb, rfl⟩
      · cases h
    · cases h

theorem Loc.Equiv.of_eq {L1 L2 L3 : Loc Val} (h : L1 = L2) (h' : L2.Equiv L3) : L1.Equiv L3 :=
  h ▸ h'

/-- how tick number `n`, at time `t` for `roots` from the pre-tick state `F`, hangs on `FlatRun`;
`Fp` is the state in which the tick before it ended. -/
def TickLink (w : Wiring) (devs : DevSeq Val) (t0 : SimTime) :
    Nat → FlatSt Val → SimTime → List Comp → List SimTime → Prop
  | 0, F, t, roots, times => F = {} ∧ t = t0 ∧ roots = w.components ∧ times = [t0]
  | n + 1, F, t, roots, times => ∃ Fp st ptimes, FlatRun w devs t0 n st ptimes ∧
      (∀ c, (loc Fp c).Equiv (loc st c)) ∧ UniqueKeys Fp.wake ∧
      firstWakeups Fp.wake = (roots, some t) ∧
      F = { Fp with wake := delWakeups Fp.wake roots } ∧ times = t :: ptimes

def RunInv (w : Wiring) (devs : DevSeq Val) (t0 : SimTime) (M : MsgRunSt Val) : Prop :=
  (∃ S, M = MsgRunSt.initial S) ∨
  ∃ n F t roots b0, M.ticks = n + 1 ∧ b0.Idle ∧ b0.wake = F.wake ∧ UniqueKeys F.wake ∧
    TickTrack w (devs n) t roots F b0 M ∧ TickLink w devs t0 n F t roots M.times

theorem tick_boundary {w : Wiring} (hw : RouterOK w) (hacyc : w.Acyclic) {devs : DevSeq Val}
    (hdev : ∀ k, DevExt (devs k)) {t0 : SimTime} {n : Nat} {F : FlatSt Val} {t : SimTime}
    {roots : List Comp} {b0 : MsgSt Val} {M : MsgRunSt Val} (hb0 : b0.Idle)
    (hwake : b0.wake = F.wake) (huniq : UniqueKeys F.wake)
    (htr : TickTrack w (devs n) t roots F b0 M) (hlink : TickLink w devs t0 n F t roots M.times)
    (hc : M.bus.Complete) :
    ∃ st, FlatRun w devs t0 n st M.times ∧ (∀ c, (loc M.flat c).Equiv (loc st c)) ∧
      UniqueKeys M.bus.wake := by
  obtain ⟨s, hr, hnil, _, _, hloc⟩ := htr.complete hb0 hwake hc
  have hu : UniqueKeys M.bus.wake := (htr.reach.wakeInv hb0).unique (hwake ▸ huniq)
  have hrun : TickRun w (devs n) F t roots (F.afterTick (devs n) s.trace) := ⟨s, hr, hnil, rfl⟩
  cases n with
  | zero =>
    obtain ⟨rfl, rfl, rfl, htimes⟩ := hlink
    exact ⟨_, htimes ▸ FlatRun.initial hrun, fun c => (hloc c) ▸ Loc.Equiv.refl _, hu⟩
  | succ n =>
    obtain ⟨Fp, st, ptimes, hprev, hFp, hup, hf, rfl, htimes⟩ := hlink
    obtain ⟨st', hfr, heq⟩ := flatRun_tick_equiv hw hacyc hdev hprev hFp hup hf hrun
    exact ⟨st', htimes ▸ hfr, fun c => Loc.Equiv.of_eq (hloc c) (heq c), hu⟩

theorem MsgRunSt.Reach.inv {w : Wiring} (hw : RouterOK w) (hacyc : w.Acyclic) {devs : DevSeq Val}
    (hdev : ∀ k, DevExt (devs k)) {t0 : SimTime} {M : MsgRunSt Val}
    (h : MsgRunSt.Reach w devs t0 M) : RunInv w devs t0 M := by
  induction h with
  | init S => exact Or.inl ⟨S, rfl⟩
  | @step M M' a _ hstep ih =>
    rcases ih with ⟨S, rfl⟩ | ⟨n, F, t, roots, b0, hticks, hb0, hwake, huniq, htr, hlink⟩
    · -- before the scheduler has started: only component starts and the start of the scheduler are
      -- enabled (as in `MsgSt.Reach.induct`)
      have hI : (MsgRunSt.initial S : MsgRunSt Val).bus.Idle := ⟨rfl, rfl, fun _ => rfl⟩
      cases a with
      | nextTick =>
        obtain ⟨tk, _, _, _, htk, _⟩ := MsgRunSt.step_nextTick_ok hstep
        cases htk
      | bus a =>
        by_cases ha : a = .startSched
        · subst ha
          obtain ⟨b, hb, rfl⟩ := MsgRunSt.step_startSched_ok hstep
          exact Or.inr ⟨0, _, t0, w.components, _, rfl, hI, rfl,
            by simp [UniqueKeys, MsgRunSt.initial],
            TickTrack.start (dev := devs 0) hI _ hb _ [] [] rfl rfl rfl rfl rfl, rfl, rfl, rfl, rfl⟩
        · -- (here `M.ticks - 1` is `0 - 1 = 0`: harmless, an idle bus enables no delivery)
          obtain ⟨b, hb, rfl⟩ := MsgRunSt.step_bus_ok ha hstep
          cases a with
          | startSched => exact absurd rfl ha
          | startComp c =>
            obtain ⟨_, rfl⟩ := MsgSt.step_startComp_ok hb
            exact Or.inl ⟨c :: S, rfl⟩
          | deliverIn c =>
            obtain ⟨_, μ, hμ, _⟩ := MsgSt.step_deliverIn_cases hb
            rw [hI.next_eq_none] at hμ; cases hμ
          | deliverOut c =>
            obtain ⟨tk, _, htk, _⟩ := MsgSt.step_deliverOut_cases hb
            cases htk
    · have hdevn : devs (M.ticks - 1) = devs n := by rw [hticks]; rfl
      cases a with
      | bus a =>
        by_cases ha : a = .startSched
        · -- `.startSched` (which sets `ticks := 1`) is enabled only before the initial tick: `.nextTick`
          -- installs the next ticker in the same step, so `tk = none` never recurs
          subst ha
          obtain ⟨b, hb, _⟩ := MsgRunSt.step_startSched_ok hstep
          exact absurd (MsgSt.step_startSched_ok hb).1 htr.begun
        · obtain ⟨b, hb, rfl⟩ := MsgRunSt.step_bus_ok ha hstep
          rw [hdevn, htr.step_eq hb0] at hb
          rw [hdevn]
          obtain ⟨_, hti, htm, _⟩ := M.after_frame (devs n) b a
          exact Or.inr ⟨n, F, t, roots, b0, hti.trans hticks, hb0, hwake, huniq, htr.step hb0 hb,
            htm.symm ▸ hlink⟩
      | nextTick =>
        obtain ⟨tk, cs, when, b, htk, hnil, hf, hb, rfl⟩ := MsgRunSt.step_nextTick_ok hstep
        have hc : M.bus.Complete := ⟨tk, htk, hnil⟩
        obtain ⟨st, hrun, heq, hu⟩ := tick_boundary hw hacyc hdev hb0 hwake huniq htr hlink hc
        obtain ⟨s, hr, hs, hnil'⟩ := hc.sim hb0 htr.reach
        have hI : (M.resetBus cs).Idle := by
          refine ⟨rfl, rfl, fun T => ?_⟩
          have hall := msg_complete_all_consumed' w _ t roots M.bus s hs hr hnil'
          cases T with
          | inT c => exact (hall c).1
          | outT c => exact (hall c).2
        rw [hticks] at hb
        -- the next tick is begun from `M.flat`, which is equivalent to the `FlatRun` state `st`
        exact Or.inr ⟨n + 1, _, when, cs, _, by simp [hticks], hI, rfl, delWakeups_unique _ hu cs,
          TickTrack.start (dev := devs (n + 1)) hI _ hb _ M.comps M.obs rfl rfl rfl rfl rfl,
          M.flat, st, M.times, hrun, heq, hu, hf, rfl, rfl⟩

theorem TickTrack.mirror {w : Wiring} {devs : DevSeq Val} {t0 : SimTime} {n : Nat} {t : SimTime}
    {roots : List Comp} {F : FlatSt Val} {b0 : MsgSt Val} (hb0 : b0.Idle) {M : MsgRunSt Val}
    (hticks : M.ticks = n + 1) (h : TickTrack w (devs n) t roots F b0 M) {a : MsgAct} {b : MsgSt Val}
    (hstep : M.bus.step w (rxOf F.comps (devs n)) t roots a = some (.ok b)) :
    ∃ M', M.step w devs t0 (.bus a) = some (.ok M') ∧ M'.bus = b ∧ M'.ticks = n + 1 ∧
      TickTrack w (devs n) t roots F b0 M' := by
  have ha : a ≠ .startSched := fun ha =>
    absurd (MsgSt.step_startSched_ok (ha ▸ hstep)).1 h.begun
  have hdevn : devs (M.ticks - 1) = devs n := by rw [hticks]; rfl
  obtain ⟨hbus, hti, _⟩ := M.after_frame (devs n) b a
  refine ⟨M.after (devs n) b a, ?_, hbus, hti.trans hticks, h.step hb0 hstep⟩
  rw [M.step_bus ha, hdevn, h.step_eq hb0, hstep]
  rfl

theorem MsgRunSt.run_cons_ok {w : Wiring} {devs : DevSeq Val} {t0 : SimTime}
    {M M1 : MsgRunSt Val} {a : MsgRunAct} (h : M.step w devs t0 a = some (.ok M1))
    (as : List MsgRunAct) :
    MsgRunSt.run w devs t0 M (a :: as) = MsgRunSt.run w devs t0 M1 as := by
  rw [MsgRunSt.run, h]

theorem MsgRunSt.Reach.run {w : Wiring} {devs : DevSeq Val} {t0 : SimTime}
    {M M' : MsgRunSt Val} (h : MsgRunSt.Reach w devs t0 M) {acts : List MsgRunAct}
    (hr : MsgRunSt.run w devs t0 M acts = some M') : MsgRunSt.Reach w devs t0 M' := by
  induction acts generalizing M with
  | nil => cases hr; exact h
  | cons a as ih =>
    rw [MsgRunSt.run] at hr
    split at hr
    · exact ih (h.step ‹_›) hr
    · cases hr

theorem TickTrack.mirror_run {w : Wiring} {devs : DevSeq Val} {t0 : SimTime} {n : Nat} {t : SimTime}
    {roots : List Comp} {F : FlatSt Val} {b0 : MsgSt Val} (hb0 : b0.Idle) (acts : List MsgAct) :
    ∀ {M : MsgRunSt Val} {b : MsgSt Val}, M.ticks = n + 1 → TickTrack w (devs n) t roots F b0 M →
      MsgSt.run w (rxOf F.comps (devs n)) t roots M.bus acts = some b →
      ∃ M', MsgRunSt.run w devs t0 M (acts.map .bus) = some M' ∧ M'.bus = b := by
  induction acts with
  | nil =>
    intro M b _ _ hr
    cases hr
    exact ⟨M, rfl, rfl⟩
  | cons a as ih =>
    intro M b hticks htr hr
    obtain ⟨b1, hstep, hr1⟩ := MsgSt.run_cons_eq_some hr
    obtain ⟨M1, hM1, hb1, hticks1, htr1⟩ := htr.mirror (t0 := t0) hb0 hticks hstep
    obtain ⟨M', hrun, hb⟩ := ih hticks1 htr1 (hb1 ▸ hr1)
    exact ⟨M', (MsgRunSt.run_cons_ok hM1 _).trans hrun, hb⟩

theorem TickLink.roots_components {w : Wiring} {devs : DevSeq Val} {t0 : SimTime} {n : Nat}
    {F : FlatSt Val} {t : SimTime} {roots : List Comp} {times : List SimTime}
    (h : TickLink w devs t0 n F t roots times) : ∀ r ∈ roots, r ∈ w.components := by
  cases n with
  | zero => obtain ⟨_, _, rfl, _⟩ := h; exact fun _ h => h
  | succ n =>
    obtain ⟨Fp, st, ptimes, hrun, hFp, _, hf, _, _⟩ := h
    exact flatRun_roots_components hrun hFp hf

theorem MsgRunSt.Reach.can_complete_tick {w : Wiring} (hw : RouterOK w) (hacyc : w.Acyclic)
    {devs : DevSeq Val} (hdev : ∀ k, DevExt (devs k)) {t0 : SimTime} {M : MsgRunSt Val}
    (h : MsgRunSt.Reach w devs t0 M) :
    ∃ acts M', MsgRunSt.run w devs t0 M acts = some M' ∧ M'.bus.Complete := by
  have inTick : ∀ {M : MsgRunSt Val}, MsgRunSt.Reach w devs t0 M → M.ticks ≠ 0 →
      ∃ acts M', MsgRunSt.run w devs t0 M acts = some M' ∧ M'.bus.Complete := by
    intro M h hne
    rcases h.inv hw hacyc hdev with ⟨S, rfl⟩ | ⟨n, F, t, roots, b0, hticks, hb0, _, _, htr, hlink⟩
    · exact absurd rfl hne
    · have hroots := Det.extent_ups_isSome hlink.roots_components
      obtain ⟨acts, b, hrun, hc, _, _⟩ :=
        msg_tick_can_complete' w hacyc _ t roots hroots b0 M.bus hb0 htr.reach
      obtain ⟨M', hM', hb⟩ := TickTrack.mirror_run (t0 := t0) hb0 acts hticks htr hrun
      exact ⟨acts.map .bus, M', hM', hb ▸ hc⟩
  by_cases hz : M.ticks = 0
  · -- the scheduler has not started: start it
    rcases h.inv hw hacyc hdev with ⟨S, rfl⟩ | ⟨n, _, _, _, _, hticks, _⟩
    · have hroots := Det.extent_ups_isSome (w := w) (roots := w.components) (fun _ h => h)
      obtain ⟨b, hb⟩ := MsgSt.startSched_enabled (m := ({ started := S } : MsgSt Val))
        (rxOf [] (devs 0)) t0 hroots rfl
      obtain ⟨M1, hM1, ht1⟩ : ∃ M1, (MsgRunSt.initial S : MsgRunSt Val).step w devs t0
          (.bus .startSched) = some (.ok M1) ∧ M1.ticks = 1 :=
        ⟨_, by rw [MsgRunSt.step, MsgRunSt.initial, hb]; rfl, by rfl⟩
      obtain ⟨acts, M', hrun, hc⟩ := inTick (h.step hM1) (by rw [ht1]; exact Nat.one_ne_zero)
      exact ⟨.bus .startSched :: acts, M', (MsgRunSt.run_cons_ok hM1 _).trans hrun, hc⟩
    · rw [hticks] at hz; cases hz
  · exact inTick h hz

end Tickit
