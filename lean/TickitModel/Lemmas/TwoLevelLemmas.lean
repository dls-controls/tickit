/-
The two-level composition (`TSt`, `Core/TwoLevel.lean`: master scheduler + one nested scheduler).
An enabled composed step is a step of each half by its share of the action (`master sys a`,
`nested a`; `step_halves`), so the invariants and step facts of `MSt` and `NSt` lift through
`StepOpt.inv` / `StepOpt.keeps`; `persists` turns "only actions in `B` can destroy `P`" into the
chain lemmas over histories.

`s.InnerRoot c` and `s.SysRoot sys` unfold to `IsRoot s.n.ticking c` and `IsRoot s.m.ticking sys`
(`MasterLemmas`); the lemmas about `IsRoot` are applied to them as they stand.
-/
import TickitModel.Core.TwoLevel
import TickitModel.Lemmas.MasterLemmas
import TickitModel.Lemmas.NestedIntLemmas

namespace Tickit.TwoLevel
open Tickit

def master (sys : Comp) : TAct → Option MAct
  | .innerInterrupt _ stamp => some (.interrupt sys stamp)
  | .topInterrupt c stamp => some (.interrupt c stamp)
  | .output c callAt => some (.output c callAt)
  | .startTick => some .startTick
  | .beginUpdate c => some (.beginUpdate c)
  | .beginSys _ => some (.beginUpdate sys)
  | .endTick => some .endTick
  | .innerBegin _ | .innerEnd => none

def nested : TAct → Option NAct
  | .innerInterrupt c _ => some (.interrupt c)
  | .beginSys due => some (.startTick due)
  | .innerBegin c => some (.beginUpdate c)
  | .innerEnd => some .endTick
  | _ => none

/-- the side conditions of `TSt.step` (told at the head of `Core/TwoLevel.lean`). -/
def Guard (sys : Comp) (s : TSt) : TAct → Prop
  | .topInterrupt c _ | .beginUpdate c => c ≠ sys
  | .output c _ => c = sys → s.n.ticking = none
  | .endTick => s.n.ticking = none
  | _ => True

section
variable {sys : Comp} {s : TSt} {m' : MSt} {n' : NSt} {a : TAct}

theorem step_halves (hs : s.step sys a = some ⟨m', n'⟩) :
    Guard sys s a ∧ StepOpt MSt.step s.m (master sys a) m' ∧ StepOpt NSt.step s.n (nested a) n' := by
  cases a with
  | innerInterrupt | beginSys =>
    simp only [TSt.step] at hs
    split at hs <;> cases hs
    exact ⟨trivial, ‹_›, ‹_›⟩
  | topInterrupt | beginUpdate =>
    obtain ⟨hne, hs⟩ := Option.ite_none_left_eq_some.mp hs
    obtain ⟨_, hm, hs⟩ := Option.map_eq_some_iff.mp hs
    cases hs
    exact ⟨hne, hm, rfl⟩
  | output c callAt =>
    obtain ⟨hne, hs⟩ := Option.ite_none_left_eq_some.mp hs
    obtain ⟨_, hm, hs⟩ := Option.map_eq_some_iff.mp hs
    cases hs
    exact ⟨fun hc => Option.not_isSome_iff_eq_none.mp fun h => hne ⟨hc, h⟩, hm, rfl⟩
  | startTick =>
    obtain ⟨_, hm, hs⟩ := Option.map_eq_some_iff.mp hs
    cases hs
    exact ⟨trivial, hm, rfl⟩
  | innerBegin | innerEnd =>
    obtain ⟨_, hn, hs⟩ := Option.map_eq_some_iff.mp hs
    cases hs
    exact ⟨trivial, rfl, hn⟩
  | endTick =>
    obtain ⟨hne, hs⟩ := Option.ite_none_left_eq_some.mp hs
    obtain ⟨_, hm, hs⟩ := Option.map_eq_some_iff.mp hs
    cases hs
    exact ⟨Option.not_isSome_iff_eq_none.mp hne, hm, rfl⟩

theorem nested_eq_beginUpdate {c : Comp} (h : nested a = some (.beginUpdate c)) :
    a = .innerBegin c := by
  cases a <;> cases h
  rfl

theorem master_ne_beginUpdate_sys (hs : s.step sys a = some ⟨m', n'⟩)
    (ha : ¬ ∃ due, a = TAct.beginSys due) : master sys a ≠ some (.beginUpdate sys) := by
  intro h
  cases a <;> cases h
  · exact (step_halves hs).1 rfl
  · exact ha ⟨_, rfl⟩

end

/-- what links the two levels: whenever the nested scheduler believes the enclosing one has been
told (`upOwed`), the master does owe `sys` an update; an inner tick only runs inside a master tick. -/
structure TInv (sys : Comp) (s : TSt) : Prop where
  m : MInv s.m
  n : NInv s.n
  link : s.n.upOwed = true → sys ∈ s.m.owed
  tick : s.m.ticking = none → s.n.ticking = none
  /-- everything queued has been passed up (also components that are not owed an update) -/
  told : ∀ c ∈ s.n.queued, s.n.upOwed = true

theorem TInv.init (sys : Comp) : TInv sys {} :=
  ⟨MInv.init, NInv.init, (fun h => nomatch h), fun _ => rfl, (fun _ h => nomatch h)⟩

theorem TInv.step {sys : Comp} {s s' : TSt} {a : TAct} (h : TInv sys s)
    (hs : s.step sys a = some s') : TInv sys s' := by
  obtain ⟨m', n'⟩ := s'
  obtain ⟨hg, hm, hn⟩ := step_halves hs
  -- the two sides of the link are set together (`innerInterrupt`) and reset together
  -- (`beginSys`); no other action resets the master's side or sets the nested one
  have hlt : (n'.upOwed = true → sys ∈ m'.owed) ∧ (m'.ticking = none → n'.ticking = none) := by
    cases a with
    | innerInterrupt =>
      cases hm; cases hn
      exact ⟨fun _ => mem_sinsert.mpr (Or.inr rfl), h.tick⟩
    | topInterrupt | output | startTick =>
      cases hn
      exact ⟨fun hu => MSt.owed_step (h.link hu) hm nofun,
        fun ht => h.tick ((MSt.idle_step hm ht).resolve_right nofun)⟩
    | beginUpdate =>
      cases hn
      exact ⟨fun hu => MSt.owed_step (h.link hu) hm fun e => hg (MAct.beginUpdate.inj e),
        fun ht => h.tick ((MSt.idle_step hm ht).resolve_right nofun)⟩
    | beginSys => cases NSt.Step.of_step hn; cases MSt.Step.of_step hm; exact ⟨nofun, nofun⟩
    | innerBegin =>
      cases hm
      cases NSt.Step.of_step hn with
      | beginUpdate _ rem ht =>
        exact ⟨h.link, fun hmt => absurd (ht.symm.trans (h.tick hmt)) (Option.some_ne_none _)⟩
    | innerEnd => cases hm; cases NSt.Step.of_step hn; exact ⟨h.link, fun _ => rfl⟩
    | endTick => cases hn; exact ⟨fun hu => MSt.owed_step (h.link hu) hm nofun, fun _ => hg⟩
  exact ⟨hm.inv MInv.step h.m, hn.inv NInv.step h.n, hlt.1, hlt.2,
    hn.inv NSt.told_step h.told⟩

theorem run_nil (s : TSt) (sys : Comp) : s.run sys [] = s := rfl

theorem run_eq_runOpt (s : TSt) (sys : Comp) (h : List TAct) :
    s.run sys h = runOpt (·.step sys) s h :=
  eq_runOpt_of_rec (run := (·.run sys)) (fun _ => rfl)
    (fun s a _ => by show TSt.run _ _ _ = _; rw [TSt.run]; cases s.step sys a <;> rfl) s h

theorem run_cons_some {s s' : TSt} {sys : Comp} {a : TAct} (hs : s.step sys a = some s')
    (h : List TAct) : s.run sys (a :: h) = s'.run sys h := by
  simp only [run_eq_runOpt]
  exact runOpt_cons_some hs h

theorem run_append (s : TSt) (sys : Comp) (h1 h2 : List TAct) :
    s.run sys (h1 ++ h2) = (s.run sys h1).run sys h2 := by
  simp only [run_eq_runOpt, runOpt_append]

theorem TInv.run {sys : Comp} {s : TSt} (h : TInv sys s) (acts : List TAct) :
    TInv sys (s.run sys acts) :=
  run_eq_runOpt .. ▸ runOpt_induction (step := (·.step sys)) TInv.step h acts

theorem exec_append_right {s : TSt} {sys : Comp} {B : TAct → Prop} {h : List TAct}
    (he : s.Executes sys h B) (h' : List TAct) : s.Executes sys (h ++ h') B := by
  obtain ⟨h1, b, h2, rfl, hB, hen⟩ := he
  exact ⟨h1, b, h2 ++ h', by simp, hB, hen⟩

theorem exec_append_left {s : TSt} {sys : Comp} {B : TAct → Prop} (h : List TAct)
    {h' : List TAct} (he : (s.run sys h).Executes sys h' B) : s.Executes sys (h ++ h') B := by
  obtain ⟨h1, b, h2, rfl, hB, hen⟩ := he
  exact ⟨h ++ h1, b, h2, by simp, hB, by rw [run_append]; exact hen⟩

theorem persists {sys : Comp} (P : TSt → Prop) (B : TAct → Prop)
    (hstep : ∀ {s s' a}, P s → s.step sys a = some s' → ¬ B a → P s') :
    ∀ (h : List TAct) (s : TSt), P s → s.Executes sys h B ∨ P (s.run sys h) := by
  intro h
  induction h with
  | nil => exact fun s hP => Or.inr hP
  | cons a h ih =>
    intro s hP
    have h1 : s.Executes sys [a] B ∨ P (s.run sys [a]) := by
      rw [run_eq_runOpt, runOpt_cons]
      cases hs : s.step sys a with
      | none => exact Or.inr hP
      | some s' =>
        exact (Classical.em (B a)).imp (fun hB => ⟨[], a, [], rfl, hB, (congrArg Option.isSome hs : _)⟩)
          (hstep hP hs)
    rcases h1 with he | hP1
    · exact Or.inl (exec_append_right he h)
    · exact (ih _ hP1).imp (exec_append_left [a]) (by rw [← run_append]; exact id)

/-- the nested scheduler still has to update `c` -/
def InnerObl (c : Comp) (s : TSt) : Prop := s.InnerRoot c ∨ c ∈ s.n.queued

theorem innerObl_of_owed {s : TSt} (hn : NInv s.n) {c : Comp} (hc : c ∈ s.n.owed) :
    InnerObl c s :=
  (hn.owed c hc).imp_right And.left

section
variable {sys c : Comp} {s s' : TSt} {a : TAct}

theorem innerObl_step (hP : InnerObl c s)
    (hs : s.step sys a = some s') (hB : ¬ a = TAct.innerBegin c) : InnerObl c s' :=
  (step_halves hs).2.2.keeps NSt.obl_step hP fun h => hB (nested_eq_beginUpdate h)

/-- an executed `innerBegin c`, in the form used by the property statements -/
theorem begins_of_exec {h : List TAct}
    (he : s.Executes sys h (fun a => a = TAct.innerBegin c)) : s.Begins sys h c := by
  obtain ⟨h1, a, h2, rfl, rfl, hen⟩ := he
  obtain ⟨s', hs'⟩ := Option.isSome_iff_exists.mp hen
  exact ⟨h1, h2, s', rfl, hs', NSt.not_owed_of_beginUpdate (step_halves hs').2.2⟩

end

theorem begins_append_right {sys : Comp} {s : TSt} {h : List TAct} {c : Comp}
    (hb : s.Begins sys h c) (h' : List TAct) : s.Begins sys (h ++ h') c := by
  obtain ⟨h1, h2, s', rfl, hs, hc⟩ := hb
  exact ⟨h1, h2 ++ h', s', by simp, hs, hc⟩

theorem innerObl_run {sys : Comp} {c : Comp} (h : List TAct) (s : TSt) (hP : InnerObl c s) :
    s.Begins sys h c ∨ InnerObl c (s.run sys h) :=
  (persists (InnerObl c) (· = TAct.innerBegin c) innerObl_step h s hP).imp_left begins_of_exec

theorem innerRoot_run {sys : Comp} {c : Comp} (h : List TAct) (s : TSt) (hP : s.InnerRoot c) :
    s.Begins sys h c ∨ (s.run sys h).InnerRoot c :=
  (persists (·.InnerRoot c) (· = TAct.innerBegin c)
    (fun hP hs hB => (step_halves hs).2.2.keeps NSt.root_step hP fun h => hB (nested_eq_beginUpdate h))
    h s hP).imp_left begins_of_exec

theorem sysRoot_run {sys : Comp} (h : List TAct) (s : TSt) (hP : s.SysRoot sys) :
    s.Executes sys h (fun a => ∃ due, a = TAct.beginSys due) ∨ (s.run sys h).SysRoot sys :=
  persists (·.SysRoot sys) _
    (fun hP hs hB => (step_halves hs).2.1.keeps MSt.root_step hP (master_ne_beginUpdate_sys hs hB))
    h s hP

theorem innerRoot_of_beginSys {sys : Comp} {c : Comp} {s s' : TSt} {due : List Comp}
    (hP : InnerObl c s) (hs : s.step sys (.beginSys due) = some s') : s'.InnerRoot c :=
  NSt.root_of_startTick hP (step_halves hs).2.2

theorem endTick_disabled_of_sysRoot {sys : Comp} {s : TSt} (hP : s.SysRoot sys) :
    s.step sys .endTick = none :=
  Option.eq_none_iff_forall_ne_some.mpr fun ⟨_, _⟩ hs => by
    cases MSt.Step.of_step (step_halves hs).2.1 with
    | endTick ht => exact List.not_mem_nil (IsRoot.mem hP ht)

theorem innerEnd_disabled_of_innerRoot {sys : Comp} {c : Comp} {s : TSt} (hP : s.InnerRoot c) :
    s.step sys .innerEnd = none :=
  Option.eq_none_iff_forall_ne_some.mpr fun ⟨_, _⟩ hs => by
    cases NSt.Step.of_step (step_halves hs).2.2 with
    | endTick ht => exact List.not_mem_nil (IsRoot.mem hP ht)

section
variable {sys c : Comp} {s s1 : TSt} {pre mid : List TAct} {a : TAct}

theorem run_after (hs : (s.run sys pre).step sys a = some s1) :
    s.run sys (pre ++ a :: mid) = s1.run sys mid := by
  rw [run_append, run_cons_some hs]

theorem begins_after (hs : (s.run sys pre).step sys a = some s1) (hb : s1.Begins sys mid c) :
    s.Begins sys (pre ++ a :: mid) c := by
  obtain ⟨h1, h2, s', rfl, hs', hc⟩ := hb
  exact ⟨pre ++ a :: h1, h2, s', by simp, by rw [run_after hs]; exact hs', hc⟩

theorem chain_inner (hr : s.InnerRoot c)
    (he : ((s.run sys pre).step sys .endTick).isSome = true) : s.Begins sys pre c := by
  rcases innerRoot_run (sys := sys) pre s hr with hbg | hr'
  · exact hbg
  · obtain ⟨_, hs'⟩ := Option.isSome_iff_exists.mp he
    exact absurd (step_halves hs').1 (IsRoot.ne_none hr')

end

theorem chain_core {sys : Comp} {c : Comp} (s : TSt) (hP : InnerObl c s)
    (pre mid : List TAct) (due : List Comp)
    (hb : ((s.run sys pre).step sys (.beginSys due)).isSome = true)
    (he : ((s.run sys (pre ++ TAct.beginSys due :: mid)).step sys .endTick).isSome = true) :
    s.Begins sys (pre ++ TAct.beginSys due :: mid) c := by
  obtain ⟨s1, hs1⟩ := Option.isSome_iff_exists.mp hb
  rcases innerObl_run (sys := sys) pre s hP with hbg | hP1
  · exact begins_append_right hbg _
  · rw [run_after hs1] at he
    exact begins_after hs1 (chain_inner (innerRoot_of_beginSys hP1 hs1) he)

theorem chain_current {sys : Comp} {c : Comp} (s : TSt) (hP : InnerObl c s)
    (hroot : s.InnerRoot c ∨ s.SysRoot sys) (pre : List TAct)
    (he : ((s.run sys pre).step sys .endTick).isSome = true) : s.Begins sys pre c := by
  rcases hroot with hr | hr
  · exact chain_inner hr he
  · rcases sysRoot_run pre s hr with ⟨p1, a, p2, rfl, ⟨due, rfl⟩, hen⟩ | hr'
    · exact chain_core s hP p1 p2 due hen he
    · rw [endTick_disabled_of_sysRoot hr'] at he
      cases he

theorem chain_tick {sys : Comp} {c : Comp} (s : TSt) (hP : InnerObl c s)
    (pre mid : List TAct) (s1 : TSt) (hst : (s.run sys pre).step sys .startTick = some s1)
    (hroot : s1.SysRoot sys)
    (he : ((s.run sys (pre ++ TAct.startTick :: mid)).step sys .endTick).isSome = true) :
    s.Begins sys (pre ++ TAct.startTick :: mid) c := by
  rw [run_after hst] at he
  rcases innerObl_run (sys := sys) pre s hP with hbg | hP1
  · exact begins_append_right hbg _
  · exact begins_after hst
      (chain_current s1 (innerObl_step hP1 hst nofun) (Or.inr hroot) mid he)

end Tickit.TwoLevel
