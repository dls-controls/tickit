/-
For C12 with processing costs (`Props/C12Cost.lean`): order in time along a trace of the master loop
with costs.  Tick times never decrease when no device asks to be called back in the past: `MonoP`
of `Lemmas/TimeMonoLemmas.lean`, which relates a configuration to the END of the trace, is carried
back over the four steps of a trace (`TraceC.mono`).  When the stimuli come in the order of their
real times (and after the start of the simulation), each one is handled at its own real time:
`now = max st.real m.now = st.real`; "the stimuli left are in time order and not before the real
time reached" is an invariant of configurations, `SortedI`.
-/
import TickitModel.Lemmas.CostRun

namespace Tickit
namespace CostRun

open TimeMono Pacing

theorem TraceC.mono {S : Static} {orc : Oracle} {fuel : Nat} {sp : Speed} {cost : Nat → Nat}
    {c c2 : Cfg} {log : List StimEvC} (h : TraceC S orc fuel sp cost c log c2) :
    MonoP orc c.m c.acc (c2.m, c2.acc) := by
  induction h with
  | done => exact .stop ..
  | step hs _ ih =>
    cases hs with
    | stim => exact MonoP.stim S fuel sp _ ih
    | tick _ hfw hr =>
      exact .tick hfw (tickLevel_ok S orc _ _ _ _ _ _ _ _ hr) (SimSt.Ext.refl _) rfl
        (fun hg hw => ⟨hg, hw, Int.le_refl _⟩) ih
    | mid => exact MonoP.stim S fuel sp _ ih
    | endT => exact .endT _ ih

theorem simC_time_monotone (S : Static) (orc : Oracle) (fuel : Nat) (t0 : SimTime) (now0 : Int)
    (sp : Speed) (cost : Nat → Nat) (steps nTicks : Nat) (stims0 stims : List Stim)
    (m m2 : MasterSt) (tr : TickRec) (ticks : List TickRec)
    (h : masterInitialC S orc fuel sp cost t0 now0 stims0 = .ok (m, tr, stims))
    (h2 : masterRunC S orc fuel sp cost steps nTicks m stims [tr] = .ok (m2, ticks))
    (hnp : RunNoPast orc m2.sim) :
    (ticks.map (·.time)).Pairwise (· ≤ ·) := by
  obtain ⟨L, sim, out, s2, hT, rfl, htr⟩ := initial_traceC h h2
  obtain ⟨hx, hrun⟩ := htr.mono
  obtain ⟨hg, hnew⟩ := (tickLevel_ok S orc _ _ _ _ _ _ _ _ hT).2 SimSt.good_empty
  have hnew := hnew (RunNoPast.of_ext hx hnp)
  refine (hrun ⟨hg, fun e he => (hnew "" e he).elim (fun h1 => nomatch h1) id, Int.le_refl _⟩ hnp
    (by simp) fun x hx' => ?_).1
  cases List.mem_singleton.1 hx'
  exact Int.le_refl _

def StimsSorted (stims : List Stim) : Prop := stims.Pairwise (fun a b => a.real ≤ b.real)

theorem StimsSorted.head_le {st : Stim} {rest : List Stim} (hs : StimsSorted (st :: rest)) {c : Int}
    (h : c ≤ st.real) : ∀ x ∈ st :: rest, c ≤ x.real := by
  intro x hx
  rcases List.mem_cons.1 hx with hx | hx
  · rw [hx]; exact h
  · exact Int.le_trans h ((List.pairwise_cons.1 hs).1 x hx)

theorem stimFirstC_none {m : MasterSt} {s : Speed} {w : SimTime} {stims : List Stim}
    (h : stimFirstC m s (some w) stims = none) (hs : StimsSorted stims) :
    ∀ x ∈ stims, dueReal m s w < x.real := by
  cases stims with
  | nil => intro x hx; cases hx
  | cons st rest =>
    simp only [stimFirstC, Option.map_some] at h
    split at h
    · cases h
    · rename_i hg
      exact hs.head_le (Int.not_le.1 hg)

section
variable {S : Static} {orc : Oracle} {fuel : Nat} {sp : Speed} {cost : Nat → Nat}

def SortedI (c : Cfg) : Prop :=
  StimsSorted c.stims ∧ ∀ x ∈ c.stims, c.m.now ≤ x.real ∧
    match c.tickEnd with
    | none => True
    | some _ => c.m.lastReal < x.real

theorem SortedI.step {c c' : Cfg} {l : List StimEvC} (h : SortedI c)
    (hs : StepC S orc fuel sp cost c l c') : SortedI c' := by
  obtain ⟨hso, hle⟩ := h
  cases hs with
  | stim hsel =>
    cases stimSel_mem ((stimFirstC_eq _ _ _ _).symm.trans hsel)
    obtain ⟨hst, hs'⟩ := List.pairwise_cons.1 hso
    exact ⟨hs', fun x hx => ⟨stimNow_le (hst x hx) (hle x (List.mem_cons_of_mem _ hx)).1,
      trivial⟩⟩
  | @tick m stims acc comps w sim2 out hsel hfw _ =>
    have hsnd : (firstWakeups (m.sim.sched "").wake).2 = some w := by rw [hfw]
    rw [hsnd] at hsel
    have := stimFirstC_none hsel hso
    exact ⟨hso, fun x hx => ⟨Int.le_of_lt (this x hx), this x hx⟩⟩
  | mid hin =>
    obtain ⟨hst, hs'⟩ := List.pairwise_cons.1 hso
    exact ⟨hs', fun x hx => ⟨stimNow_le (hst x hx) (hle x (List.mem_cons_of_mem _ hx)).1,
      (hle x (List.mem_cons_of_mem _ hx)).2⟩⟩
  | @endT e m stims acc hout =>
    refine ⟨hso, fun x hx => ⟨?_, trivial⟩⟩
    cases stims with
    | nil => cases hx
    | cons st rest =>
      have h1 : m.lastReal < st.real := (hle st List.mem_cons_self).2
      exact hso.head_le (Int.not_lt.1 fun h2 => hout st rfl ⟨h1, h2⟩) x hx

theorem TraceC.now_le {c c2 : Cfg} {log : List StimEvC} (h : TraceC S orc fuel sp cost c log c2)
    (h0 : SortedI c) : ∀ ev ∈ log, ev.m.now ≤ ev.st.real := by
  intro ev hev
  obtain ⟨pre, post, hsplit⟩ := List.append_of_mem hev
  obtain ⟨c1, c1', i1, s1, _⟩ := h.at_event (fun _ _ _ => SortedI.step) h0 pre ev post hsplit
  obtain ⟨e1, _, e4, _⟩ := s1.event
  rw [e1]
  exact (i1.2 ev.st (e4 ▸ List.mem_cons_self)).1

end

end CostRun
end Tickit
