/-
The derivative of `Core/Regex.lean` is correct for the language `Matches` (`deriv_matches`), by one
inversion lemma per constructor.
-/
import TickitModel.Core.Regex

namespace Tickit

namespace Regex

theorem matches_empty_iff {w : List Char} : Matches .empty w ↔ False :=
  ⟨fun h => (by cases h), False.elim⟩

theorem matches_eps_iff {w : List Char} : Matches .eps w ↔ w = [] :=
  ⟨fun h => (by cases h; rfl), fun h => h ▸ Matches.eps⟩

theorem matches_chr_iff {d : Char} {w : List Char} : Matches (.chr d) w ↔ w = [d] :=
  ⟨fun h => (by cases h; rfl), fun h => h ▸ Matches.chr d⟩

theorem matches_cls_iff {rs : List (Char × Char)} {neg : Bool} {w : List Char} :
    Matches (.cls rs neg) w ↔ ∃ c, w = [c] ∧ (inRanges c rs != neg) = true := by
  constructor
  · intro h
    cases h with
    | cls c _ _ hc => exact ⟨c, rfl, hc⟩
  · rintro ⟨c, rfl, hc⟩
    exact Matches.cls c rs neg hc

theorem matches_any_iff {w : List Char} : Matches .any w ↔ ∃ c, w = [c] ∧ c ≠ '\n' := by
  constructor
  · intro h
    cases h with
    | any c hc => exact ⟨c, rfl, hc⟩
  · rintro ⟨c, rfl, hc⟩
    exact Matches.any c hc

theorem matches_seq_iff {r s : Regex} {w : List Char} :
    Matches (.seq r s) w ↔ ∃ u v, w = u ++ v ∧ Matches r u ∧ Matches s v := by
  constructor
  · intro h
    cases h with
    | seq hr hs => exact ⟨_, _, rfl, hr, hs⟩
  · rintro ⟨u, v, rfl, hr, hs⟩
    exact Matches.seq hr hs

theorem matches_alt_iff {r s : Regex} {w : List Char} :
    Matches (.alt r s) w ↔ Matches r w ∨ Matches s w := by
  constructor
  · intro h
    cases h with
    | altL h => exact Or.inl h
    | altR h => exact Or.inr h
  · rintro (h | h)
    · exact Matches.altL h
    · exact Matches.altR h

/-- the first iteration can be taken NON-EMPTY: empty iterations at the front of a derivation are skipped -/
theorem matches_star_iff {r : Regex} {w : List Char} :
    Matches (.star r) w ↔
      w = [] ∨ ∃ u v, u ≠ [] ∧ w = u ++ v ∧ Matches r u ∧ Matches (.star r) v := by
  constructor
  · intro h
    generalize hq : Regex.star r = q at h
    induction h with
    | starNil => exact Or.inl rfl
    | @starCons r' u v hu hv _ ih =>
      cases hq
      cases u with
      | nil => exact ih rfl
      | cons c u => exact Or.inr ⟨c :: u, v, List.cons_ne_nil c u, rfl, hu, hv⟩
    | _ => cases hq
  · rintro (rfl | ⟨u, v, _, rfl, hu, hv⟩)
    · exact Matches.starNil
    · exact Matches.starCons hu hv

theorem matches_star_cons_iff {r : Regex} {c : Char} {w : List Char} :
    Matches (.star r) (c :: w) ↔
      ∃ u v, w = u ++ v ∧ Matches r (c :: u) ∧ Matches (.star r) v := by
  constructor
  · intro h
    rcases matches_star_iff.mp h with h0 | ⟨u, v, hne, hw, hu, hv⟩
    · cases h0
    · rcases List.cons_eq_append_iff.mp hw with ⟨rfl, _⟩ | ⟨u', rfl, rfl⟩
      · exact absurd rfl hne
      · exact ⟨u', v, rfl, hu, hv⟩
  · rintro ⟨u, v, rfl, hu, hv⟩
    exact Matches.starCons hu hv

theorem matches_seq_cons_iff {r s : Regex} {c : Char} {w : List Char} :
    Matches (.seq r s) (c :: w) ↔
      (∃ u v, w = u ++ v ∧ Matches r (c :: u) ∧ Matches s v) ∨
      (Matches r [] ∧ Matches s (c :: w)) := by
  constructor
  · intro h
    obtain ⟨u, v, hw, hu, hv⟩ := matches_seq_iff.mp h
    rcases List.cons_eq_append_iff.mp hw with ⟨rfl, rfl⟩ | ⟨u', rfl, rfl⟩
    · exact Or.inr ⟨hu, hv⟩
    · exact Or.inl ⟨u', v, rfl, hu, hv⟩
  · rintro (⟨u, v, rfl, hu, hv⟩ | ⟨hr, hs⟩)
    · exact Matches.seq hu hv
    · exact Matches.seq (u := []) hr hs

theorem nullable_iff (r : Regex) : r.nullable = true ↔ Matches r [] := by
  induction r with
  | eps => exact ⟨fun _ => .eps, fun _ => rfl⟩
  | star r _ => exact ⟨fun _ => .starNil, fun _ => rfl⟩
  | seq r s ihr ihs =>
    rw [nullable, Bool.and_eq_true, ihr, ihs, matches_seq_iff]
    constructor
    · rintro ⟨hr, hs⟩
      exact ⟨[], [], rfl, hr, hs⟩
    · rintro ⟨u, v, hw, hr, hs⟩
      obtain ⟨rfl, rfl⟩ := List.append_eq_nil_iff.mp hw.symm
      exact ⟨hr, hs⟩
  | alt r s ihr ihs => rw [nullable, Bool.or_eq_true, ihr, ihs, matches_alt_iff]
  | empty => simp [nullable, matches_empty_iff]
  | chr d => simp [nullable, matches_chr_iff]
  | cls rs neg => simp [nullable, matches_cls_iff]
  | any => simp [nullable, matches_any_iff]

/-- the shape `if P then eps else empty` that `deriv` gives to `chr` and `cls`, and to `any` up to `ite_not` -/
theorem matches_ite_eps_iff {P : Prop} [Decidable P] {w : List Char} :
    Matches (if P then .eps else .empty) w ↔ w = [] ∧ P := by
  split
  · rw [matches_eps_iff]
    exact ⟨fun h => ⟨h, ‹P›⟩, And.left⟩
  · rw [matches_empty_iff]
    exact ⟨False.elim, fun h => ‹¬P› h.2⟩

/-- the right sides of `matches_cls_iff` / `matches_any_iff` for a word `c :: w` -/
theorem single_cons_iff {P : Char → Prop} {c : Char} {w : List Char} :
    (∃ d, c :: w = [d] ∧ P d) ↔ w = [] ∧ P c :=
  ⟨fun ⟨_, hd, hP⟩ => ⟨(List.cons.inj hd).2, (List.cons.inj hd).1 ▸ hP⟩,
    fun ⟨hw, hP⟩ => ⟨c, hw ▸ rfl, hP⟩⟩

theorem deriv_matches (r : Regex) (c : Char) (w : List Char) :
    Matches (r.deriv c) w ↔ Matches r (c :: w) := by
  induction r generalizing w with
  | empty => simp [deriv, matches_empty_iff]
  | eps => simp [deriv, matches_empty_iff, matches_eps_iff]
  | chr d =>
    rw [deriv, matches_ite_eps_iff, matches_chr_iff]
    exact ⟨fun ⟨hw, hc⟩ => hw ▸ hc ▸ rfl, fun h => by cases h; exact ⟨rfl, rfl⟩⟩
  | cls rs neg => rw [deriv, matches_ite_eps_iff, matches_cls_iff, single_cons_iff]
  | any =>
    rw [deriv, matches_any_iff, single_cons_iff, ← matches_ite_eps_iff, ite_not]
  | seq r s ihr ihs =>
    rw [matches_seq_cons_iff, deriv]
    split
    · rename_i hn
      simp only [matches_alt_iff, matches_seq_iff, ihr, ihs]
      exact or_congr_right ⟨fun h => ⟨(nullable_iff r).mp hn, h⟩, And.right⟩
    · rename_i hn
      simp only [matches_seq_iff, ihr]
      exact ⟨Or.inl, fun h => h.resolve_right fun h => hn ((nullable_iff r).mpr h.1)⟩
  | alt r s ihr ihs => rw [deriv, matches_alt_iff, matches_alt_iff, ihr, ihs]
  | star r ih =>
    rw [matches_star_cons_iff]
    simp only [deriv, matches_seq_iff, ih]

end Regex

end Tickit
