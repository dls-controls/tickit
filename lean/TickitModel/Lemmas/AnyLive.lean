/-
Any-order nested tick: the FIFO model completes every tick that has an any-order
execution.  If `TickLevelAny S orc lvl t roots inCh st r` holds for SOME choice of answer orders,
then `tickLevel` (first-in first-out at every level) succeeds on every equivalent input, for every
sufficiently large fuel.  Together with determinism this makes "agrees with the FIFO model"
unconditional.

The FIFO loop is simulated step by step against the complete execution: every dispatch the FIFO
ticker hands out is equivalent to the one the same component received in the complete execution
(`sameDispatch_part` of `Lemmas/AnyTrace.lean`: the tick equations, for a PARTIAL second trace), so
the recorded answer of that component shows that the FIFO answer exists (same oracle entry; for a
system component the induction hypothesis of its inner tick); `propagate` cannot fail and the loop
cannot stall under the invariant.
-/
import TickitModel.Lemmas.AnyDet

namespace Tickit

section

variable {S : Static} {orc : Oracle}

/-- The result of the execution does not occur: the execution is only the witness that bounds the
fuel (`tickLevelAny_live` is by induction over it). -/
def LiveQ (S : Static) (orc : Oracle) : LevelRel := fun lvl t roots inCh st _ =>
  (akeys inCh).Nodup → ∃ F : Nat, ∀ (roots' : List Comp) (inCh' : List (Port × V)) (st' : SimSt),
    (∀ c, c ∈ roots ↔ c ∈ roots') → MapEq inCh inCh' → (akeys inCh').Nodup →
    EqOn (AtOrBelow S lvl) st st' →
    ∀ fuel, F ≤ fuel → ∃ rf, tickLevel S orc fuel lvl t roots' inCh' st' = .ok rf

def LiveAns (S : Static) (orc : Oracle) (L : Level) (d : Dispatch V) (σ : SimSt) (F : Nat) : Prop :=
  ∀ (fuel : Nat), F ≤ fuel → ∀ (inCh2 : List (Port × V)) (σ2 : SimSt) (o2 : List (Port × V))
    (d2 : Dispatch V), Dispatch.Equiv d d2 → Det.InsNodup d2 →
    (∀ x, Foot S L d.comp x → (σ.loc x).Equiv (σ2.loc x)) →
    ∃ res, simAnswer S orc fuel L inCh2 σ2 o2 d2 = .ok res

theorem LiveAns.mono {L : Level} {d : Dispatch V} {σ : SimSt} {F F' : Nat}
    (h : LiveAns S orc L d σ F) (hF : F ≤ F') : LiveAns S orc L d σ F' :=
  fun fuel hfu => h fuel (Nat.le_trans hF hfu)

theorem AnsP.live (hS : S.Valid) {inner : LevelRel}
    (hin : ∀ c t ro i s r, inner c t ro i s r → LiveQ S orc c t ro i s r)
    {L : Level} (hL : L ∈ S.levels) {inCh : List (Port × V)} {σ : SimSt} {d : Dispatch V}
    {res : SimSt × List (Port × V) × Option SimTime} (a : AnsP S orc inner L inCh σ d res)
    (hdc : d.comp ∈ L.wiring.components) (hnd : Det.InsNodup d) :
    ∃ F, LiveAns S orc L d σ F := by
  cases a with
  | skip =>
    refine ⟨0, ?_⟩
    intro fuel _ inCh2 σ2 o2 d2 he _ _
    cases d2 with
    | input c' t' i' => exact he.elim
    | skip c' t' => exact ⟨_, rfl⟩
  | @external c t ins e1 =>
    refine ⟨0, ?_⟩
    intro fuel _ inCh2 σ2 o2 d2 he _ _
    obtain ⟨i', rfl, _⟩ := he.input_inv
    exact ⟨_, if_pos e1⟩
  | @expose c t ins e1 e2 =>
    refine ⟨0, ?_⟩
    intro fuel _ inCh2 σ2 o2 d2 he _ _
    obtain ⟨i', rfl, _⟩ := he.input_inv
    exact ⟨_, (if_neg (by rw [e1]; exact Bool.false_ne_true)).trans (if_pos e2)⟩
  | @sys c t ins st2 outCh e1 e2 e3 e4 =>
    obtain ⟨F, hF⟩ := hin _ _ _ _ _ _ e4 hnd
    have hpar := hS.toWF.parent_of_member hL hdc e1 e2
    refine ⟨F, ?_⟩
    intro fuel hfu inCh2 σ2 o2 d2 he hn2 hσ
    obtain ⟨i', rfl, hi⟩ := he.input_inv
    obtain ⟨hsch, hpre⟩ := sysPre_eqOn hS hpar hσ t
    obtain ⟨rf, hrf⟩ := hF (sysRoots S σ2 c t) i' (sysPre σ2 c t) (mem_sysRoots_congr hsch t) hi hn2
      hpre fuel hfu
    rw [simAnswer_sys e1 e2 e3, hrf]
    exact ⟨_, rfl⟩
  | @dev c t ins resp e1 e2 e3 e4 e5 =>
    have hpar := hS.toWF.parent_of_member hL hdc e1 e2
    refine ⟨0, ?_⟩
    intro fuel _ inCh2 σ2 o2 d2 he _ hσ
    obtain ⟨i', rfl, _⟩ := he.input_inv
    have hcnt : agetD σ.count c 0 = agetD σ2.count c 0 := (hσ c ⟨hpar, Or.inl rfl⟩).cnt
    rw [hcnt] at e4
    rw [simAnswer_dev e1 e2 e3 e4 e5]
    exact ⟨_, rfl⟩

theorem recs_live_bound {L : Level} (recs : List AnsRec)
    (h : ∀ r ∈ recs, ∃ F, LiveAns S orc L r.d r.pre F) :
    ∃ F, ∀ r ∈ recs, LiveAns S orc L r.d r.pre F := by
  induction recs with
  | nil => exact ⟨0, by simp⟩
  | cons r recs ih =>
    obtain ⟨F1, h1⟩ := h r (by simp)
    obtain ⟨F2, h2⟩ := ih (fun r' hr' => h r' (List.mem_cons_of_mem _ hr'))
    refine ⟨max F1 F2, ?_⟩
    intro r' hr'
    rcases List.mem_cons.1 hr' with rfl | hr'
    · exact h1.mono (Nat.le_max_left _ _)
    · exact (h2 r' hr').mono (Nat.le_max_right _ _)

theorem fifo_loop_ok (hS : S.Valid) {fuel : Nat} {L : Level} (hL : L ∈ S.levels)
    {inCh1 inCh2 : List (Port × V)} (hin : MapEq inCh1 inCh2) (hn2 : (akeys inCh2).Nodup)
    {t : SimTime} {roots1 roots2 : List Comp} (hroots : ∀ c, c ∈ roots1 ↔ c ∈ roots2)
    {st1 st2 : SimSt} (hst : EqOn (AtOrBelow S L.name) st1 st2)
    {inner1 : LevelRel} (hi1 : ∀ c t ro i s r, inner1 c t ro i s r → TickLevelAny S orc c t ro i s r)
    {ls1 : LoopSt} {tr1 : List (Ev V)} {recs1 : List AnsRec}
    (inv1 : Inv2 S orc inner1 L inCh1 t roots1 st1 ls1 tr1 recs1) (hf1 : ls1.tk.toUpdate = [])
    (hlive : ∀ r ∈ recs1, LiveAns S orc L r.d r.pre fuel)
    (hups : ∀ c ∈ extent L.wiring roots2, (L.wiring.ups c).isSome = true) :
    ∀ (steps : Nat) (ls2 : LoopSt) (tr2 : List (Ev V)) (recs2 : List AnsRec),
      Inv2 S orc (fifoRel S orc fuel) L inCh2 t roots2 st2 ls2 tr2 recs2 →
      Complete L.wiring ls2.tk.toUpdate → ls2.tk.toUpdate.length < steps →
      ∃ rf, tickLoop S orc fuel steps L inCh2 ls2 = .ok rf := by
  have hw := hS.routerOK hL
  have hacyc := hS.acyclic L hL
  have F1 : TraceFin L.wiring t roots1 tr1 := TraceFin.of_inv hw (hf1 ▸ inv1.pre) inv1.eq
  have hd1 : ∀ c t ro i s r, inner1 c t ro i s r → LevelDet S orc c t ro i s r :=
    fun _ _ _ _ _ _ h => tickLevelAny_det hS (hi1 _ _ _ _ _ _ h)
  have hi2 : ∀ c t ro i s r, fifoRel S orc fuel c t ro i s r → TickLevelAny S orc c t ro i s r :=
    fun _ _ _ _ _ _ h => tickLevel_any _ _ _ _ _ _ _ h
  have hp2 : ∀ c t ro i s r, fifoRel S orc fuel c t ro i s r → LevelPost1 S c s r :=
    (levelPost1_hereditary hS orc).tickLevel fuel
  -- every answer removes one component from `to_update`, so `steps` bounds the answers left
  intro steps
  induction steps with
  | zero => intro ls2 tr2 recs2 inv2 hcomp hlen; exact absurd hlen (Nat.not_lt_zero _)
  | succ s ih =>
    intro ls2 tr2 recs2 inv2 hcomp hlen
    cases hp : ls2.pending with
    | nil =>
      have htu : ls2.tk.toUpdate = [] := by
        apply Classical.byContradiction
        intro hne
        exact inv2.pre.progress hacyc hcomp hne hp
      rw [tickLoop_nil _ _ _ _ _ _ _ hp, htu]
      exact ⟨_, rfl⟩
    | cons d rest =>
      have hd0 : ls2.pending[0]? = some d := by rw [hp]; rfl
      have hdm : d ∈ ls2.pending := by rw [hp]; simp
      obtain ⟨hdtr, _, hnd, hrne⟩ := inv2.pending hdm
      have hdisp2 : dispatchOf tr2 d.comp = some d := dispatchOf_eq_of_mem (inv2.pre.count _).1 hdtr
      -- the same component's dispatch in the complete execution
      obtain ⟨d1, hd1c, he⟩ := sameDispatch_part hw hacyc hroots F1 inv2.pre inv2.eq
        (inv1.answers_agree hS hd1 hi2 hL hin hst inv2) d.comp d hdisp2
      obtain ⟨ch1, hch1⟩ := F1.answered _ (F1.in_extent hd1c)
      obtain ⟨r1, hr1, hc1, _, hdo1⟩ := inv1.rec_of_answer hch1
      rw [hd1c] at hdo1
      cases hdo1
      have hfoot : ∀ x, Foot S L r1.d.comp x → (r1.pre.loc x).Equiv (ls2.st.loc x) := by
        intro x hx
        obtain ⟨_, _, hpre1, _, _⟩ := inv1.recs_ok r1 hr1
        rw [hpre1 x hx]
        rw [inv2.untouched x (Foot.ne_level hS hx)
          (fun r2 hr2 h2 => hrne r2 hr2 ((Foot.unique hS h2 hx).trans hc1))]
        exact hst x (Or.inr hx.below)
      obtain ⟨res, hres⟩ := hlive r1 hr1 fuel (Nat.le_refl _) inCh2 ls2.st ls2.outCh d he
        hnd hfoot
      obtain ⟨st', o', ch, ca⟩ := res
      obtain ⟨ia, io⟩ := simAnswer_fifo hres
      obtain ⟨tk', ds, hprop⟩ := inv2.pre.propagate_ok hups inv2.time hdm ch
      have hcomp' := (inv2.pre.propagate inv2.time hd0 hprop).2.1
      have inv2' := inv2.step hS hp2 hL hn2 hd0 ia hprop
      have herase : ls2.pending.eraseIdx 0 = rest := by rw [hp]; rfl
      rw [herase, ← io] at inv2'
      rw [tickLoop_cons _ _ _ _ _ _ _ _ _ hp, hres]
      simp only [hprop]
      refine ih _ _ _ inv2' hcomp' ?_
      show tk'.toUpdate.length < s
      have := Ticker.propagate_length hprop
      omega

/-- the number of loop steps `tickLevel` allows (`Core/Sim.lean`: `(L.wiring.components.length + 2) * 2`)
exceeds the number of components -/
theorem steps_bound (n : Nat) : n < (n + 2) * 2 :=
  Nat.lt_of_lt_of_le (Nat.lt_add_of_pos_right (Nat.zero_lt_succ 1))
    (Nat.le_mul_of_pos_right _ (Nat.zero_lt_succ 1))

theorem tickLevelAny_live (hS : S.Valid) {lvl : Comp} {t : SimTime} {roots : List Comp}
    {inCh : List (Port × V)} {st : SimSt} {r : SimSt × List (Port × V)}
    (h : TickLevelAny S orc lvl t roots inCh st r) : LiveQ S orc lvl t roots inCh st r := by
  refine TickLevelAny.strong_induct (Q := LiveQ S orc) ?_ h
  intro lvl t roots inCh st r hl hn
  obtain ⟨L, ls1, tr1, recs1, hLv, hL, rfl, inv1, hf1, _⟩ :=
    hl.fin_inv2 hS (fun _ _ _ _ _ _ h => tickLevelAny_post1 hS h.1) hn
  obtain ⟨F, hF⟩ := recs_live_bound (S := S) (orc := orc) (L := L) recs1 (by
    intro r1 hr1
    obtain ⟨hd, ha, _⟩ := inv1.recs_ok r1 hr1
    exact ha.live hS (fun _ _ _ _ _ _ h => h.2) hL
      ((Wiring.ups_isSome_iff' L.wiring _).1 (inv1.eq.ups _ hd)) (inv1.ins.2 _ hd))
  refine ⟨F + 1, ?_⟩
  intro roots' inCh' st' hroots hin hn' hst fuel hfu
  obtain ⟨fuel', rfl⟩ := Nat.exists_eq_add_one_of_ne_zero
    (Nat.ne_of_gt (Nat.lt_of_lt_of_le (Nat.succ_pos F) hfu))
  -- the execution dispatched, hence knows, every component in the extent of the roots
  have hups : ∀ c ∈ extent L.wiring roots', (L.wiring.ups c).isSome = true := by
    intro c hc
    obtain ⟨d, hd⟩ := (TraceFin.of_inv (hS.routerOK hL) (hf1 ▸ inv1.pre) inv1.eq).dispatched
      ((extent_congr L.wiring hroots c).2 hc)
    obtain ⟨hm, rfl⟩ := dispatchOf_eq_some hd
    exact inv1.eq.ups d hm
  obtain ⟨tk', ds', hcall'⟩ := Ticker.call_ok (Val := V) (w := L.wiring) t hups
  rw [tickLevel.eq_2, hLv]
  simp only [hcall']
  obtain ⟨hpre', hcomp, _⟩ := PreInv.call hcall'
  -- the extent has at most as many members as the wiring has components
  have hlen : tk'.toUpdate.length ≤ L.wiring.components.length :=
    Nat.le_trans hpre'.toUpdate_length_le (extent_length_le fun r hr =>
      (Wiring.ups_isSome_iff' L.wiring r).1 (hups r (mem_extent_of_mem_roots hr)))
  exact fifo_loop_ok hS hL hin hn' hroots hst (fun _ _ _ _ _ _ h => h.1) inv1 hf1
    (fun r1 hr1 => (hF r1 hr1).mono (Nat.le_of_succ_le_succ hfu)) hups _ _ _ _ (Inv2.init hcall')
    hcomp (Nat.lt_of_le_of_lt hlen (steps_bound _))

theorem tickLevelAny_fifo (hS : S.Valid) {lvl : Comp} {t : SimTime} {roots : List Comp}
    {inCh : List (Port × V)} (hn : (akeys inCh).Nodup) {st : SimSt} (hwf : st.WakeWF)
    {r : SimSt × List (Port × V)} (h : TickLevelAny S orc lvl t roots inCh st r) :
    ∃ F, ∀ fuel, F ≤ fuel → ∃ rf, tickLevel S orc fuel lvl t roots inCh st = .ok rf ∧
      r.1.Equiv rf.1 ∧ MapEq r.2 rf.2 := by
  obtain ⟨F, hF⟩ := tickLevelAny_live hS h hn
  refine ⟨F, fun fuel hfu => ?_⟩
  obtain ⟨rf, hrf⟩ := hF roots inCh st (fun _ => Iff.rfl) (MapEq.refl _) hn
    (fun x _ => SLoc.Equiv.refl (hwf x)) fuel hfu
  exact ⟨rf, hrf, tickLevelAny_det_equiv hS (fun _ => Iff.rfl) (MapEq.refl _) hn hn (.refl hwf) h
    (tickLevel_any fuel lvl t roots inCh st rf hrf)⟩

end

end Tickit
