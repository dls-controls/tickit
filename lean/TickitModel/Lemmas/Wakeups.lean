/-
The scheduler's wakeup table (`schedulers/base.py`: `add_wakeup`, `get_first_wakeups`, the removal
of served entries; `nested.py`: the due selection), read as a finite map.

`get_first_wakeups` is described by two equivalences: the time it returns is the least entry
(`firstWakeups_snd_eq_some_iff`), the components are the holders of that time
(`mem_firstWakeups_iff`).  Comparisons of two tables (equal as mappings, one the flattening of the
other) go through `firstWakeups_snd_eq_of_dominated`.  At the end, the time the master writes for an
interrupt (`TimeMono.stimWhen`: the earlier of the stamp and the wakeup the table has).
The bookkeeping theorems of C06 stand here because the lemma files of the other properties use
them; `Props/C06.lean` holds the rest of that property.
-/
import TickitModel.Core.Sched
import TickitModel.Lemmas.DictLemmas
import TickitModel.Lemmas.ListLemmas

namespace Tickit

/-- `add_wakeup` overwrites the component's single entry and touches no other. -/
theorem addWakeup_lookup (w : Wakeups) (c c' : Comp) (t : SimTime) :
    alookup (addWakeup w c t) c' = if c' = c then some t else alookup w c' :=
  (alookup_upsert w c t c').trans (ite_congr (propext eq_comm) (fun _ => rfl) (fun _ => rfl))

theorem addWakeup_unique (w : Wakeups) (h : UniqueKeys w) (c : Comp) (t : SimTime) :
    UniqueKeys (addWakeup w c t) :=
  h.upsert c t

theorem minTime_eq_none (l : List SimTime) : minTime l = none ↔ l = [] := by
  cases l with
  | nil => simp [minTime]
  | cons t ts => simp only [minTime]; split <;> simp

theorem minTime_eq_some_iff (l : List SimTime) (m : SimTime) :
    minTime l = some m ↔ m ∈ l ∧ ∀ t ∈ l, m ≤ t := by
  have least : ∀ l m, minTime l = some m → m ∈ l ∧ ∀ t ∈ l, m ≤ t := by
    intro l
    induction l with
    | nil => exact fun m h => nomatch h
    | cons t ts ih =>
      intro m h
      rw [minTime] at h
      cases hts : minTime ts with
      | none =>
        rw [hts] at h
        cases h
        rw [(minTime_eq_none ts).mp hts]
        exact ⟨List.mem_singleton_self t, fun x hx => List.mem_singleton.mp hx ▸ Int.le_refl t⟩
      | some m' =>
        rw [hts] at h
        cases h
        obtain ⟨hmem, hle⟩ := ih m' hts
        by_cases htm : t ≤ m'
        · rw [if_pos htm]
          exact ⟨List.mem_cons_self, List.forall_mem_cons.mpr
            ⟨Int.le_refl t, fun x hx => Int.le_trans htm (hle x hx)⟩⟩
        · rw [if_neg htm]
          exact ⟨List.mem_cons_of_mem _ hmem, List.forall_mem_cons.mpr
            ⟨Int.le_of_lt (Int.not_le.mp htm), hle⟩⟩
  refine ⟨least l m, fun ⟨hm, hle⟩ => ?_⟩
  -- a least member is unique
  cases h : minTime l with
  | none => rw [(minTime_eq_none l).mp h] at hm; cases hm
  | some m' =>
    obtain ⟨hm', hle'⟩ := least l m' h
    rw [Int.le_antisymm (hle' m hm) (hle m' hm')]

theorem firstWakeups_snd (w : Wakeups) : (firstWakeups w).2 = minTime (w.map (·.2)) := by
  unfold firstWakeups; split <;> simp_all

theorem firstWakeups_snd_eq_some_iff (w : Wakeups) (m : SimTime) :
    (firstWakeups w).2 = some m ↔ (∃ e ∈ w, e.2 = m) ∧ ∀ e ∈ w, m ≤ e.2 := by
  rw [firstWakeups_snd, minTime_eq_some_iff, List.mem_map, List.forall_mem_map]

theorem firstWakeups_none (w : Wakeups) : (firstWakeups w).2 = none ↔ w = [] := by
  rw [firstWakeups_snd, minTime_eq_none]; simp

theorem firstWakeups_some_of_ne_nil (w : Wakeups) (h : w ≠ []) :
    ∃ cs t, firstWakeups w = (cs, some t) := by
  cases hf : firstWakeups w with
  | mk cs o =>
    cases o with
    | some t => exact ⟨cs, t, rfl⟩
    | none => exact absurd ((firstWakeups_none w).mp (congrArg Prod.snd hf)) h

theorem ne_nil_of_firstWakeups_some {w : Wakeups} {cs : List Comp} {t : SimTime}
    (hf : firstWakeups w = (cs, some t)) : w ≠ [] :=
  fun he => nomatch ((firstWakeups_none w).mpr he).symm.trans (congrArg Prod.snd hf)

theorem mem_firstWakeups_iff {w : Wakeups} {cs : List Comp} {m : SimTime}
    (hf : firstWakeups w = (cs, some m)) (c : Comp) : c ∈ cs ↔ (c, m) ∈ w := by
  unfold firstWakeups at hf
  split at hf
  · cases hf
  · cases hf
    simp only [List.mem_map, List.mem_filter, beq_iff_eq]
    constructor
    · rintro ⟨⟨c', t⟩, ⟨hm, rfl⟩, rfl⟩
      exact hm
    · exact fun hm => ⟨(c, m), ⟨hm, rfl⟩, rfl⟩

theorem firstWakeups_fst_sublist (w : Wakeups) : (firstWakeups w).1.Sublist (akeys w) := by
  unfold firstWakeups
  split
  · exact List.nil_sublist _
  · exact List.Sublist.map _ List.filter_sublist

theorem firstWakeups_fst_of_eq {w : Wakeups} {cs : List Comp} {o : Option SimTime}
    (hf : firstWakeups w = (cs, o)) : (firstWakeups w).1 = cs := congrArg Prod.fst hf

theorem firstWakeups_sub {w : Wakeups} {cs : List Comp} {o : Option SimTime}
    (hf : firstWakeups w = (cs, o)) : ∀ c ∈ cs, c ∈ akeys w :=
  fun _ hc => (firstWakeups_fst_sublist w).subset (firstWakeups_fst_of_eq hf ▸ hc)

theorem firstWakeups_snd_eq_some_iff_lookup {w : Wakeups} (hu : UniqueKeys w) (m : SimTime) :
    (firstWakeups w).2 = some m ↔
      (∃ c, alookup w c = some m) ∧ ∀ c t, alookup w c = some t → m ≤ t := by
  rw [firstWakeups_snd_eq_some_iff]
  simp only [alookup_eq_some_iff_mem hu, Prod.forall, Prod.exists, exists_eq_right]

/-- what a system component reports upward is the minimum inner wakeup. -/
theorem system_callback_is_min (w : Wakeups) (h : UniqueKeys w) (m : SimTime)
    (hf : (firstWakeups w).2 = some m) :
    (∃ c, alookup w c = some m) ∧ ∀ c t, alookup w c = some t → m ≤ t :=
  (firstWakeups_snd_eq_some_iff_lookup h m).mp hf

/-- `get_first_wakeups` returns the minimum requested time and exactly the components
holding it; nothing is invented. -/
theorem firstWakeups_spec (w : Wakeups) (h : UniqueKeys w) (cs : List Comp) (m : SimTime)
    (hf : firstWakeups w = (cs, some m)) :
    (∀ c, c ∈ cs ↔ alookup w c = some m) ∧
    (∀ c t, alookup w c = some t → m ≤ t) ∧
    (∃ c, alookup w c = some m) ∧ cs.Nodup := by
  obtain ⟨hex, hle⟩ := (firstWakeups_snd_eq_some_iff_lookup h m).1 (congrArg Prod.snd hf)
  have hsub : cs.Sublist (akeys w) := firstWakeups_fst_of_eq hf ▸ firstWakeups_fst_sublist w
  exact ⟨fun c => (mem_firstWakeups_iff hf c).trans (alookup_eq_some_iff_mem h).symm, hle, hex,
    hsub.nodup h⟩

theorem firstWakeups_roots {w : Wakeups} (h : UniqueKeys w) {cs : List Comp} {m : SimTime}
    (hf : firstWakeups w = (cs, some m)) :
    cs ≠ [] ∧ (∀ c, c ∈ cs ↔ alookup w c = some m) ∧ ∀ c t, alookup w c = some t → m ≤ t := by
  obtain ⟨hcs, hle, ⟨c, hc⟩, _⟩ := firstWakeups_spec w h cs m hf
  exact ⟨fun hnil => List.not_mem_nil (hnil ▸ (hcs c).2 hc), hcs, hle⟩

/-- covers equal mappings, a part that holds a first entry, a nested table and its flattening. -/
theorem firstWakeups_snd_eq_of_dominated {w w' : Wakeups} (hu : UniqueKeys w) (hu' : UniqueKeys w')
    (h : ∀ c t, alookup w c = some t → ∃ c' t', alookup w' c' = some t' ∧ t' ≤ t)
    (h' : ∀ c' t', alookup w' c' = some t' → ∃ c t, alookup w c = some t ∧ t ≤ t') :
    (firstWakeups w).2 = (firstWakeups w').2 := by
  have key : ∀ {a b : Wakeups}, UniqueKeys a → UniqueKeys b →
      (∀ c t, alookup a c = some t → ∃ c' t', alookup b c' = some t' ∧ t' ≤ t) →
      (∀ c' t', alookup b c' = some t' → ∃ c t, alookup a c = some t ∧ t ≤ t') →
      ∀ m, (firstWakeups a).2 = some m → (firstWakeups b).2 = some m := by
    intro a b ha hb hab hba m hm
    rw [firstWakeups_snd_eq_some_iff_lookup ha] at hm
    rw [firstWakeups_snd_eq_some_iff_lookup hb]
    obtain ⟨⟨c, hc⟩, hle⟩ := hm
    obtain ⟨c', t', hc', ht'⟩ := hab c m hc
    obtain ⟨c'', t'', hc'', ht''⟩ := hba c' t' hc'
    cases Int.le_antisymm ht' (Int.le_trans (hle c'' t'' hc'') ht'')
    exact ⟨⟨c', hc'⟩, fun x tx hx => by
      obtain ⟨y, ty, hy, hyx⟩ := hba x tx hx
      exact Int.le_trans (hle y ty hy) hyx⟩
  exact Option.ext fun m => ⟨key hu hu' h h' m, key hu' hu h' h m⟩

theorem firstWakeups_snd_congr {w1 w2 : Wakeups} (h1 : UniqueKeys w1) (h2 : UniqueKeys w2)
    (h : ∀ c, alookup w1 c = alookup w2 c) : (firstWakeups w1).2 = (firstWakeups w2).2 :=
  Option.ext fun m => by
    rw [firstWakeups_snd_eq_some_iff_lookup h1, firstWakeups_snd_eq_some_iff_lookup h2]
    simp only [h]

theorem firstWakeups_congr {w1 w2 : Wakeups} (h1 : UniqueKeys w1) (h2 : UniqueKeys w2)
    (h : ∀ c, alookup w1 c = alookup w2 c) {cs1 cs2 : List Comp} {m1 m2 : SimTime}
    (hf1 : firstWakeups w1 = (cs1, some m1)) (hf2 : firstWakeups w2 = (cs2, some m2)) :
    m1 = m2 ∧ ∀ c, c ∈ cs1 ↔ c ∈ cs2 := by
  have hm := firstWakeups_snd_congr h1 h2 h
  rw [congrArg Prod.snd hf1, congrArg Prod.snd hf2] at hm
  cases hm
  exact ⟨rfl, fun c => by
    rw [mem_firstWakeups_iff hf1, mem_firstWakeups_iff hf2, ← alookup_eq_some_iff_mem h1,
      ← alookup_eq_some_iff_mem h2, h c]⟩

/-- as a sublist: `UniqueKeys`, entries and keys are inherited. -/
theorem delWakeups_sublist (w : Wakeups) (cs : List Comp) : (delWakeups w cs).Sublist w := by
  induction cs generalizing w with
  | nil => exact List.Sublist.refl w
  | cons c cs ih => exact (ih (aerase w c)).trans (aerase_sublist w c)

theorem delWakeups_unique (w : Wakeups) (h : UniqueKeys w) (cs : List Comp) :
    UniqueKeys (delWakeups w cs) :=
  List.Nodup.sublist ((delWakeups_sublist w cs).map _) h

/-- serving removes exactly the served entries: a served callback is not served again,
an unserved one stays pending. -/
theorem delWakeups_lookup (w : Wakeups) (h : UniqueKeys w) (cs : List Comp) (c : Comp) :
    alookup (delWakeups w cs) c = if c ∈ cs then none else alookup w c := by
  induction cs generalizing w with
  | nil => simp [delWakeups]
  | cons k cs ih =>
    have : delWakeups w (k :: cs) = delWakeups (aerase w k) cs := rfl
    rw [this, ih _ (h.aerase k), alookup_aerase h]
    by_cases h1 : c ∈ cs <;> by_cases h2 : c = k <;> simp [h1, h2]

theorem delWakeups_lookup_congr {w1 w2 : Wakeups} (h1 : UniqueKeys w1) (h2 : UniqueKeys w2)
    {cs1 cs2 : List Comp} {c : Comp} (hc : alookup w1 c = alookup w2 c) (hcs : c ∈ cs1 ↔ c ∈ cs2) :
    alookup (delWakeups w1 cs1) c = alookup (delWakeups w2 cs2) c := by
  rw [delWakeups_lookup w1 h1, delWakeups_lookup w2 h2, hc]
  exact ite_congr (propext hcs) (fun _ => rfl) (fun _ => rfl)

theorem delWakeups_lookup_not_mem (w : Wakeups) (cs : List Comp) (c : Comp) (h : c ∉ cs) :
    alookup (delWakeups w cs) c = alookup w c := by
  induction cs generalizing w with
  | nil => rfl
  | cons k cs ih =>
    have e : delWakeups w (k :: cs) = delWakeups (aerase w k) cs := rfl
    rw [e, ih _ (fun hc => h (List.mem_cons_of_mem _ hc)),
      alookup_aerase_ne w (fun hck => h (by rw [hck]; exact List.mem_cons_self))]

theorem mem_akeys_delWakeups_iff (w : Wakeups) (h : UniqueKeys w) (cs : List Comp) (x : Comp) :
    x ∈ akeys (delWakeups w cs) ↔ x ∈ akeys w ∧ x ∉ cs := by
  rw [← alookup_isSome_iff, ← alookup_isSome_iff, delWakeups_lookup w h]
  by_cases hx : x ∈ cs <;> simp [hx]

/-- pending callbacks are never overtaken: after serving the first wakeups at time `m` every
remaining entry is strictly later than `m`; so a callback pending for time `t` is served by a tick
at exactly `t` unless its owner answers again first. -/
theorem served_then_later (w : Wakeups) (h : UniqueKeys w) (cs : List Comp) (m : SimTime)
    (hf : firstWakeups w = (cs, some m)) (c : Comp) (t : SimTime)
    (hc : alookup (delWakeups w cs) c = some t) : m < t := by
  obtain ⟨hcs, hle, _, _⟩ := firstWakeups_spec w h cs m hf
  rw [delWakeups_lookup w h] at hc
  split at hc
  · simp at hc
  · rename_i hmem
    have h1 : m ≤ t := hle c t hc
    have h2 : m ≠ t := fun he => hmem ((hcs c).mpr (he ▸ hc))
    exact Int.lt_iff_le_and_ne.mpr ⟨h1, h2⟩

/-- nested scheduler: the components selected as due at tick time `t` are exactly those
whose entry is `≤ t`. -/
theorem nestedDue_spec (w : Wakeups) (h : UniqueKeys w) (t : SimTime) (c : Comp) :
    c ∈ nestedDue w t ↔ ∃ t', alookup w c = some t' ∧ t' ≤ t := by
  simp only [nestedDue, List.mem_map, List.mem_filter, decide_eq_true_eq]
  constructor
  · rintro ⟨⟨c', t'⟩, ⟨hm, ht⟩, hc⟩
    simp only at ht hc; subst hc
    exact ⟨t', alookup_eq_some_of_mem h hm, ht⟩
  · rintro ⟨t', hl, ht⟩
    exact ⟨(c, t'), ⟨mem_of_alookup_eq_some hl, ht⟩, rfl⟩

/-- `add_wakeup` removes no entry. -/
theorem addWakeup_isSome (w : Wakeups) (c c' : Comp) (t : SimTime)
    (h : (alookup w c').isSome = true) : (alookup (addWakeup w c t) c').isSome = true := by
  rw [addWakeup_lookup]
  split
  · rfl
  · exact h

theorem firstWakeups_pend {wake : Wakeups} {comps : List Comp} {w : SimTime} {top : Comp}
    {e : SimTime} (hfw : firstWakeups wake = (comps, some w)) (he : alookup wake top = some e) :
    w ≤ e ∧ (top ∉ comps → w < e) := by
  have hmem := mem_of_alookup_eq_some he
  have hle := ((firstWakeups_snd_eq_some_iff wake w).mp (congrArg Prod.snd hfw)).2 _ hmem
  exact ⟨hle, fun hnot => Int.lt_iff_le_and_ne.mpr ⟨hle, fun hew =>
    hnot ((mem_firstWakeups_iff hfw top).mpr (hew ▸ hmem))⟩⟩

theorem firstWakeups_some_of_mem (wake : Wakeups) (e : Comp × SimTime) (he : e ∈ wake) :
    ∃ w, (firstWakeups wake).2 = some w ∧ w ≤ e.2 := by
  cases hf : (firstWakeups wake).2 with
  | none => rw [(firstWakeups_none wake).mp hf] at he; cases he
  | some w => exact ⟨w, rfl, ((firstWakeups_snd_eq_some_iff wake w).mp hf).2 e he⟩

theorem lt_of_mem_delWakeups_nestedDue (w : Wakeups) (h : UniqueKeys w) (t : SimTime) (e : Comp × SimTime)
    (he : e ∈ delWakeups w (nestedDue w t)) : t < e.2 := by
  obtain ⟨c, v⟩ := e
  have hu := delWakeups_unique w h (nestedDue w t)
  have hl := alookup_eq_some_of_mem hu he
  rw [delWakeups_lookup w h] at hl
  split at hl
  · cases hl
  · rename_i hn
    apply Int.lt_of_not_ge
    intro hle
    exact hn ((nestedDue_spec w h t c).2 ⟨v, hl, hle⟩)

/-- `if i < w then i else w`, the form in which the model takes the earlier of two times. -/
theorem earlier_le (i w : Int) : (if i < w then i else w) ≤ i ∧ (if i < w then i else w) ≤ w := by
  split
  · exact ⟨Int.le_refl _, Int.le_of_lt ‹_›⟩
  · exact ⟨Int.not_lt.mp ‹_›, Int.le_refl _⟩

theorem earlier_eq_left {i w : Int} (h : i ≤ w) : (if i < w then i else w) = i := by
  split
  · rfl
  · exact Int.le_antisymm (Int.not_lt.mp ‹_›) h

theorem earlier_eq_right {i w : Int} (h : w ≤ i) : (if i < w then i else w) = w :=
  if_neg (Int.not_lt.mpr h)

namespace TimeMono

/-- the time written for an interrupting top-level component: the stamp, unless an earlier
wakeup of that component is still in the table (as in `masterRun`) -/
def stimWhen (wake : Wakeups) (top : Comp) (stamp : SimTime) : SimTime :=
  match alookup wake top with
  | some w => if w < stamp then w else stamp
  | none => stamp

theorem stimWhen_none {wake : Wakeups} {top : Comp} (stamp : SimTime) (h : alookup wake top = none) :
    stimWhen wake top stamp = stamp := by
  rw [stimWhen, h]

theorem stimWhen_some {wake : Wakeups} {top : Comp} {w : SimTime} (stamp : SimTime)
    (h : alookup wake top = some w) : stimWhen wake top stamp = if w < stamp then w else stamp := by
  rw [stimWhen, h]

theorem stimWhen_ge (wake : Wakeups) (top : Comp) (stamp T : SimTime) (hs : T ≤ stamp)
    (hw : ∀ w, alookup wake top = some w → T ≤ w) : T ≤ stimWhen wake top stamp := by
  cases h : alookup wake top with
  | none => rw [stimWhen_none stamp h]; exact hs
  | some w =>
    rw [stimWhen_some stamp h]
    split
    · exact hw w h
    · exact hs

theorem stimWhen_le_stamp (wake : Wakeups) (top : Comp) (stamp : SimTime) :
    stimWhen wake top stamp ≤ stamp := by
  cases h : alookup wake top with
  | none => rw [stimWhen_none stamp h]; exact Int.le_refl _
  | some w => rw [stimWhen_some stamp h]; exact (earlier_le w stamp).2

theorem stimWhen_le_old (wake : Wakeups) (top : Comp) (stamp w0 : SimTime)
    (h : alookup wake top = some w0) : stimWhen wake top stamp ≤ w0 := by
  rw [stimWhen_some stamp h]
  exact (earlier_le w0 stamp).1

theorem stimWhen_eq_stamp_of_timely (wake : Wakeups) (top : Comp) (stamp : SimTime)
    (h : ∀ w, alookup wake top = some w → stamp ≤ w) : stimWhen wake top stamp = stamp := by
  cases hw : alookup wake top with
  | none => exact stimWhen_none stamp hw
  | some w => rw [stimWhen_some stamp hw, if_neg (Int.not_lt.2 (h w hw))]

end TimeMono

end Tickit
