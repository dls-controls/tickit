/-
M5c — the master loop with pacing and ARBITRARY PROCESSING COSTS.

`Core/Sim.lean` runs the master loop at zero processing cost: a tick recorded at real time `d`
also ends at `d`.  Here the k-th tick (k = its index in the list of tick records; the initial
tick is number 0) takes `cost k` nanoseconds of real time, for an arbitrary cost function
`cost : Nat → Nat` (a natural number: real time does not go back while a tick is running).

The code (`tickit/core/management/schedulers/master.py`):

    async def _do_initial_tick(self):
        self.last_time = time_ns()                       # d      (start of the tick)
        await self.ticker(self._initial_time, self.ticker.components)
        self.last_time = time_ns()                       # d + cost 0   (end of the tick)

    async def _do_tick(self):
        ...
        components, when = self.get_first_wakeups()
        ...
        current = asyncio.create_task(asyncio.sleep(self.sleep_time(when)))
        which, _ = await asyncio.wait([current, new], return_when=FIRST_COMPLETED)
        if new in which:            # a new wakeup (an interrupt) arrived during the sleep:
            current.cancel()        # start again, the sleep is computed afresh from time_ns()
            return
        ...
        components, when = self.get_first_wakeups()
        for component in components:
            del self.wakeups[component]
            self._pending_interrupts.pop(component, None)
        # While a tick is in progress interrupts are stamped relative to its start.
        self.last_time = time_ns()                       # d      (start of the tick)
        await self.ticker(when, {component for component in components})
        self.last_time = time_ns()                       # d + cost k   (end of the tick)

    def sleep_time(self, when):
        return ((when - self.ticker.time) / self.simulation_speed
                - (time_ns() - self.last_time)) / 1e9

    async def schedule_interrupt(self, source):
        ...
        when = SimTime(self.ticker.time + int((time_ns() - self.last_time) * self.simulation_speed))
        pending = self.wakeups.get(source)
        if pending is not None and pending < when:
            when = pending
        self._pending_interrupts.setdefault(source, when)
        self.add_wakeup(source, when)

and `Ticker._start_tick` sets `self.time = time` before anything is dispatched, so during the
tick for `when`, `ticker.time == when` already.

What the costs change, and how it is modelled:

* the tick started at real time `d` ends at `e = d + cost k`; then `last_time = e`: the sleep for
  the NEXT tick is counted from the END of this one (`lastReal := e`, `now := e`).  The tick
  record still carries the START `d` (`TickRec.real`), as in `Core/Sim.lean`.
* a stimulus (interrupt) whose real time lies strictly inside the tick, `d < st.real < e`, is
  handled WHILE the tick is in progress: `last_time = d` and `ticker.time = when`, so it is
  stamped `when + int((st.real - d) * speed)`: relative to the START of the tick (`midTick`).
  The tick itself stays atomic in this model (`tickLevel`), so the mid-tick interrupts are
  applied to the state after the tick's own wakeup writes.  For the wakeup of the interrupting
  component this is the value the code produces in either order of arrival: interrupt after the
  component's reply, `schedule_interrupt` keeps the smaller of the pending callback and the
  stamp; interrupt before the reply, `MasterScheduler.add_wakeup` keeps the smaller of the
  pending interrupt and the callback.  That holds of the tick in progress only: when a LATER tick
  updates the component as a dependant of one of its roots, its answer is written by the plain
  wakeup rule of `Core/Sim.lean` and REPLACES the interrupt's wakeup, where the code's guard
  `_pending_interrupts` keeps the smaller of the two (`Props/C07Cost.lean`: header, example (5)).
* a stimulus with `st.real ≤ d` has been handled before the tick (as in `masterRun`: a stimulus
  not after the due tick goes first); one with `st.real ≥ e` is handled after it, between ticks,
  stamped relative to the END `e` of the tick (`stimStepC`, the stimulus branch of `masterRun`).
  For the initial tick a stimulus with `st.real ≤ d` (raised before the simulation started; the
  code stamps it `initial_time`) is handled right after the tick, with the same stamp
  `initial_time + 0`.
* stimuli are taken in list order; one that lies before the real time already reached is handled
  at that time (`now := max now st.real`), as in `masterRun`.

`masterRunC` is `masterRun` of `Core/Sim.lean`, branch by branch (the three helper functions
`stimFirstC`, `stimStepC`, `delMasterC` are the `let`s of `masterRun` given names), with the end of
the tick changed as described.  With `cost = fun _ => 0` it IS `masterRun`
(`Props/C12Cost.lean`, `masterRunC_zero_cost`).
-/
import TickitModel.Core.Sim

namespace Tickit

/-- total processing time of the ticks number `0 … k-1`: `cost 0 + … + cost (k-1)` -/
def busy (cost : Nat → Nat) : Nat → Nat
  | 0 => 0
  | k + 1 => busy cost k + cost k

/-- which stimulus, if any, is handled before the next tick: a stimulus not after the due tick
(or with nothing due) goes first (`stimFirst` in `masterRun`). -/
def stimFirstC (m : MasterSt) (s : Speed) (whenT : Option SimTime) :
    List Stim → Option (Stim × List Stim)
  | [] => none
  | st :: rest => match whenT.map (dueReal m s) with
    | none => some (st, rest)
    | some d => if st.real ≤ d then some (st, rest) else none

/-- `schedule_interrupt` at real time `max st.real m.now`, in master state `m`
(`m.tickerTime = ticker.time`, `m.lastReal = last_time`): the stimulus branch of `masterRun`. -/
def stimStepC (S : Static) (fuel : Nat) (s : Speed) (m : MasterSt) (st : Stim) : MasterSt :=
  let now := if st.real < m.now then m.now else st.real
  let (sim', top) := raiseInterrupt S fuel st.comp m.sim
  let stamp := interruptStamp m.tickerTime now m.lastReal s
  let sc := sim'.sched ""
  -- a callback that is already due but not served yet is not displaced by the interrupt
  let when := match alookup sc.wake top with
    | some w => if w < stamp then w else stamp
    | none => stamp
  let sim'' := { sim' with scheds := upsert sim'.scheds "" { sc with wake := addWakeup sc.wake top when } }
  { m with sim := sim'', now := now }

/-- `for component in components: del self.wakeups[component]` (as in `masterRun`) -/
def delMasterC (st : SimSt) (cs : List Comp) : SimSt :=
  let sc := st.sched ""
  { st with scheds := upsert st.scheds "" { sc with wake := delWakeups sc.wake cs } }

/-- the stimuli that arrive while a tick is in progress.  `m` is the master DURING the tick:
`m.tickerTime` is the time of the tick, `m.lastReal` its start; `e` is its end.  The leading
stimuli with `m.lastReal < st.real < e` are handled by `schedule_interrupt` in that state, so they
are stamped relative to the start of the tick.  Returns the master and the stimuli left. -/
def midTick (S : Static) (fuel : Nat) (s : Speed) (e : Int) : MasterSt → List Stim → MasterSt × List Stim
  | m, [] => (m, [])
  | m, st :: rest =>
    if m.lastReal < st.real ∧ st.real < e then midTick S fuel s e (stimStepC S fuel s m st) rest
    else (m, st :: rest)

/-- a tick for simulation time `w` started at real time `d` and left the simulation in state
`sim`; it ends at real time `e`: mid-tick stimuli are handled, then `last_time = time_ns()`. -/
def endTick (S : Static) (fuel : Nat) (s : Speed) (sim : SimSt) (w : SimTime) (d e : Int)
    (stims : List Stim) : MasterSt × List Stim :=
  let r := midTick S fuel s e { sim := sim, tickerTime := w, lastReal := d, now := d } stims
  ({ r.1 with lastReal := e, now := e }, r.2)

/-- `_do_initial_tick`: started at real time `now`, it takes `cost 0`.  Returns the master
after the tick, the tick record and the stimuli not handled yet. -/
def masterInitialC (S : Static) (orc : Oracle) (fuel : Nat) (s : Speed) (cost : Nat → Nat)
    (t0 : SimTime) (now : Int) (stims : List Stim) :
    Except SimErr (MasterSt × TickRec × List Stim) :=
  match S.level "" with
  | none => .error (.noLevel "")
  | some L =>
    let roots := L.wiring.components
    match tickLevel S orc fuel "" t0 roots [] {} with
    | .error e => .error e
    | .ok (st, _) =>
      let r := endTick S fuel s st t0 now (now + cost 0) stims
      .ok (r.1, ⟨t0, now, roots⟩, r.2)

/-- run the master until `nTicks` further ticks have happened or nothing is left to do; the
tick whose record gets index `k` in the list of tick records takes `cost k` ns of real time. -/
def masterRunC (S : Static) (orc : Oracle) (fuel : Nat) (s : Speed) (cost : Nat → Nat) :
    Nat → Nat → MasterSt → List Stim → List TickRec → Except SimErr (MasterSt × List TickRec)
  | 0, _, m, _, acc => .ok (m, acc)
  | _, 0, m, _, acc => .ok (m, acc)
  | steps + 1, nTicks + 1, m, stims, acc =>
    match stimFirstC m s (firstWakeups (m.sim.sched "").wake).2 stims with
    | some (st, rest) =>
      masterRunC S orc fuel s cost steps (nTicks + 1) (stimStepC S fuel s m st) rest acc
    | none =>
      match firstWakeups (m.sim.sched "").wake with
      | (comps, some w) =>
        let d := dueReal m s w
        match tickLevel S orc fuel "" w comps [] (delMasterC m.sim comps) with
        | .error e => .error e
        | .ok (sim2, _) =>
          let r := endTick S fuel s sim2 w d (d + cost acc.length) stims
          masterRunC S orc fuel s cost steps nTicks r.1 r.2 (acc ++ [⟨w, d, comps⟩])
      | (_, none) => .ok (m, acc)

end Tickit
