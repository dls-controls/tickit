/-
M5'' — the master loop over interleaved ticks: `MasterInitialAny` / `MasterRunAny` of
`Core/SimAnyRun.lean` with every tick replaced by ANY complete interleaved execution of it
(`TickInter`, `Core/SimInter.lean`); `nextStim`, `stimStep`, `tickStart` are the same functions.
Stimuli are handled between ticks only (rule `stim`); none arrives while a tick runs.
-/
import TickitModel.Core.SimInter
import TickitModel.Core.SimAnyRun

namespace Tickit

/-- the initial tick of the master, interleaved -/
inductive MasterInitialInter (S : Static) (orc : Oracle) (t0 : SimTime) (now : Int) :
    MasterSt × TickRec → Prop
  | mk {L : Level} {st : SimSt} {out : List (Port × V)} :
      S.level "" = some L →
      TickInter S orc "" t0 L.wiring.components [] {} (st, out) →
      MasterInitialInter S orc t0 now
        ({ sim := st, tickerTime := t0, lastReal := now, now := now }, ⟨t0, now, L.wiring.components⟩)

/-- `masterRun` with every tick replaced by any complete interleaved execution of it -/
inductive MasterRunInter (S : Static) (orc : Oracle) (fuel : Nat) (s : Speed) :
    Nat → Nat → MasterSt → List Stim → List TickRec → MasterSt × List TickRec → Prop
  | outOfSteps {nTicks : Nat} {m : MasterSt} {stims : List Stim} {acc : List TickRec} :
      MasterRunInter S orc fuel s 0 nTicks m stims acc (m, acc)
  | ticksDone {steps : Nat} {m : MasterSt} {stims : List Stim} {acc : List TickRec} :
      MasterRunInter S orc fuel s (steps + 1) 0 m stims acc (m, acc)
  | stim {steps nTicks : Nat} {m : MasterSt} {stims : List Stim} {acc : List TickRec} {st : Stim}
      {rest : List Stim} {r : MasterSt × List TickRec} :
      nextStim m s (firstWakeups (m.sim.sched "").wake).2 stims = some (st, rest) →
      MasterRunInter S orc fuel s steps (nTicks + 1) (stimStep S fuel s m st) rest acc r →
      MasterRunInter S orc fuel s (steps + 1) (nTicks + 1) m stims acc r
  | tick {steps nTicks : Nat} {m : MasterSt} {stims : List Stim} {acc : List TickRec}
      {comps : List Comp} {w : SimTime} {sim2 : SimSt} {out : List (Port × V)}
      {r : MasterSt × List TickRec} :
      nextStim m s (firstWakeups (m.sim.sched "").wake).2 stims = none →
      firstWakeups (m.sim.sched "").wake = (comps, some w) →
      TickInter S orc "" w comps [] (tickStart m.sim comps) (sim2, out) →
      MasterRunInter S orc fuel s steps nTicks
        { sim := sim2, tickerTime := w, lastReal := dueReal m s w, now := dueReal m s w } stims
        (acc ++ [⟨w, dueReal m s w, comps⟩]) r →
      MasterRunInter S orc fuel s (steps + 1) (nTicks + 1) m stims acc r
  | idle {steps nTicks : Nat} {m : MasterSt} {stims : List Stim} {acc : List TickRec} :
      nextStim m s (firstWakeups (m.sim.sched "").wake).2 stims = none →
      (firstWakeups (m.sim.sched "").wake).2 = none →
      MasterRunInter S orc fuel s (steps + 1) (nTicks + 1) m stims acc (m, acc)

end Tickit
