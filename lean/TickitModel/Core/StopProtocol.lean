/-
C11, the stop protocol of the master scheduler as a statement-level transition system: the run
loop, the `error` and `finished` events, and ANY number of exception handlers that interleave
at their `await`s.

The code that is modelled (/repo/src/tickit):

`core/components/component.py`, `BaseComponent.handle_input`

    if isinstance(message, Input):
        try:
            await asyncio.gather(self.on_tick(message.time, message.changes), return_exceptions=False)
        except Exception as err:
            await self.state_producer.produce(output_topic(self.name),
                ComponentException(self.name, err, traceback.format_exc()))       # action `fail c`
    if isinstance(message, StopComponent):
        await self.stop_component()                                               # action `deliverStop c`

  (`DeviceComponent.on_tick` ends with `await self.output(...)`, `SystemComponent.on_tick` sends
  EITHER the forwarded `scheduler.component_error` OR its Output: a component whose update raised
  does not answer that Input.)

`core/management/schedulers/base.py`

    async def handle_message(self, message):
        if isinstance(message, Output):   await self.ticker.propagate(message); ...   # `answer c`
        elif isinstance(message, Skip):   await self.ticker.propagate(message)        # `answer c`
        elif isinstance(message, Interrupt): await self.schedule_interrupt(message.source)   # `wakeup`
        elif isinstance(message, ComponentException):
            await self.handle_component_exception(message)                            # handler of a report

    async def handle_component_exception(self, message):                  # HPc.start
        # [seeded variant C11-m7 only]  if self._stopping: return
        #                               self._stopping = True
        await asyncio.wait(                                               # HPc.fanout pending
            {asyncio.create_task(self.state_producer.produce(input_topic(component), StopComponent()))
             for component in self.ticker.components},                    # one `produceStop i c` per task,
            return_when=asyncio.tasks.ALL_COMPLETED)                      #   in ANY order
        self.error.set()                                                  # fanout [] -> afterSuper

`core/management/schedulers/master.py`

    async def handle_component_exception(self, message):
        await super().handle_component_exception(message)
        self.ticker.finished.set()                                        # afterSuper -> done

    async def run_forever(self):
        await self.setup(); self.running.set()
        await self._do_initial_tick()                                     # initial state: SLoopPc.ticking
        while not self.error.is_set():                                    # SLoopPc.top
            await self._do_tick()
        self.running.clear()                                              # SLoopPc.exited

    async def _do_tick(self):
        while not self.wakeups:
            self.new_wakeup.clear()
            await self.new_wakeup.wait()                                  # SLoopPc.waiting
        ...; self.new_wakeup.clear()
        which, _ = await asyncio.wait([current, new], FIRST_COMPLETED)    # SLoopPc.sleeping
        if new in which: current.cancel(); return                         #   -> top
        ...
        await self.ticker(when, components)                               # SLoopPc.ticking

    def add_wakeup(self, component, when):                                # action `wakeup`, at any moment
        ...; super().add_wakeup(component, when); self.new_wakeup.set()

`core/management/ticker.py`

    async def __call__(self, time, update_components):
        await self._start_tick(time, update_components)                   # self.to_update = {...}
        await self.schedule_possible_updates()
        await self.finished.wait()                                        # SLoopPc.ticking
        self.finished.clear()
    async def propagate(self, output):
        self.to_update.pop(output.source); ...
        if not self.to_update: self.finished.set()

`core/simulation.py`: `TickitSimulation.run` awaits `asyncio.wait(tasks)` over the master's
`run_forever` and every component's `run_forever`; a component's `run_forever` awaits its own
long-running tasks, which `stop_component` cancels.

Granularity.  Every model step is at most one stretch of Python between two `await`s; some
stretches are split further (`error.set()` and `finished.set()` of one handler are two steps,
the return from the tick and the evaluation of `while not self.error.is_set()` are two steps):
the model has MORE interleavings than asyncio, so what is proved for every interleaving of the
model holds for every schedule of the event loop.  The `StopComponent` producers of one fan-out
are separate tasks and run in any order; delivery to the component (`deliverStop`) is a separate
step that may come at any later time (in-process bus: immediately; Kafka: whenever).

Abstractions.  `self.wakeups` is reduced to "non-empty or not" (`hasWakeups`; which wakeups a
tick consumes is a nondeterministic parameter of `sleepExpires`) - the flag protocol itself is
`Core/MasterLoop.lean`.  The wiring is ignored: any awaited component may answer or fail at any
time.  A failure below the top level (nested scheduler, `SystemComponent.on_tick` forwarding the
inner `component_error`) appears here as the failure of the top-level component containing it
(`Core/FailStop.lean` has the identity argument for that path).

Tie to the running code (outside the proofs): `harness/c11_stop_trace.py` runs the real
`MasterScheduler` / `TickitSimulation.run()` on the in-process bus with a randomly delaying
producer, instrumented to log these actions; the check of C11 (`harness/props/c11.py`) hands each
logged history to the driver's `stopproto` operation, which folds `StopSt.step` over it from
`StopSt.init` (every action must be enabled) and reports whether the model ends in `runReturned`
or with the run loop parked.
-/
import TickitModel.Core.Basic

namespace Tickit

/-- where `MasterScheduler.run_forever` stands. -/
inductive SLoopPc
  /-- about to evaluate `while not self.error.is_set()` (and then `while not self.wakeups`) -/
  | top
  /-- inside `await self.new_wakeup.wait()` -/
  | waiting
  /-- the sleep races against the `new_wakeup` flag -/
  | sleeping
  /-- inside `await self.ticker(...)`, at `await self.finished.wait()` -/
  | ticking
  /-- the loop was left: `run_forever` has returned -/
  | exited
  deriving Repr, DecidableEq

/-- where the handler coroutine of one `ComponentException` message stands. -/
inductive HPc
  /-- the message was published; `handle_component_exception` has not passed its first line -/
  | start
  /-- suspended in `asyncio.wait({...})`; `pending` = the `StopComponent` producers not yet run -/
  | fanout (pending : List Comp)
  /-- `super().handle_component_exception` has returned; next: `self.ticker.finished.set()` -/
  | afterSuper
  /-- the handler has returned -/
  | done
  deriving Repr, DecidableEq

/-- one in-flight exception report: the failing component's identity and its handler's pc. -/
structure StopReport where
  src : Comp
  pc : HPc
  deriving Repr, DecidableEq

structure StopCfg where
  /-- `self.ticker.components`: the top-level components -/
  comps : List Comp
  /-- the seeded variant: "only the first exception starts the shut down" -/
  stopOnce : Bool := false
  deriving Repr

structure StopSt where
  pc : SLoopPc
  /-- `self.error.is_set()` -/
  error : Bool
  /-- `self.ticker.finished.is_set()` -/
  finished : Bool
  /-- `self._stopping` (exists in the seeded variant only; never changes when `stopOnce = false`) -/
  stopping : Bool
  /-- `bool(self.wakeups)` -/
  hasWakeups : Bool
  /-- `self.new_wakeup.is_set()` -/
  newWakeup : Bool
  /-- `self.ticker.to_update`: the components the tick is waiting for -/
  toUpdate : List Comp
  /-- components whose update for the current tick raised (they do not answer it) -/
  failed : List Comp
  /-- the exception reports in order of publication; the index identifies the handler -/
  reports : List StopReport
  /-- `StopComponent` messages produced and not yet handled by their component -/
  inbox : List Comp
  /-- (ghost) every `StopComponent` ever produced -/
  stopSent : List Comp
  /-- components whose `stop_component()` has run -/
  stopped : List Comp
  deriving Repr, DecidableEq

inductive StopAct
  /-- `add_wakeup` (an interrupt, or an answer carrying `call_at`), at any moment -/
  | wakeup
  /-- the sleep expires and the tick for components `cs` starts; `left` = wakeups remain -/
  | sleepExpires (cs : List Comp) (left : Bool)
  /-- the run loop advances to its next suspension point -/
  | loop
  /-- component `c` answers (Output or Skip): `ticker.propagate` -/
  | answer (c : Comp)
  /-- the update of component `c` raises: `ComponentException` published -/
  | fail (c : Comp)
  /-- the handler of report `i` executes its next statement (not a `StopComponent` producer) -/
  | handler (i : Nat)
  /-- the task producing `StopComponent` for `c` on behalf of handler `i` runs -/
  | produceStop (i : Nat) (c : Comp)
  /-- component `c` handles a `StopComponent`: `stop_component()` -/
  | deliverStop (c : Comp)
  deriving Repr, DecidableEq

/-- steps of the scheduler / the bus (as opposed to the environment: wakeups, the sleep timer,
components answering or failing). -/
def StopAct.isSys : StopAct → Bool
  | .loop => true
  | .handler _ => true
  | .produceStop _ _ => true
  | .deliverStop _ => true
  | _ => false

/-- the state in which `_do_initial_tick` waits for every component. -/
def StopSt.init (cfg : StopCfg) : StopSt :=
  { pc := .ticking, error := false, finished := false, stopping := false, hasWakeups := false,
    newWakeup := false, toUpdate := cfg.comps, failed := [], reports := [], inbox := [],
    stopSent := [], stopped := [] }

/-- the run loop up to its next `await`. -/
def StopSt.loopStep (s : StopSt) : Option StopSt :=
  match s.pc with
  | .top =>
    if s.error then some { s with pc := .exited }
    else if s.hasWakeups then some { s with pc := .sleeping, newWakeup := false }
    else some { s with pc := .waiting, newWakeup := false }
  | .waiting =>
    -- resumed by `new_wakeup.set()`; `while not self.wakeups` is re-evaluated, `error` is NOT
    if s.newWakeup then
      if s.hasWakeups then some { s with pc := .sleeping, newWakeup := false }
      else some { s with newWakeup := false }
    else none
  | .sleeping =>
    -- `if new in which: current.cancel(); return`
    if s.newWakeup then some { s with pc := .top } else none
  | .ticking =>
    -- `await self.finished.wait(); self.finished.clear()`; `_do_tick` returns
    if s.finished then some { s with pc := .top, finished := false } else none
  | .exited => none

/-- the next statement of the handler of report `i`. -/
def StopSt.handlerStep (cfg : StopCfg) (s : StopSt) (i : Nat) : Option StopSt :=
  match s.reports[i]? with
  | none => none
  | some r =>
    match r.pc with
    | .start =>
      if cfg.stopOnce && s.stopping then
        -- seeded variant: `if self._stopping: return` - `super()` returns with `error` untouched
        some { s with reports := s.reports.set i ⟨r.src, .afterSuper⟩ }
      else
        some { s with stopping := s.stopping || cfg.stopOnce,
                      reports := s.reports.set i ⟨r.src, .fanout cfg.comps⟩ }
    | .fanout [] =>
      -- all producers completed: `self.error.set()`
      some { s with error := true, reports := s.reports.set i ⟨r.src, .afterSuper⟩ }
    | .fanout (_ :: _) => none
    | .afterSuper =>
      -- `self.ticker.finished.set()`
      some { s with finished := true, reports := s.reports.set i ⟨r.src, .done⟩ }
    | .done => none

/-- one `StopComponent` producer of handler `i` runs. -/
def StopSt.produceStep (s : StopSt) (i : Nat) (c : Comp) : Option StopSt :=
  match s.reports[i]? with
  | some ⟨src, .fanout p⟩ =>
    if c ∈ p then
      some { s with reports := s.reports.set i ⟨src, .fanout (p.erase c)⟩,
                    inbox := s.inbox ++ [c], stopSent := s.stopSent ++ [c] }
    else none
  | _ => none

/-- one transition; `none` = the action is not enabled. -/
def StopSt.step (cfg : StopCfg) (s : StopSt) : StopAct → Option StopSt
  | .wakeup => some { s with hasWakeups := true, newWakeup := true }
  | .sleepExpires cs left =>
    if s.pc = .sleeping ∧ cs ≠ [] ∧ ∀ c ∈ cs, c ∈ cfg.comps then
      -- `_start_tick`: `self.to_update = {...}`; the served wakeups are deleted
      some { s with pc := .ticking, hasWakeups := left, toUpdate := cs, failed := [] }
    else none
  | .loop => s.loopStep
  | .answer c =>
    if c ∈ s.toUpdate ∧ c ∉ s.failed then
      let tu := s.toUpdate.filter (· ≠ c)
      -- `self.to_update.pop(source)`; `if not self.to_update: self.finished.set()`
      some { s with toUpdate := tu, finished := s.finished || tu.isEmpty }
    else none
  | .fail c =>
    if c ∈ s.toUpdate ∧ c ∉ s.failed then
      some { s with failed := s.failed ++ [c], reports := s.reports ++ [⟨c, .start⟩] }
    else none
  | .handler i => s.handlerStep cfg i
  | .produceStop i c => s.produceStep i c
  | .deliverStop c =>
    if c ∈ s.inbox then some { s with inbox := s.inbox.erase c, stopped := c :: s.stopped }
    else none

/-- a strict execution: every action must be enabled. -/
def StopSt.exec (cfg : StopCfg) (s : StopSt) : List StopAct → Option StopSt
  | [] => some s
  | a :: as => match s.step cfg a with
    | some s' => StopSt.exec cfg s' as
    | none => none

/-- the states the protocol can be in: everything reachable from the initial tick. -/
inductive StopReach (cfg : StopCfg) : StopSt → Prop
  | init : StopReach cfg (StopSt.init cfg)
  | step {s s' : StopSt} {a : StopAct} : StopReach cfg s → s.step cfg a = some s' → StopReach cfg s'

/-- an infinite schedule; actions that are not enabled when their turn comes are skipped. -/
def StopSt.sched (cfg : StopCfg) (s : StopSt) (σ : Nat → StopAct) : Nat → StopSt
  | 0 => s
  | n + 1 => ((StopSt.sched cfg s σ n).step cfg (σ n)).getD (StopSt.sched cfg s σ n)

/-- what `TickitSimulation.run()` waits for: the master's `run_forever` has returned and every
component was stopped (its long-running tasks cancelled, so its `run_forever` returns). -/
def StopSt.runReturned (cfg : StopCfg) (s : StopSt) : Prop :=
  s.pc = .exited ∧ ∀ c ∈ cfg.comps, c ∈ s.stopped

instance (cfg : StopCfg) (s : StopSt) : Decidable (s.runReturned cfg) := by
  unfold StopSt.runReturned; infer_instance

/-- remaining statements of a handler (a producer counts twice: produce, then deliver). -/
def HPc.cost (n : Nat) : HPc → Nat
  | .start => 2 * n + 3
  | .fanout p => 2 * p.length + 2
  | .afterSuper => 1
  | .done => 0

def StopReport.cost (n : Nat) (r : StopReport) : Nat := r.pc.cost n

def SLoopPc.cost : SLoopPc → Nat
  | .ticking => 2
  | .top => 1
  | _ => 0

/-- the awaited components that have not failed (each may still fail and start a handler). -/
def StopSt.unfailed (s : StopSt) : List Comp := s.toUpdate.filter (· ∉ s.failed)

/-- the termination measure: remaining statements of the loop and of all handlers, undelivered
stop messages, and a whole handler (plus one) for every component that may still fail. -/
def StopSt.measure (cfg : StopCfg) (s : StopSt) : Nat :=
  s.pc.cost + (s.reports.map (StopReport.cost cfg.comps.length)).sum + s.inbox.length
    + s.unfailed.length * (2 * cfg.comps.length + 4)

/-- the interleaving of the seeded change C11-m7 (`stopOnce = true`), components a, b, w:
a and b fail in the initial tick; the second report returns early and releases the ticker while
the first handler is still in its fan-out. -/
def stopOnceHistory : List StopAct :=
  [ .fail "a", .fail "b"
  , .answer "w"           -- the healthy component answers
  , .handler 0            -- report of a: `_stopping = True`, fan-out starts
  , .handler 1            -- report of b: `if self._stopping: return`
  , .handler 1            --   master: `self.ticker.finished.set()` - `error` is still clear
  , .loop                 -- the tick returns, `finished.clear()`
  , .loop                 -- `while not self.error.is_set()`: clear; no wakeups: wait for one
  , .produceStop 0 "a", .produceStop 0 "b", .produceStop 0 "w"
  , .handler 0            -- `self.error.set()`
  , .handler 0            -- `self.ticker.finished.set()` - nobody is waiting on the ticker
  , .deliverStop "a", .deliverStop "b", .deliverStop "w" ]

/-- the decisive prefix of that interleaving for ANY two distinct components `a`, `b`. -/
def stopOncePrefix (a b : Comp) : List StopAct :=
  [ .fail a, .fail b, .handler 0, .handler 1, .handler 1, .loop, .loop ]

/-- where `stopOncePrefix` leaves the variant: the run loop waits for a wakeup while the first
handler has not even set `error` yet. -/
def stopOnceParked (cfg : StopCfg) (a b : Comp) : StopSt :=
  { pc := .waiting, error := false, finished := false, stopping := true, hasWakeups := false,
    newWakeup := false, toUpdate := cfg.comps, failed := [a, b],
    reports := [⟨a, .fanout cfg.comps⟩, ⟨b, .done⟩], inbox := [], stopSent := [], stopped := [] }

def stopOnceCfg (stopOnce : Bool) : StopCfg := { comps := ["a", "b", "w"], stopOnce := stopOnce }

end Tickit
