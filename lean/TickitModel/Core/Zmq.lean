/-
M9c — ZeroMQ push stream (`adapters/zmq.py`, `io/zeromq_push_io.py`) as a small-step
transition system with explicit yield points.

Senders: sender 0 is the queue loop (`send_messages_forever`), senders 1.. are direct
sequences (`send_message_sequence_soon`); a sender appended by `ensure` is the bare
`_ensure_socket` of `setup` (it starts at `wantLock` and has no message).
Each sender runs `send_message` for its messages one after the other:
  idle → wantLock → inFactory (holds the lock, factory latency) → ready → write → draining → idle
  (`wantLock → ready` at once when the socket exists).
The lock is `asyncio.Lock` (FIFO).  The environment chooses which sender moves.
-/
import TickitModel.Core.Basic

namespace Tickit

inductive Pc where
  | idle          -- between messages (queue loop: waiting for the queue)
  | wantLock      -- blocked on / about to enter `async with self._socket_lock`
  | inFactory     -- holds the lock, awaiting the socket factory
  | ready         -- left the lock with a socket; next step writes
  | draining      -- wrote; awaiting `drain()`
  deriving Repr, DecidableEq

structure Sender where
  pc : Pc := .idle
  /-- remaining messages of a direct sequence (sender 0 takes from the queue instead) -/
  todo : List Nat := []
  cur : Option Nat := none
  /-- ghost: the messages this direct sequence was spawned with -/
  orig : List Nat := []
  deriving Repr

structure Zmq where
  socket : Bool := false
  factoryCalls : Nat := 0
  lockHeld : Option Nat := none
  waiters : List Nat := []          -- FIFO lock queue
  queue : List Nat := []
  senders : List Sender := []
  writes : List (Nat × Nat) := []   -- (sender, message)
  queued : List Nat := []           -- ghost: every message ever queued, in order
  deriving Repr

inductive ZAct where
  | enqueue (m : Nat)               -- add_message_to_stream
  | spawn (msgs : List Nat)         -- send_message_sequence_soon
  | ensure                          -- the bare `_ensure_socket()` of `setup` (no message)
  | step (i : Nat)                  -- sender i makes its next move
  deriving Repr

def setSender (z : Zmq) (i : Nat) (s : Sender) : Zmq := { z with senders := z.senders.set i s }

/-- one move of sender `i`; `none` = not enabled. -/
def Zmq.stepSender (z : Zmq) (i : Nat) : Option Zmq :=
  match z.senders[i]? with
  | none => none
  | some s =>
    match s.pc with
    | .idle =>
      if i == 0 then
        match z.queue with
        | [] => none
        | m :: q => some (setSender { z with queue := q } i { s with pc := .wantLock, cur := some m })
      else
        match s.todo with
        | [] => none
        | m :: t => some (setSender z i { s with pc := .wantLock, cur := some m, todo := t })
    | .wantLock =>
      -- acquire when free and (no waiters or first waiter), else enqueue as waiter
      match z.lockHeld with
      | some _ => if i ∈ z.waiters then none else some { z with waiters := z.waiters ++ [i] }
      | none =>
        if z.waiters.head? == some i || z.waiters.isEmpty then
          let z1 := { z with waiters := z.waiters.filter (· != i) }
          if z1.socket then some (setSender z1 i { s with pc := .ready })   -- lock taken and released at once
          else some (setSender { z1 with lockHeld := some i, factoryCalls := z1.factoryCalls + 1 } i { s with pc := .inFactory })
        else if i ∈ z.waiters then none else some { z with waiters := z.waiters ++ [i] }
    | .inFactory =>
      -- factory returns: socket stored, lock released
      some (setSender { z with socket := true, lockHeld := none } i { s with pc := .ready })
    | .ready =>
      match s.cur with
      | none => some (setSender z i { s with pc := .idle })      -- the `setup` call: no message
      | some m => some (setSender { z with writes := z.writes ++ [(i, m)] } i { s with pc := .draining })
    | .draining => some (setSender z i { s with pc := .idle, cur := none })

def Zmq.act (z : Zmq) : ZAct → Option Zmq
  | .enqueue m => some { z with queue := z.queue ++ [m], queued := z.queued ++ [m] }
  | .spawn msgs => some { z with senders := z.senders ++ [{ todo := msgs, orig := msgs }] }
  | .ensure => some { z with senders := z.senders ++ [{ pc := .wantLock }] }
  | .step i => z.stepSender i

/-- initial state: the queue loop (sender 0) exists. -/
def Zmq.init : Zmq := { senders := [{}] }

def Zmq.run (z : Zmq) : List ZAct → Zmq
  | [] => z
  | a :: as => match z.act a with
    | some z' => Zmq.run z' as
    | none => Zmq.run z as

/-! serialisation rule, part by part -/
inductive Part where
  | bytes (b : List UInt8)
  | json (s : String)   -- a str / mapping / model: its `json.dumps` text is supplied
  deriving Repr

def serializePart : Part → List UInt8
  | .bytes b => b
  | .json s => s.toUTF8.toList

def serialize (m : List Part) : List (List UInt8) := m.map serializePart

end Tickit
