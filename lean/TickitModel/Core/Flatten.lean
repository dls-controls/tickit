/-
M8' — the mechanical flattening of a nested configuration: every device at top level, the
`external` / exposed ports of system simulations replaced by direct wires from the device
that ultimately drives them (C09's reference configuration).
-/
import TickitModel.Core.Sim

namespace Tickit

/-- the output wired to input `q` of `c` in `w` (inputs have one source) -/
def Wiring.sourceOf (w : Wiring) (c : Comp) (q : Port) : Option CPort :=
  alookup (agetD (InvWiring.fromWiring w) c []) q

/-- the device output that ultimately drives the output `(a, p)` named inside level `lvl`:
`external` ports are followed outwards through the enclosing system's inputs, exposed ports of
a system inwards through its `expose` wiring. `none` = dangling, or out of fuel. -/
def Static.resolve (S : Static) : Nat → Comp → Comp → Port → Option CPort
  | 0, _, _, _ => none
  | fuel + 1, lvl, a, p =>
    if a == pseudoExternal then
      if lvl == "" then none
      else match alookup S.parent lvl with
        | none => none
        | some P => match S.level P with
          | none => none
          | some LP => match LP.wiring.sourceOf lvl p with
            | none => none
            | some (a', p') => S.resolve fuel P a' p'
    else if S.isSys a then
      match S.level a with
      | none => none
      | some La => match La.wiring.sourceOf pseudoExpose p with
        | none => none
        | some (a', p') => S.resolve fuel a a' p'
    else some (a, p)

/-- all devices, in configuration order -/
def Static.devices (S : Static) : List Comp :=
  (S.parent.filter (fun e => !S.isSys e.1)).map (·.1)

/-- resolved inputs of device `c` -/
def Static.flatInputs (S : Static) (fuel : Nat) (c : Comp) : List (Port × CPort) :=
  match alookup S.parent c with
  | none => []
  | some lvl => match S.level lvl with
    | none => []
    | some L => (agetD (InvWiring.fromWiring L.wiring) c []).filterMap (fun e =>
        (S.resolve fuel lvl e.2.1 e.2.2).map (fun src => (e.1, src)))

def Static.flatInverse (S : Static) (fuel : Nat) : InvWiring :=
  S.devices.map (fun c => (c, S.flatInputs fuel c))

/-- the flat configuration -/
def Static.flatten (S : Static) (fuel : Nat) : Static :=
  { levels := [{ name := "", wiring := Wiring.fromInverse (S.flatInverse fuel) }]
    systems := []
    parent := S.devices.map (fun c => (c, "")) }

end Tickit
