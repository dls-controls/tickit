/-
M1 — wiring representations and the event router (`core/management/event_router.py`).
-/
import TickitModel.Core.Basic

namespace Tickit

/-- `Wiring`: out component ↦ out port ↦ set of (in component, in port). -/
abbrev Wiring := List (Comp × List (Port × List CPort))
/-- `InverseWiring`: in component ↦ in port ↦ (out component, out port). -/
abbrev InvWiring := List (Comp × List (Port × CPort))

/-- `wiring[c]` on the defaultdict: creates an empty port map when missing. -/
def Wiring.touch (w : Wiring) (c : Comp) : Wiring := atouch w c []

/-- `wiring[a][p].add((b,q))` -/
def Wiring.add (w : Wiring) (a : Comp) (p : Port) (bq : CPort) : Wiring :=
  let ports := agetD w a []
  let ins := agetD ports p []
  upsert w a (upsert ports p (sinsert ins bq))

/-- `inverse_wiring[c]` touch. -/
def InvWiring.touch (w : InvWiring) (c : Comp) : InvWiring := atouch w c []

/-- `inverse_wiring[b][q] = (a,p)` -/
def InvWiring.set (w : InvWiring) (b : Comp) (q : Port) (ap : CPort) : InvWiring :=
  upsert w b (upsert (agetD w b []) q ap)

/-- `Wiring.from_inverse_wiring` -/
def Wiring.fromInverse (iw : InvWiring) : Wiring :=
  iw.foldl (fun w (ent : Comp × List (Port × CPort)) =>
    ent.2.foldl (fun w (pe : Port × CPort) => w.add pe.2.1 pe.2.2 (ent.1, pe.1)) (w.touch ent.1)) []

/-- `InverseWiring.from_wiring` -/
def InvWiring.fromWiring (w : Wiring) : InvWiring :=
  w.foldl (fun iw (ent : Comp × List (Port × List CPort)) =>
    ent.2.foldl (fun iw (pe : Port × List CPort) =>
      pe.2.foldl (fun iw (bq : CPort) => iw.set bq.1 bq.2 (ent.1, pe.1)) iw) (iw.touch ent.1)) []

/-- `InverseWiring.from_component_configs`: `{config.name: config.inputs}` (a dict
comprehension: later duplicates of a name overwrite). -/
def InvWiring.fromConfigs (cfgs : List (Comp × List (Port × CPort))) : InvWiring :=
  cfgs.foldl (fun iw c => upsert iw c.1 c.2) []

/-- the relational reading of a wiring: output `p` of `a` is wired to input `q` of `b`. -/
def Wiring.Conn (w : Wiring) (a : Comp) (p : Port) (b : Comp) (q : Port) : Prop :=
  ∃ ports ins, alookup w a = some ports ∧ alookup ports p = some ins ∧ (b, q) ∈ ins

def InvWiring.Conn (iw : InvWiring) (a : Comp) (p : Port) (b : Comp) (q : Port) : Prop :=
  ∃ ports, alookup iw b = some ports ∧ alookup ports q = some (a, p)

instance (w : Wiring) (a p b q) : Decidable (w.Conn a p b q) := by
  unfold Wiring.Conn
  cases h : alookup w a with
  | none => exact isFalse (by rintro ⟨_, _, h', _⟩; simp at h')
  | some ports =>
    cases h2 : alookup ports p with
    | none => exact isFalse (by rintro ⟨_, _, h', h'', _⟩; simp at h'; subst h'; simp [h2] at h'')
    | some ins =>
      exact if hm : (b, q) ∈ ins then isTrue ⟨ports, ins, rfl, h2, hm⟩
        else isFalse (by rintro ⟨_, _, h', h'', hm'⟩; simp at h'; subst h'; simp [h2] at h''; subst h''; exact hm hm')

/-! ### EventRouter -/

/-- `output_components`: keys whose port map is non-empty (Python truthiness of the dict). -/
def Wiring.outputComponents (w : Wiring) : List Comp :=
  (w.filter (fun e => !e.2.isEmpty)).map (·.1)

/-- `input_components` -/
def Wiring.inputComponents (w : Wiring) : List Comp :=
  w.foldl (fun acc e => e.2.foldl (fun acc pe => pe.2.foldl (fun acc bq => sinsert acc bq.1) acc) acc) []

/-- `isolated_components` -/
def Wiring.isolatedComponents (w : Wiring) : List Comp :=
  (akeys w).filter (fun c => c ∉ w.inputComponents ∧ c ∉ w.outputComponents)

/-- `components` -/
def Wiring.components (w : Wiring) : List Comp :=
  sunion (sunion w.inputComponents w.outputComponents) w.isolatedComponents

/-- `component_tree[c]` (first-order dependants), for keys of the wiring. -/
def Wiring.children (w : Wiring) (c : Comp) : Option (List Comp) :=
  (alookup w c).map (fun ports => ports.foldl (fun acc pe => pe.2.foldl (fun acc bq => sinsert acc bq.1) acc) [])

def Wiring.componentTree (w : Wiring) : List (Comp × List Comp) :=
  w.map (fun e => (e.1, (w.children e.1).getD []))

/-- `inverse_component_tree`: for every component the set of its first-order upstreams. -/
def Wiring.inverseTree (w : Wiring) : List (Comp × List Comp) :=
  let init : List (Comp × List Comp) := w.components.map (fun c => (c, []))
  w.componentTree.foldl (fun acc e =>
    e.2.foldl (fun acc dep => upsert acc dep (sinsert (agetD acc dep []) e.1)) acc) init

/-- first-order upstreams of `c`; `none` is Python's `KeyError`. -/
def Wiring.ups (w : Wiring) (c : Comp) : Option (List Comp) := alookup w.inverseTree c

/-- the BFS loop of `dependants`, with explicit fuel. -/
def bfs (children : Comp → Option (List Comp)) : Nat → List Comp → List Comp → List Comp
  | 0, _, vis => vis
  | _ + 1, [], vis => vis
  | fuel + 1, d :: q, vis =>
    if d ∈ vis then bfs children fuel q vis
    else
      let vis' := vis ++ [d]
      match children d with
      | some ch => bfs children fuel (q ++ ch.filter (· ∉ vis')) vis'
      | none => bfs children fuel q vis'

/-- enough fuel for `bfs` from one root: `n` bounds both the number of components and the number
of children of one, and `bfs` needs `unvisited * (max children + 1) + queue length` (`bfs_closed`
in `Lemmas/RouterBfs`). -/
def Wiring.bfsFuel (w : Wiring) : Nat :=
  let n := (akeys w).length + w.inputComponents.length + 1
  n * (n + 1) + 2

/-- `EventRouter.dependants(root)` -/
def Wiring.dependants (w : Wiring) (root : Comp) : List Comp :=
  bfs w.children w.bfsFuel [root] []

/-- `EventRouter.route(source, changes)`: for every changed output port, every wired input. -/
def Wiring.route {Val : Type} (w : Wiring) (src : Comp) (changes : List (Port × Val)) :
    List (Comp × List (Port × Val)) :=
  changes.foldl (fun routed (pv : Port × Val) =>
    (agetD (agetD w src []) pv.1 []).foldl (fun routed (bq : CPort) =>
      upsert routed bq.1 (upsert (agetD routed bq.1 []) bq.2 pv.2)) routed) []

/-- an edge of the first-order tree. -/
def Wiring.Edge (w : Wiring) (a b : Comp) : Prop := ∃ p q, w.Conn a p b q

end Tickit
