/-
M10 — a flat simulation at MESSAGE level over MANY ticks: the bus of `Core/MsgFlat.lean`
(messages in flight, participants that start late), device components that carry their state
from tick to tick, the master scheduler's wakeup bookkeeping between ticks.

  core/components/device_component.py        (`Core/Device.lean`)
      async def on_tick(self, time, changes) -> None:
          self.device_inputs = {**self.device_inputs, **changes}
          device_update = self.device.update(SimTime(time), self.device_inputs)
          out_changes = {k: v for k, v in device_update.outputs.items()
                         if k not in self.last_outputs or not self.last_outputs[k] == v}
          self.last_outputs = device_update.outputs
          await self.output(time, out_changes, device_update.call_at)

  core/management/schedulers/master.py       (`Core/Sched.lean`, `Core/Flat.lean`)
      async def run_forever(self) -> None:
          await self.setup()
          await self._do_initial_tick()        # ticker(initial_time, ticker.components)
          while not self.error.is_set():
              await self._do_tick()
      async def _do_tick(self):
          ...                                   # wait until a wakeup exists and is due
          components, when = self.get_first_wakeups()
          for component in components:
              del self.wakeups[component]
          await self.ticker(when, {component for component in components})

A tick is begun only when the previous one has finished (`await self.ticker(...)` returns
after `finished.wait()`).  Real time (the sleep) is not modelled: C12.  No interrupts: C07.

Inside a tick the bus steps are those of `MsgSt.step`, with the reaction function computed from
the CURRENT state of the components (`rxOf`) and the time taken from the `Input` message; a
component that handles an `Input` updates its own state (`device_inputs`, `last_outputs`).
-/
import TickitModel.Core.MsgFlat
import TickitModel.Core.Flat

set_option autoImplicit false

namespace Tickit

variable {Val : Type} [DecidableEq Val]

/-- `DeviceComponent.on_tick` as seen from the bus: given `Input(time = t', changes = ins)` the
component with state `comps[c]` produces `Output(changes, call_at)`. -/
def rxOf (comps : List (Comp × DevComp Val)) (dev : DevFn Val) : MsgReact Val := fun c t' ins =>
  let dc := agetD comps c {}
  let r := dev c t' (dc.merge ins)
  (outChanges dc.lastOutputs (normDict r.outs), r.callAt)

structure MsgRunSt (Val : Type) where
  /-- logs, cursors, who has started, the scheduler's ticker and wakeups, history of the tick -/
  bus : MsgSt Val := {}
  /-- the components' own state -/
  comps : List (Comp × DevComp Val) := []
  /-- ghost: one entry per device update (device, time, inputs given), as `FlatSt.obs` -/
  obs : List (Comp × SimTime × List (Port × Val)) := []
  /-- number of ticks begun -/
  ticks : Nat := 0
  /-- time and roots of the tick in progress (locals of `_do_tick`) -/
  tickTime : SimTime := 0
  tickRoots : List Comp := []
  /-- ghost: the tick times, latest first -/
  times : List SimTime := []

inductive MsgRunAct where
  /-- a bus action: `startSched` = the scheduler starts and begins the INITIAL tick; a component
  starts; a delivery -/
  | bus (a : MsgAct)
  /-- the scheduler begins the next tick (`_do_tick` after the wait) -/
  | nextTick
  deriving Repr, DecidableEq

/-- the run state after component `c` was delivered a message (the last argument; `none` never
occurs after an enabled delivery) from `in c`: `b` is the bus after that delivery, and an `Input`
updates the component's own state and the observation log -/
def MsgRunSt.handle (M : MsgRunSt Val) (dev : DevFn Val) (c : Comp) (b : MsgSt Val) :
    Option (BusMsg Val) → MsgRunSt Val
  | some (.disp (.input _ t' ins)) =>
    let dc := agetD M.comps c {}
    let given := dc.merge ins
    { M with bus := b
             comps := upsert M.comps c
               { deviceInputs := given, lastOutputs := normDict (dev c t' given).outs }
             obs := M.obs ++ [(c, t', given)] }
  | _ => { M with bus := b }

/-- one action of the whole simulation.  `devs k` is the device function during tick `k`. -/
def MsgRunSt.step (w : Wiring) (devs : DevSeq Val) (t0 : SimTime) (M : MsgRunSt Val) :
    MsgRunAct → Option (Except TickErr (MsgRunSt Val))
  | .bus .startSched =>
    (M.bus.step w (rxOf M.comps (devs 0)) t0 w.components .startSched).map (fun r => r.map (fun b =>
      { M with bus := b, ticks := 1, tickTime := t0, tickRoots := w.components, times := [t0] }))
  | .bus (.deliverIn c) =>
    let dev := devs (M.ticks - 1)
    (M.bus.step w (rxOf M.comps dev) M.tickTime M.tickRoots (.deliverIn c)).map (fun r => r.map
      (fun b => M.handle dev c b (M.bus.next (.inT c))))
  | .bus a =>
    (M.bus.step w (rxOf M.comps (devs (M.ticks - 1))) M.tickTime M.tickRoots a).map (fun r =>
      r.map (fun b => { M with bus := b }))
  | .nextTick =>
    match M.bus.tk with
    | none => none
    | some tk =>
      if tk.toUpdate.isEmpty then
        match firstWakeups M.bus.wake with
        | (cs, some when) =>
          let b0 : MsgSt Val :=
            { M.bus with tk := none, hist := [], wake := delWakeups M.bus.wake cs }
          (b0.step w (rxOf M.comps (devs M.ticks)) when cs .startSched).map (fun r => r.map (fun b =>
            { M with bus := b, ticks := M.ticks + 1, tickTime := when, tickRoots := cs,
                     times := when :: M.times }))
        | _ => none
      else none

/-- run a list of actions (`none` = some action was not enabled or failed) -/
def MsgRunSt.run (w : Wiring) (devs : DevSeq Val) (t0 : SimTime) :
    MsgRunSt Val → List MsgRunAct → Option (MsgRunSt Val)
  | M, [] => some M
  | M, a :: as =>
    match M.step w devs t0 a with
    | some (.ok M') => MsgRunSt.run w devs t0 M' as
    | _ => none

/-- the initial state: nothing produced; the components in `S` have already started. -/
def MsgRunSt.initial (S : List Comp) : MsgRunSt Val := { bus := { started := S } }

/-- every interleaving of starts, deliveries and tick starts. -/
inductive MsgRunSt.Reach (w : Wiring) (devs : DevSeq Val) (t0 : SimTime) : MsgRunSt Val → Prop
  | init (S : List Comp) : Reach w devs t0 (MsgRunSt.initial S)
  | step {M M' : MsgRunSt Val} {a : MsgRunAct} : Reach w devs t0 M →
      M.step w devs t0 a = some (.ok M') → Reach w devs t0 M'

/-- the simulation state as a `FlatSt` (components, wakeups, observation log) -/
def MsgRunSt.flat (M : MsgRunSt Val) : FlatSt Val :=
  { comps := M.comps, wake := M.bus.wake, obs := M.obs }

end Tickit
