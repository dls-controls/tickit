/-
M5'' — one tick of the nested whole-simulation model, SMALL-STEP and INTERLEAVED.

`Core/SimAny.lean` (`TickLevelAny`) lets every scheduler level answer any pending dispatch next, but
the answer of a system component is there ONE step: a whole execution of the inner tick, during which
nothing else happens at the outer level or inside sibling system components.  The code does not
work like that.  Every component is its own asyncio task; a `SystemComponent` answers an `Input` by
awaiting a whole tick of its own `NestedScheduler`, and while it waits the event loop runs whatever
else is ready: the outer scheduler handling the `Output` of another component, a sibling
`SystemComponent` in the middle of ITS inner tick, a device two levels further down.

    # core/components/component.py        (every component, one task per component)
    async def handle_input(self, message: ComponentInput):
        if isinstance(message, Input):
            ...
                await asyncio.gather(self.on_tick(message.time, message.changes), ...)

    # core/components/system_component.py
    async def run_forever(self, state_consumer, state_producer) -> None:
        ...
        self._tasks = [
            asyncio.create_task(component.run_forever(state_consumer, state_producer))
            for component in components.values()
        ] + [asyncio.create_task(self.scheduler.run_forever())]

    async def on_tick(self, time: SimTime, changes: Changes) -> None:
        on_tick = asyncio.create_task(self.scheduler.on_tick(time, changes))
        error_state = asyncio.create_task(self.scheduler.error.wait())
        done, _ = await asyncio.wait([on_tick, error_state], return_when=FIRST_COMPLETED)
        ...
            output_changes, call_in = on_tick.result()
            await self.output(time, output_changes, call_in)

    # core/management/schedulers/nested.py
    async def on_tick(self, time, changes):
        wakeup_components = {c for c, when in self.wakeups.items() if when <= time}
        root_components = {*self.interrupts, *wakeup_components, ComponentID("external")}
        if not self._initial_tick_done:
            root_components |= self.ticker.components
            self._initial_tick_done = True
        for component in wakeup_components:
            del self.wakeups[component]
        self.interrupts.clear()
        self.input_changes = changes
        self.output_changes = Changes(Map())
        await self.ticker(time, root_components)          # <- suspended until the inner tick is over
        _, call_at = self.get_first_wakeups()
        return self.output_changes, call_at

    # core/management/ticker.py
    async def __call__(self, time, update_components) -> None:
        await self._start_tick(time, update_components)
        await self.schedule_possible_updates()
        await self.finished.wait()                        # <- other tasks run meanwhile
        self.finished.clear()

This file states that as a SMALL-STEP relation.  A configuration is the shared simulation state
`SimSt` together with the TREE of the scheduler levels that are inside a tick right now
(`ITree`): the level being ticked and, for every system component whose `Input` has been delivered
and whose inner tick is not over, that inner level, recursively.  Every active level carries the
`LoopSt`-like part of its state (`IFrame`: ticker, pending dispatches, exposed changes, and the
`time` / `changes` its `on_tick` was called with).  One step (`IStep`) picks ANY active level (rule
`inner` descends into the tree) and ANY pending dispatch of it and

* `answer`: answers it completely — skip, mock `external` / `expose`, device (`AnswerNow`, clause
  by clause `AnswerAny` without its `sys` clause) — and propagates the answer in that level's
  ticker (`BaseScheduler.handle_message`), or
* `opn`: for a system component, delivers the `Input`: the first half of
  `NestedScheduler.on_tick` (roots from queued interrupts and due wakeups, `sysRoots`; wakeups
  deleted, interrupts cleared, `sysPre`), `Ticker._start_tick` + `schedule_possible_updates`
  (`Ticker.call`); the inner level becomes active.  The dispatch stays pending at the outer level
  (its `Output` has not been produced); an `Input` is delivered once (no open inner tick of the
  same component), or
* `close`: an active inner level whose tick is over (nothing pending, nothing left to update, no
  open inner tick of its own) returns: the second half of `NestedScheduler.on_tick`
  (`get_first_wakeups`, `sysCallAt`), `SystemComponent.output`, and the outer scheduler's
  `handle_message` (`propagate`, `add_wakeup`) for that `Output`.

Steps of different active levels interleave arbitrarily.  `TickInter` is a complete execution of a
tick: from the configuration in which only the ticked level is active (just after `Ticker.call`)
to one in which only that level is active and its tick is over.  Only successful executions are
described, as in `Core/SimAny.lean`.

Not modelled: anything that arrives from outside WHILE a tick runs.  No rule of `IStep` queues an
interrupt (an adapter raising one in the middle of a tick); `opn` reads (`sysRoots`), and `sysPre`
clears, the interrupts that were queued in the shared state before the tick.  External stimuli are
handled between ticks only, by the master loop over interleaved ticks (`MasterRunInter.stim`,
`Core/SimInterRun.lean`).
-/
import TickitModel.Core.SimAny

namespace Tickit

/-- the part of the state of one scheduler level that exists only while it is inside a tick:
`LoopSt` without the shared `SimSt`, plus the arguments of the `on_tick` that started the tick. -/
structure IFrame where
  L : Level
  /-- `time` of the tick -/
  t : SimTime
  /-- `NestedScheduler.input_changes` (the `changes` of the `Input` that started the tick) -/
  inCh : List (Port × V)
  tk : Ticker V
  /-- dispatches handed out by the ticker whose `Output` / `Skip` has not been propagated yet -/
  pending : List (Dispatch V)
  /-- `NestedScheduler.output_changes` -/
  outCh : List (Port × V)

/-- the tree of the scheduler levels that are inside a tick: a level and the inner levels of its
system components whose `Input` has been delivered and whose inner tick is not over. -/
inductive ITree where
  | node (fr : IFrame) (kids : List ITree)

def ITree.fr : ITree → IFrame
  | .node fr _ => fr

def ITree.kids : ITree → List ITree
  | .node _ kids => kids

/-- the name of the level at the root of the tree (= the name of the system component it is the
inner level of) -/
def ITree.name (T : ITree) : Comp := T.fr.L.name

/-- the answer of a component that answers in ONE step: skip, mock `external`, mock `expose`,
device.  Clause by clause `AnswerAny` without its `sys` clause: new state, new exposed output
changes of the level, the `Output.changes` and the `call_at`. -/
inductive AnswerNow (S : Static) (orc : Oracle) :
    Level → List (Port × V) → SimSt → List (Port × V) → Dispatch V →
      SimSt × List (Port × V) × List (Port × V) × Option SimTime → Prop
  | skip {L : Level} {inCh : List (Port × V)} {st : SimSt} {outCh0 : List (Port × V)}
      {c : Comp} {t : SimTime} :
      AnswerNow S orc L inCh st outCh0 (.skip c t) (st, outCh0, [], none)
  | external {L : Level} {inCh : List (Port × V)} {st : SimSt} {outCh0 : List (Port × V)}
      {c : Comp} {t : SimTime} {ins : List (Port × V)} :
      (L.name != "" && c == pseudoExternal) = true →
      AnswerNow S orc L inCh st outCh0 (.input c t ins) (st, outCh0, inCh, none)
  | expose {L : Level} {inCh : List (Port × V)} {st : SimSt} {outCh0 : List (Port × V)}
      {c : Comp} {t : SimTime} {ins : List (Port × V)} :
      (L.name != "" && c == pseudoExternal) = false →
      (L.name != "" && c == pseudoExpose) = true →
      AnswerNow S orc L inCh st outCh0 (.input c t ins) (st, ins, [], none)
  | dev {L : Level} {inCh : List (Port × V)} {st : SimSt} {outCh0 : List (Port × V)}
      {c : Comp} {t : SimTime} {ins : List (Port × V)} {resp : DevResp} :
      (L.name != "" && c == pseudoExternal) = false →
      (L.name != "" && c == pseudoExpose) = false →
      S.isSys c = false →
      (agetD orc c [])[agetD st.count c 0]? = some resp →
      resp.raises = false →
      AnswerNow S orc L inCh st outCh0 (.input c t ins)
        ((devAfter st c t ins resp).1, outCh0, (devAfter st c t ins resp).2, resp.callAt)

/-- ONE step of the interleaved semantics: some active level (reached by `inner`) answers a pending
dispatch completely, delivers the `Input` of a system component (its inner level becomes active),
or receives the `Output` of a system component whose inner tick is over. -/
inductive IStep (S : Static) (orc : Oracle) : SimSt × ITree → SimSt × ITree → Prop
  | answer {st : SimSt} {fr : IFrame} {kids : List ITree} {i : Nat} {d : Dispatch V}
      {st' : SimSt} {outCh' changes : List (Port × V)} {callAt : Option SimTime}
      {tk' : Ticker V} {ds : List (Dispatch V)} :
      fr.pending[i]? = some d →
      AnswerNow S orc fr.L fr.inCh st fr.outCh d (st', outCh', changes, callAt) →
      fr.tk.propagate fr.L.wiring d.comp d.time changes = .ok (tk', ds) →
      IStep S orc (st, .node fr kids)
        (anyWake st' fr.L.name d.comp callAt,
          .node { fr with tk := tk', pending := fr.pending.eraseIdx i ++ ds, outCh := outCh' } kids)
  | opn {st : SimSt} {fr : IFrame} {kids : List ITree} {i : Nat} {c : Comp} {t : SimTime}
      {ins : List (Port × V)} {Lc : Level} {tk : Ticker V} {ds : List (Dispatch V)} :
      fr.pending[i]? = some (.input c t ins) →
      (fr.L.name != "" && c == pseudoExternal) = false →
      (fr.L.name != "" && c == pseudoExpose) = false →
      S.isSys c = true →
      (∀ k ∈ kids, k.name ≠ c) →
      S.level c = some Lc →
      (Ticker.call Lc.wiring t (sysRoots S st c t) :
        Except TickErr (Ticker V × List (Dispatch V))) = .ok (tk, ds) →
      IStep S orc (st, .node fr kids)
        (sysPre st c t, .node fr (kids ++ [.node ⟨Lc, t, ins, tk, ds, []⟩ []]))
  | close {st : SimSt} {fr : IFrame} {kids : List ITree} {j : Nat} {g : IFrame} {i : Nat}
      {tk' : Ticker V} {ds : List (Dispatch V)} :
      kids[j]? = some (.node g []) →
      g.pending = [] → g.tk.toUpdate.isEmpty = true →
      fr.pending[i]? = some (.input g.L.name g.t g.inCh) →
      fr.tk.propagate fr.L.wiring g.L.name g.t g.outCh = .ok (tk', ds) →
      IStep S orc (st, .node fr kids)
        (anyWake st fr.L.name g.L.name (sysCallAt st g.L.name g.t),
          .node { fr with tk := tk', pending := fr.pending.eraseIdx i ++ ds } (kids.eraseIdx j))
  | inner {st st' : SimSt} {fr : IFrame} {kids : List ITree} {j : Nat} {k k' : ITree} :
      kids[j]? = some k → IStep S orc (st, k) (st', k') →
      IStep S orc (st, .node fr kids) (st', .node fr (kids.set j k'))

/-- any number of interleaved steps -/
inductive IRun (S : Static) (orc : Oracle) : SimSt × ITree → SimSt × ITree → Prop
  | refl {a : SimSt × ITree} : IRun S orc a a
  | step {a b c : SimSt × ITree} : IStep S orc a b → IRun S orc b c → IRun S orc a c

/-- a COMPLETE interleaved execution of one tick of scheduler level `lvl` at time `t` with roots
`roots` (`inCh`: the input changes of the enclosing system component): from "only `lvl` is active,
its ticker has just been called" to "only `lvl` is active, nothing pending, nothing left to
update"; the result is the final shared state and the exposed output changes of `lvl`. -/
inductive TickInter (S : Static) (orc : Oracle) :
    Comp → SimTime → List Comp → List (Port × V) → SimSt → SimSt × List (Port × V) → Prop
  | mk {lvl : Comp} {t : SimTime} {roots : List Comp} {inCh : List (Port × V)} {st st' : SimSt}
      {L : Level} {tk : Ticker V} {ds : List (Dispatch V)} {fr : IFrame} :
      S.level lvl = some L →
      (Ticker.call L.wiring t roots : Except TickErr (Ticker V × List (Dispatch V))) = .ok (tk, ds) →
      IRun S orc (st, .node ⟨L, t, inCh, tk, ds, []⟩ []) (st', .node fr []) →
      fr.pending = [] → fr.tk.toUpdate.isEmpty = true →
      TickInter S orc lvl t roots inCh st (st', fr.outCh)

end Tickit
