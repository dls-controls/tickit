/-
M5'' — the master loop over any-order ticks: `masterRun` of `Core/Sim.lean` with every tick replaced by
any `TickLevelAny` execution (`Core/SimAny.lean`).
-/
import TickitModel.Core.SimAny

namespace Tickit

/-! ### the master loop over any-order ticks

The bookkeeping between ticks is the same code as in `masterRun`, restated as three functions:
`nextStim` and `stimStep` are its stimulus branch, `tickStart` is the `del self.wakeups[component]` of

    # core/management/schedulers/master.py
    async def _do_tick(self):
        ...
        components, when = self.get_first_wakeups()
        for component in components:
            del self.wakeups[component]
            self._pending_interrupts.pop(component, None)
        self.last_time = time_ns()
        await self.ticker(when, {component for component in components})
        self.last_time = time_ns()

(`_pending_interrupts` is not part of this model, as it is not part of `masterRun`).
-/

/-- which stimulus, if any, is handled before the next tick: one that is not after the due tick
(or any, when no tick is due) -/
def nextStim (m : MasterSt) (s : Speed) (whenT : Option SimTime) : List Stim → Option (Stim × List Stim)
  | [] => none
  | st :: rest => match whenT.map (dueReal m s) with
    | none => some (st, rest)
    | some d => if st.real ≤ d then some (st, rest) else none

/-- the master after handling the stimulus `st` (the stimulus branch of `masterRun`) -/
def stimStep (S : Static) (fuel : Nat) (s : Speed) (m : MasterSt) (st : Stim) : MasterSt :=
  let now := if st.real < m.now then m.now else st.real
  let r := raiseInterrupt S fuel st.comp m.sim
  let stamp := interruptStamp m.tickerTime now m.lastReal s
  let sc := r.1.sched ""
  let when := match alookup sc.wake r.2 with
    | some w => if w < stamp then w else stamp
    | none => stamp
  { m with
    sim := { r.1 with scheds := upsert r.1.scheds "" { sc with wake := addWakeup sc.wake r.2 when } }
    now := now }

/-- the state in which the master's tick for `comps` starts: their wakeups are removed -/
def tickStart (sim : SimSt) (comps : List Comp) : SimSt :=
  let sc := sim.sched ""
  { sim with scheds := upsert sim.scheds "" { sc with wake := delWakeups sc.wake comps } }

/-- the initial tick of the master, any answer order -/
inductive MasterInitialAny (S : Static) (orc : Oracle) (t0 : SimTime) (now : Int) :
    MasterSt × TickRec → Prop
  | mk {L : Level} {st : SimSt} {out : List (Port × V)} :
      S.level "" = some L →
      TickLevelAny S orc "" t0 L.wiring.components [] {} (st, out) →
      MasterInitialAny S orc t0 now
        ({ sim := st, tickerTime := t0, lastReal := now, now := now }, ⟨t0, now, L.wiring.components⟩)

/-- `masterRun` with every tick replaced by any `TickLevelAny` execution of it -/
inductive MasterRunAny (S : Static) (orc : Oracle) (fuel : Nat) (s : Speed) :
    Nat → Nat → MasterSt → List Stim → List TickRec → MasterSt × List TickRec → Prop
  | outOfSteps {nTicks : Nat} {m : MasterSt} {stims : List Stim} {acc : List TickRec} :
      MasterRunAny S orc fuel s 0 nTicks m stims acc (m, acc)
  | ticksDone {steps : Nat} {m : MasterSt} {stims : List Stim} {acc : List TickRec} :
      MasterRunAny S orc fuel s (steps + 1) 0 m stims acc (m, acc)
  | stim {steps nTicks : Nat} {m : MasterSt} {stims : List Stim} {acc : List TickRec} {st : Stim}
      {rest : List Stim} {r : MasterSt × List TickRec} :
      nextStim m s (firstWakeups (m.sim.sched "").wake).2 stims = some (st, rest) →
      MasterRunAny S orc fuel s steps (nTicks + 1) (stimStep S fuel s m st) rest acc r →
      MasterRunAny S orc fuel s (steps + 1) (nTicks + 1) m stims acc r
  | tick {steps nTicks : Nat} {m : MasterSt} {stims : List Stim} {acc : List TickRec}
      {comps : List Comp} {w : SimTime} {sim2 : SimSt} {out : List (Port × V)}
      {r : MasterSt × List TickRec} :
      nextStim m s (firstWakeups (m.sim.sched "").wake).2 stims = none →
      firstWakeups (m.sim.sched "").wake = (comps, some w) →
      TickLevelAny S orc "" w comps [] (tickStart m.sim comps) (sim2, out) →
      MasterRunAny S orc fuel s steps nTicks
        { sim := sim2, tickerTime := w, lastReal := dueReal m s w, now := dueReal m s w } stims
        (acc ++ [⟨w, dueReal m s w, comps⟩]) r →
      MasterRunAny S orc fuel s (steps + 1) (nTicks + 1) m stims acc r
  | idle {steps nTicks : Nat} {m : MasterSt} {stims : List Stim} {acc : List TickRec} :
      nextStim m s (firstWakeups (m.sim.sched "").wake).2 stims = none →
      (firstWakeups (m.sim.sched "").wake).2 = none →
      MasterRunAny S orc fuel s (steps + 1) (nTicks + 1) m stims acc (m, acc)

end Tickit
