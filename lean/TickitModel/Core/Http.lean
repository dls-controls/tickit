/-
M9c — the HTTP adapter path (`adapters/http.py`, `adapters/specifications/http_endpoint.py`,
`adapters/io/http_io.py`).

```python
# adapters/specifications/http_endpoint.py
@dataclass(frozen=True)
class HttpEndpoint(Generic[AnyStr]):
    path: str
    method: str
    interrupt: bool = False
    func: Optional[Callable[[web.Request], web.Response]] = None
    def __call__(self, func):                     # decorator: marks the adapter method
        setattr(func, "__endpoint__", self); return func
    def define(self, func) -> RouteDef:
        return RouteDef(self.method, self.path, func, {})
    @classmethod
    def get(cls, url, interrupt=False):  return cls(url, "GET", interrupt)
    def put(cls, url, interrupt=False):  return cls(url, "PUT", interrupt)
    def post(cls, url, interrupt=False): return cls(url, "POST", interrupt)

# adapters/http.py
class HttpAdapter:
    def get_endpoints(self) -> Iterable[Tuple[HttpEndpoint, Callable]]:
        for _, func in getmembers(self):                      # sorted by member name
            endpoint = getattr(func, "__endpoint__", None)
            if endpoint is not None and isinstance(endpoint, HttpEndpoint):
                yield endpoint, func

# adapters/io/http_io.py
    async def _start_server(self, endpoints, raise_interrupt):
        self.app = web.Application()
        definitions = self.create_route_definitions(endpoints, raise_interrupt)
        self.app.add_routes(list(definitions))
        ...
    def create_route_definitions(self, endpoints, raise_interrupt) -> Iterable[RouteDef]:
        for endpoint, func in endpoints:
            if endpoint.interrupt:
                func = _with_posthoc_task(func, raise_interrupt)
            yield endpoint.define(func)

def _with_posthoc_task(func, afterwards):
    async def wrapped(request: web.Request) -> web.Response:
        response = await func(request)
        await afterwards()
        return response
    return wrapped
```

What is modelled: the endpoint table, discovery order (`getmembers` = sorted by member name),
`create_route_definitions` (one callable PER endpoint: the endpoint's own bound method, wrapped by
`_with_posthoc_task` iff the endpoint is declared interrupting), the events of one call of such a
callable (`effect`, then `interrupt`, then the response is handed back) and the selection of the
route for a request.

What is a parameter: aiohttp.  tickit hands a list of `RouteDef(method, path, handler)` to
`web.Application.add_routes`; which route serves a request is decided by aiohttp's `UrlDispatcher`.
The model is restricted to SIMPLE templates: `/seg/seg/...` where every segment is either a literal
or a whole `{name}` (aiohttp: `{name}` ≙ `[^{}/]+`; no `{name:regex}`, no partial-segment variables,
no percent-escapes, no `*` method).  For those, two resolvers are given:

* `resolveFirst` — the first registered route that matches method and path (the
  "routes are tried in registration order" rule; a linear search as in older aiohttp releases).
* `resolveIndexed` — what the installed aiohttp (3.14.3, `UrlDispatcher.resolve` with its
  `_resource_index`) does: resources are indexed by the literal prefix of their template; the URL is
  walked from the full path towards `/` and, at each prefix, the resources indexed there are tried
  in registration order.  So a MORE SPECIFIC template (longer literal prefix) wins over an earlier
  registered, less specific one (`/a/{x}` registered before `/a/b`: `GET /a/b` is served by `/a/b`).
  Observed on the installed aiohttp with `UrlDispatcher.resolve` + `make_mocked_request`.

Both agree whenever overlapping routes are registered most specific first (`specificityOrdered`:
`httpRequestIdx_eq_httpRequest` in `Props/C18Http`), in particular when at most one registered route
matches any request (`nonOverlapping_specificityOrdered` in `Lemmas/HttpLemmas`).  So that aiohttp
stays a parameter, what the trace of a request can be (`httpRequestWith_cases`) and that the order of
registration is irrelevant without overlaps (`httpRequestWith_perm`) are proved for ANY resolver that
returns only a registered route accepting the request and reports none only when no route accepts
(`Resolver.Sound`, `Resolver.Complete`, defined in `Lemmas/HttpLemmas`).  The `httpRequest_*` theorems
of `Props/C18Http` are about `resolveFirst`, the `httpRequestIdx_*` theorems about `resolveIndexed`.

Further aiohttp facts built in: a `RouteDef` whose method is `"GET"` is registered through `add_get`,
which also adds a `HEAD` route to the same handler (`methodServes`); a request whose path matches a
registered template but under no registered method is answered 405, any other unmatched request 404;
registration itself fails (the server does not start) when a template repeats a variable name or when
a method is registered twice on one resource (`startsOk`; consecutive route definitions with the same
path string share a resource).
-/
import TickitModel.Core.Basic

namespace Tickit
namespace Http

abbrev Method := String
/-- identity of the adapter method (`func`) that `getmembers` paired with an endpoint -/
abbrev HandlerId := Nat

/-- one `/`-separated segment of a path template -/
inductive Seg where
  | lit (s : String)
  | var (name : String)
  deriving Repr, DecidableEq

/-- a request path `/s1/s2/.../sn` is the list `[s1, …, sn]`; `/` is `[]`
(`/a/` is `["a", ""]`).  Segments never contain `/`. -/
abbrev Path := List String

/-- `request.match_info`: the captured `{name}` segments, in template order -/
abbrev Args := List (String × String)

/-- aiohttp's `DynamicResource.GOOD = r"[^{}/]+"` -/
def segOk (s : String) : Bool :=
  !s.toList.isEmpty && s.toList.all (fun c => c != '{' && c != '}' && c != '/')

/-- `PlainResource._match` / `DynamicResource._match` (`pattern.fullmatch(path)`) for a simple
template: the captured variables when the WHOLE path matches. -/
def matchPath : List Seg → Path → Option Args
  | [], [] => some []
  | .lit l :: t, s :: p => if l = s then matchPath t p else none
  | .var n :: t, s :: p => if segOk s then (matchPath t p).map ((n, s) :: ·) else none
  | [], _ :: _ => none
  | _ :: _, [] => none

/-- `HttpEndpoint` together with the method `getmembers` found it on. -/
structure Endpoint where
  path : List Seg
  method : Method
  interrupt : Bool := false
  handler : HandlerId
  deriving Repr, DecidableEq

/-- what the outside can see of one HTTP request -/
inductive Event where
  /-- adapter method `h` ran (once) with `request.match_info = args` -/
  | effect (h : HandlerId) (args : Args)
  /-- `raise_interrupt()` awaited -/
  | interrupt
  /-- the response returned by adapter method `h` is sent -/
  | reply (h : HandlerId)
  /-- no handler ran; aiohttp answers with this status (404 / 405) -/
  | error (status : Nat)
  deriving Repr, DecidableEq

/-- the callable stored in a `RouteDef` -/
inductive Wrapped where
  /-- the adapter's bound method itself -/
  | bound (h : HandlerId)
  /-- `_with_posthoc_task(inner, raise_interrupt)` -/
  | posthoc (inner : Wrapped)
  deriving Repr, DecidableEq

/-- `await w(request)`: the events it causes, and whose response it returns.
`wrapped`: `response = await func(request); await afterwards(); return response`. -/
def Wrapped.call : Wrapped → Args → List Event × HandlerId
  | .bound h, a => ([.effect h a], h)
  | .posthoc inner, a => ((inner.call a).1 ++ [.interrupt], (inner.call a).2)

/-- the adapter method a callable ends up invoking -/
def Wrapped.target : Wrapped → HandlerId
  | .bound h => h
  | .posthoc inner => inner.target

/-- aiohttp's `RouteDef(method, path, handler, {})` -/
structure RouteDef where
  method : Method
  path : List Seg
  handler : Wrapped
  deriving Repr, DecidableEq

/-- the `func` that `create_route_definitions` passes to `endpoint.define` -/
def Endpoint.wrapped (e : Endpoint) : Wrapped :=
  if e.interrupt then .posthoc (.bound e.handler) else .bound e.handler

/-- `endpoint.define(func)` -/
def Endpoint.define (e : Endpoint) : RouteDef := ⟨e.method, e.path, e.wrapped⟩

/-- `HttpIo.create_route_definitions`: one route definition per endpoint, in order. -/
def createRouteDefinitions (eps : List Endpoint) : List RouteDef := eps.map Endpoint.define

/-- does a route registered for method `rm` serve a request with method `m`?
(`RouteDef.register`: `"GET"` goes through `add_get(..., allow_head=True)`.) -/
def methodServes (rm m : Method) : Bool := rm == m || (rm == "GET" && m == "HEAD")

/-- route accepts the request: the captured variables -/
def RouteDef.accepts (r : RouteDef) (m : Method) (p : Path) : Option Args :=
  if methodServes r.method m then matchPath r.path p else none

def Endpoint.accepts (e : Endpoint) (m : Method) (p : Path) : Option Args :=
  if methodServes e.method m then matchPath e.path p else none

/-- aiohttp's part: which registered route (and captured variables) serves a request. -/
abbrev Resolver := List RouteDef → Method → Path → Option (RouteDef × Args)

/-- registration order: the first route that accepts the request. -/
def resolveFirst : Resolver := fun routes m p =>
  routes.findSome? (fun r => (r.accepts m p).map (fun a => (r, a)))

/-- `str.rstrip("/")` on segment lists: drop trailing empty segments -/
def stripTrailingEmpty (l : List String) : List String :=
  (l.reverse.dropWhile (· == "")).reverse

def Seg.isLit : Seg → Bool
  | .lit _ => true
  | .var _ => false

def Seg.text : Seg → String
  | .lit s => s
  | .var n => n

/-- `UrlDispatcher._get_resource_index_key`: the literal segments before the first variable,
without trailing slashes (`canonical.partition("{")[0].rpartition("/")[0].rstrip("/") or "/"`). -/
def indexKey (t : List Seg) : List String :=
  stripTrailingEmpty ((t.takeWhile Seg.isLit).map Seg.text)

/-- the resources indexed under `key`, in registration order, tried in turn -/
def resolveAt (routes : List RouteDef) (m : Method) (p : Path) (key : List String) :
    Option (RouteDef × Args) :=
  (routes.filter (fun r => indexKey r.path == key)).findSome?
    (fun r => (r.accepts m p).map (fun a => (r, a)))

/-- `UrlDispatcher.resolve` (aiohttp 3.14.3): walk `url_part` from the whole path down to `/`
(`url_part.rpartition("/")[0] or "/"`), at each step try the resources indexed under it. -/
def resolveIndexed : Resolver := fun routes m p =>
  ((List.range (p.length + 1)).reverse).findSome? (fun k => resolveAt routes m p (p.take k))

/-- some registered template matches the path (under whatever method): aiohttp's
`allowed_methods` is non-empty. -/
def pathKnown (routes : List RouteDef) (p : Path) : Bool :=
  routes.any (fun r => (matchPath r.path p).isSome)

/-- one request against a started server: the matched route's callable is awaited and its
response sent; otherwise aiohttp's error response. -/
def serve (resolve : Resolver) (routes : List RouteDef) (m : Method) (p : Path) : List Event :=
  match resolve routes m p with
  | some (r, a) => (r.handler.call a).1 ++ [.reply (r.handler.call a).2]
  | none => [.error (if pathKnown routes p then 405 else 404)]

def httpRequestWith (resolve : Resolver) (eps : List Endpoint) (m : Method) (p : Path) : List Event :=
  serve resolve (createRouteDefinitions eps) m p

/-- the event trace of one request, routes tried in registration order. -/
def httpRequest (eps : List Endpoint) (m : Method) (p : Path) : List Event :=
  httpRequestWith resolveFirst eps m p

/-- the event trace of one request under aiohttp 3.14.3's indexed resolution. -/
def httpRequestIdx (eps : List Endpoint) (m : Method) (p : Path) : List Event :=
  httpRequestWith resolveIndexed eps m p

/-! ### endpoint-level view (specification side) -/

/-- the first endpoint of the table, in order, that accepts the request -/
def firstMatch (eps : List Endpoint) (m : Method) (p : Path) : Option (Endpoint × Args) :=
  eps.findSome? (fun e => (e.accepts m p).map (fun a => (e, a)))

/-- specificity of an endpoint for aiohttp's index: length of the literal prefix of its template -/
def Endpoint.spec (e : Endpoint) : Nat := (indexKey e.path).length

/-- the events of a request served by endpoint `e` with captured variables `a` -/
def Endpoint.trace (e : Endpoint) (a : Args) : List Event :=
  [.effect e.handler a] ++ (if e.interrupt then [.interrupt] else []) ++ [.reply e.handler]

/-! ### discovery and registration -/

/-- `HttpAdapter.get_endpoints`: the members of the adapter (name, endpoint mark if any) are
visited in `inspect.getmembers` order, i.e. sorted by name; the marked ones are yielded. -/
def getEndpoints (members : List (String × Option Endpoint)) : List Endpoint :=
  (members.mergeSort (fun a b => decide (a.1 ≤ b.1))).filterMap (·.2)

/-- the methods aiohttp registers for a `RouteDef` method -/
def methodsOf (m : Method) : List Method := if m == "GET" then ["HEAD", "GET"] else [m]

def varNames : List Seg → List String
  | [] => []
  | .lit _ :: t => varNames t
  | .var n :: t => n :: varNames t

def noDup : List String → Bool
  | [] => true
  | x :: t => !t.contains x && noDup t

/-- `add_routes` succeeds.  `cur` = template of the most recently added resource and the methods
already registered on it (`add_resource` reuses only the LAST resource, by equal path string). -/
def startsOkFrom : Option (List Seg × List Method) → List RouteDef → Bool
  | _, [] => true
  | cur, r :: rs =>
    noDup (varNames r.path) &&
    (match cur with
     | some (t, ms) =>
       if t = r.path then
         (methodsOf r.method).all (fun m => !ms.contains m) &&
           startsOkFrom (some (t, ms ++ methodsOf r.method)) rs
       else startsOkFrom (some (r.path, methodsOf r.method)) rs
     | none => startsOkFrom (some (r.path, methodsOf r.method)) rs)

/-- the server starts: no `RuntimeError("Added route will never be executed…")`, no
`ValueError("Bad pattern … redefinition of group name")`. -/
def startsOk (eps : List Endpoint) : Bool := startsOkFrom none (createRouteDefinitions eps)

/-! ### syntactic overlap of two routes (decidable) -/

/-- two simple templates have a common instance -/
def templatesOverlap : List Seg → List Seg → Bool
  | [], [] => true
  | .lit a :: s, .lit b :: t => a == b && templatesOverlap s t
  | .lit a :: s, .var _ :: t => segOk a && templatesOverlap s t
  | .var _ :: s, .lit b :: t => segOk b && templatesOverlap s t
  | .var _ :: s, .var _ :: t => templatesOverlap s t
  | [], _ :: _ => false
  | _ :: _, [] => false

/-- some request method is served by both -/
def methodsOverlap (a b : Method) : Bool :=
  a == b || (a == "GET" && b == "HEAD") || (a == "HEAD" && b == "GET")

/-- some request is accepted by both endpoints -/
def Endpoint.overlaps (e f : Endpoint) : Bool :=
  methodsOverlap e.method f.method && templatesOverlap e.path f.path

/-- no request is accepted by two entries of the table -/
def nonOverlapping : List Endpoint → Bool
  | [] => true
  | e :: t => t.all (fun f => !e.overlaps f) && nonOverlapping t

/-- overlapping routes are registered most specific first (then registration order and aiohttp's
index agree) -/
def specificityOrdered : List Endpoint → Bool
  | [] => true
  | e :: t => t.all (fun f => !e.overlaps f || decide (f.spec ≤ e.spec)) && specificityOrdered t

end Http
end Tickit
