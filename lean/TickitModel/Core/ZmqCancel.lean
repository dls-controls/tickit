/-
M9c+ — ZeroMQ push stream WITH TASK CANCELLATION (`adapters/io/zeromq_push_io.py`).

`Core/Zmq.lean` models the push io as a transition system with explicit yield points and a
FIFO lock, but every task runs to completion.  In asyncio every task that is suspended can be
cancelled (`asyncio.wait_for(io.send_message(m), timeout)` expiring, `task.cancel()`, `setup`
being cancelled).  This file extends the system by one action, `cancel k`.

The code (the same that `Core/Zmq.lean` models):

    async def send_message(self, message):
        socket = await self._ensure_socket()          # suspension: lock queue / factory
        serialized = self._serialize(message)
        socket.write(serialized)
        await socket.drain()                          # suspension: drain

    async def _ensure_socket(self):
        async with self._socket_lock:                 # asyncio.Lock (FIFO)
            if self._socket is None:
                self._socket = await self._socket_factory(self._host, self._port)
        return self._socket

    async def send_messages_forever(self, adapter):   # sender 0
        while True:
            message = await adapter.next_message()    # suspension: queue.get()
            await self.send_message(message)

    async def setup(self, adapter, raise_interrupt):  # the `ensure` sender
        try:
            await self._ensure_socket()
            self._task = asyncio.create_task(self.send_messages_forever(adapter))
        except asyncio.CancelledError:
            await self.shutdown()

and what `asyncio.Lock` does on cancellation (CPython 3.11 and 3.12 `asyncio/locks.py`, identical;
the project venv runs 3.12.1):

    async def acquire(self):
        if (not self._locked and (self._waiters is None or
                all(w.cancelled() for w in self._waiters))):
            self._locked = True
            return True
        ...
        fut = self._get_loop().create_future()
        self._waiters.append(fut)
        try:
            try:
                await fut
            finally:
                self._waiters.remove(fut)             # a cancelled waiter LEAVES THE QUEUE
        except exceptions.CancelledError:
            if not self._locked:
                self._wake_up_first()                 # ... and passes the wake-up on
            raise
        self._locked = True
        return True

    async def __aexit__(self, exc_type, exc, tb):     # also runs when the body raised
        self.release()                                # CancelledError: the HOLDER RELEASES

What `cancel k` does, by the place where task `k` is suspended (`Zmq.cancelSender`):

 * `idle`      (sender 0 inside `queue.get()`, a sequence task not yet started): the task ends;
               `asyncio.Queue.get` leaves the queue content untouched.
 * `wantLock`  (inside `acquire()`, or about to call it): the task leaves the lock queue
               (`self._waiters.remove(fut)`); the message it had taken (`cur`) is never written.
               The wake-up is "passed on" automatically: in `Core/Zmq.lean` being woken is not a
               stored flag, the HEAD of `waiters` may take a free lock.
 * `inFactory` (holds the lock, inside `await self._socket_factory(..)`): the `CancelledError`
               is raised at the `await`, the assignment `self._socket = ...` is NOT executed
               (`_socket` stays `None`), `__aexit__` releases the lock; the call is counted in
               `aborted`.
 * `ready` / `draining`: the task ends (`ready` is not a real suspension point in the code;
               allowing it only adds histories, so the theorems get stronger).

A task whose coroutine has returned (`Sender.finished`) cannot be cancelled (`Task.cancel()`
returns `False`), a cancelled task cannot be cancelled again, and a cancelled task never moves
again (`step k` is disabled).  The record of a cancelled sender is frozen, so what it had
written / taken / still to do stays visible.

Atomicity: in asyncio `task.cancel()` only REQUESTS the cancellation, the `CancelledError` is
delivered when the task is next scheduled.  `cancel k` here is the linearisation point: the
moment of delivery or, if earlier, the moment another task calling `acquire()` skips the
waiter because its future `w.cancelled()` (the `all(w.cancelled() ...)` test above).  Between
request and that point the task is suspended and behaves like a non-cancelled waiter, which
the model covers by scheduling `cancel k` later.

Ghost counters: `base.factoryCalls` = factory calls STARTED, `completed` = factory calls that
returned a socket, i.e. executions of the assignment `self._socket = <new socket>`,
`aborted` = factory calls ended by a `CancelledError`.

Not modelled: `shutdown()` closing the stored socket (the socket object stays in `_socket`),
a factory that swallows `CancelledError`, exceptions other than `CancelledError`.
-/
import TickitModel.Core.Zmq

namespace Tickit

/-- the coroutine of task `i` has returned (a sequence task with nothing left to do, the
`_ensure_socket` of `setup` after it returned).  Sender 0 (`while True`) never returns. -/
def Sender.finished (i : Nat) (s : Sender) : Bool :=
  i != 0 && s.pc == .idle && s.todo.isEmpty

structure ZmqC where
  base : Zmq := Zmq.init
  /-- tasks ended by `cancel` -/
  cancelled : List Nat := []
  /-- ghost: factory calls that returned (= assignments `self._socket = <new socket>`) -/
  completed : Nat := 0
  /-- ghost: factory calls ended by a `CancelledError` -/
  aborted : Nat := 0
  deriving Repr

inductive ZCAct where
  | base (a : ZAct)                 -- an action of `Core/Zmq.lean`
  | cancel (k : Nat)                -- a `CancelledError` is delivered to task `k`
  deriving Repr

/-- effect of a `CancelledError` delivered to task `k` on the shared state; the flag says
whether a factory call was aborted.  `none` = not enabled (no such task / already returned). -/
def Zmq.cancelSender (z : Zmq) (k : Nat) : Option (Zmq × Bool) :=
  match z.senders[k]? with
  | none => none
  | some s =>
    if s.finished k then none
    else match s.pc with
      | .wantLock => some ({ z with waiters := z.waiters.filter (· != k) }, false)
      | .inFactory => some ({ z with lockHeld := none }, true)
      | .idle | .ready | .draining => some (z, false)

/-- `true` iff the next move of sender `i` is the return of the socket factory -/
def Zmq.inFactory (z : Zmq) (i : Nat) : Bool :=
  match z.senders[i]? with
  | some s => s.pc == .inFactory
  | none => false

def ZmqC.act (z : ZmqC) : ZCAct → Option ZmqC
  | .base (.step i) =>
    if i ∈ z.cancelled then none
    else match z.base.stepSender i with
      | none => none
      | some b => some { z with base := b,
                                completed := z.completed + (if z.base.inFactory i then 1 else 0) }
  | .base a =>
    match z.base.act a with
    | none => none
    | some b => some { z with base := b }
  | .cancel k =>
    if k ∈ z.cancelled then none
    else match z.base.cancelSender k with
      | none => none
      | some (b, ab) => some { z with base := b, cancelled := k :: z.cancelled,
                                      aborted := z.aborted + (if ab then 1 else 0) }

def ZmqC.init : ZmqC := {}

/-- histories: actions that are not enabled are skipped (as in `Zmq.run`). -/
def ZmqC.run (z : ZmqC) : List ZCAct → ZmqC
  | [] => z
  | a :: as => match z.act a with
    | some z' => ZmqC.run z' as
    | none => ZmqC.run z as

/-- strict execution: `none` as soon as one action is not enabled. -/
def ZmqC.exec (z : ZmqC) : List ZCAct → Option ZmqC
  | [] => some z
  | a :: as => match z.act a with
    | some z' => ZmqC.exec z' as
    | none => none

/-- a schedule: the listed senders move one after the other; nothing else happens. -/
def zsteps (is : List Nat) : List ZCAct := is.map (fun i => .base (.step i))

def ZCAct.isCancel : ZCAct → Bool
  | .cancel _ => true
  | .base _ => false

/-- forget the cancel actions -/
def eraseCancel : List ZCAct → List ZAct
  | [] => []
  | .base a :: as => a :: eraseCancel as
  | .cancel _ :: as => eraseCancel as

end Tickit
