/-
M9 — one scheduler level (a flat simulation) at MESSAGE level, over the state-interface contract.

`Core/TickSys.lean` answers a pending dispatch atomically.  Here the messages are in flight:
per-topic append-only logs, one cursor per (consumer, topic), participants that start
(= subscribe) at any moment and then consume their topic from offset 0 (`Core/Contract.lean`).
Who sends what, from the code:

  core/management/schedulers/base.py
      async def update_component(self, input: Input) -> None:
          await self.state_producer.produce(input_topic(input.target), input)
      async def skip_component(self, skip: Skip) -> None:        # "Sends a message to itself"
          await self.state_producer.produce(output_topic(skip.source), skip)
      async def handle_message(self, message):                   # consumer of every output topic
          if isinstance(message, Output):
              await self.ticker.propagate(message) ...
          elif isinstance(message, Skip):
              await self.ticker.propagate(message)
      async def setup(self) -> None:
          self.ticker = Ticker(self._wiring, self.update_component, self.skip_component)
          self.state_consumer = self._state_consumer_cls(self.handle_message)
          await self.state_consumer.subscribe(
              {output_topic(component) for component in self.ticker.components})
          self.state_producer = self._state_producer_cls()

  core/management/schedulers/master.py
      async def run_forever(self) -> None:
          await self.setup()
          self.running.set()
          await self._do_initial_tick()          # self.ticker(self._initial_time, self.ticker.components)

  core/management/ticker.py   (`Core/Ticker.lean`)
      async def __call__(self, time, update_components):
          await self._start_tick(time, update_components)
          await self.schedule_possible_updates()   # -> update_component(Input) / skip_component(Skip)
          await self.finished.wait()
      async def propagate(self, output: Union[Output, Skip]) -> None:
          assert output.source in self.to_update.keys()
          assert output.time == self.time
          self.to_update.pop(output.source)
          ... route, accumulate inputs ...
          await self.schedule_possible_updates()
          if not self.to_update: self.finished.set()

  core/components/component.py
      async def handle_input(self, message: ComponentInput):     # consumer of input_topic(self.name)
          if isinstance(message, Input):
              await asyncio.gather(self.on_tick(message.time, message.changes), ...)
      async def output(self, time, changes, call_at) -> None:     # called at the end of on_tick
          await self.state_producer.produce(
              output_topic(self.name), Output(self.name, time, changes, call_at))
      async def run_forever(self, state_consumer, state_producer) -> None:
          self.state_producer = state_producer()
          self.state_consumer = state_consumer(self.handle_input)
          await self.state_consumer.subscribe([input_topic(self.name)])

So: an `Input` for `c` travels on `in c` to component `c`, which answers with an `Output` on
`out c`; a `Skip` for `c` is produced BY THE SCHEDULER on `out c` and consumed by the scheduler
itself — the skipped component never sees it.  The scheduler consumes every `out c`.

Within one tick the pre-tick state of every component is fixed and (C01) it is updated at most
once, so what `c` answers to an `Input(time = t', changes = ins)` is a function `rx c t' ins` =
(`Output.changes`, `Output.call_at`); at the tick's time `t` its first component is the `react`
of `TickSys` (`MsgReact.at`).  (`Core/MsgFlatRun.lean` removes this: there the components carry
their state across ticks and `rx` is computed from it.)

      # base.py, handle_message
      if isinstance(message, Output):
          await self.ticker.propagate(message)
          if message.call_at is not None:
              self.add_wakeup(message.source, message.call_at)

Not modelled here: `Interrupt`, `ComponentException`, `StopComponent` messages (C07, C11).
-/
import TickitModel.Core.TickSys
import TickitModel.Core.Sched

set_option autoImplicit false

namespace Tickit

variable {Val : Type}

/-- the two topics of a component (`input_topic(c)`, `output_topic(c)`); distinct components
have distinct topics and no input topic is an output topic (`topic_injective`, C15). -/
inductive MsgTopic where
  | inT (c : Comp)
  | outT (c : Comp)
  deriving Repr, DecidableEq

/-- what travels: the scheduler's `Input` / `Skip` (exactly a `Dispatch`), or a component's
`Output`. -/
inductive BusMsg (Val : Type) where
  | disp (d : Dispatch Val)
  | output (source : Comp) (time : SimTime) (changes : List (Port × Val)) (callAt : Option SimTime)
  deriving Repr

/-- what a component answers to `Input(time, changes)`: (`Output.changes`, `Output.call_at`) -/
abbrev MsgReact (Val : Type) :=
  Comp → SimTime → List (Port × Val) → List (Port × Val) × Option SimTime

/-- the reaction function of `TickSys` for a tick at time `t` -/
def MsgReact.at (rx : MsgReact Val) (t : SimTime) : React Val := fun c ins => (rx c t ins).1

/-- where the scheduler produces a dispatch: `update_component` / `skip_component`. -/
def Dispatch.topic : Dispatch Val → MsgTopic
  | .input c _ _ => .inT c
  | .skip c _ => .outT c

/-- message-level events (ghost history, in the order they happen):
the scheduler produced a dispatch; component `c` handled an `Input` (`on_tick(t, ins)` ran);
the scheduler consumed the `Output`/`Skip` of `c` and propagated it. -/
inductive MsgEv (Val : Type) where
  | dispatch (d : Dispatch Val)
  | react (c : Comp) (t : SimTime) (ins : List (Port × Val))
  | answer (c : Comp) (changes : List (Port × Val))
  deriving Repr

/-- the scheduler-side events are the events of `TickSys`. -/
def MsgEv.toEv : MsgEv Val → Option (Ev Val)
  | .dispatch d => some (.dispatch d)
  | .react _ _ _ => none
  | .answer c ch => some (.answer c ch)

structure MsgSt (Val : Type) where
  /-- per-topic append-only logs -/
  logs : List (MsgTopic × List (BusMsg Val)) := []
  /-- per-topic cursor of the topic's only consumer (component `c` for `in c`, the scheduler
  for `out c`); a consumer that has not subscribed is at offset 0 -/
  cursors : List (MsgTopic × Nat) := []
  /-- the components that have started (subscribed to their input topic) -/
  started : List Comp := []
  /-- the scheduler: `none` = no tick begun (no `setup()` yet; in `Core/MsgFlatRun.lean` also the
  bus from which `.nextTick` begins the next tick), else the ticker of the tick -/
  tk : Option (Ticker Val) := none
  /-- the scheduler's `wakeups` dict -/
  wake : Wakeups := []
  /-- ghost: what happened in the tick, in order -/
  hist : List (MsgEv Val) := []
  deriving Repr

def MsgSt.log (m : MsgSt Val) (T : MsgTopic) : List (BusMsg Val) := agetD m.logs T []

def MsgSt.cur (m : MsgSt Val) (T : MsgTopic) : Nat := agetD m.cursors T 0

/-- the next message the consumer of `T` would be delivered -/
def MsgSt.next (m : MsgSt Val) (T : MsgTopic) : Option (BusMsg Val) := (m.log T)[m.cur T]?

/-- `produce(T, μ)` -/
def MsgSt.produce (m : MsgSt Val) (T : MsgTopic) (μ : BusMsg Val) : MsgSt Val :=
  { m with logs := upsert m.logs T (m.log T ++ [μ]) }

/-- the consumer of `T` has taken one message -/
def MsgSt.advance (m : MsgSt Val) (T : MsgTopic) : MsgSt Val :=
  { m with cursors := upsert m.cursors T (m.cur T + 1) }

def MsgSt.record (m : MsgSt Val) (e : MsgEv Val) : MsgSt Val :=
  { m with hist := m.hist ++ [e] }

/-- the scheduler's ticker is (re)placed -/
def MsgSt.setTk (m : MsgSt Val) (tk : Ticker Val) : MsgSt Val := { m with tk := some tk }

/-- `if message.call_at is not None: self.add_wakeup(message.source, message.call_at)` -/
def MsgSt.noteWakeup (m : MsgSt Val) (c : Comp) : Option SimTime → MsgSt Val
  | some x => { m with wake := addWakeup m.wake c x }
  | none => m

/-- the scheduler sends one dispatch (`update_component` / `skip_component`) -/
def MsgSt.send (m : MsgSt Val) (d : Dispatch Val) : MsgSt Val :=
  (m.produce d.topic (.disp d)).record (.dispatch d)

def MsgSt.sendAll (m : MsgSt Val) (ds : List (Dispatch Val)) : MsgSt Val :=
  ds.foldl MsgSt.send m

/-- the scheduler-side trace: the events of `TickSys` -/
def MsgSt.trace (m : MsgSt Val) : List (Ev Val) := m.hist.filterMap MsgEv.toEv

inductive MsgAct where
  /-- the scheduler starts: `setup()` then the tick is begun (`Ticker.__call__` up to the wait) -/
  | startSched
  /-- component `c` starts: subscribes to `in c` -/
  | startComp (c : Comp)
  /-- component `c` is delivered the next message of `in c` -/
  | deliverIn (c : Comp)
  /-- the scheduler is delivered the next message of `out c` -/
  | deliverOut (c : Comp)
  deriving Repr, DecidableEq

/-- `handle_message` for an `Output`/`Skip` from `src` read from `out c`: `Ticker.propagate`,
whose `schedule_possible_updates` sends the newly possible dispatches. -/
def MsgSt.absorb (w : Wiring) (m : MsgSt Val) (tk : Ticker Val) (c src : Comp) (t' : SimTime)
    (ch : List (Port × Val)) (callAt : Option SimTime) : Except TickErr (MsgSt Val) :=
  (tk.propagate w src t' ch).map (fun r =>
    ((((m.advance (.outT c)).record (.answer src ch)).setTk r.1).sendAll r.2).noteWakeup src callAt)

/-- one action of the tick at time `t` for `roots`.  `none` = not enabled;
`some (.error e)` = the scheduler fails (`KeyError` / `assert` of the ticker). -/
def MsgSt.step (w : Wiring) (rx : MsgReact Val) (t : SimTime) (roots : List Comp) (m : MsgSt Val) :
    MsgAct → Option (Except TickErr (MsgSt Val))
  | .startSched =>
    match m.tk with
    | some _ => none
    | none => some ((Ticker.call w t roots).map (fun r => (m.setTk r.1).sendAll r.2))
  | .startComp c =>
    if c ∈ m.started then none else some (.ok { m with started := c :: m.started })
  | .deliverIn c =>
    if c ∈ m.started then
      match m.next (.inT c) with
      | none => none
      | some (.disp (.input _ t' ins)) =>
        -- `handle_input` → `on_tick(time, changes)` → `output(time, out_changes, call_at)`
        some (.ok (((m.advance (.inT c)).produce (.outT c)
          (.output c t' (rx c t' ins).1 (rx c t' ins).2)).record (.react c t' ins)))
      | some _ => some (.ok (m.advance (.inT c)))  -- not an `Input`: ignored by `handle_input`
    else none
  | .deliverOut c =>
    match m.tk with
    | none => none
    | some tk =>
      match m.next (.outT c) with
      | none => none
      | some (.output src t' ch ca) => some (m.absorb w tk c src t' ch ca)
      | some (.disp (.skip src t')) => some (m.absorb w tk c src t' [] none)
      | some (.disp (.input _ _ _)) => some (.ok (m.advance (.outT c)))  -- never produced there

/-- run a list of actions (`none` = some action was not enabled or failed) -/
def MsgSt.run (w : Wiring) (rx : MsgReact Val) (t : SimTime) (roots : List Comp) :
    MsgSt Val → List MsgAct → Option (MsgSt Val)
  | m, [] => some m
  | m, a :: as =>
    match m.step w rx t roots a with
    | some (.ok m') => MsgSt.run w rx t roots m' as
    | _ => none

/-- a state from which a tick is begun: no ticker, empty history, and everything produced so far
has been consumed.  Which components have started is arbitrary.  (In the run of
`Core/MsgFlatRun.lean` the bus keeps the finished ticker and the history between ticks; the idle
bus is the `b0` that `.nextTick` makes of it.) -/
def MsgSt.Idle (m : MsgSt Val) : Prop :=
  m.tk = none ∧ m.hist = [] ∧ ∀ T, m.cur T = (m.log T).length

/-- the message-level states of one tick (time `t`, roots `roots`) begun from `m0`: every
interleaving of deliveries and starts. -/
inductive MsgSt.Reach (w : Wiring) (rx : MsgReact Val) (t : SimTime) (roots : List Comp)
    (m0 : MsgSt Val) : MsgSt Val → Prop
  | init : Reach w rx t roots m0 m0
  | step {m m' : MsgSt Val} {a : MsgAct} : Reach w rx t roots m0 m →
      m.step w rx t roots a = some (.ok m') → Reach w rx t roots m0 m'

/-- the tick is complete: the scheduler has started and nothing is left to update
(`finished` is set). -/
def MsgSt.Complete (m : MsgSt Val) : Prop := ∃ tk, m.tk = some tk ∧ tk.toUpdate = []

/-! ### the abstraction to `TickSys` -/

/-- **the dispatch in flight for component `c`**: an `Input` that `c` has not consumed yet; or
a `Skip` the scheduler has not consumed yet; or the `Input` whose `Output` the scheduler has
not consumed yet (the component has reacted, `propagate` has not been applied). -/
def MsgSt.inflight (m : MsgSt Val) (c : Comp) : Option (Dispatch Val) :=
  match m.next (.inT c) with
  | some (.disp d) => some d
  | some (.output _ _ _ _) => none
  | none =>
    match m.next (.outT c) with
    | some (.disp d) => some d
    | some (.output _ _ _ _) =>
      match (m.log (.inT c)).getLast? with
      | some (.disp d) => some d
      | _ => none
    | none => none

/-- **the abstraction function**: the scheduler's ticker, the dispatches in flight (listed in
the order of `to_update`), the scheduler-side trace.  `none` before the scheduler starts. -/
def MsgSt.abs (m : MsgSt Val) : Option (TickSys Val) :=
  m.tk.map (fun tk => ⟨tk, (akeys tk.toUpdate).filterMap m.inflight, m.trace⟩)

/-- the observations of component `c`: the `(time, changes)` of the `Input`s it handled -/
def reactsOf (c : Comp) (h : List (MsgEv Val)) : List (SimTime × List (Port × Val)) :=
  h.filterMap (fun e => match e with
    | .react c' t ins => if c' = c then some (t, ins) else none
    | _ => none)

end Tickit
