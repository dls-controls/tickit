/-
M4 — scheduler bookkeeping (`schedulers/base.py`, `master.py`, `nested.py`):
wakeups, first wakeups, pacing arithmetic, nested root selection.
-/
import TickitModel.Core.Basic

namespace Tickit

abbrev Wakeups := List (Comp × SimTime)

/-- `add_wakeup` -/
def addWakeup (w : Wakeups) (c : Comp) (t : SimTime) : Wakeups := upsert w c t

def minTime : List SimTime → Option SimTime
  | [] => none
  | t :: ts => match minTime ts with
    | none => some t
    | some m => some (if t ≤ m then t else m)

/-- `get_first_wakeups` -/
def firstWakeups (w : Wakeups) : List Comp × Option SimTime :=
  match minTime (w.map (·.2)) with
  | none => ([], none)
  | some m => ((w.filter (fun e => e.2 == m)).map (·.1), some m)

/-- remove served components: `for component in components: del self.wakeups[component]` -/
def delWakeups (w : Wakeups) (cs : List Comp) : Wakeups := cs.foldl aerase w

/-- Python `int(x)` for a rational `n/d` with `d > 0`: truncation toward zero. -/
def truncDiv (n : Int) (d : Int) : Int := Int.tdiv n d

/-- speed as a rational `num/den`, meant positive: the structure does not say so, each theorem
assumes `0 < num` and / or `0 < den` as it needs them. -/
structure Speed where
  num : Nat
  den : Nat
  deriving Repr, DecidableEq

/-- interrupt stamp: `ticker.time + int((now - last_time) * speed)` -/
def interruptStamp (tickerTime : SimTime) (now last : Int) (s : Speed) : SimTime :=
  tickerTime + truncDiv ((now - last) * s.num) s.den

/-- `sleep_time(when)` in nanoseconds as an exact rational `n / s.num`:
    `(when - ticker.time)/speed - (now - last)` = `((when - t)*den - (now-last)*num)/num`. -/
def sleepNumer (whenT tickerTime : SimTime) (now last : Int) (s : Speed) : Int :=
  (whenT - tickerTime) * s.den - (now - last) * s.num

/-- nested `on_tick` root selection, the part read from the wakeup table: the due wakeups
(`when ≤ time`); the callers add the queued interrupts and `external`. -/
def nestedDue (w : Wakeups) (t : SimTime) : List Comp := (w.filter (fun e => decide (e.2 ≤ t))).map (·.1)

end Tickit
