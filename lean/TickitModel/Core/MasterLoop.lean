/-
The master scheduler's run loop as a flag protocol (`schedulers/master.py`, `_do_tick` and
`add_wakeup`): the `new_wakeup` event, the race between the sleep and the event, and the
window between the expiry of the sleep and the resumption of `_do_tick` (defect F16).

    async def _do_tick(self):                       # while not error: await self._do_tick()
        while not self.wakeups:                     # OLD: `if not self.wakeups:` and no clear
            self.new_wakeup.clear()
            await self.new_wakeup.wait()
        components, when = self.get_first_wakeups()
        assert when is not None
        self.new_wakeup.clear()
        new = create_task(self.new_wakeup.wait()); current = create_task(sleep(...))
        which, _ = await asyncio.wait([current, new], return_when=FIRST_COMPLETED)
        if new in which: current.cancel(); return
        new.cancel()
        components, when = self.get_first_wakeups() # NEW (second repair): re-evaluated — a wakeup
        assert when is not None                     # may have been added while the sleep expired
        for c in components: del self.wakeups[c]
        await self.ticker(when, components)

    def add_wakeup(self, component, when):          # at ANY moment
        self.wakeups[component] = when'
        self.new_wakeup.set()

The driver's `mloop` op runs `MLoopSt.step` as a trace acceptor for the events observed on the
running scheduler; the parameter `fixed : Bool` of `MLoopSt.step` selects the repaired (`true`)
or the original (`false`) loop.
-/
import TickitModel.Core.Sched

namespace Tickit

/-- where the coroutine `_do_tick` stands. -/
inductive MLoopPc
  /-- about to evaluate `while not self.wakeups` -/
  | top
  /-- inside `await self.new_wakeup.wait()` of the while loop -/
  | waiting
  /-- after `get_first_wakeups` and `clear`: the sleep races against the flag -/
  | sleeping (cs : List Comp) (w : SimTime)
  /-- the sleep has expired, `asyncio.wait` has not resumed `_do_tick` yet (the window) -/
  | sleptNotResumed (cs : List Comp) (w : SimTime)
  /-- inside `await self.ticker(when, components)` -/
  | ticking (cs : List Comp) (w : SimTime)
  /-- `assert when is not None` failed: the scheduler is gone -/
  | dead
  deriving Repr, DecidableEq

/-- the components chosen by `get_first_wakeups` and not served yet. -/
def MLoopPc.chosen : MLoopPc → List Comp
  | .sleeping cs _ => cs
  | .sleptNotResumed cs _ => cs
  | _ => []

/-- the tasks `current` and `new` exist. -/
def MLoopPc.isRacing : MLoopPc → Bool
  | .sleeping _ _ => true
  | .sleptNotResumed _ _ => true
  | _ => false

structure MLoopSt where
  /-- `self.wakeups` -/
  wake : Wakeups := []
  /-- `self.new_wakeup.is_set()` -/
  flag : Bool := false
  pc : MLoopPc := .top
  /-- the task `new` has observed the flag (one loop iteration after `set()`) -/
  flagTaskDone : Bool := false
  deriving Repr, DecidableEq

inductive MLoopAct
  /-- environment: `add_wakeup` (an interrupt, or an answer carrying `call_at`) -/
  | addWakeup (c : Comp) (t : SimTime)
  /-- the event loop runs the task `new`: it completes iff the flag is set -/
  | newTaskRuns
  /-- the sleep expires (at any time: it may be `sleep(0)`) -/
  | sleepExpires
  /-- the next move of `_do_tick` itself -/
  | step
  deriving Repr, DecidableEq

/-- `components, when = self.get_first_wakeups(); assert when is not None;
    self.new_wakeup.clear(); new = ...; current = ...` -/
def MLoopSt.choose (s : MLoopSt) : MLoopSt :=
  match firstWakeups s.wake with
  | (cs, some w) => { s with flag := false, flagTaskDone := false, pc := .sleeping cs w }
  | (_, none) => { s with pc := .dead }

/-- the second repair: `components, when = self.get_first_wakeups()` re-evaluated right before
the deletion loop and the tick ("serve what is first now"); the flag is NOT cleared. -/
def MLoopSt.serveFirst (s : MLoopSt) : MLoopSt :=
  match firstWakeups s.wake with
  | (cs, some w) => { s with wake := delWakeups s.wake cs, pc := .ticking cs w }
  | (_, none) => { s with pc := .dead }

/-- one transition; `none` = the action is not enabled.  `fixed = true`: the repaired loop,
`fixed = false`: the original one. -/
def MLoopSt.step (fixed : Bool) (s : MLoopSt) : MLoopAct → Option MLoopSt
  | .addWakeup c t =>
    if s.pc = .dead then none
    else some { s with wake := addWakeup s.wake c t, flag := true }
  | .newTaskRuns =>
    if s.pc.isRacing && s.flag then some { s with flagTaskDone := true } else none
  | .sleepExpires =>
    match s.pc with
    | .sleeping cs w => some { s with pc := .sleptNotResumed cs w }
    | _ => none
  | .step =>
    match s.pc with
    | .top =>
      if s.wake = [] then
        -- NEW: `self.new_wakeup.clear()` before waiting; OLD: no clear
        some (if fixed then { s with flag := false, pc := .waiting } else { s with pc := .waiting })
      else some s.choose
    | .waiting =>
      if s.flag then
        -- NEW: `while` re-evaluates the condition; OLD: `if` falls through
        some (if fixed then { s with pc := .top } else s.choose)
      else none
    | .sleeping _ _ =>
      -- only `new` completed: `if new in which: current.cancel(); return`
      if s.flagTaskDone then some { s with pc := .top } else none
    | .sleptNotResumed cs w =>
      if s.flagTaskDone then some { s with pc := .top }
      else
        -- `new.cancel(); for c in components: del self.wakeups[c]` — the flag is NOT cleared.
        -- NEW: the first wakeups are re-evaluated; OLD: the stale `components` are served
        some (if fixed then s.serveFirst
              else { s with wake := delWakeups s.wake cs, pc := .ticking cs w })
    | .ticking _ _ => some { s with pc := .top }
    | .dead => none

/-- a history; actions that are not enabled are skipped. -/
def MLoopSt.run (fixed : Bool) (s : MLoopSt) : List MLoopAct → MLoopSt
  | [] => s
  | a :: as => match s.step fixed a with
    | some s' => MLoopSt.run fixed s' as
    | none => MLoopSt.run fixed s as

/-- the history of defect F16: an interrupt for the component being served arrives between
the expiry of the sleep and the resumption of `_do_tick`. -/
def f16History : List MLoopAct :=
  [ .addWakeup "X" 10   -- a callback of X
  , .step               -- top → sleeping [X] 10
  , .sleepExpires
  , .addWakeup "X" 10   -- the interrupt in the window: flag set, `new` has not run
  , .step               -- the stale tick goes ahead and deletes X's entry
  , .step               -- the tick ends
  , .step               -- top, no wakeup: → waiting (OLD: the flag stays set)
  , .step ]             -- waiting: OLD falls through to the assertion

/-- a wakeup for ANOTHER component with the same time arrives in the window: the original
loop serves the stale set. -/
def staleSetHistory : List MLoopAct :=
  [ .addWakeup "X" 10, .step, .sleepExpires, .addWakeup "Y" 10 ]

end Tickit
