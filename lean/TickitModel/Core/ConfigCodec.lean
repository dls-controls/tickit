/-
M9d' — writing a configuration out and reading it back (`dataclasses.asdict` + YAML dump, then
`read_configs`): a structural encoder of configuration entries into plain data (mappings, lists,
strings, integers) and the decoder that dispatches on the `type` tag over a registry of classes.
pydantic's validation of field VALUES is a parameter (fields are integers here).
-/
import TickitModel.Core.Config

namespace Tickit

inductive Data where
  | str (s : String)
  | int (n : Int)
  | list (xs : List Data)
  | dict (items : List (String × Data))
  deriving Repr

def encPort (cp : CPort) : Data := .dict [("component", .str cp.1), ("port", .str cp.2)]

mutual
/-- `asdict(config)` -/
def Entry.encode : Entry → Data
  | .mk tag name inputs fields children =>
    .dict ([("type", .str tag), ("name", .str name),
            ("inputs", .dict (inputs.map (fun e => (e.1, encPort e.2))))] ++
           fields.map (fun f => (f.1, Data.int f.2)) ++
           [("components", .list (encodeAll children))])
def encodeAll : List Entry → List Data
  | [] => []
  | e :: es => e.encode :: encodeAll es
end

def Data.getStr : Data → Option String
  | .str s => some s
  | _ => none

def Data.getInt : Data → Option Int
  | .int n => some n
  | _ => none

def decPort : Data → Option CPort
  | .dict items =>
    match alookup items "component", alookup items "port" with
    | some (.str c), some (.str p) => some (c, p)
    | _, _ => none
  | _ => none

def decInputs : List (String × Data) → Option (List (Port × CPort))
  | [] => some []
  | (q, d) :: rest =>
    match decPort d, decInputs rest with
    | some cp, some r => some ((q, cp) :: r)
    | _, _ => none

def decFields (items : List (String × Data)) : List String → Option (List (String × Int))
  | [] => some []
  | f :: fs =>
    match alookup items f, decFields items fs with
    | some (.int n), some r => some ((f, n) :: r)
    | _, _ => none

mutual
/-- `parse_obj_as(ComponentConfig, data)`: dispatch on the tag, read the class's fields (each must be
present; keys that are not fields of the class are ignored, not rejected) -/
def decode (reg : List ClassSig) : Nat → Data → Option Entry
  | 0, _ => none
  | fuel + 1, .dict items =>
    match alookup items "type", alookup items "name", alookup items "inputs", alookup items "components" with
    | some (.str tag), some (.str name), some (.dict ins), some (.list kids) =>
      match dispatch reg tag with
      | none => none
      | some cls =>
        match decInputs ins, decFields items cls.fields, decodeAll reg fuel kids with
        | some inputs, some fields, some children => some (.mk tag name inputs fields children)
        | _, _, _ => none
    | _, _, _, _ => none
  | _ + 1, _ => none
def decodeAll (reg : List ClassSig) : Nat → List Data → Option (List Entry)
  | _, [] => some []
  | fuel, d :: ds =>
    match decode reg fuel d, decodeAll reg fuel ds with
    | some e, some es => some (e :: es)
    | _, _ => none
end

mutual
def Entry.depth : Entry → Nat
  | .mk _ _ _ _ children => depthAll children + 1
def depthAll : List Entry → Nat
  | [] => 0
  | e :: es => max e.depth (depthAll es)
end

/-- an entry is well-formed for a registry: its tag is registered, it carries exactly that class's
fields in declaration order, field names are distinct and not reserved, input ports are distinct;
recursively for nested entries -/
def reserved : List String := ["type", "name", "inputs", "components"]

mutual
def Entry.WFor (reg : List ClassSig) : Entry → Prop
  | .mk tag _ inputs fields children =>
    (∃ cls, dispatch reg tag = some cls ∧ fields.map (·.1) = cls.fields) ∧
    (fields.map (·.1)).Nodup ∧ (∀ f ∈ fields, f.1 ∉ reserved) ∧ (inputs.map (·.1)).Nodup ∧ allWFor reg children
def allWFor (reg : List ClassSig) : List Entry → Prop
  | [] => True
  | e :: es => e.WFor reg ∧ allWFor reg es
end

end Tickit
