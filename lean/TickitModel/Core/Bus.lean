/-
M6 — the in-memory bus (`core/state_interfaces/internal.py`).

Synchronous, re-entrant delivery: `push` appends to the topic log and calls each
subscriber's handler inline; a handler may itself publish (to other topics).  Handlers are
a parameter `h : consumer → topic → value → list of (topic, value)` publications.
`recv` is a ghost log of deliveries `(consumer, topic, value)` in delivery order.
-/
import TickitModel.Core.Basic

namespace Tickit

abbrev Topic := String
abbrev Cid := Nat

structure Bus where
  topics : List (Topic × List Int) := []
  subs : List (Topic × List Cid) := []
  recv : List (Cid × Topic × Int) := []
  deriving Repr

/-- what consumer `k` publishes when it is handed value `v` that arrived on topic `T`
(tickit messages identify their origin, so a handler's reaction may depend on it) -/
abbrev Handler := Cid → Topic → Int → List (Topic × Int)

def Bus.log (b : Bus) (T : Topic) : List Int := agetD b.topics T []
def Bus.subsOf (b : Bus) (T : Topic) : List Cid := agetD b.subs T []

mutual
/-- `InternalStateServer.push` (fuel bounds the re-entrancy depth). -/
def Bus.push (h : Handler) : Nat → Bus → Topic → Int → Bus
  | 0, b, _, _ => b
  | n + 1, b, T, v =>
    let b1 := { b with topics := upsert b.topics T (b.log T ++ [v]) }
    Bus.deliverAll h n T v (b1.subsOf T) b1
termination_by n _ _ _ => (n, 0, 0)
/-- the `for subscriber in self._subscribers[topic]` loop -/
def Bus.deliverAll (h : Handler) : Nat → Topic → Int → List Cid → Bus → Bus
  | _, _, _, [], b => b
  | n, T, v, k :: ks, b => Bus.deliverAll h n T v ks (Bus.deliver h n b k T v)
termination_by n _ _ ks _ => (n, 3, ks.length)
/-- `consumer.add_message` → `callback(value)` → the handler's publications -/
def Bus.deliver (h : Handler) : Nat → Bus → Cid → Topic → Int → Bus
  | n, b, k, T, v =>
    let b' := { b with recv := b.recv ++ [(k, T, v)] }
    Bus.pushAll h n (h k T v) b'
termination_by n _ _ _ _ => (n, 2, 0)
def Bus.pushAll (h : Handler) : Nat → List (Topic × Int) → Bus → Bus
  | _, [], b => b
  | 0, _, b => b
  | n + 1, (T, v) :: rest, b => Bus.pushAll h (n + 1) rest (Bus.push h n b T v)
termination_by n ps _ => (n, 1, ps.length)
end

/-- replay of the stored messages of one topic to a new subscriber -/
def Bus.replay (h : Handler) (n : Nat) (k : Cid) (T : Topic) : List Int → Bus → Bus
  | [], b => b
  | v :: vs, b => Bus.replay h n k T vs (Bus.deliver h n b k T v)

/-- `InternalStateServer.subscribe(consumer, topics)` -/
def Bus.subscribe (h : Handler) (n : Nat) (k : Cid) : List Topic → Bus → Bus
  | [], b => b
  | T :: Ts, b =>
    let b1 := { b with subs := upsert b.subs T (sinsert (b.subsOf T) k) }
    Bus.subscribe h n k Ts (Bus.replay h n k T (b1.log T) b1)

inductive BusOp where
  | subscribe (k : Cid) (topics : List Topic)
  | produce (T : Topic) (v : Int)
  deriving Repr

def Bus.apply (h : Handler) (n : Nat) (b : Bus) : BusOp → Bus
  | .subscribe k Ts => Bus.subscribe h n k Ts b
  | .produce T v => Bus.push h n b T v

/-- what consumer `k` received from topic `T`, in order -/
def Bus.received (b : Bus) (k : Cid) (T : Topic) : List Int :=
  (b.recv.filter (fun e => e.1 == k && e.2.1 == T)).map (·.2.2)

/-- what consumer `k` received, all topics, in order -/
def Bus.receivedAll (b : Bus) (k : Cid) : List (Topic × Int) :=
  (b.recv.filter (fun e => e.1 == k)).map (·.2)

end Tickit
