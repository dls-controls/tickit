/-
M9b — command adapters (`adapters/tcp.py`, `specifications/regex_command.py`,
`io/tcp_io.py`).

`Bytes := List UInt8`.  A command's pattern matching is a parameter (`matcher`); the
declared decoding (`convert`) is modelled: bytes commands see the raw bytes, text commands
see `decode('utf-8').strip()` and do not match undecodable input.
-/
import TickitModel.Core.Basic

namespace Tickit

abbrev Bytes := List UInt8

/-- code points for which Python's `str.isspace()` is true (the set `str.strip()` removes). -/
def pyIsSpace (c : Char) : Bool :=
  let n := c.toNat
  (0x09 ≤ n && n ≤ 0x0d) || (0x1c ≤ n && n ≤ 0x20) || n == 0x85 || n == 0xa0 || n == 0x1680 ||
  (0x2000 ≤ n && n ≤ 0x200a) || n == 0x2028 || n == 0x2029 || n == 0x202f || n == 0x205f || n == 0x3000

/-- `str.strip()` -/
def pyStrip (s : List Char) : List Char :=
  ((s.dropWhile pyIsSpace).reverse.dropWhile pyIsSpace).reverse

/-- message as seen by a command after its declared decoding -/
inductive Msg where
  | bytes (b : Bytes)
  | text (s : List Char)
  deriving Repr, DecidableEq

inductive CmdKind where
  | bytes
  | text
  deriving Repr, DecidableEq

/-- `RegexCommand.convert`; `none` when the bytes cannot be decoded. -/
def convert (k : CmdKind) (data : Bytes) : Option Msg :=
  match k with
  | .bytes => some (.bytes data)
  | .text =>
    match String.fromUTF8? (ByteArray.mk data.toArray) with
    | some s => some (.text (pyStrip s.toList))
    | none => none

structure Cmd (Args : Type) where
  kind : CmdKind
  interrupt : Bool
  /-- `pattern.fullmatch(message)`: the captured groups when the whole message matches -/
  matcher : Msg → Option Args

variable {Args : Type}

/-- `RegexCommand.parse` -/
def Cmd.parse (c : Cmd Args) (data : Bytes) : Option Args :=
  match convert c.kind data with
  | none => none
  | some m => c.matcher m

inductive Handled (Args : Type) where
  /-- command number `idx` (in `getmembers` order) invoked once with `args` -/
  | call (idx : Nat) (args : Args) (interrupt : Bool)
  | unknown
  deriving Repr

/-- `CommandAdapter.handle`: first command, in order, whose `parse` matches. -/
def handleFrom (cmds : List (Cmd Args)) (data : Bytes) (i : Nat) : Handled Args :=
  match cmds with
  | [] => .unknown
  | c :: cs => match c.parse data with
    | some a => .call i a c.interrupt
    | none => handleFrom cs data (i + 1)

def handle (cmds : List (Cmd Args)) (data : Bytes) : Handled Args := handleFrom cmds data 0

def unknownReply : String := "Request does not match any known command"

/-- events of one connection as the outside sees them -/
inductive ConnEv (Args : Type) where
  | invoke (idx : Nat) (args : Args)
  | interrupt
  | write (b : Bytes)
  deriving Repr

/-- byte format `pre %b post` -/
def fmt (pre post : Bytes) (reply : Bytes) : Bytes := pre ++ reply ++ post

/-- one received chunk on a TCP connection: handler invoked, then interrupt (if declared),
then every non-`None` reply written once, in order, formatted.  `replies idx args` are the
handler's replies (`none` = the explicit empty marker). -/
def tcpChunk (cmds : List (Cmd Args)) (replies : Nat → Args → List (Option Bytes))
    (pre post : Bytes) (data : Bytes) : List (ConnEv Args) :=
  match handle cmds data with
  | .call i a intr =>
    [.invoke i a] ++ (if intr then [.interrupt] else []) ++
      ((replies i a).filterMap id).map (fun r => .write (fmt pre post r))
  | .unknown => [.write (fmt pre post unknownReply.toUTF8.toList)]

def tcpConn (cmds : List (Cmd Args)) (replies : Nat → Args → List (Option Bytes))
    (pre post : Bytes) (chunks : List Bytes) : List (ConnEv Args) :=
  chunks.flatMap (tcpChunk cmds replies pre post)

end Tickit
