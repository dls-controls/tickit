/-
M5/M7/M8 — whole simulation, deterministic (synchronous) schedule.

The executable reference semantics of a tickit simulation: master scheduler, nested
schedulers at any depth, device components; devices are *oracles* (their k-th response is
given).  Every scheduler level runs the ticker model `Ticker` of M2 and answers pending
dispatches first-in first-out; `Props/C08NestedAny` shows the result does not depend on that choice.

Names are unique over the whole tree, so the state is kept in maps keyed by name.
The master level has the name `""`.
-/
import TickitModel.Core.Ticker
import TickitModel.Core.Device
import TickitModel.Core.Sched
import TickitModel.Gen.Constants

namespace Tickit

abbrev V := Int

/-- a device's response to one `update` call. -/
structure DevResp where
  outs : List (Port × V)
  callAt : Option SimTime
  raises : Bool := false
  deriving Repr

/-- one scheduler level. -/
structure Level where
  name : Comp
  wiring : Wiring
  deriving Repr

structure Static where
  levels : List Level
  systems : List Comp
  /-- parent scheduler level of each component -/
  parent : List (Comp × Comp)
  deriving Repr

def Static.level (s : Static) (n : Comp) : Option Level := s.levels.find? (·.name == n)
def Static.isSys (s : Static) (c : Comp) : Bool := c ∈ s.systems

structure SchedSt where
  wake : Wakeups := []
  interrupts : List Comp := []
  firstDone : Bool := false
  deriving Repr

structure Obs where
  comp : Comp
  time : SimTime
  inputs : List (Port × V)
  deriving Repr

inductive SimErr where
  | tick (lvl : Comp) (e : TickErr)
  | stall (lvl : Comp)
  | fuel
  | noOracle (c : Comp) (k : Nat)
  | deviceRaised (c : Comp)
  | noLevel (c : Comp)
  deriving Repr

structure SimSt where
  devs : List (Comp × DevComp V) := []
  count : List (Comp × Nat) := []
  scheds : List (Comp × SchedSt) := []
  obs : List Obs := []
  deriving Repr

abbrev Oracle := List (Comp × List DevResp)

def pseudoExternal : Comp := Gen.pseudoExternal
def pseudoExpose : Comp := Gen.pseudoExpose

def SimSt.sched (st : SimSt) (n : Comp) : SchedSt := agetD st.scheds n {}

/-- per-device observation sequence of a whole-simulation state -/
def SimSt.obsOf (st : SimSt) (c : Comp) : List (SimTime × List (Port × V)) :=
  (st.obs.filter (fun o => o.comp == c)).map (fun o => (o.time, o.inputs))

structure LoopSt where
  tk : Ticker V
  pending : List (Dispatch V)
  outCh : List (Port × V)
  st : SimSt

mutual
/-- one tick of scheduler level `lvl` at time `t` with roots `roots`; `inCh` are the
input changes of the enclosing system component (for the `external` pseudo component). -/
def tickLevel (S : Static) (orc : Oracle) : Nat → Comp → SimTime → List Comp → List (Port × V) →
    SimSt → Except SimErr (SimSt × List (Port × V))
  | 0, _, _, _, _, _ => .error .fuel
  | fuel + 1, lvl, t, roots, inCh, st =>
    match S.level lvl with
    | none => .error (.noLevel lvl)
    | some L =>
      match (Ticker.call L.wiring t roots : Except TickErr (Ticker V × List (Dispatch V))) with
      | .error e => .error (.tick lvl e)
      | .ok (tk, ds) => tickLoop S orc fuel ((L.wiring.components.length + 2) * 2) L inCh ⟨tk, ds, [], st⟩
termination_by n _ _ _ _ _ => (2 * n, 0)

/-- answer pending dispatches first-in first-out until none is left. -/
def tickLoop (S : Static) (orc : Oracle) (fuel : Nat) : Nat → Level → List (Port × V) → LoopSt →
    Except SimErr (SimSt × List (Port × V))
  | 0, _, _, _ => .error .fuel
  | steps + 1, L, inCh, ls =>
    match ls.pending with
    | [] => if ls.tk.toUpdate.isEmpty then .ok (ls.st, ls.outCh) else .error (.stall L.name)
    | d :: rest =>
      let isNested := L.name != ""
      let answer : Except SimErr (SimSt × List (Port × V) × List (Port × V) × Option SimTime) :=
        match d with
        | .skip _ _ => .ok (ls.st, ls.outCh, [], none)
        | .input c t ins =>
          if isNested && c == pseudoExternal then .ok (ls.st, ls.outCh, inCh, none)
          else if isNested && c == pseudoExpose then .ok (ls.st, ins, [], none)
          else if S.isSys c then
            -- SystemComponent.on_tick → NestedScheduler.on_tick
            let sc := ls.st.sched c
            let due := nestedDue sc.wake t
            let all := match S.level c with | some Lc => Lc.wiring.components | none => []
            let roots := sunion (sunion (sunion sc.interrupts due) [pseudoExternal]) (if sc.firstDone then [] else all)
            let sc' : SchedSt := { wake := delWakeups sc.wake due, interrupts := [], firstDone := true }
            let st1 := { ls.st with scheds := upsert ls.st.scheds c sc' }
            match tickLevel S orc fuel c t roots ins st1 with
            | .error e => .error e
            | .ok (st2, outCh) =>
              let sc2 := st2.sched c
              let callAt := if sc2.interrupts.isEmpty then (firstWakeups sc2.wake).2 else some t
              .ok (st2, ls.outCh, outCh, callAt)
          else
            -- DeviceComponent.on_tick
            let k := agetD ls.st.count c 0
            match (agetD orc c [])[k]? with
            | none => .error (.noOracle c k)
            | some resp =>
              let dc := agetD ls.st.devs c {}
              let merged := dc.merge ins
              let st1 := { ls.st with obs := ls.st.obs ++ [(⟨c, t, merged⟩ : Obs)], count := upsert ls.st.count c (k + 1) }
              if resp.raises then .error (.deviceRaised c)
              else
                let (dc', ch) := dc.onTick ins (normDict resp.outs)
                .ok ({ st1 with devs := upsert st1.devs c dc' }, ls.outCh, ch, resp.callAt)
      match answer with
      | .error e => .error e
      | .ok (st', outCh', changes, callAt) =>
        match ls.tk.propagate L.wiring d.comp d.time changes with
        | .error e => .error (.tick L.name e)
        | .ok (tk', ds) =>
          let sc := st'.sched L.name
          let sc' := match callAt with
            | some w => { sc with wake := addWakeup sc.wake d.comp w }
            | none => sc
          let st'' := { st' with scheds := upsert st'.scheds L.name sc' }
          tickLoop S orc fuel steps L inCh ⟨tk', rest ++ ds, outCh', st''⟩
termination_by n _ _ _ => (2 * fuel + 1, n)
end


/-- an interrupt raised by component `c`: queued at every nested level on the way up;
returns the top-level component that the master sees interrupting. -/
def raiseInterrupt (S : Static) : Nat → Comp → SimSt → SimSt × Comp
  | 0, c, st => (st, c)
  | fuel + 1, c, st =>
    match alookup S.parent c with
    | none => (st, c)
    | some p =>
      if p == "" then (st, c)
      else
        let sc := st.sched p
        let st' := { st with scheds := upsert st.scheds p { sc with interrupts := sinsert sc.interrupts c } }
        raiseInterrupt S fuel p st'

/-! ### master loop with pacing (zero processing cost) -/

structure MasterSt where
  sim : SimSt := {}
  tickerTime : SimTime := 0
  lastReal : Int := 0
  now : Int := 0
  deriving Repr

structure TickRec where
  time : SimTime
  real : Int
  roots : List Comp
  deriving Repr

/-- external stimulus: at real time `real` (ns) component `comp` raises an interrupt. -/
structure Stim where
  real : Int
  comp : Comp
  deriving Repr

def ceilDiv (n : Int) (d : Int) : Int := -((-n) / d)

/-- real time at which the tick for the first wakeup is due (never before `now`). -/
def dueReal (m : MasterSt) (s : Speed) (whenT : SimTime) : Int :=
  let num := sleepNumer whenT m.tickerTime m.now m.lastReal s
  if num ≤ 0 then m.now else m.now + ceilDiv num s.num

def masterInitial (S : Static) (orc : Oracle) (fuel : Nat) (t0 : SimTime) (now : Int) :
    Except SimErr (MasterSt × TickRec) :=
  match S.level "" with
  | none => .error (.noLevel "")
  | some L =>
    let roots := L.wiring.components
    match tickLevel S orc fuel "" t0 roots [] {} with
    | .error e => .error e
    | .ok (st, _) => .ok ({ sim := st, tickerTime := t0, lastReal := now, now := now }, ⟨t0, now, roots⟩)

/-- run the master until `nTicks` further ticks have happened, `steps` turns of the loop (a handled
stimulus or a tick each) are used up, or nothing is left to do. -/
def masterRun (S : Static) (orc : Oracle) (fuel : Nat) (s : Speed) :
    Nat → Nat → MasterSt → List Stim → List TickRec → Except SimErr (MasterSt × List TickRec)
  | 0, _, m, _, acc => .ok (m, acc)
  | _, 0, m, _, acc => .ok (m, acc)
  | steps + 1, nTicks + 1, m, stims, acc =>
    let wake := (m.sim.sched "").wake
    let (comps, whenT) := firstWakeups wake
    let due : Option Int := whenT.map (dueReal m s)
    -- a stimulus not after the due tick (or with nothing due) is handled first
    let stimFirst : Option (Stim × List Stim) := match stims with
      | [] => none
      | st :: rest => match due with
        | none => some (st, rest)
        | some d => if st.real ≤ d then some (st, rest) else none
    match stimFirst with
    | some (st, rest) =>
      let now := if st.real < m.now then m.now else st.real
      let (sim', top) := raiseInterrupt S fuel st.comp m.sim
      let stamp := interruptStamp m.tickerTime now m.lastReal s
      let sc := sim'.sched ""
      -- an earlier wakeup of the component that is still in the table (due or not) is not displaced by the interrupt
      let when := match alookup sc.wake top with
        | some w => if w < stamp then w else stamp
        | none => stamp
      let sim'' := { sim' with scheds := upsert sim'.scheds "" { sc with wake := addWakeup sc.wake top when } }
      masterRun S orc fuel s steps (nTicks + 1) { m with sim := sim'', now := now } rest acc
    | none =>
      match whenT, due with
      | some w, some d =>
        let sc := m.sim.sched ""
        let sim1 := { m.sim with scheds := upsert m.sim.scheds "" { sc with wake := delWakeups sc.wake comps } }
        match tickLevel S orc fuel "" w comps [] sim1 with
        | .error e => .error e
        | .ok (sim2, _) =>
          masterRun S orc fuel s steps nTicks { sim := sim2, tickerTime := w, lastReal := d, now := d } stims (acc ++ [⟨w, d, comps⟩])
      | _, _ => .ok (m, acc)

end Tickit
