/-
M5' — one tick of the nested whole-simulation model with ARBITRARY answer orders at every level.

`Core/Sim.lean` (`tickLevel` / `tickLoop`) answers the pending dispatches of every scheduler level
first-in first-out.  The code does not: every `Input` / `Skip` the ticker hands out becomes an
independent message on the state interface, and the scheduler's `handle_message` runs for
whichever `Output` / `Skip` the bus delivers next,

    # core/management/ticker.py
    async def schedule_possible_updates(self) -> None:
        ...
        for component, task in self.to_update.items():
            if task is not None or required_dependencies(component):
                continue
            if self.inputs[component] or component in self.roots:
                updating[component] = asyncio.create_task(self.update_component(Input(...)))
            else:
                updating[component] = asyncio.create_task(self.skip_component(Skip(...)))
        self.to_update.update(updating)

    # core/management/schedulers/base.py
    async def handle_message(self, message):
        if isinstance(message, Output):
            await self.ticker.propagate(message)
            if message.call_at is not None:
                self.add_wakeup(message.source, message.call_at)
        elif isinstance(message, Skip):
            await self.ticker.propagate(message)

and a system component answers with the result of a whole inner tick of its own scheduler, in
which the same freedom exists again,

    # core/management/schedulers/nested.py
    async def on_tick(self, time, changes):
        wakeup_components = {c for c, when in self.wakeups.items() if when <= time}
        root_components = {*self.interrupts, *wakeup_components, ComponentID("external")}
        if not self._initial_tick_done:
            root_components |= self.ticker.components
            self._initial_tick_done = True
        for component in wakeup_components:
            del self.wakeups[component]
        self.interrupts.clear()
        self.input_changes = changes
        self.output_changes = Changes(Map())
        await self.ticker(time, root_components)
        _, call_at = self.get_first_wakeups()
        return self.output_changes, call_at

    async def update_component(self, input):
        if input.target == "external":
            await self.ticker.propagate(Output("external", input.time, self.input_changes, None))
        elif input.target == "expose":
            self.output_changes = input.changes
            await self.ticker.propagate(Output("expose", input.time, Changes(Map()), None))
        else:
            await super().update_component(input)

    # core/components/device_component.py
    async def on_tick(self, time, changes):
        self.device_inputs = {**self.device_inputs, **changes}
        device_update = self.device.update(SimTime(time), self.device_inputs)
        self.last_outputs, out_changes = device_update.outputs, <outputs that differ from last_outputs>
        await self.output(time, out_changes, device_update.call_at)

This file states that freedom as a RELATION: `TickLevelAny S orc lvl t roots inCh st (st', out)` —
"one tick of scheduler level `lvl` at time `t` for `roots`, started in `st`, CAN end in `st'` with
the exposed output changes `out`".  It is `tickLevel` / `tickLoop` of `Core/Sim.lean` clause by
clause (same treatment of `external` / `expose`, same device oracle, same wakeup bookkeeping, same
`Ticker.propagate`), except that

* the loop may answer ANY pending dispatch `ls.pending[i]` next (as `TickSys.step` does for one
  level), and
* the answer of a system component is ANY `TickLevelAny` execution of its inner level.

No fuel is needed: the relation is the least one closed under the clauses.  Only successful
executions are described (an execution that would raise has no result).
-/
import TickitModel.Core.Sim

namespace Tickit

/-- `add_wakeup(source, call_at)` of level `lvl` after the answer of `c` (as in `tickLoop`) -/
def anyWake (st : SimSt) (lvl c : Comp) (callAt : Option SimTime) : SimSt :=
  let sc := st.sched lvl
  let sc' := match callAt with
    | some w => { sc with wake := addWakeup sc.wake c w }
    | none => sc
  { st with scheds := upsert st.scheds lvl sc' }

/-- `NestedScheduler.on_tick`: the roots of the inner tick of system `c` at time `t` -/
def sysRoots (S : Static) (st : SimSt) (c : Comp) (t : SimTime) : List Comp :=
  let sc := st.sched c
  let due := nestedDue sc.wake t
  let all := match S.level c with | some Lc => Lc.wiring.components | none => []
  sunion (sunion (sunion sc.interrupts due) [pseudoExternal]) (if sc.firstDone then [] else all)

/-- `NestedScheduler.on_tick`: the state in which the inner tick of system `c` starts (due wakeups
removed, interrupts cleared, initial tick marked done) -/
def sysPre (st : SimSt) (c : Comp) (t : SimTime) : SimSt :=
  let sc := st.sched c
  let due := nestedDue sc.wake t
  let sc' : SchedSt := { wake := delWakeups sc.wake due, interrupts := [], firstDone := true }
  { st with scheds := upsert st.scheds c sc' }

/-- the `call_at` a system component reports after its inner tick -/
def sysCallAt (st2 : SimSt) (c : Comp) (t : SimTime) : Option SimTime :=
  let sc2 := st2.sched c
  if sc2.interrupts.isEmpty then (firstWakeups sc2.wake).2 else some t

/-- `DeviceComponent.on_tick` with the device's response `resp`: new state and `Output.changes` -/
def devAfter (st : SimSt) (c : Comp) (t : SimTime) (ins : List (Port × V)) (resp : DevResp) :
    SimSt × List (Port × V) :=
  let k := agetD st.count c 0
  let dc := agetD st.devs c {}
  let merged := dc.merge ins
  let st1 := { st with obs := st.obs ++ [(⟨c, t, merged⟩ : Obs)], count := upsert st.count c (k + 1) }
  let (dc', ch) := dc.onTick ins (normDict resp.outs)
  ({ st1 with devs := upsert st1.devs c dc' }, ch)

mutual
/-- one tick of scheduler level `lvl` at time `t` with roots `roots`, any answer order at this
level and at every level below; `inCh` are the input changes of the enclosing system component. -/
inductive TickLevelAny (S : Static) (orc : Oracle) :
    Comp → SimTime → List Comp → List (Port × V) → SimSt → SimSt × List (Port × V) → Prop
  | mk {lvl : Comp} {t : SimTime} {roots : List Comp} {inCh : List (Port × V)} {st : SimSt}
      {L : Level} {tk : Ticker V} {ds : List (Dispatch V)} {r : SimSt × List (Port × V)} :
      S.level lvl = some L →
      (Ticker.call L.wiring t roots : Except TickErr (Ticker V × List (Dispatch V))) = .ok (tk, ds) →
      TickLoopAny S orc L inCh ⟨tk, ds, [], st⟩ r →
      TickLevelAny S orc lvl t roots inCh st r

/-- answer pending dispatches in ANY order until none is left. -/
inductive TickLoopAny (S : Static) (orc : Oracle) :
    Level → List (Port × V) → LoopSt → SimSt × List (Port × V) → Prop
  | done {L : Level} {inCh : List (Port × V)} {ls : LoopSt} :
      ls.pending = [] → ls.tk.toUpdate.isEmpty = true →
      TickLoopAny S orc L inCh ls (ls.st, ls.outCh)
  | step {L : Level} {inCh : List (Port × V)} {ls : LoopSt} {i : Nat} {d : Dispatch V}
      {st' : SimSt} {outCh' changes : List (Port × V)} {callAt : Option SimTime}
      {tk' : Ticker V} {ds : List (Dispatch V)} {r : SimSt × List (Port × V)} :
      ls.pending[i]? = some d →
      AnswerAny S orc L inCh ls.st ls.outCh d (st', outCh', changes, callAt) →
      ls.tk.propagate L.wiring d.comp d.time changes = .ok (tk', ds) →
      TickLoopAny S orc L inCh
        ⟨tk', ls.pending.eraseIdx i ++ ds, outCh', anyWake st' L.name d.comp callAt⟩ r →
      TickLoopAny S orc L inCh ls r

/-- the answer of the addressed component to one dispatch: new state, new exposed output
changes of the level, the `Output.changes` and the `call_at`. -/
inductive AnswerAny (S : Static) (orc : Oracle) :
    Level → List (Port × V) → SimSt → List (Port × V) → Dispatch V →
      SimSt × List (Port × V) × List (Port × V) × Option SimTime → Prop
  | skip {L : Level} {inCh : List (Port × V)} {st : SimSt} {outCh0 : List (Port × V)}
      {c : Comp} {t : SimTime} :
      AnswerAny S orc L inCh st outCh0 (.skip c t) (st, outCh0, [], none)
  | external {L : Level} {inCh : List (Port × V)} {st : SimSt} {outCh0 : List (Port × V)}
      {c : Comp} {t : SimTime} {ins : List (Port × V)} :
      (L.name != "" && c == pseudoExternal) = true →
      AnswerAny S orc L inCh st outCh0 (.input c t ins) (st, outCh0, inCh, none)
  | expose {L : Level} {inCh : List (Port × V)} {st : SimSt} {outCh0 : List (Port × V)}
      {c : Comp} {t : SimTime} {ins : List (Port × V)} :
      (L.name != "" && c == pseudoExternal) = false →
      (L.name != "" && c == pseudoExpose) = true →
      AnswerAny S orc L inCh st outCh0 (.input c t ins) (st, ins, [], none)
  | sys {L : Level} {inCh : List (Port × V)} {st : SimSt} {outCh0 : List (Port × V)}
      {c : Comp} {t : SimTime} {ins : List (Port × V)} {st2 : SimSt} {outCh : List (Port × V)} :
      (L.name != "" && c == pseudoExternal) = false →
      (L.name != "" && c == pseudoExpose) = false →
      S.isSys c = true →
      TickLevelAny S orc c t (sysRoots S st c t) ins (sysPre st c t) (st2, outCh) →
      AnswerAny S orc L inCh st outCh0 (.input c t ins) (st2, outCh0, outCh, sysCallAt st2 c t)
  | dev {L : Level} {inCh : List (Port × V)} {st : SimSt} {outCh0 : List (Port × V)}
      {c : Comp} {t : SimTime} {ins : List (Port × V)} {resp : DevResp} :
      (L.name != "" && c == pseudoExternal) = false →
      (L.name != "" && c == pseudoExpose) = false →
      S.isSys c = false →
      (agetD orc c [])[agetD st.count c 0]? = some resp →
      resp.raises = false →
      AnswerAny S orc L inCh st outCh0 (.input c t ins)
        ((devAfter st c t ins resp).1, outCh0, (devAfter st c t ins resp).2, resp.callAt)
end

end Tickit
