/-
M7' — resource ledger: which asynchronous tasks, timers and bookkeeping entries each
scheduler operation creates and which of them it releases again (by completion or
cancellation), per `master.py` `_do_tick`, `ticker.py` (one task per dispatch, held in
`to_update` until the component answers), `system_component.py` `on_tick` (the tick/error
race), `io/tcp_io.py` (one reply task per chunk, dropped when done).
-/
import TickitModel.Core.Basic

namespace Tickit

structure Ledger where
  /-- tasks not finished yet -/
  live : Nat := 0
  /-- finished tasks still referenced from a long-lived container -/
  retained : Nat := 0
  /-- pending timers -/
  timers : Nat := 0
  /-- entries in `wakeups` + `_pending_interrupts` -/
  entries : Nat := 0
  deriving Repr, DecidableEq

/-- operations of a run, at the granularity at which the code creates and releases resources -/
inductive LOp where
  /-- `_do_tick` whose sleep wins: `new` + `current` tasks, one timer; the tick runs with
  `dispatches` dispatches (each a task held in `to_update` until answered); served wakeups
  deleted -/
  | tickSleepWins (dispatches served added : Nat)
  /-- `_do_tick` pre-empted by a new wakeup: the sleep task and its timer are cancelled -/
  | tickPreempted
  /-- an interrupt handled between ticks: one bookkeeping entry per component at most -/
  | interrupt (fresh : Bool)
  /-- one tick of a system component: the inner tick task and the error waiter; the loser
  is cancelled; the inner tick itself is a `tickSleepWins`-like body with `dispatches` dispatches -/
  | systemTick (dispatches : Nat)
  /-- one chunk on an open TCP connection: one reply task, dropped from the connection's
  set when it is done -/
  | tcpChunk
  deriving Repr

/-- effect of one complete operation on the ledger; `ncomp` bounds the bookkeeping entries -/
def Ledger.apply (ncomp : Nat) (l : Ledger) : LOp → Ledger
  | .tickSleepWins _ served added =>
    -- no net change of `live`, `retained`, `timers` over the whole operation: +2 tasks +1 timer
    -- during the race; sleep finished (timer fired), waiter cancelled; dispatch tasks finish,
    -- their handles leave `to_update` when the component answers
    { l with entries := min (2 * ncomp) (l.entries - min served l.entries + added) }
  | .tickPreempted => l
  | .interrupt fresh => { l with entries := min (2 * ncomp) (l.entries + (if fresh then 2 else 0)) }
  | .systemTick _ => l
  | .tcpChunk => l

def Ledger.run (ncomp : Nat) (l : Ledger) (ops : List LOp) : Ledger := ops.foldl (Ledger.apply ncomp) l

/-- the peak number of live tasks *inside* one operation (on top of the baseline) -/
def LOp.peakLive : LOp → Nat
  | .tickSleepWins d _ _ => 2 + d
  | .tickPreempted => 2
  | .interrupt _ => 0
  | .systemTick d => 2 + d
  | .tcpChunk => 1

/-- the behaviour before the repairs: the loser of each race and every reply task stay -/
def Ledger.applyLeaky (l : Ledger) : LOp → Ledger
  | .tickSleepWins _ _ _ => { l with live := l.live + 1 }
  | .tickPreempted => { l with live := l.live + 1, timers := l.timers + 1 }
  | .interrupt _ => l
  | .systemTick _ => { l with live := l.live + 1 }
  | .tcpChunk => { l with retained := l.retained + 1 }

end Tickit
