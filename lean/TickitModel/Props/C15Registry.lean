/-
C15 — the registry of state interfaces (`core/state_interfaces/state_interface.py`, a source file that the
properties C15 and C08 both point at; the theorems are registered under C15).

* a class is filed by what the protocols see of it (a `produce` attribute makes it a producer - first test -, else a
  `subscribe` attribute a consumer, else nothing is registered and a warning is issued): `add_producer`,
  `add_consumer`, `add_neither`;
* after a consumer class and a producer class have been registered under a name, in either order and on top of any
  registry, `get_interface name` returns that pair (`get_after_add_both`); it fails (KeyError) iff one of the two
  tables has no entry for the name (`get_none_iff`).  There is no theorem about `get_interface` after an arbitrary
  history;
* for every history of registrations from the empty registry, a name is listed by `interfaces(external)` iff both a
  consumer and a producer are registered under it and, when `external` is asked for, both were registered as
  external (`run_mem_interfaces`).
-/
import TickitModel.Core.Registry
import TickitModel.Lemmas.DictLemmas

namespace Tickit

theorem Registry.add_producer (r : Registry) (n : String) (e : Bool) (k : IfaceClass) (h : k.hasProduce = true) :
    (r.add n e k).producers = upsert r.producers n (k.id, e) ∧ (r.add n e k).consumers = r.consumers := by
  simp [Registry.add, h]

theorem Registry.add_consumer (r : Registry) (n : String) (e : Bool) (k : IfaceClass)
    (h : k.hasProduce = false) (h2 : k.hasSubscribe = true) :
    (r.add n e k).consumers = upsert r.consumers n (k.id, e) ∧ (r.add n e k).producers = r.producers := by
  simp [Registry.add, h, h2]

/-- a class that is neither is not registered anywhere; one warning -/
theorem Registry.add_neither (r : Registry) (n : String) (e : Bool) (k : IfaceClass)
    (h : k.hasProduce = false) (h2 : k.hasSubscribe = false) :
    (r.add n e k).consumers = r.consumers ∧ (r.add n e k).producers = r.producers ∧
    (r.add n e k).warnings = r.warnings + 1 := by
  simp [Registry.add, h, h2]

/-- a registration under `n` leaves each of the two tables as it is or overwrites its entry for `n`: a
relation between a table and its successor that holds in these two cases holds across `add`. -/
theorem Registry.add_tables (r : Registry) (n : String) (e : Bool) (k : IfaceClass)
    (P : List (String × (Nat × Bool)) → List (String × (Nat × Bool)) → Prop)
    (hsame : ∀ t, P t t) (hset : ∀ t v, P t (upsert t n v)) :
    P r.consumers (r.add n e k).consumers ∧ P r.producers (r.add n e k).producers := by
  unfold Registry.add
  split
  · exact ⟨hsame _, hset _ _⟩
  · split
    · exact ⟨hset _ _, hsame _⟩
    · exact ⟨hsame _, hsame _⟩

/-- registering under `n` changes nothing that is found under another name -/
theorem Registry.add_other_name (r : Registry) (n n' : String) (e : Bool) (k : IfaceClass) (hne : n' ≠ n) :
    (r.add n e k).get n' = r.get n' := by
  obtain ⟨hc, hp⟩ := r.add_tables n e k (fun t t' => alookup t' n' = alookup t n') (fun _ => rfl)
    (fun t v => (alookup_upsert t n v n').trans (if_neg (Ne.symm hne)))
  rw [Registry.get, hc, hp, Registry.get]

/-- the pair registered last under a name is what `get_interface` returns -/
theorem Registry.get_after_add_both (r : Registry) (n : String) (ec ep : Bool) (kc kp : IfaceClass)
    (hc1 : kc.hasProduce = false) (hc2 : kc.hasSubscribe = true) (hp : kp.hasProduce = true) :
    ((r.add n ec kc).add n ep kp).get n = some (kc.id, kp.id) ∧
    ((r.add n ep kp).add n ec kc).get n = some (kc.id, kp.id) := by
  simp [Registry.get, Registry.add, hc1, hc2, hp, alookup_upsert]

/-- `get_interface` fails iff a side is missing -/
theorem Registry.get_none_iff (r : Registry) (n : String) :
    r.get n = none ↔ alookup r.consumers n = none ∨ alookup r.producers n = none := by
  unfold Registry.get
  cases alookup r.consumers n <;> cases alookup r.producers n <;> simp

theorem mem_satisfyExt (ext : Bool) (d : List (String × (Nat × Bool))) (hu : UniqueKeys d) (n : String) :
    n ∈ satisfyExt ext d ↔ ∃ v, alookup d n = some v ∧ (ext = true → v.2 = true) := by
  unfold satisfyExt
  simp only [List.mem_map, List.mem_filter]
  constructor
  · rintro ⟨⟨a, v⟩, ⟨hm, hf⟩, rfl⟩
    refine ⟨v, alookup_eq_some_of_mem hu hm, ?_⟩
    intro he; subst he; simpa using hf
  · rintro ⟨v, hl, hf⟩
    refine ⟨(n, v), ⟨mem_of_alookup_eq_some hl, ?_⟩, rfl⟩
    cases ext with
    | false => simp
    | true => simp [hf rfl]

/-- a name is listed iff both sides are registered under it (and are external, when that is asked for) -/
theorem Registry.mem_interfaces (r : Registry) (hc : UniqueKeys r.consumers) (hp : UniqueKeys r.producers)
    (ext : Bool) (n : String) :
    n ∈ r.interfaces ext ↔
      (∃ c, alookup r.consumers n = some c ∧ (ext = true → c.2 = true)) ∧
      (∃ p, alookup r.producers n = some p ∧ (ext = true → p.2 = true)) := by
  unfold Registry.interfaces
  simp only [List.mem_filter, List.contains_iff_mem]
  rw [mem_satisfyExt ext _ hc, mem_satisfyExt ext _ hp]

/-- unique keys are preserved by every registration (so the hypotheses above hold for every history) -/
theorem Registry.run_unique (ops : List (String × Bool × IfaceClass)) (r : Registry)
    (hc : UniqueKeys r.consumers) (hp : UniqueKeys r.producers) :
    UniqueKeys (r.run ops).consumers ∧ UniqueKeys (r.run ops).producers := by
  induction ops generalizing r with
  | nil => exact ⟨hc, hp⟩
  | cons o os ih =>
    obtain ⟨hc', hp'⟩ := r.add_tables o.1 o.2.1 o.2.2 (fun t t' => UniqueKeys t → UniqueKeys t')
      (fun _ h => h) (fun _ v h => h.upsert o.1 v)
    exact ih _ (hc' hc) (hp' hp)

/-- for EVERY history of registrations from the empty registry: listed iff both sides present (and external) -/
theorem Registry.run_mem_interfaces (ops : List (String × Bool × IfaceClass)) (ext : Bool) (n : String) :
    n ∈ (({} : Registry).run ops).interfaces ext ↔
      (∃ c, alookup (({} : Registry).run ops).consumers n = some c ∧ (ext = true → c.2 = true)) ∧
      (∃ p, alookup (({} : Registry).run ops).producers n = some p ∧ (ext = true → p.2 = true)) := by
  have h := Registry.run_unique ops {} (by simp [UniqueKeys]) (by simp [UniqueKeys])
  exact Registry.mem_interfaces _ h.1 h.2 ext n

/-- non-vacuity: the shipped registrations ("internal" not external, "kafka" external) -/
example :
    let r := ({} : Registry).run [("internal", false, ⟨1, false, true⟩), ("internal", false, ⟨2, true, false⟩),
                                   ("kafka", true, ⟨3, false, true⟩), ("kafka", true, ⟨4, true, false⟩), ("half", true, ⟨5, true, false⟩)]
    r.interfaces false = ["internal", "kafka"] ∧ r.interfaces true = ["kafka"] ∧ r.get "internal" = some (1, 2) ∧ r.get "half" = none := by
  decide +kernel

end Tickit
