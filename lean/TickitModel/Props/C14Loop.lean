/-
C14 (master run loop) — long runs use bounded scheduler resources: the tasks and the timer
which `MasterScheduler._do_tick` creates for the sleep / new-wakeup race, and the entries of
`wakeups` and `_pending_interrupts` (`Core/MasterLoopRes.lean`).

The annotated machine `MResSt` carries the flag protocol `MLoopSt` of `Core/MasterLoop.lean`
(tied to the Python code by the driver's trace acceptor) plus counters for live tasks and
pending timers.  For EVERY history of `add_wakeup` / `schedule_interrupt` calls, runs of the
waiter task, expiries of the sleep and moves of `_do_tick`:
  * with the loser of the race cancelled (the code as it is): at most 2 tasks and 1 timer,
    none at all outside the race; `len(wakeups)` ≤ the number of distinct components which
    ever asked, `len(_pending_interrupts) ≤ len(wakeups)`;
  * without the cancellation (the code before commit 8a9136c, the repair of defect F7b): `n`
    interrupts pre-empting a far sleep leave `n` sleeping tasks and `n` timers pending, for
    every `n`.
-/
import TickitModel.Lemmas.MasterLoopResLemmas

namespace Tickit

/-- Dropping the resource counters from any step of the annotated machine —
with or without cancellation of the loser — gives exactly the step `MLoopSt.step true` of the
repaired flag protocol for the same action (enabledness included).  So whatever the trace
acceptor establishes about `MLoopSt` against the running Python code holds of the control
part of the annotated machine, and the counters are pure observers. -/
theorem res_step_erases (cancelLoser : Bool) (s : MResSt) (a : MResAct) (b : MLoopAct)
    (h : a.erase = some b) : (s.step cancelLoser a).map (·.st) = s.st.step true b :=
  MResSt.step_erase cancelLoser s a b h

/-- the only action without a counterpart in the flag protocol (the timer of an abandoned
sleep fires) does not touch the flag protocol's state. -/
theorem res_step_invisible (cancelLoser : Bool) (s s' : MResSt) (a : MResAct)
    (h : a.erase = none) (hs : s.step cancelLoser a = some s') : s'.st = s.st :=
  MResSt.step_erase_none h hs

theorem res_run_erases (cancelLoser : Bool) (s : MResSt) (acts : List MResAct) :
    (s.run cancelLoser acts).st = s.st.run true (acts.filterMap MResAct.erase) :=
  MResSt.run_erase cancelLoser s acts

/-- conversely every history of the flag protocol is the erasure of a history of the
annotated machine: the counters never block a step. -/
theorem res_run_lifts (cancelLoser : Bool) (acts : List MLoopAct) :
    (({} : MResSt).run cancelLoser (acts.map .loop)).st = ({} : MLoopSt).run true acts := by
  rw [MResSt.run_erase]
  congr 1
  induction acts with
  | nil => rfl
  | cons a as ih => simpa [MResAct.erase] using ih

/-- the inductive resource invariant, with and without cancellation: the counters of the race
in progress are a function of the control state — `current` and its timer exist exactly while
the loop is in `sleeping`, `new` exactly while the loop is racing and `new` has not run with
the flag set; every key of `wakeups` was added by somebody; `_pending_interrupts ⊆ wakeups`. -/
theorem res_invariant (cancelLoser : Bool) (acts : List MResAct) :
    ResBase (({} : MResSt).run cancelLoser acts) :=
  ResBase.init.run acts

theorem res_invariant_step (cancelLoser : Bool) (s s' : MResSt) (a : MResAct) (h : ResBase s)
    (hs : s.step cancelLoser a = some s') : ResBase s' :=
  h.step hs

/-- the exact count: `tasks = [sleep running] + [waiter not finished]`. -/
theorem loop_tasks_exact (acts : List MResAct) :
    let s := ({} : MResSt).run true acts
    s.tasks = s.st.pc.curLive + s.st.newLive ∧ s.timers = s.st.pc.curLive := by
  intro s
  have hb : ResBase s := res_invariant true acts
  have ho := MResSt.run_orphans_true {} acts
  have h1 : s.orphanNew = 0 := Nat.le_zero.mp ho.1
  have h2 : s.orphanCur = 0 := Nat.le_zero.mp ho.2.1
  have h3 : s.orphanTimer = 0 := Nat.le_zero.mp ho.2.2
  simp only [MResSt.tasks, MResSt.timers, hb.cur, hb.timer, hb.new, h1, h2, h3]
  omega

/-- **C14, master loop, tasks and timers.** After ANY history (any number of wakeups,
interrupts, pre-emptions, ticks), the run loop of the code as it is (`cancelLoser = true`)
holds at most two live tasks and one pending timer, and none whatsoever when it is not inside
the sleep / new-wakeup race (waiting for work, or inside a tick): nothing is left behind by
earlier iterations. -/
theorem loop_tasks_bounded (acts : List MResAct) :
    let s := ({} : MResSt).run true acts
    s.tasks ≤ 2 ∧ s.timers ≤ 1 ∧ (s.st.pc.isRacing = false → s.tasks = 0 ∧ s.timers = 0) := by
  intro s
  obtain ⟨ht, hm⟩ := loop_tasks_exact acts
  rw [show s.tasks = _ from ht, show s.timers = _ from hm]
  refine ⟨Nat.add_le_add (MLoopPc.curLive_le _) (MLoopSt.newLive_le _), MLoopPc.curLive_le _,
    fun hr => ?_⟩
  rw [MLoopPc.curLive_of_not_racing hr, MLoopSt.newLive_of_not_racing hr]
  exact ⟨rfl, rfl⟩

/-- **C14, master loop, bookkeeping entries.** After any history `len(self.wakeups)` is at
most the number of DISTINCT components named by the `add_wakeup` / `schedule_interrupt` calls
of the history (not the number of calls), `len(self._pending_interrupts) ≤ len(self.wakeups)`,
so both dicts together hold at most two entries per component that ever asked.  (Holds with
and without cancellation of the loser.) -/
theorem loop_entries_bounded (cancelLoser : Bool) (acts : List MResAct) :
    let s := ({} : MResSt).run cancelLoser acts
    s.st.wake.length ≤ (addedComps acts).length ∧ s.irq.length ≤ s.st.wake.length ∧
    s.entries ≤ 2 * (addedComps acts).length := by
  intro s
  have hb : ResBase s := res_invariant cancelLoser acts
  have h1 : s.everAdded.length ≤ (addedComps acts).length :=
    List.Nodup.length_le_of_subset hb.addedNodup (fun x hx => by
      rcases MResSt.run_everAdded cancelLoser {} acts x hx with h | h
      · simp at h
      · exact h)
  have h2 := hb.wake_le
  have h3 := hb.irq_le
  refine ⟨by omega, h3, ?_⟩
  simp only [MResSt.entries]
  omega

/-- e.g. `comps` = the components of the configuration. -/
theorem addedComps_le (acts : List MResAct) (comps : List Comp)
    (h : ∀ c ∈ addedComps acts, c ∈ comps) : (addedComps acts).length ≤ comps.length :=
  List.Nodup.length_le_of_subset (addedComps_nodup acts) h

/-- `add_wakeup` itself: one entry per component. -/
theorem loop_addWakeup_length (w : Wakeups) (c : Comp) (t : SimTime) :
    (addWakeup w c t).length = if (alookup w c).isSome then w.length else w.length + 1 :=
  length_upsert w c t

/-- one pre-emption abandons one sleeping task and its timer: in the code before commit
8a9136c (`cancelLoser = false`) the step "`new` finished first: return" moves the task
`current` and its timer to the abandoned ones. -/
theorem old_loop_preemption_leaks (s s' : MResSt) (cs : List Comp) (w : SimTime)
    (hpc : s.st.pc = .sleeping cs w) (hs : s.step false (.loop .step) = some s') :
    s'.orphanCur = s.orphanCur + 1 ∧ s'.orphanTimer = s.orphanTimer + 1 := by
  cases MResSt.Step.of_step hs with
  | idle h0 | choose _ _ h0 | woken h0 | both _ _ h0 | serve _ _ _ _ h0 | serveDead _ _ _ h0
  | done _ _ h0 => cases hpc.symm.trans h0
  | preempted => exact ⟨rfl, rfl⟩

/-- **unbounded growth before the repair.** For every `n`: a callback of `far` at `T`, then
`n` interrupts of another component `dev` stamped `t < T`, each pre-empting the sleep for
`T`.  Before commit 8a9136c the loop is then back at the top of `_do_tick` with `n` sleeping
tasks and `n` timers still pending (≥ `n` live tasks) — no bound independent of the number of
interrupts exists. -/
theorem old_loop_resources_grow (far dev : Comp) (T t : SimTime) (hne : far ≠ dev) (hlt : t < T)
    (n : Nat) :
    let s := ({} : MResSt).run false (preemptHistory far dev T t n)
    s.st.pc = .top ∧ n ≤ s.tasks ∧ n ≤ s.timers := by
  obtain ⟨h1, h2, h3⟩ := preemptHistory_run far dev T t hne hlt n
  refine ⟨h3, ?_, ?_⟩
  · simp only [MResSt.tasks]; omega
  · simp only [MResSt.timers]; omega

/-- the counters are observers: the control state after a history does not depend on whether
the loser is cancelled. -/
theorem res_control_independent (s : MResSt) (acts : List MResAct) :
    (s.run true acts).st = (s.run false acts).st := by
  rw [MResSt.run_erase, MResSt.run_erase]

/-- the same histories on the code as it is: nothing is pending afterwards. -/
theorem new_loop_same_history_clean (far dev : Comp) (T t : SimTime) (hne : far ≠ dev)
    (hlt : t < T) (n : Nat) :
    let s := ({} : MResSt).run true (preemptHistory far dev T t n)
    s.st.pc = .top ∧ s.tasks = 0 ∧ s.timers = 0 := by
  intro s
  have hpc : s.st.pc = .top := by
    show (MResSt.run true {} (preemptHistory far dev T t n)).st.pc = .top
    rw [res_control_independent]
    exact (preemptHistory_run far dev T t hne hlt n).2.2
  exact ⟨hpc, (loop_tasks_bounded (preemptHistory far dev T t n)).2.2
    (by show (MResSt.run true {} _).st.pc.isRacing = false
        rw [show (MResSt.run true {} (preemptHistory far dev T t n)).st.pc = .top from hpc]
        rfl)⟩

/-! ### non-vacuity -/

/-- the bound 2 tasks / 1 timer is attained (inside the race) … -/
example : (({} : MResSt).run true [.loop (.addWakeup "X" 10), .loop .step]).tasks = 2 ∧
    (({} : MResSt).run true [.loop (.addWakeup "X" 10), .loop .step]).timers = 1 := by decide +kernel

/-- … and after the tick everything is released, `wakeups` is empty again. -/
example :
    let s := ({} : MResSt).run true
      [.loop (.addWakeup "X" 10), .loop .step, .loop .sleepExpires, .loop .step, .loop .step]
    s.tasks = 0 ∧ s.timers = 0 ∧ s.entries = 0 ∧ s.st.pc = .top := by decide +kernel

/-- five pre-emptions: clean with cancellation, five abandoned sleeps without. -/
example : (({} : MResSt).run true (preemptHistory "far" "dev" 1000 1 5)).tasks = 0 ∧
    (({} : MResSt).run false (preemptHistory "far" "dev" 1000 1 5)).timers = 5 ∧
    (({} : MResSt).run false (preemptHistory "far" "dev" 1000 1 5)).tasks = 6 ∧
    (({} : MResSt).run false (preemptHistory "far" "dev" 1000 1 5)).entries = 1 ∧
    addedComps (preemptHistory "far" "dev" 1000 1 5) = ["dev", "far"] := by decide +kernel

/-- the hypotheses of `old_loop_resources_grow` are satisfiable. -/
example : ("far" : Comp) ≠ "dev" ∧ (1 : SimTime) < 1000 := by decide +kernel

end Tickit
