/-
C06 — callbacks are honoured exactly, merged when simultaneous, never invented
(scheduler bookkeeping part: `wakeups`, `get_first_wakeups`, removal of served entries,
nested due-selection).  The bookkeeping theorems (`addWakeup_lookup`, `firstWakeups_spec`,
`delWakeups_lookup`, `served_then_later`, `nestedDue_spec`, `system_callback_is_min`, ...) stand in
`Lemmas/Wakeups.lean` because the lemma files of the other properties use them.
-/
import TickitModel.Lemmas.Wakeups

namespace Tickit

/-- at most one entry per component: the bookkeeping never exceeds the number of distinct
components that ever asked. -/
theorem addWakeup_length (w : Wakeups) (c : Comp) (t : SimTime) :
    (addWakeup w c t).length = if (alookup w c).isSome then w.length else w.length + 1 :=
  length_upsert w c t

/-- when `t` is the minimum the system reported upward, the due components are exactly those
whose entry equals `t`. -/
theorem nestedDue_exact (w : Wakeups) (h : UniqueKeys w) (t : SimTime)
    (hmin : (firstWakeups w).2 = some t) (c : Comp) :
    c ∈ nestedDue w t ↔ alookup w c = some t := by
  have hle := ((firstWakeups_snd_eq_some_iff_lookup h t).1 hmin).2
  rw [nestedDue_spec w h]
  constructor
  · rintro ⟨t', hl, ht⟩
    have := hle c t' hl
    have : t' = t := Int.le_antisymm ht this
    rw [hl, this]
  · intro hl; exact ⟨t, hl, Int.le_refl _⟩

example : firstWakeups [("a", 5), ("b", 3), ("c", 3)] = (["b", "c"], some 3) := by decide

end Tickit
