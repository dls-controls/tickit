/-
C05, C09, C04, C06 for EVERY any-order execution, at every nesting level.

`Core/Sim.lean` answers the pending dispatches of every scheduler level first-in first-out; the
whole-simulation theorems `Props/C05` (initial tick), `Props/C09` (nesting is transparent),
`Props/C04Mono` (time never runs backwards), `Props/C06` (a system reports its minimal inner wakeup)
are stated for that model.  `Core/SimAny.lean` (`TickLevelAny`) and `Core/SimAnyRun.lean`
(`MasterInitialAny`, `MasterRunAny`) let every level, at every depth, answer ANY pending dispatch
next, which is what the code does:

    # core/management/schedulers/base.py
    async def handle_message(self, message):          # runs for whichever message the bus delivers next
        if isinstance(message, Output):
            await self.ticker.propagate(message)
            if message.call_at is not None:
                self.add_wakeup(message.source, message.call_at)
        elif isinstance(message, Skip):
            await self.ticker.propagate(message)

C05 and C04 are properties of ONE execution, and their post-conditions are passed on from the inner
ticks to a level whatever the order of answers (`Hereditary`, `Lemmas/OneLevel.lean`): the theorems
about them below do not go through the FIFO model.  Their statements carry hypotheses that these
proofs do not use (`S.Valid` in the C04 theorems, of which `Props/C04Mono.lean` has none;
key-uniqueness `hn`, `hd` of the inputs): each doc comment says which.

C09 and the run-level part of C06 relate a run to the run of the flattening, which is proved for the
FIFO model.  They are transferred: the FIFO model completes whatever has an any-order execution
(`tickLevelAny_fifo`, `masterInitialAny_fifo`, `any_order_run_has_fifo`), so NO corollary assumes
anything about the FIFO model, and every execution ends in a state equivalent to the FIFO model's
(`nested_any_order_deterministic`, `any_order_run_deterministic`).
-/
import TickitModel.Lemmas.AnyTransferLemmas
import TickitModel.Props.C08NestedAny
import TickitModel.Props.C08NestedAnyRun
import TickitModel.Props.C05
import TickitModel.Props.C06

namespace Tickit

open TimeMono

/-! ## C05 — the initial tick -/

/-- **C05 for every answer order.**  In EVERY execution of the initial tick of a valid
configuration — whatever the order in which the master and every system simulation, at every depth,
handle their components' answers — every device at every depth has been updated exactly once, at the
initial time, nothing else was updated, every system simulation's scheduler has done its own initial
tick (`firstDone`), and the tick is recorded at `t0`.  For the code: `MasterScheduler.run_forever` →
`_do_initial_tick` reaches every device exactly once, however the bus interleaves the messages. -/
theorem any_order_initial_tick_complete (S : Static) (hS : S.Valid) (orc : Oracle) (t0 : SimTime)
    (now : Int) (r0 : MasterSt × TickRec) (h : MasterInitialAny S orc t0 now r0) :
    (∀ d, S.isDevice d → ∃ ins, r0.1.sim.obsOf d = [(t0, ins)]) ∧
    (∀ d, S.isDevice d → r0.1.sim.updates d = 1) ∧
    (∀ o ∈ r0.1.sim.obs, o.time = t0 ∧ S.isDevice o.comp) ∧
    (∀ s, S.isSys s = true → (r0.1.sim.sched s).firstDone = true) ∧
    r0.2.time = t0 := by
  cases h with
  | @mk L st out hL ht =>
    obtain ⟨hupd, hobs, hsys⟩ := (tickLevelAny_post hS.toWF ht).initial_complete hS.toWF
      (fun L' hL' c hc => by cases hL.symm.trans hL'; exact hc)
    refine ⟨fun d hd => ?_, hupd, hobs, fun s hs => hsys s hs (hS.sys_parent s hs), rfl⟩
    -- the one observation of `d` is in the log, hence stamped `t0`
    obtain ⟨⟨t, i⟩, hti⟩ := List.length_eq_one_iff.1 ((SimSt.obsOf_length _ d).trans (hupd d hd))
    obtain ⟨o, ho, _, he⟩ := SimSt.mem_obsOf.1 (hti ▸ List.mem_singleton_self (t, i))
    cases he
    exact ⟨_, (hobs o ho).1 ▸ hti⟩

/-- **`tickLevel_once` for every answer order** (the inner tick lies inside the outer tick, at the
same time — C04's nesting clause): an execution of a tick of any level appends observations to the
global log, every one of them made by a component below the level and stamped with the tick's
time, at most one per device.  So a tick, at whatever depth, has ONE time.  (`hn` is not used.) -/
theorem any_order_tick_one_time (S : Static) (hS : S.Valid) (orc : Oracle) (lvl : Comp) (t : SimTime)
    (roots : List Comp) (inCh : List (Port × V)) (hn : (akeys inCh).Nodup) (st : SimSt)
    (r : SimSt × List (Port × V)) (h : TickLevelAny S orc lvl t roots inCh st r) :
    (∀ d, r.1.updates d ≤ st.updates d + 1) ∧
    ∃ new, r.1.obs = st.obs ++ new ∧ ∀ o ∈ new, o.time = t ∧ S.Below lvl o.comp := by
  obtain ⟨new, hobs, hnd, hown, _, _⟩ := tickLevelAny_post hS.toWF h
  refine ⟨fun d => ?_, new, hobs, fun o ho => ⟨(hown o ho).1, (hown o ho).2.2⟩⟩
  rw [SimSt.updates_of_obs hobs d]
  have := sim_filter_comp_le_one hnd d
  omega

/-! ## C09 — nesting is transparent -/

/-- the flattening of a valid configuration is a valid configuration (`Static.Valid.flatten_valid`,
for any resolution fuel: `hr` and the execution `h` of the initial tick are not used) -/
theorem any_order_flatten_valid (S : Static) (hS : S.Valid) (orc : Oracle) (rfuel : Nat)
    (hr : S.ResolveStable rfuel) (t0 : SimTime) (now : Int) (r0 : MasterSt × TickRec)
    (h : MasterInitialAny S orc t0 now r0) : (S.flatten rfuel).Valid :=
  hS.flatten_valid rfuel

/-- **C09 for every answer order, initial tick.**  ANY execution of the initial tick of a valid
nested configuration and ANY execution of the initial tick of its flattening give every device the
same observation (same time, same inputs as a mapping): values cross system boundaries within the
tick whatever the message orders inside the system simulations. -/
theorem any_order_nesting_transparent_initial (S : Static) (hS : S.Valid) (orc : Oracle) (rfuel : Nat)
    (hr : S.ResolveStable rfuel) (t0 : SimTime) (now : Int) (r0 q0 : MasterSt × TickRec)
    (h : MasterInitialAny S orc t0 now r0) (g : MasterInitialAny (S.flatten rfuel) orc t0 now q0) :
    ∀ d, ObsEq (r0.1.sim.obsOf d) (q0.1.sim.obsOf d) := by
  obtain ⟨F, hF⟩ := masterInitialAny_fifo hS h
  obtain ⟨m, tr, hmi, heq, _⟩ := hF F (Nat.le_refl _)
  have hS' : (S.flatten rfuel).Valid := hS.flatten_valid rfuel
  obtain ⟨fuel', m', tr', hmi', hobs⟩ := nesting_transparent_initial S hS orc F rfuel hr t0 now m tr hmi
  obtain ⟨e1, _⟩ := masterInitialAny_det hS' g (masterInitial_any _ orc fuel' t0 now _ hmi')
  intro d
  exact Det.obsEq_trans (heq.sim d).ob (Det.obsEq_trans (hobs d) (Det.obsEq_symm (e1.sim d).ob))

/-- **C09 for every answer order, whole runs (callbacks).**  For a valid nested configuration `S` and
its flattening `S.flatten rfuel` (resolution fuel sufficient): ANY any-order run of `S` and ANY
any-order run of the flattening (same recorded device responses, times, speed and bounds; no
external stimuli) have the same tick times (simulation and real) and give every device, at whatever
depth it lives in `S`, the same sequence of observations.  For the code: wrapping devices into
system simulations changes nothing observable, whatever the delivery orders on either side. -/
theorem any_order_nesting_transparent_run (S : Static) (hS : S.Valid) (orc : Oracle)
    (fuel1 fuel2 rfuel : Nat) (hr : S.ResolveStable rfuel) (t0 : SimTime) (now : Int) (sp : Speed)
    (steps nTicks : Nat) (r0 q0 : MasterSt × TickRec) (r q : MasterSt × List TickRec)
    (h1 : MasterInitialAny S orc t0 now r0)
    (h2 : MasterRunAny S orc fuel1 sp steps nTicks r0.1 [] [r0.2] r)
    (g1 : MasterInitialAny (S.flatten rfuel) orc t0 now q0)
    (g2 : MasterRunAny (S.flatten rfuel) orc fuel2 sp steps nTicks q0.1 [] [q0.2] q) :
    r.2.map (·.time) = q.2.map (·.time) ∧ r.2.map (·.real) = q.2.map (·.real) ∧
      ∀ d, ObsEq (r.1.sim.obsOf d) (q.1.sim.obsOf d) := by
  obtain ⟨F, hF⟩ := any_order_run_has_fifo S hS orc fuel1 t0 now sp steps nTicks r0 r h1 h2
  obtain ⟨m, tr, m2, ticks, hmi, hmr, heq, hticks⟩ := hF F (Nat.le_refl _)
  have hS' : (S.flatten rfuel).Valid := hS.flatten_valid rfuel
  obtain ⟨fuel', m', tr', m2', ticks', hmi', hmr', ht, hre, hobs⟩ :=
    nesting_transparent_run S hS orc F rfuel hr t0 now sp steps nTicks m m2 tr ticks hmi hmr
  obtain ⟨_, qt, qo⟩ := any_order_run_agrees_with_fifo (S.flatten rfuel) hS' orc fuel' t0 now sp steps
    nTicks [] m' m2' tr' ticks' hmi' hmr' q0 q g1 (g2.fuel_change (fun _ h => nomatch h))
  refine ⟨?_, ?_, fun d => ?_⟩
  · rw [hticks.times.1, ht, qt.times.1]
  · rw [hticks.times.2, hre, qt.times.2]
  · exact Det.obsEq_trans (heq.sim d).ob (Det.obsEq_trans (hobs d) (Det.obsEq_symm (qo d)))

/-- C09 for every answer order, with the computable resolution fuel bound `S.resolveFuel`. -/
theorem any_order_nesting_transparent_run_fuel (S : Static) (hS : S.Valid) (orc : Oracle)
    (fuel1 fuel2 rfuel : Nat) (hr : S.resolveFuel ≤ rfuel) (t0 : SimTime) (now : Int) (sp : Speed)
    (steps nTicks : Nat) (r0 q0 : MasterSt × TickRec) (r q : MasterSt × List TickRec)
    (h1 : MasterInitialAny S orc t0 now r0)
    (h2 : MasterRunAny S orc fuel1 sp steps nTicks r0.1 [] [r0.2] r)
    (g1 : MasterInitialAny (S.flatten rfuel) orc t0 now q0)
    (g2 : MasterRunAny (S.flatten rfuel) orc fuel2 sp steps nTicks q0.1 [] [q0.2] q) :
    r.2.map (·.time) = q.2.map (·.time) ∧ r.2.map (·.real) = q.2.map (·.real) ∧
      ∀ d, ObsEq (r.1.sim.obsOf d) (q.1.sim.obsOf d) :=
  any_order_nesting_transparent_run S hS orc fuel1 fuel2 rfuel (hS.resolveStable hr) t0 now sp steps
    nTicks r0 q0 r q h1 h2 g1 g2

/-- **the flattening can follow**: whenever the nested configuration has an any-order run, its
flattening has one of the same length (so the previous theorem is not vacuous on the flat side);
by the previous theorem ALL runs of the flattening then agree with it. -/
theorem any_order_flatten_run_exists (S : Static) (hS : S.Valid) (orc : Oracle) (fuel1 rfuel : Nat)
    (hr : S.ResolveStable rfuel) (t0 : SimTime) (now : Int) (sp : Speed) (steps nTicks : Nat)
    (r0 : MasterSt × TickRec) (r : MasterSt × List TickRec)
    (h1 : MasterInitialAny S orc t0 now r0)
    (h2 : MasterRunAny S orc fuel1 sp steps nTicks r0.1 [] [r0.2] r) :
    ∃ fuel2 q0 q, MasterInitialAny (S.flatten rfuel) orc t0 now q0 ∧
      MasterRunAny (S.flatten rfuel) orc fuel2 sp steps nTicks q0.1 [] [q0.2] q := by
  obtain ⟨F, hF⟩ := any_order_run_has_fifo S hS orc fuel1 t0 now sp steps nTicks r0 r h1 h2
  obtain ⟨m, tr, m2, ticks, hmi, hmr, _⟩ := hF F (Nat.le_refl _)
  obtain ⟨fuel', m', tr', m2', ticks', hmi', hmr', _⟩ :=
    nesting_transparent_run S hS orc F rfuel hr t0 now sp steps nTicks m m2 tr ticks hmi hmr
  obtain ⟨a1, a2⟩ := fifo_run_is_any (S.flatten rfuel) orc fuel' t0 now sp steps nTicks m' m2' tr' []
    ticks' hmi' hmr'
  exact ⟨fuel', (m', tr'), (m2', ticks'), a1, a2⟩

/-! ## C04 — time never runs backwards -/

/-- every state reached by an any-order run (no external stimuli) satisfies the bookkeeping invariant
(update counter = number of observations, every wakeup map a dict); if no device asks to be called
back in the past, no master wakeup lies before the ticker time and no recorded tick after it.
(`masterRunAny_wake_not_before` at `stims = []`; `hS` is not used, here and in the next theorem.) -/
theorem any_order_wake_not_before (S : Static) (hS : S.Valid) (orc : Oracle) (fuel0 : Nat)
    (t0 : SimTime) (now : Int) (sp : Speed) (steps nTicks : Nat) (r0 : MasterSt × TickRec)
    (r : MasterSt × List TickRec) (h1 : MasterInitialAny S orc t0 now r0)
    (h2 : MasterRunAny S orc fuel0 sp steps nTicks r0.1 [] [r0.2] r)
    (hnp : RunNoPast orc r.1.sim) :
    r.1.sim.Good ∧ (∀ e ∈ (r.1.sim.sched "").wake, r.1.tickerTime ≤ e.2) ∧
    (∀ x ∈ r.2, x.time ≤ r.1.tickerTime) ∧ (r.2.map (·.time)).Pairwise (· ≤ ·) :=
  masterRunAny_wake_not_before h1 h2 hnp

/-- **C04 for every answer order.**  In EVERY any-order run of a valid configuration (initial tick +
callback ticks, nested schedulers at any depth, every tick an arbitrary execution), provided no
device asks to be called back in the past (`RunNoPast` on the run's own final state), successive
tick times never decrease. -/
theorem any_order_time_monotone (S : Static) (hS : S.Valid) (orc : Oracle) (fuel0 : Nat)
    (t0 : SimTime) (now : Int) (sp : Speed) (steps nTicks : Nat) (r0 : MasterSt × TickRec)
    (r : MasterSt × List TickRec) (h1 : MasterInitialAny S orc t0 now r0)
    (h2 : MasterRunAny S orc fuel0 sp steps nTicks r0.1 [] [r0.2] r)
    (hnp : RunNoPast orc r.1.sim) :
    (r.2.map (·.time)).Pairwise (· ≤ ·) :=
  have ⟨_, _, _, hsorted⟩ :=
    any_order_wake_not_before S hS orc fuel0 t0 now sp steps nTicks r0 r h1 h2 hnp
  hsorted

/-! ### C04 inside one tick: no `call_at` before the tick's time, at any depth -/

/-- **`system_callAt_not_past` for every answer order**: a tick of a scheduler level at time `t`, any
answer order at the level and at every level below, started in a well-formed state, writes no wakeup
before `t` at any level, provided no device asks to be called back in the past.  (`hS`, `hn` are not
used.) -/
theorem any_order_system_callAt_not_past (S : Static) (hS : S.Valid) (orc : Oracle) (lvl : Comp)
    (t : SimTime) (roots : List Comp) (inCh : List (Port × V)) (hn : (akeys inCh).Nodup) (st : SimSt)
    (r : SimSt × List (Port × V)) (h : TickLevelAny S orc lvl t roots inCh st r)
    (hg : st.Good) (hnp : RunNoPast orc r.1) :
    r.1.Good ∧
    (∀ l e, e ∈ (r.1.sched l).wake → e ∈ (st.sched l).wake ∨ t ≤ e.2) ∧
    ((∀ e ∈ (st.sched lvl).wake, t ≤ e.2) → ∀ e ∈ (r.1.sched lvl).wake, t ≤ e.2) :=
  (tickLevelAny_ok h).not_past hg hnp lvl

/-- **`nested_tick_callAt_not_past` for every answer order.**  `sysPre st c t` is the state in which
`NestedScheduler.on_tick` starts the inner tick of system `c` at time `t` (due wakeups removed,
queued interrupts taken).  After ANY execution of that inner tick no wakeup of the nested level lies
before `t`, hence the `call_at` with which the system component answers its enclosing level
(`sysCallAt`) is never before `t`.  (`hS`, `hn` are not used.) -/
theorem any_order_nested_tick_callAt_not_past (S : Static) (hS : S.Valid) (orc : Oracle) (c : Comp)
    (t : SimTime) (roots : List Comp) (ins : List (Port × V)) (hn : (akeys ins).Nodup) (st : SimSt)
    (r : SimSt × List (Port × V)) (hg : st.Good)
    (h : TickLevelAny S orc c t roots ins (sysPre st c t) r) (hnp : RunNoPast orc r.1) :
    (∀ e ∈ (r.1.sched c).wake, t ≤ e.2) ∧ ∀ w, sysCallAt r.1 c t = some w → t ≤ w :=
  (tickLevelAny_ok h).nested_not_past hg hnp

/-- **`answer_callAt_not_past` for every answer order**: the `call_at` that ANY component — device
or system simulation, at any depth, its inner tick any execution — returns to its enclosing level
in a tick at time `t` is `≥ t`, provided no device asks to be called back in the past.  (`hS`, `hd`
are not used.) -/
theorem any_order_answer_callAt_not_past (S : Static) (hS : S.Valid) (orc : Oracle) (L : Level)
    (inCh : List (Port × V)) (st : SimSt) (out0 : List (Port × V)) (d : Dispatch V)
    (hd : Det.InsNodup d) (st' : SimSt) (outCh' changes : List (Port × V)) (w : SimTime)
    (h : AnswerAny S orc L inCh st out0 d (st', outCh', changes, some w))
    (hg : st.Good) (hnp : RunNoPast orc st') : d.time ≤ w :=
  ((((answerAny_iff.1 h).1.ok fun _ _ _ _ _ _ h => tickLevelAny_ok h).2 hg).2 hnp).2 w rfl

/-! ## C06 — what a system component reports upward -/

/-- **`system_callback_is_min` for every answer order.**  When a system component `c` answers its
enclosing level at tick time `t` — its inner tick ANY execution, from a state whose wakeup maps are
dicts — the `call_at` it reports is: the tick time `t` while interrupts are queued in its scheduler;
otherwise the MINIMUM of its scheduler's wakeups (some inner component holds exactly that time, none
holds an earlier one), and nothing if it has no wakeups.  The wakeups of `c`'s scheduler form a dict.
(`nested.py`: `_, call_at = self.get_first_wakeups()`.) -/
theorem any_order_system_callback_is_min (S : Static) (hS : S.Valid) (orc : Oracle) (L : Level)
    (inCh : List (Port × V)) (st : SimSt) (hwf : st.WakeWF) (out0 : List (Port × V)) (c : Comp)
    (t : SimTime) (ins : List (Port × V))
    (h1 : (L.name != "" && c == pseudoExternal) = false)
    (h2 : (L.name != "" && c == pseudoExpose) = false) (h3 : S.isSys c = true)
    (st2 : SimSt) (outCh' changes : List (Port × V)) (ca : Option SimTime)
    (h : AnswerAny S orc L inCh st out0 (.input c t ins) (st2, outCh', changes, ca)) :
    UniqueKeys (st2.sched c).wake ∧
    ((st2.sched c).interrupts ≠ [] → ca = some t) ∧
    ((st2.sched c).interrupts = [] →
      (∀ m, ca = some m → (∃ x, alookup (st2.sched c).wake x = some m) ∧
        ∀ x t', alookup (st2.sched c).wake x = some t' → m ≤ t') ∧
      (ca = none → (st2.sched c).wake = [])) := by
  obtain ⟨htl, hca⟩ := (answerAny_iff.1 h).1.sys_inv h1 h2 h3
  simp only at htl hca
  subst hca
  have hu : UniqueKeys (st2.sched c).wake :=
    (any_order_frame S hS orc c t _ ins _ _ htl).2.1 (hwf.sysPre c t) c
  refine ⟨hu, ?_, ?_⟩
  · intro hne
    unfold sysCallAt
    simp only [] -- reduces the `let` that `unfold` leaves
    rw [if_neg (by simpa using hne)]
  · intro he
    have hca : sysCallAt st2 c t = (firstWakeups (st2.sched c).wake).2 := by
      unfold sysCallAt
      simp only []
      rw [if_pos (by simp [he])]
    rw [hca]
    exact ⟨fun m hm => system_callback_is_min _ hu m hm, fun hn => (firstWakeups_none _).1 hn⟩

/-- **`nestedDue_exact` for every answer order**: in a state whose wakeup maps are dicts (every state
of an any-order run, `any_order_run_wakeWF`), if the minimum wakeup of system `c` — what `c` reported
to its parent — is the tick time `t`, the roots `NestedScheduler.on_tick` selects for the inner tick
are exactly: the queued interrupts, the components whose wakeup is exactly `t`, `external`, and (in
the system's first tick only) all components. -/
theorem any_order_nestedDue_exact (S : Static) (st : SimSt) (hwf : st.WakeWF) (c : Comp) (t : SimTime)
    (hmin : (firstWakeups (st.sched c).wake).2 = some t) (x : Comp) :
    x ∈ sysRoots S st c t ↔
      x ∈ (st.sched c).interrupts ∨ alookup (st.sched c).wake x = some t ∨ x = pseudoExternal ∨
        ((st.sched c).firstDone = false ∧ ∃ Lc, S.level c = some Lc ∧ x ∈ Lc.wiring.components) := by
  unfold sysRoots
  simp only [mem_sunion, List.mem_singleton]
  rw [nestedDue_exact _ (hwf c) t hmin x]
  cases hfd : (st.sched c).firstDone with
  | true => simp [or_assoc]
  | false =>
    cases hl : S.level c with
    | none | some Lc => simp [or_assoc]

/-- in every state reached by an any-order run every scheduler's wakeup map, at every depth, is a dict
(one entry per component) — without any hypothesis on the devices.  Proof: determinism applied to
the run and itself makes the end state `SimSt.Equiv` to itself, and `SchedSt.Equiv` has the
uniqueness of the keys of both sides among its fields. -/
theorem any_order_run_wakeWF (S : Static) (hS : S.Valid) (orc : Oracle) (fuel0 : Nat)
    (t0 : SimTime) (now : Int) (sp : Speed) (steps nTicks : Nat) (stims : List Stim)
    (r0 : MasterSt × TickRec) (r : MasterSt × List TickRec) (h1 : MasterInitialAny S orc t0 now r0)
    (h2 : MasterRunAny S orc fuel0 sp steps nTicks r0.1 stims [r0.2] r) : r.1.sim.WakeWF :=
  (any_order_run_deterministic S hS orc fuel0 t0 now sp steps nTicks stims r0 r0 r r h1 h1 h2
    h2).1.sim.wakeWF_right

end Tickit
