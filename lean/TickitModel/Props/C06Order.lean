/-
C06 / C10 — `get_first_wakeups` depends only on the ORDER of the requested times.

For every strictly increasing re-labelling `f` of simulation times (a change of time scale, a shift of
the epoch, nanoseconds that become minutes), selecting the first wakeups commutes with `f`: the same
components are selected and the selected time is the image of the original one.  In particular two
requests are served together iff they are EQUAL - however close two distinct times are (25 ns apart
after an hour of simulated time), they are never merged, and requests that are equal stay merged at
every scale.  This is the statement behind running the same scenarios at several time scales in the
correspondence (`scenario.rescale_times`): the model's behaviour is scale-free, so a difference between
scales can only come from the code.
-/
import TickitModel.Lemmas.Wakeups

namespace Tickit

def mapTimes (f : Int → Int) (w : Wakeups) : Wakeups := w.map (fun e => (e.1, f e.2))

theorem minTime_map (f : Int → Int) (hf : ∀ a b, a ≤ b ↔ f a ≤ f b) (l : List SimTime) :
    minTime (l.map f) = (minTime l).map f := by
  induction l with
  | nil => rfl
  | cons t ts ih =>
    rw [List.map_cons, minTime, minTime, ih]
    cases minTime ts with
    | none => rfl
    | some m =>
      exact congrArg some ((ite_congr (propext (hf t m).symm) (fun _ => rfl) (fun _ => rfl)).trans
        (apply_ite f (t ≤ m) t m).symm)

theorem filter_mapTimes (f : Int → Int) (p p' : Int → Bool) (hp : ∀ t, p' (f t) = p t) (w : Wakeups) :
    ((mapTimes f w).filter (fun e => p' e.2)).map (·.1) = (w.filter (fun e => p e.2)).map (·.1) := by
  have hpf : ((fun e : Comp × SimTime => p' e.2) ∘ fun e : Comp × SimTime => (e.1, f e.2)) =
      fun e => p e.2 :=
    funext fun e => hp e.2
  rw [mapTimes, List.filter_map, List.map_map, hpf]
  rfl

/-- **order-only dependence**; "strictly increasing" is stated as: `f` reflects and preserves `≤`. -/
theorem firstWakeups_mapTimes (f : Int → Int) (hf : ∀ a b, a ≤ b ↔ f a ≤ f b) (w : Wakeups) :
    firstWakeups (mapTimes f w) = ((firstWakeups w).1, (firstWakeups w).2.map f) := by
  have hinj : ∀ a b, f a = f b → a = b := by
    intro a b h
    have h1 : a ≤ b := (hf a b).2 (Int.le_of_eq h)
    have h2 : b ≤ a := (hf b a).2 (Int.le_of_eq h.symm)
    exact Int.le_antisymm h1 h2
  have hm : (mapTimes f w).map (·.2) = (w.map (·.2)).map f := by
    rw [mapTimes, List.map_map, List.map_map]; rfl
  unfold firstWakeups
  rw [hm, minTime_map f hf]
  cases minTime (w.map (·.2)) with
  | none => rfl
  | some m =>
    exact congrArg (·, some (f m)) (filter_mapTimes f (· == m) (· == f m)
      (fun t => Bool.eq_iff_iff.mpr (by simp only [beq_iff_eq]; exact ⟨hinj _ _, congrArg f⟩)) w)

/-- scaling by a positive factor and shifting the epoch are such re-labellings -/
theorem scale_shift_order (k d : Int) (hk : 0 < k) (a b : Int) : a ≤ b ↔ k * a + d ≤ k * b + d := by
  rw [Int.add_le_add_iff_right]
  exact ⟨fun h => Int.mul_le_mul_of_nonneg_left h (Int.le_of_lt hk), fun h => Int.le_of_mul_le_mul_left h hk⟩

/-- the first wakeups at another time scale / epoch: same components, scaled time -/
theorem firstWakeups_scale (k d : Int) (hk : 0 < k) (w : Wakeups) :
    firstWakeups (mapTimes (fun t => k * t + d) w) = ((firstWakeups w).1, (firstWakeups w).2.map (fun t => k * t + d)) :=
  firstWakeups_mapTimes _ (scale_shift_order k d hk) w

/-- close is not simultaneous: a request that is later than the earliest one - by however little - is not served with it -/
theorem later_not_first (w : Wakeups) (h : UniqueKeys w) (cs : List Comp) (m : SimTime) (c : Comp) (t : SimTime)
    (hf : firstWakeups w = (cs, some m)) (hc : alookup w c = some t) (hlt : m < t) : c ∉ cs := by
  intro hin
  have := (firstWakeups_spec w h cs m hf).1 c
  rw [this.1 hin] at hc
  injection hc with hc
  rw [hc] at hlt
  exact absurd hlt (Int.lt_irrefl _)

/-- the nested scheduler's choice of due components (`when <= time`) depends only on the order too -/
theorem nestedDue_mapTimes (f : Int → Int) (hf : ∀ a b, a ≤ b ↔ f a ≤ f b) (w : Wakeups) (t : SimTime) :
    nestedDue (mapTimes f w) (f t) = nestedDue w t :=
  filter_mapTimes f (fun x => decide (x ≤ t)) (fun x => decide (x ≤ f t))
    (fun x => decide_eq_decide.mpr (hf x t).symm) w

/-- a wakeup 1 ns after the tick time is not due, however large the times -/
example : nestedDue [("a", 3600000000000), ("b", 3600000000001)] 3600000000000 = ["a"] := by decide

/-- non-vacuity: after an hour of simulated time, 25 ns apart is apart; equal is together -/
example : firstWakeups [("sens", 3600000000025), ("pump", 3600000000000), ("same", 3600000000000)]
    = (["pump", "same"], some 3600000000000) := by decide +kernel

end Tickit
