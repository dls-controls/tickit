/-
C03 — devices see exactly the latest upstream values along the declared wiring
(flat simulations, any number of ticks, any answer order in every tick).

The statements carry hypotheses (`hacyc`, `hroots`, `hcomp`) that no proof uses (each says so);
the forms without them, to build on, are `Sync.synced_tickRun`, `Sync.inputs_latest_tickRun`,
`Sync.synced_runI` (`Lemmas/FlatSyncLemmas.lean`).
-/
import TickitModel.Lemmas.FlatSyncLemmas

namespace Tickit

variable {Val : Type} [DecidableEq Val]

/-- the invariant `Synced` holds in the initial state. -/
theorem synced_init (w : Wiring) : Synced w ({} : FlatSt Val) := by
  exact Sync.synced_empty w

/-- `Synced` is preserved by every complete tick, whatever the roots and the answer order. -/
theorem synced_tick (w : Wiring) (hw : RouterOK w) (hacyc : w.Acyclic) (dev : DevFn Val)
    (st st' : FlatSt Val) (t : SimTime) (roots : List Comp)
    (hroots : ∀ c ∈ extent w roots, (w.ups c).isSome)
    (hs : Synced w st) (hrun : TickRun w dev st t roots st') : Synced w st' := by
  have _ := hacyc -- not needed: the tick equations of C02 hold for every reachable state
  have _ := hroots -- not needed: a complete run is given
  exact Sync.synced_tickRun hw hs hrun

/-- **C03.** Every observation made in a tick — the inputs a device is given when it is
updated — holds, for each input port wired to an upstream output, the most recent value ever
reported on that output *including values reported earlier in this same tick*, and has no
other key.  (`st'.reported` is the log after the tick: an upstream that takes part in the tick
has, by C01, reported before the device is updated, and reports once.) -/
theorem inputs_latest (w : Wiring) (hw : RouterOK w) (hacyc : w.Acyclic) (dev : DevFn Val)
    (st st' : FlatSt Val) (t : SimTime) (roots : List Comp)
    (hroots : ∀ c ∈ extent w roots, (w.ups c).isSome)
    (hs : Synced w st) (hrun : TickRun w dev st t roots st')
    (c : Comp) (t' : SimTime) (given : List (Port × Val))
    (hobs : (c, t', given) ∈ st'.obs) (hnew : (c, t', given) ∉ st.obs) :
    t' = t ∧
    (∀ a p q, w.Conn a p c q → alookup given q = alookup st'.reported (a, p)) ∧
    (∀ q v, alookup given q = some v → ∃ a p, w.Conn a p c q) := by
  have _ := hacyc -- not needed: the tick equations of C02 hold for every reachable state
  have _ := hroots -- not needed: a complete run is given
  exact Sync.inputs_latest_tickRun hw hs hrun c t' given hobs hnew

/-- over a whole run: the invariant holds after every tick of every run. -/
theorem synced_run (w : Wiring) (hw : RouterOK w) (hacyc : w.Acyclic) (devs : DevSeq Val)
    (hcomp : ∀ c ∈ w.components, (w.ups c).isSome)
    (t0 : SimTime) (n : Nat) (st : FlatSt Val) (times : List SimTime)
    (hrun : FlatRun w devs t0 n st times) : Synced w st := by
  have _ := hacyc -- not needed, see `synced_tick`
  have _ := hcomp -- not needed: holds for every wiring (`Wiring.ups_isSome_iff'`)
  exact Sync.synced_runI hw (FlatInt.of_flatRun hrun)

end Tickit
