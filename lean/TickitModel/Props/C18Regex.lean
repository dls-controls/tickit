/-
C18 — the pattern matcher for the command-pattern fragment is correct with respect to the
denotational semantics of regular expressions.  Nothing in the model builds a `Cmd.matcher`
(`Core/Command.lean`) from a `Regex`: the matcher of a command stays a parameter of C18, and this
matcher meets the code in the driver's `regex` op only (compared with `re.fullmatch`).
-/
import TickitModel.Lemmas.RegexLemmas

namespace Tickit

/-- the matcher decides exactly the language of the pattern -/
theorem accepts_iff_matches (r : Regex) (s : List Char) : r.accepts s = true ↔ r.Matches s := by
  induction s generalizing r with
  | nil => exact Regex.nullable_iff r
  | cons c cs ih => rw [Regex.accepts, ih, Regex.deriv_matches]

theorem opt_matches (r : Regex) (s : List Char) : r.opt.Matches s ↔ s = [] ∨ r.Matches s := by
  simp only [Regex.opt, Regex.matches_alt_iff, Regex.matches_eps_iff]
  exact Or.comm

theorem plus_matches (r : Regex) (s : List Char) :
    r.plus.Matches s ↔ ∃ u v, s = u ++ v ∧ r.Matches u ∧ (Regex.star r).Matches v := by
  simp only [Regex.plus, Regex.matches_seq_iff]

def Regex.lit : List Char → Regex
  | [] => .eps
  | c :: cs => .seq (.chr c) (Regex.lit cs)

/-- a whole message matches a literal pattern iff it is that literal -/
theorem lit_matches (w s : List Char) : (Regex.lit w).Matches s ↔ s = w := by
  induction w generalizing s with
  | nil => simp only [Regex.lit, Regex.matches_eps_iff]
  | cons c cs ih =>
    simp only [Regex.lit, Regex.matches_seq_iff, Regex.matches_chr_iff, ih]
    constructor
    · rintro ⟨u, v, rfl, rfl, rfl⟩
      rfl
    · rintro rfl
      exact ⟨[c], cs, rfl, rfl, rfl⟩

example : (Regex.seq (Regex.lit "P=".toList) (Regex.plus (.cls [('0', '9')] false))).accepts "P=123".toList = true := by decide +kernel
example : (Regex.seq (Regex.lit "P=".toList) (Regex.plus (.cls [('0', '9')] false))).accepts "P=".toList = false := by decide +kernel
example : (Regex.seq (Regex.lit "P=".toList) (Regex.plus (.cls [('0', '9')] false))).accepts "P=12x".toList = false := by decide +kernel

end Tickit
