/-
C06 at RUN level — a callback requested for simulation time `t` is honoured: a tick occurs at
exactly `t` with the requester as a root, unless the requester is updated earlier; callbacks due at
the same instant are served by ONE tick; no tick happens at a time nobody asked for; and
(LIVENESS) under "callbacks lie strictly in the future" a pending request IS served after finitely
many ticks of every continuation.

Helper lemmas and the definitions used in the statements (`FlatExt`, `StillPending`, `FirstUpdate`,
`StrictFuture`) are in `Lemmas/CallbackLemmas.lean`.

"Unless the requester is updated earlier": an earlier update REPLACES the request if the device
asks for a new callback and KEEPS the old entry if it asks for none (`handle_message`:
`if message.call_at is not None: add_wakeup`); only being a root of a tick removes the entry.  R1
therefore speaks about the FIRST update after the request; `callback_kept_by_silent_update` is the
checked example of the kept entry, which also shows that a wakeup entry need not stem from the
LAST observation of its component (R4).  R1 needs no hypothesis on the devices, not even
`NoPastCallbacks` of C04 (the bound `< t` holds regardless).
-/
import TickitModel.Lemmas.CallbackLemmas
import TickitModel.Lemmas.TickComplete
import TickitModel.Lemmas.RouterOK

namespace Tickit

open Callback

variable {Val : Type} [DecidableEq Val]

/-- a continuation (`FlatExt`) of a run is a run. -/
theorem continuation_is_run (w : Wiring) (devs : DevSeq Val) (t0 : SimTime) (n n' : Nat)
    (st st' : FlatSt Val) (times times' : List SimTime) (hrun : FlatRun w devs t0 n st times)
    (hext : FlatExt w devs n st times n' st' times') : FlatRun w devs t0 n' st' times' := by
  exact hext.flatRun hrun

/-- every run of `n'` ticks is a continuation of its first `n ≤ n'` ticks, so quantifying over
continuations is quantifying over all longer runs with the given beginning. -/
theorem run_is_continuation (w : Wiring) (devs : DevSeq Val) (t0 : SimTime) (n n' : Nat)
    (hn : n ≤ n') (st' : FlatSt Val) (times' : List SimTime)
    (hrun : FlatRun w devs t0 n' st' times') :
    ∃ st times, FlatRun w devs t0 n st times ∧ FlatExt w devs n st times n' st' times' := by
  exact flatRun_split hrun n hn

/-! ### R1: exactness (safety) -/

/-- **R1.**  Let `c` have a pending request for `t` after a run.  For EVERY continuation exactly
one of the following holds: (i) `StillPending`: `c` has no new observation, the entry `(c, t)` is
still in `wake`, and every new tick time is `< t` (strictly: a tick at `t` would have `c` as a
root and update it); (ii) `FirstUpdate`: `c` was updated; its first new observation is at a time
`t1 ≤ t`, made by a tick at `t1` before which the request was still pending, and `c` is a root of
that tick iff `t1 = t`. -/
theorem callback_exact (w : Wiring) (hw : RouterOK w) (devs : DevSeq Val) (t0 : SimTime) (n : Nat)
    (st : FlatSt Val) (times : List SimTime) (hrun : FlatRun w devs t0 n st times)
    (c : Comp) (t : SimTime) (hc : alookup st.wake c = some t)
    (n' : Nat) (st' : FlatSt Val) (times' : List SimTime)
    (hext : FlatExt w devs n st times n' st' times') :
    (StillPending st times st' times' c t ∨ FirstUpdate w devs n st times n' st' times' c t) ∧
    ¬ (StillPending st times st' times' c t ∧ FirstUpdate w devs n st times n' st' times' c t) := by
  exact ⟨pending_or_served hw hrun hc hext, fun h => h.2.obs_ne h.1.no_new_obs⟩

/-- **never overtaken**: as long as `c` has not been updated since its request for `t`, the
request is still pending and no tick at a time `≥ t` has happened. -/
theorem callback_never_overtaken (w : Wiring) (hw : RouterOK w) (devs : DevSeq Val) (t0 : SimTime)
    (n : Nat) (st : FlatSt Val) (times : List SimTime) (hrun : FlatRun w devs t0 n st times)
    (c : Comp) (t : SimTime) (hc : alookup st.wake c = some t)
    (n' : Nat) (st' : FlatSt Val) (newT : List SimTime)
    (hext : FlatExt w devs n st times n' st' (newT ++ times))
    (hobs : st'.obsOf c = st.obsOf c) :
    alookup st'.wake c = some t ∧ ∀ m ∈ newT, m < t := by
  rcases pending_or_served hw hrun hc hext with hp | hfu
  · obtain ⟨newT', heq, hall⟩ := hp.earlier
    have : newT = newT' := List.append_cancel_right heq
    subst this
    exact ⟨hp.pending, hall⟩
  · exact absurd hobs hfu.obs_ne

/-- **the first update after a request is not late, and is "because of the request" only at
`t`**: if `c`'s first new observation in a continuation is at `t1` then `t1 ≤ t`, a tick at `t1`
is part of the continuation, and in the tick that made it `c` is a root iff `t1 = t`
(the latter is part of `FirstUpdate`, repeated here in terms of that tick). -/
theorem callback_first_update (w : Wiring) (hw : RouterOK w) (devs : DevSeq Val) (t0 : SimTime)
    (n : Nat) (st : FlatSt Val) (times : List SimTime) (hrun : FlatRun w devs t0 n st times)
    (c : Comp) (t : SimTime) (hc : alookup st.wake c = some t)
    (n' : Nat) (st' : FlatSt Val) (times' : List SimTime)
    (hext : FlatExt w devs n st times n' st' times')
    (t1 : SimTime) (given : List (Port × Val)) (rest : List (SimTime × List (Port × Val)))
    (hobs : st'.obsOf c = st.obsOf c ++ (t1, given) :: rest) :
    t1 ≤ t ∧ (∃ newT, times' = newT ++ times ∧ t1 ∈ newT) ∧
    ∃ (k : Nat) (stA stB : FlatSt Val) (timesA : List SimTime) (cs : List Comp),
      FlatExt w devs n st times k stA timesA ∧ alookup stA.wake c = some t ∧
      stA.obsOf c = st.obsOf c ∧ firstWakeups stA.wake = (cs, some t1) ∧
      TickRun w (devs (k + 1)) { stA with wake := delWakeups stA.wake cs } t1 cs stB ∧
      FlatExt w devs (k + 1) stB (t1 :: timesA) n' st' times' ∧ (c ∈ cs ↔ t1 = t) := by
  rcases pending_or_served hw hrun hc hext with hp | hfu
  · exact nomatch List.self_eq_append_right.1 (hp.no_new_obs.symm.trans hobs)
  · obtain ⟨k, stA, stB, timesA, cs, t1', given', rest', hA, hpA, hfA, htA, hB, hle, hroot, _,
      hob⟩ := hfu
    cases (List.cons.inj (List.append_cancel_left (hob.symm.trans hobs))).1
    refine ⟨hle, ?_, k, stA, stB, timesA, cs, hA, hpA.pending, hpA.no_new_obs, hfA, htA, hB, hroot⟩
    obtain ⟨n1, h1, _⟩ := hA.times_eq
    obtain ⟨n2, h2, _⟩ := hB.times_eq
    exact ⟨n2 ++ t1 :: n1, by rw [h2, h1, List.append_assoc]; rfl, List.mem_append_cons_self⟩

/-! ### R2: merging -/

/-- **R2.**  In a scheduler step (`FlatRun.tick`) at time `m`, the roots `cs` are exactly the
components whose pending request equals `m` (the minimum), and every one of them is really
updated by this ONE tick: it gets exactly one new observation, at time `m`; its request is
consumed, and its wakeup entry afterwards is what the device asked for in this update. -/
theorem callback_served_one_tick (w : Wiring) (hw : RouterOK w) (devs : DevSeq Val) (t0 : SimTime)
    (n : Nat) (st : FlatSt Val) (times : List SimTime) (hrun : FlatRun w devs t0 n st times)
    (cs : List Comp) (m : SimTime) (hf : firstWakeups st.wake = (cs, some m)) (st' : FlatSt Val)
    (htick : TickRun w (devs (n + 1)) { st with wake := delWakeups st.wake cs } m cs st') :
    (∀ c, alookup st.wake c = some m ↔ c ∈ cs) ∧ cs.Nodup ∧
    ∀ c, alookup st.wake c = some m →
      ∃ given, st'.obsOf c = st.obsOf c ++ [(m, given)] ∧ (c, m, given) ∈ st'.obs ∧
        alookup st'.wake c = ((devs (n + 1)) c m given).callAt := by
  exact step_serves hw (Det.flatRun_uniqueKeys hrun) hf htick

/-! ### R3: liveness -/

/-- under `StrictFuture` tick times strictly increase along a run (the strict form of
`time_monotone` of C04, by the same induction over `Callback.flatRun_wake_gt`). -/
theorem time_strictly_increases (w : Wiring) (devs : DevSeq Val) (hfut : StrictFuture devs)
    (t0 : SimTime) (n : Nat) (st : FlatSt Val) (times : List SimTime)
    (hrun : FlatRun w devs t0 n st times) :
    times.Pairwise (fun later earlier => earlier < later) := by
  induction hrun with
  | initial _ => exact List.pairwise_singleton _ _
  | @tick n st0 st1 times0 cs m hprev hf _ ih =>
    obtain ⟨tl, rest, rfl, _⟩ := flatRun_wake_gt hfut hprev
    have htl : tl < m := next_tick_later hfut hprev hf
    refine List.pairwise_cons.2 ⟨fun t' ht' => ?_, ih⟩
    rcases List.mem_cons.1 ht' with rfl | ht'
    · exact htl
    · exact Int.lt_trans ((List.pairwise_cons.1 ih).1 t' ht') htl

/-- **a run can always be continued while a request is pending**: the scheduler finds the next
wakeups and the tick it starts can be completed (`Callback.can_step`). -/
theorem flatRun_can_continue (w : Wiring) (hacyc : w.Acyclic) (devs : DevSeq Val) (t0 : SimTime)
    (n : Nat) (st : FlatSt Val) (times : List SimTime) (hrun : FlatRun w devs t0 n st times)
    (hne : st.wake ≠ []) : ∃ st' m, FlatRun w devs t0 (n + 1) st' (m :: times) := by
  obtain ⟨cs, m, st', hf, htick⟩ := can_step hacyc hrun hne
  exact ⟨st', m, .tick hrun hf htick⟩

/-- **R3, every continuation.**  If callbacks are requested strictly in the future and `c` has a
pending request for `t` after a run whose latest tick was at `tl`, then EVERY continuation by at
least `(t - tl).toNat` further ticks contains an update of `c` (`FirstUpdate`: at a time `≤ t`,
and at `t` itself only with `c` as a root).  (Time is an integer and strictly increases, so
`t - tl` ticks cannot all fit strictly between `tl` and `t`.) -/
theorem callback_eventually_served (w : Wiring) (hw : RouterOK w) (devs : DevSeq Val)
    (hfut : StrictFuture devs) (t0 : SimTime) (n : Nat) (st : FlatSt Val) (tl : SimTime)
    (rest : List SimTime) (hrun : FlatRun w devs t0 n st (tl :: rest))
    (c : Comp) (t : SimTime) (hc : alookup st.wake c = some t)
    (n' : Nat) (st' : FlatSt Val) (times' : List SimTime)
    (hext : FlatExt w devs n st (tl :: rest) n' st' times')
    (hlen : n + (t - tl).toNat ≤ n') :
    FirstUpdate w devs n st (tl :: rest) n' st' times' c t := by
  rcases pending_or_served hw hrun hc hext with hp | hfu
  · exfalso
    obtain ⟨_, _, hti0, hgt⟩ := flatRun_wake_gt hfut hrun
    cases hti0
    -- the facts for `omega` are stated over `Int`: it does not see through `SimTime`
    have htl : @LT.lt Int _ tl t := hgt c t hc
    obtain ⟨tl', rest', hti', hle⟩ := ext_head_ge hfut hrun hext
    -- `n' - n ≥ t - tl` further ticks bring the latest tick time to `tl' ≥ t` …
    have h1 : @LE.le Int _ (t - tl) ((n' - n : Nat) : Int) :=
      Int.le_trans (Int.self_le_toNat _) (Int.ofNat_le.2 (Nat.le_sub_of_add_le' hlen))
    have h2 : @LE.le Int _ t tl' := by
      have hle' : @LE.le Int _ (tl + ((n' - n : Nat) : Int)) tl' := hle
      omega
    -- … but it is `tl` or one of the new tick times, all of which are `< t`
    obtain ⟨newT, hti, hall⟩ := hp.earlier
    cases newT with
    | nil =>
      cases hti.symm.trans hti'
      exact Int.lt_irrefl _ (Int.lt_of_lt_of_le htl h2)
    | cons x xs =>
      cases hti.symm.trans hti'
      exact Int.lt_irrefl _ (Int.lt_of_lt_of_le (hall _ List.mem_cons_self) h2)
  · exact hfu

/-- R3 in terms of observations only: such a continuation contains a new observation of `c` at a
time `≤ t`. -/
theorem callback_eventually_observed (w : Wiring) (hw : RouterOK w) (devs : DevSeq Val)
    (hfut : StrictFuture devs) (t0 : SimTime) (n : Nat) (st : FlatSt Val) (tl : SimTime)
    (rest : List SimTime) (hrun : FlatRun w devs t0 n st (tl :: rest))
    (c : Comp) (t : SimTime) (hc : alookup st.wake c = some t)
    (n' : Nat) (st' : FlatSt Val) (times' : List SimTime)
    (hext : FlatExt w devs n st (tl :: rest) n' st' times')
    (hlen : n + (t - tl).toNat ≤ n') :
    ∃ t1 given more, st'.obsOf c = st.obsOf c ++ (t1, given) :: more ∧ t1 ≤ t ∧
      (c, t1, given) ∈ st'.obs := by
  obtain ⟨_, _, _, _, _, t1, given, more, _, _, _, _, _, hle, _, _, hob⟩ :=
    callback_eventually_served w hw devs hfut t0 n st tl rest hrun c t hc n' st' times' hext hlen
  exact ⟨t1, given, more, hob, hle,
    FlatSt.mem_obsOf.1 (hob ▸ List.mem_append_right _ List.mem_cons_self)⟩

/-- **R3, existence.**  Such a continuation exists: the run can be continued until `c` is
updated — by the tick at exactly `t` with `c` as a root, or earlier. -/
theorem callback_served_exists (w : Wiring) (hw : RouterOK w) (hacyc : w.Acyclic)
    (devs : DevSeq Val) (hfut : StrictFuture devs) (t0 : SimTime) (n : Nat) (st : FlatSt Val)
    (times : List SimTime) (hrun : FlatRun w devs t0 n st times)
    (c : Comp) (t : SimTime) (hc : alookup st.wake c = some t) :
    ∃ n' st' times', FlatExt w devs n st times n' st' times' ∧
      FirstUpdate w devs n st times n' st' times' c t := by
  obtain ⟨tl, rest, hti, _⟩ := flatRun_wake_gt hfut hrun
  subst hti
  obtain ⟨n', st', times', hext, hcase⟩ := ext_exists hw hacyc hrun hc (t - tl).toNat
  refine ⟨n', st', times', hext, ?_⟩
  rcases hcase with hn | hfu
  · exact callback_eventually_served w hw devs hfut t0 n st tl rest hrun c t hc n' st' times' hext
      (by omega)
  · exact hfu

/-! ### R4: no invented tick -/

/-- every entry `(c, m)` of the wakeups of a run state stems from an observation of `c`, made in a
tick `k ≤ n` whose device call returned `callAt = some m`; every LATER observation of `c` (the list
`post`) returned `callAt = none`.

The stronger "… which is `c`'s LAST observation" is FALSE: an update that asks for no callback
keeps the old entry (`callback_kept_by_silent_update` below is the checked counterexample); the
statement here is the strongest true variant: the entry stems from the last observation of `c`
that asked for a callback. -/
theorem wake_entry_was_requested (w : Wiring) (devs : DevSeq Val) (t0 : SimTime) (n : Nat)
    (st : FlatSt Val) (times : List SimTime) (hrun : FlatRun w devs t0 n st times)
    (c : Comp) (m : SimTime) (hm : alookup st.wake c = some m) :
    ∃ (k : Nat) (t_req : SimTime) (ins : List (Port × Val))
      (pre post : List (SimTime × List (Port × Val))),
      k ≤ n ∧ times[n - k]? = some t_req ∧ st.obsOf c = pre ++ (t_req, ins) :: post ∧
      (c, t_req, ins) ∈ st.obs ∧ ((devs k) c t_req ins).callAt = some m ∧
      ∀ o ∈ post, ∃ k', k < k' ∧ k' ≤ n ∧ times[n - k']? = some o.1 ∧
        ((devs k') c o.1 o.2).callAt = none := by
  obtain ⟨k, t_req, ins, pre, post, h1, h2, h3, h4, h5⟩ := wake_requested hrun c m hm
  exact ⟨k, t_req, ins, pre, post, h1, h2, h3,
    FlatSt.mem_obsOf.1 (h3 ▸ List.mem_append_right _ List.mem_cons_self), h4, h5⟩

/-- **R4.**  Every tick time of a run other than the initial one was requested: the tick at `m`
has a root `c` whose entry `(c, m)` was requested by an update of `c` in an earlier tick of the run
(`wake_entry_was_requested`). -/
theorem no_invented_tick (w : Wiring) (devs : DevSeq Val) (t0 : SimTime) (n : Nat)
    (st' : FlatSt Val) (m : SimTime) (times : List SimTime)
    (hrun : FlatRun w devs t0 (n + 1) st' (m :: times)) :
    ∃ (st : FlatSt Val) (cs : List Comp) (c : Comp),
      FlatRun w devs t0 n st times ∧ firstWakeups st.wake = (cs, some m) ∧
      TickRun w (devs (n + 1)) { st with wake := delWakeups st.wake cs } m cs st' ∧
      c ∈ cs ∧ alookup st.wake c = some m ∧
      ∃ (k : Nat) (t_req : SimTime) (ins : List (Port × Val)),
        k ≤ n ∧ times[n - k]? = some t_req ∧ (c, t_req, ins) ∈ st.obs ∧
        ((devs k) c t_req ins).callAt = some m := by
  cases hrun with
  | @tick _ st _ _ cs _ hprev hf htick =>
    obtain ⟨hcs, _, ⟨c, hc⟩, _⟩ := firstWakeups_spec _ (Det.flatRun_uniqueKeys hprev) cs m hf
    obtain ⟨k, t_req, ins, _, _, h1, h2, _, h4, h5, _⟩ :=
      wake_entry_was_requested w devs t0 n st times hprev c m hc
    exact ⟨st, cs, c, hprev, hf, htick, (hcs c).2 hc, hc, k, t_req, ins, h1, h2, h4, h5⟩

/-! ### non-vacuity

Device `a` (reports its update time on port `o`, callback every 2 ns) is wired into `a2`; device
`b` has a callback every 3 ns.  All callbacks are strictly in the future. -/

def exCW : Wiring := [("a", [("o", [("a2", "i")])]), ("a2", []), ("b", [])]

/-- `exCW` as the code builds it: from the inverse wiring given by the configuration. -/
def exCInv : InvWiring := [("a", []), ("a2", [("i", ("a", "o"))]), ("b", [])]

def exCDev : DevFn Int := fun c t _ =>
  if c = "a" then ⟨[("o", t)], some (t + 2)⟩
  else if c = "b" then ⟨[], some (t + 3)⟩
  else ⟨[], none⟩

theorem exCW_routerOK : RouterOK exCW :=
  routerOK_of_wf exCW (by unfold Wiring.WF DictWF akeys; decide +kernel)
    ((by decide +kernel : exCW = Wiring.fromInverse exCInv) ▸
      Wiring.oneSource_fromInverse _ (by unfold InvWiring.WF DictWF akeys; decide +kernel))

theorem exCW_acyclic : exCW.Acyclic := by
  exact Wiring.acyclic_of_rank (fun c => if c = "a2" then 1 else 0) (by decide +kernel)

theorem exCDev_strict : StrictFuture (fun _ => exCDev : DevSeq Int) := by
  intro k c t ins x h
  simp only [exCDev] at h
  split at h
  · exact Option.some.inj h ▸ Int.lt_add_of_pos_right t (by decide)
  · split at h
    · exact Option.some.inj h ▸ Int.lt_add_of_pos_right t (by decide)
    · cases h

/-- the state after the initial tick at 0 (roots `a2`, `a`, `b`) … -/
def exC0 : FlatSt Int where
  comps := [("a", ⟨[], [("o", 0)]⟩), ("b", ⟨[], []⟩), ("a2", ⟨[("i", 0)], []⟩)]
  wake := [("a", 2), ("b", 3)]
  reported := [(("a", "o"), 0)]
  obs := [("a", 0, []), ("b", 0, []), ("a2", 0, [("i", 0)])]

/-- … and after the callback tick at 2 (root `a`; `a2` is updated because its input changed) -/
def exC1 : FlatSt Int where
  comps := [("a", ⟨[], [("o", 2)]⟩), ("b", ⟨[], []⟩), ("a2", ⟨[("i", 2)], []⟩)]
  wake := [("b", 3), ("a", 4)]
  reported := [(("a", "o"), 2)]
  obs := [("a", 0, []), ("b", 0, []), ("a2", 0, [("i", 0)]), ("a", 2, []), ("a2", 2, [("i", 2)])]

/-- … and after the callback tick at 3 (root `b` only) -/
def exC2 : FlatSt Int :=
  { exC1 with wake := [("a", 4), ("b", 6)], obs := exC1.obs ++ [("b", 3, [])] }

theorem exC_tick0 : TickRun exCW exCDev {} 0 exCW.components exC0 :=
  tickRun_of_eval [0, 0, 0] (by decide +kernel)

theorem exC_tick1 :
    TickRun exCW exCDev { exC0 with wake := delWakeups exC0.wake ["a"] } 2 ["a"] exC1 :=
  tickRun_of_eval [0, 0] (by decide +kernel)

theorem exC_tick2 :
    TickRun exCW exCDev { exC1 with wake := delWakeups exC1.wake ["b"] } 3 ["b"] exC2 :=
  tickRun_of_eval [0] (by decide +kernel)

/-- the run through `exC0`, `exC1`, `exC2`.  Afterwards `a` has a pending request for 4 and `b` one
for 6. -/
theorem exC_run : ∃ st, FlatRun exCW (fun _ => exCDev) 0 2 st [3, 2, 0] ∧
    st.obsOf "a" = [(0, []), (2, [])] ∧
    st.obsOf "a2" = [(0, [("i", 0)]), (2, [("i", 2)])] ∧ st.obsOf "b" = [(0, []), (3, [])] ∧
    st.wake = [("a", 4), ("b", 6)] :=
  ⟨exC2, .tick (.tick (.initial exC_tick0) rfl exC_tick1) rfl exC_tick2, by decide +kernel⟩

/-- R1 and R3 applied to the run above and `b`'s request for 6 (latest tick at 3): in every
continuation exactly one of `StillPending`/`FirstUpdate` holds; every continuation by at least
`(6 - 3).toNat = 3` further ticks contains a new observation of `b` at a time `≤ 6`; and a
continuation in which `b` is updated exists. -/
example : ∃ st, FlatRun exCW (fun _ => exCDev) 0 2 st [3, 2, 0] ∧ alookup st.wake "b" = some 6 ∧
    (∀ n' st' times', FlatExt exCW (fun _ => exCDev) 2 st [3, 2, 0] n' st' times' →
      (StillPending st [3, 2, 0] st' times' "b" 6 ∨
        FirstUpdate exCW (fun _ => exCDev) 2 st [3, 2, 0] n' st' times' "b" 6) ∧
      ¬ (StillPending st [3, 2, 0] st' times' "b" 6 ∧
        FirstUpdate exCW (fun _ => exCDev) 2 st [3, 2, 0] n' st' times' "b" 6)) ∧
    (∀ n' st' times', FlatExt exCW (fun _ => exCDev) 2 st [3, 2, 0] n' st' times' → 5 ≤ n' →
      ∃ t1 given more, st'.obsOf "b" = st.obsOf "b" ++ (t1, given) :: more ∧ t1 ≤ 6 ∧
        ("b", t1, given) ∈ st'.obs) ∧
    (∃ n' st' times', FlatExt exCW (fun _ => exCDev) 2 st [3, 2, 0] n' st' times' ∧
      FirstUpdate exCW (fun _ => exCDev) 2 st [3, 2, 0] n' st' times' "b" 6) := by
  obtain ⟨st, hrun, _, _, _, hwk⟩ := exC_run
  have hc : alookup st.wake "b" = some 6 := by rw [hwk]; decide
  refine ⟨st, hrun, hc, ?_, ?_, ?_⟩
  · intro n' st' times' hext
    exact callback_exact exCW exCW_routerOK _ 0 2 st _ hrun "b" 6 hc n' st' times' hext
  · intro n' st' times' hext hn
    exact callback_eventually_observed exCW exCW_routerOK _ exCDev_strict 0 2 st 3 [2, 0] hrun
      "b" 6 hc n' st' times' hext hn
  · exact callback_served_exists exCW exCW_routerOK exCW_acyclic _ exCDev_strict 0 2 st _ hrun
      "b" 6 hc

/-- like `exCDev`, but `a2` asks once (at time 0) for a callback at 5 and never again. -/
def exKeepDev : DevFn Int := fun c t _ =>
  if c = "a" then ⟨[("o", t)], some (t + 2)⟩
  else if c = "a2" then ⟨[], if t = 0 then some 5 else none⟩
  else ⟨[], none⟩

/-- the run with `exKeepDev`: the state after the initial tick (`a2` asks for 5) … -/
def exK0 : FlatSt Int := { exC0 with wake := [("a", 2), ("a2", 5)] }

/-- … and after the callback tick at 2 (root `a`), in which `a2` is updated and asks for nothing -/
def exK1 : FlatSt Int := { exC1 with wake := [("a2", 5), ("a", 4)] }

theorem exK_tick0 : TickRun exCW exKeepDev {} 0 exCW.components exK0 :=
  tickRun_of_eval [0, 0, 0] (by decide +kernel)

theorem exK_tick1 :
    TickRun exCW exKeepDev { exK0 with wake := delWakeups exK0.wake ["a"] } 2 ["a"] exK1 :=
  tickRun_of_eval [0, 0] (by decide +kernel)

/-- **checked counterexample** to "a wakeup entry stems from the component's LAST observation"
(and to "an earlier update clears the request"): `a2` requests a callback for 5 in the initial
tick; the tick at 2 (root `a`) updates `a2` because its input changed, and this update asks for no
callback; afterwards the entry `(a2, 5)` is still pending although the device call of `a2`'s last
observation `(2, [("i", 2)])` returned `callAt = none` (for every tick index). -/
theorem callback_kept_by_silent_update :
    ∃ st, FlatRun exCW (fun _ => exKeepDev) 0 1 st [2, 0] ∧
      st.obsOf "a2" = [(0, [("i", 0)]), (2, [("i", 2)])] ∧ alookup st.wake "a2" = some 5 ∧
      ∀ k : Nat, (((fun _ => exKeepDev : DevSeq Int) k) "a2" 2 [("i", 2)]).callAt = none :=
  ⟨exK1, .tick (.initial exK_tick0) rfl exK_tick1, by decide +kernel, by decide +kernel,
    fun _ => (by decide +kernel : (exKeepDev "a2" 2 [("i", 2)]).callAt = none)⟩

end Tickit
