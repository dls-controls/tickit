/-
C08 / C13 at MESSAGE level — one scheduler level (a flat simulation) over the state-interface
contract, with messages in flight and participants that start late, refines the atomic model
`TickSys` of a tick (`Core/MsgFlat.lean`).

`MsgSim` is the simulation relation, `MsgSt.abs` the explicit abstraction function.  C01-C04 and
C08 for the components' reactions follow through the theorems about runs of `TickSys`
(`Lemmas/TickEqLemmas.lean`, `Props/C02`); C13 is completion: every reachable state has a
continuation that completes the tick, and a component that starts late finds its `Input` waiting.
-/
import TickitModel.Lemmas.MsgFlatLive
import TickitModel.Props.C02
import TickitModel.Props.C15
import TickitModel.Core.Flat

set_option autoImplicit false

namespace Tickit

variable {Val : Type}

/-- **Every message-level step is a stutter or one atomic step.**  A component starting, or
consuming its `Input` and producing its `Output`, is invisible to the scheduler; the scheduler
consuming an `Output` or a `Skip` is `s.step i` for the index `i` of the pending dispatch that was
answered.  For the Python code: delivering messages one at a time over any conforming bus, in any
interleaving, never makes the scheduler do anything but answer pending dispatches in some order,
which is what `TickSys` models. -/
theorem msg_step_refines (w : Wiring) (rx : MsgReact Val) (t : SimTime) (roots : List Comp)
    (m m' : MsgSt Val) (s : TickSys Val) (hs : MsgSim rx m s)
    (hr : s.Reachable w (rx.at t) t roots) (a : MsgAct)
    (h : m.step w rx t roots a = some (.ok m')) :
    MsgSim rx m' s ∨ ∃ i s', s.step w (rx.at t) i = some (.ok s') ∧ MsgSim rx m' s' :=
  hs.step hr h

/-- **Every message-level execution of a tick maps to an execution of `TickSys`.**  From an
idle bus (everything consumed; ANY set of components already started), after any sequence of
starts and deliveries: either the scheduler has not started yet — then nothing at all has been
produced or consumed — or the state is related by `MsgSim` to a reachable state of `TickSys`. -/
theorem msg_tick_refines (w : Wiring) (rx : MsgReact Val) (t : SimTime) (roots : List Comp)
    (m0 m : MsgSt Val) (h0 : m0.Idle) (h : MsgSt.Reach w rx t roots m0 m) :
    (m.Idle ∧ (∀ T, m.log T = m0.log T) ∧ (∀ T, m.cur T = m0.cur T)) ∨
      ∃ s, s.Reachable w (rx.at t) t roots ∧ MsgSim rx m s :=
  h.sim h0

/-- **The explicit abstraction function.**  `MsgSt.abs m` — the scheduler's ticker, the
dispatches in flight computed from logs and cursors (`MsgSt.inflight`), the scheduler-side
history — IS the related `TickSys` state, up to the order in which the pending dispatches are
listed (which `TickSys` does not observe: `step` takes an index). -/
theorem msg_abs_is_abstraction (w : Wiring) (rx : MsgReact Val) (t : SimTime) (roots : List Comp)
    (m : MsgSt Val) (s : TickSys Val) (hs : MsgSim rx m s) (hr : s.Reachable w (rx.at t) t roots) :
    ∃ a, m.abs = some a ∧ a.tk = s.tk ∧ a.trace = s.trace ∧ a.pending.Perm s.pending ∧
      ∀ d, d ∈ s.pending ↔ m.inflight d.comp = some d := by
  refine ⟨⟨s.tk, (akeys s.tk.toUpdate).filterMap m.inflight, m.trace⟩, by simp [MsgSt.abs, hs.tk],
    rfl, hs.trace, ?_, hs.pending_iff⟩
  show ((akeys s.tk.toUpdate).filterMap m.inflight).Perm s.pending
  have hinv := hr.inv.pre
  have hcomp : ∀ c d, m.inflight c = some d → d.comp = c ∧ d ∈ s.pending := by
    intro c d hd
    obtain ⟨o, ho, hp⟩ := hs.slot c
    rw [ho.inflight_eq] at hd
    subst hd
    exact ⟨ho.comp_eq, ((hp d).2 rfl).1⟩
  refine (List.perm_ext_iff_of_nodup ?_ ?_).2 ?_
  rotate_left 2
  · intro d
    simp only [List.mem_filterMap]
    constructor
    · rintro ⟨c, _, hd⟩; exact (hcomp c d hd).2
    · intro hd
      refine ⟨d.comp, ?_, (hs.pending_iff d).1 hd⟩
      exact mem_akeys_of_alookup_eq_some ((hinv.pend_flag d.comp).1 ⟨d, hd, rfl⟩)
  · refine List.Pairwise.filterMap _ ?_ hinv.nodup
    intro c c' hne d hd d' hd' heq
    subst heq
    exact hne ((hcomp c d hd).1.symm.trans (hcomp c' d hd').1)
  · exact List.Pairwise.of_map Dispatch.comp (fun a b hab he => hab (he ▸ rfl)) hinv.pend_nodup

/-- **Whatever holds of every `TickSys` trace holds of every message-level scheduler trace.**
The transfer principle behind the corollaries: C01–C04 are stated over `s.trace` for reachable
`s`; the scheduler-side history of any message-level execution is such a trace. -/
theorem msg_trace_transfer (w : Wiring) (rx : MsgReact Val) (t : SimTime) (roots : List Comp)
    (P : List (Ev Val) → Prop)
    (hP : ∀ s : TickSys Val, s.Reachable w (rx.at t) t roots → P s.trace)
    (hnil : P []) (m0 m : MsgSt Val) (h0 : m0.Idle) (h : MsgSt.Reach w rx t roots m0 m) :
    P m.trace := by
  rcases h.sim h0 with ⟨hI, _, _⟩ | ⟨s, hr, hs⟩
  · rw [hI.trace_eq_nil]; exact hnil
  · rw [hs.trace]; exact hP s hr

/-- **No failure.**  With roots that are components of the wiring, no message-level execution
ever makes the scheduler fail (no `KeyError`, neither `assert` of `Ticker.propagate`): an
`Output`/`Skip` that arrives is always from a component still in `to_update`, with the tick's
time. -/
theorem msg_no_failure (w : Wiring) (rx : MsgReact Val) (t : SimTime) (roots : List Comp)
    (hroots : ∀ c ∈ extent w roots, (w.ups c).isSome)
    (m0 m : MsgSt Val) (h0 : m0.Idle) (h : MsgSt.Reach w rx t roots m0 m) (a : MsgAct)
    (e : TickErr) : m.step w rx t roots a ≠ some (.error e) := by
  intro herr
  cases a with
  | startSched =>
    cases htk : m.tk with
    | some tk => simp [MsgSt.step, htk] at herr
    | none =>
      obtain ⟨m', hok⟩ := MsgSt.startSched_enabled rx t hroots htk
      rw [hok] at herr
      cases herr
  | startComp c =>
    simp only [MsgSt.step] at herr
    split at herr <;> cases herr
  | deliverIn c =>
    obtain ⟨_, _, _, hr | ⟨_, _, _, _, hr⟩⟩ := MsgSt.step_deliverIn_cases herr <;> cases hr
  | deliverOut c =>
    obtain ⟨tk, μ, htk, hμ, _⟩ := MsgSt.step_deliverOut_cases herr
    rcases h.sim h0 with ⟨hI, _, _⟩ | ⟨s, hr, hs⟩
    · rw [hI.1] at htk; cases htk
    · obtain ⟨m', hok⟩ := hs.deliverOut_ok hroots hr hμ
      rw [hok] at herr
      cases herr

/-! ### corollaries: C01 / C02 / C08 for the components' reactions -/

/-- **At most one reaction per component and tick**, in every message-level execution: what
`c` has handled is a prefix of the `Input`s sent to it, and at most one was sent (C01). -/
theorem msg_react_at_most_once (w : Wiring) (rx : MsgReact Val) (t : SimTime) (roots : List Comp)
    (m0 m : MsgSt Val) (h0 : m0.Idle) (h : MsgSt.Reach w rx t roots m0 m) (c : Comp) :
    (reactsOf c m.hist).length ≤ 1 := by
  rw [h.reactsOf_eq_take h0 c]
  exact Nat.le_trans (List.length_take_le' _ _) (length_obsOfDispatch_le _)

/-- **A component reacts only after its in-tick upstreams.**  When `c` handles its `Input`,
the scheduler has already consumed the answer of every first-order upstream of `c` that takes
part in the tick (so that upstream has reacted, or was skipped), and the `Input` that `c`
handles is the one the scheduler dispatched. -/
theorem msg_react_after_upstreams (w : Wiring) (rx : MsgReact Val) (t : SimTime)
    (roots : List Comp) (m0 m : MsgSt Val) (h0 : m0.Idle)
    (h : MsgSt.Reach w rx t roots m0 m)
    (pre post : List (MsgEv Val)) (c : Comp) (t' : SimTime) (ins : List (Port × Val))
    (hh : m.hist = pre ++ MsgEv.react c t' ins :: post) :
    MsgEv.dispatch (.input c t' ins) ∈ pre ∧ t' = t ∧
    ∀ us, w.ups c = some us → ∀ u ∈ us, u ∈ extent w roots → ∃ ch, MsgEv.answer u ch ∈ pre := by
  have hd := (h.inv h0).reactAfter pre c t' ins post hh
  rcases h.sim h0 with ⟨hI, _, _⟩ | ⟨s, hr, hs⟩
  · rw [hI.2.1] at hh; simp at hh
  · obtain ⟨p1, p2, rfl⟩ := List.append_of_mem hd
    have htr : s.trace = p1.filterMap MsgEv.toEv ++ Ev.dispatch (.input c t' ins) ::
        (p2 ++ MsgEv.react c t' ins :: post).filterMap MsgEv.toEv := by
      rw [← hs.trace, MsgSt.trace, hh]
      simp [List.filterMap_append, MsgEv.toEv]
    refine ⟨hd, ?_, fun us hus u hu hext => ?_⟩
    · have := (hr.inv.pre.disp_ext (.input c t' ins) (by rw [htr]; simp)).2
      exact this
    · obtain ⟨ch, hch⟩ := hr.inv.pre.order _ _ _ htr us hus u hu hext
      obtain ⟨x, hx, he⟩ := List.mem_filterMap.1 hch
      have hxa : x = .answer u ch := MsgEv.eq_of_toEv he
      exact ⟨ch, List.mem_append_left _ (hxa ▸ hx)⟩

/-- in a complete message-level tick nothing is in flight: every log is consumed. -/
theorem msg_complete_all_consumed (w : Wiring) (rx : MsgReact Val) (t : SimTime)
    (roots : List Comp) (m : MsgSt Val) (s : TickSys Val) (hs : MsgSim rx m s)
    (hr : s.Reachable w (rx.at t) t roots) (hc : s.tk.toUpdate = []) (c : Comp) :
    m.cur (.inT c) = (m.log (.inT c)).length ∧ m.cur (.outT c) = (m.log (.outT c)).length :=
  msg_complete_all_consumed' w rx t roots m s hs hr hc c

/-- **In a complete tick every component has observed exactly what its dispatch prescribes**:
a component that was sent `Input(t, ins)` has handled `(t, ins)` exactly once, a skipped or
untouched component has handled nothing — whatever the interleaving and the start order. -/
theorem msg_observations_exact (w : Wiring) (rx : MsgReact Val) (t : SimTime) (roots : List Comp)
    (m0 m : MsgSt Val) (h0 : m0.Idle) (h : MsgSt.Reach w rx t roots m0 m) (hc : m.Complete)
    (c : Comp) : reactsOf c m.hist = obsOfDispatch (dispatchOf m.trace c) :=
  msg_observations_exact' w rx t roots m0 m h0 h hc c

theorem Dispatch.Equiv.obsEq {d1 d2 : Dispatch Val} (h : d1.Equiv d2) :
    ObsEq (obsOfDispatch (some d1)) (obsOfDispatch (some d2)) := by
  cases d1 <;> cases d2
  · exact ⟨h.2.1, h.2.2, trivial⟩
  · exact h.elim
  · exact h.elim
  · trivial

/-- **C08 at message level: the observations of a tick do not depend on message timing or on
the start order.**  Two complete message-level executions of the same tick — any two
interleavings of deliveries, any two sets of components started before the scheduler, any
two start delays of the others — give every component the same dispatch and hence the same
observation `(time, inputs)` (inputs compared as mappings). -/
theorem msg_tick_deterministic (w : Wiring) (hw : RouterOK w) (hacyc : w.Acyclic)
    (rx : MsgReact Val) (t : SimTime) (hrw : ReactWF (rx.at t)) (hext : ReactExt (rx.at t))
    (roots : List Comp) (m01 m02 m1 m2 : MsgSt Val)
    (h01 : m01.Idle) (h02 : m02.Idle)
    (h1 : MsgSt.Reach w rx t roots m01 m1) (h2 : MsgSt.Reach w rx t roots m02 m2)
    (hc1 : m1.Complete) (hc2 : m2.Complete) (c : Comp) :
    ObsEq (reactsOf c m1.hist) (reactsOf c m2.hist) := by
  obtain ⟨s1, hr1, hs1, hn1⟩ := hc1.sim h01 h1
  obtain ⟨s2, hr2, hs2, hn2⟩ := hc2.sim h02 h2
  rw [msg_observations_exact w rx t roots m01 m1 h01 h1 hc1 c,
    msg_observations_exact w rx t roots m02 m2 h02 h2 hc2 c, hs1.trace, hs2.trace]
  have := tick_deterministic w hw hacyc (rx.at t) hrw hext t roots s1 s2 hr1 hr2 hn1 hn2 c
  cases hd1 : dispatchOf s1.trace c <;> cases hd2 : dispatchOf s2.trace c <;> rw [hd1, hd2] at this
  · trivial
  · exact False.elim this
  · exact False.elim this
  · exact Dispatch.Equiv.obsEq this

/-! ## completion (C13) -/

/-- **Every message-level tick can be completed** (C13, C01): on an acyclic wiring, from every
state that any interleaving of starts and deliveries can reach — whatever subset of the
participants has started so far — there is a continuation (start the scheduler if it has not
started, start a component when its `Input` waits, deliver what is in flight) after which the
tick is complete; everything that happened so far stays a prefix of the history. -/
theorem msg_tick_can_complete (w : Wiring) (hacyc : w.Acyclic) (rx : MsgReact Val) (t : SimTime)
    (roots : List Comp) (hroots : ∀ c ∈ extent w roots, (w.ups c).isSome)
    (m0 m : MsgSt Val) (h0 : m0.Idle) (h : MsgSt.Reach w rx t roots m0 m) :
    ∃ acts m', MsgSt.run w rx t roots m acts = some m' ∧ m'.Complete ∧
      MsgSt.Reach w rx t roots m0 m' ∧ ∃ post, m'.hist = m.hist ++ post :=
  msg_tick_can_complete' w hacyc rx t roots hroots m0 m h0 h

/-- **A tick cannot complete while a component that takes part has not started; its `Input`
waits in the log.**  If the scheduler has dispatched an `Input` to `c` and `c` has not started,
then the tick is not complete, `c` has handled nothing, and that very `Input` is the next
message `c` will be delivered once it subscribes (replay from the beginning of what it has
not consumed). -/
theorem msg_not_complete_while_unstarted (w : Wiring) (rx : MsgReact Val) (t : SimTime)
    (roots : List Comp) (m0 m : MsgSt Val) (h0 : m0.Idle)
    (h : MsgSt.Reach w rx t roots m0 m) (c : Comp) (t' : SimTime) (ins : List (Port × Val))
    (hns : c ∉ m.started) (hd : Ev.dispatch (.input c t' ins) ∈ m.trace) :
    ¬ m.Complete ∧ reactsOf c m.hist = [] ∧ m.next (.inT c) = some (.disp (.input c t' ins)) := by
  have hinv := h.inv h0
  have hcur : m.cur (.inT c) = (m0.log (.inT c)).length := by
    rw [hinv.notStarted c hns]; exact h0.2.2 _
  have hre : reactsOf c m.hist = [] := by
    rw [h.reactsOf_eq_take h0 c, hcur, Nat.sub_self]; rfl
  have hcount := h.dispatch_count h0 c
  have hdo : dispatchOf m.trace c = some (.input c t' ins) :=
    dispatchOf_eq_of_mem (d := .input c t' ins) hcount hd
  have hnext : m.next (.inT c) = some (.disp (.input c t' ins)) := by
    have hin : inputsTo c m.trace = [.disp (.input c t' ins)] := by
      rw [inputsTo_eq_map_obs hcount, hdo]; rfl
    simp [MsgSt.next, hinv.inLog c, hin, hcur]
  refine ⟨fun hc => ?_, hre, hnext⟩
  obtain ⟨s, hr, hs, hnil⟩ := hc.sim h0 h
  rw [MsgSt.next_eq_none (msg_complete_all_consumed w rx t roots m s hs hr hnil c).1] at hnext
  cases hnext

/-- **Once started, a component receives its `Input` exactly once.**  In every state a
component has handled at most one `Input`; in every complete tick a component that was sent
`Input(t', ins)` — whether it started before the scheduler, before the `Input` was produced,
or any number of steps after — has handled exactly `[(t', ins)]`. -/
theorem msg_input_exactly_once (w : Wiring) (rx : MsgReact Val) (t : SimTime) (roots : List Comp)
    (m0 m : MsgSt Val) (h0 : m0.Idle) (h : MsgSt.Reach w rx t roots m0 m) (c : Comp) :
    (reactsOf c m.hist).length ≤ 1 ∧
    (m.Complete → ∀ t' ins, Ev.dispatch (.input c t' ins) ∈ m.trace →
      reactsOf c m.hist = [(t', ins)] ∧ c ∈ m.started) := by
  refine ⟨msg_react_at_most_once w rx t roots m0 m h0 h c, fun hc t' ins hd => ⟨?_, ?_⟩⟩
  · have hdo : dispatchOf m.trace c = some (.input c t' ins) :=
      dispatchOf_eq_of_mem (d := .input c t' ins) (h.dispatch_count h0 c) hd
    rw [msg_observations_exact w rx t roots m0 m h0 h hc c, hdo]; rfl
  · exact Classical.byContradiction fun hns =>
      (msg_not_complete_while_unstarted w rx t roots m0 m h0 h c t' ins hns hd).1 hc

/-- in a complete tick every root was sent an `Input`: a root is never skipped (C02).  (`hcomp`
follows from `hroot`: `mem_extent_of_mem_roots`.)  For the initial tick, where all components are roots, the two
theorems above then say that it completes only when every component has started, and that each
handles its `Input` exactly once. -/
theorem msg_root_gets_input (w : Wiring) (hw : RouterOK w) (rx : MsgReact Val)
    (t : SimTime) (hrw : ReactWF (rx.at t)) (roots : List Comp)
    (m0 m : MsgSt Val) (h0 : m0.Idle) (h : MsgSt.Reach w rx t roots m0 m) (hc : m.Complete)
    (c : Comp) (hroot : c ∈ roots) (hcomp : c ∈ extent w roots) :
    ∃ ins, Ev.dispatch (.input c t ins) ∈ m.trace := by
  obtain ⟨s, hr, hs, hnil⟩ := hc.sim h0 h
  rw [hs.trace]
  cases hd : dispatchOf s.trace c with
  | none =>
    exact absurd hcomp ((dispatchOf_eq_none_iff_of_complete hr hnil c).1 hd)
  | some d =>
    obtain ⟨hmem, hdc⟩ := dispatchOf_eq_some hd
    obtain ⟨pre, post, htr⟩ := List.append_of_mem hmem
    have := (input_iff_root_or_changed w hw (rx.at t) hrw t roots s hr pre post d htr).2
      (Or.inl (hdc ▸ hroot))
    obtain ⟨ins, hins⟩ := this
    rw [hdc] at hins
    exact ⟨ins, hins ▸ hmem⟩

theorem MsgSt.cur_contract_of_advance {m m1 : MsgSt Val} {T0 T : MsgTopic}
    (h1 : m1.cur T = (m.advance T0).cur T) (hlt : m.cur T0 < (m.log T0).length)
    (hin : ∀ c, T0 = .inT c → c ∈ m.started) (hout : ∀ c, T0 = .outT c → m.tk ≠ none) :
    (m1.cur T = m.cur T ∨ (m1.cur T = m.cur T + 1 ∧ m.cur T < (m.log T).length)) ∧
    (∀ c, T = .inT c → m1.cur T ≠ m.cur T → c ∈ m.started) ∧
    (∀ c, T = .outT c → m1.cur T ≠ m.cur T → m.tk ≠ none) := by
  rw [h1, MsgSt.cur_advance]
  by_cases hT : T0 = T
  · subst hT
    rw [if_pos rfl]
    exact ⟨Or.inr ⟨rfl, hlt⟩, fun c hc _ => hin c hc, fun c hc _ => hout c hc⟩
  · rw [if_neg hT]
    exact ⟨Or.inl rfl, fun _ _ h => absurd rfl h, fun _ _ h => absurd rfl h⟩

/-- **The bus of the model keeps the rules of the state-interface contract** (those that
`CBus.step` of `Core/Contract.lean` builds in, stated here for the logs, cursors and `started` of
`MsgSt`; the two models are not linked by a theorem): in every step, every
topic's log only grows at its end; every cursor stays or moves over exactly one existing
message; the cursor of `in c` moves only if component `c` has started (subscribed), the cursor
of `out c` only if the scheduler has started; nobody un-starts.  (Messages produced before a
consumer started are therefore still in front of its cursor: replay.) -/
theorem msg_bus_contract (w : Wiring) (rx : MsgReact Val) (t : SimTime) (roots : List Comp)
    (m m' : MsgSt Val) (a : MsgAct) (h : m.step w rx t roots a = some (.ok m')) (T : MsgTopic) :
    (∃ ext, m'.log T = m.log T ++ ext) ∧
    (m'.cur T = m.cur T ∨ (m'.cur T = m.cur T + 1 ∧ m.cur T < (m.log T).length)) ∧
    (∀ c, T = .inT c → m'.cur T ≠ m.cur T → c ∈ m.started) ∧
    (∀ c, T = .outT c → m'.cur T ≠ m.cur T → m.tk ≠ none) ∧
    (∀ c, c ∈ m.started → c ∈ m'.started) := by
  cases a with
  | startSched =>
    obtain ⟨_, r, _, rfl⟩ := MsgSt.step_startSched_ok h
    have hcur : ((m.setTk r.1).sendAll r.2).cur T = m.cur T := MsgSt.cur_sendAll _ _ _
    exact ⟨⟨_, MsgSt.log_sendAll _ _ _⟩, Or.inl hcur, fun _ _ hne => absurd hcur hne,
      fun _ _ hne => absurd hcur hne, fun c hc => (MsgSt.started_sendAll _ _).symm ▸ hc⟩
  | startComp c =>
    obtain ⟨_, rfl⟩ := MsgSt.step_startComp_ok h
    exact ⟨⟨[], (List.append_nil _).symm⟩, Or.inl rfl, fun _ _ hne => absurd rfl hne,
      fun _ _ hne => absurd rfl hne, fun c' hc' => List.mem_cons_of_mem _ hc'⟩
  | deliverIn c =>
    obtain ⟨hc, μ, hμ, hr⟩ := MsgSt.step_deliverIn_cases h
    have hcur := fun m1 h1 => MsgSt.cur_contract_of_advance (m := m) (m1 := m1) (T0 := .inT c)
      (T := T) h1 (MsgSt.cur_lt_of_next hμ) (fun c' hc' => by cases hc'; exact hc)
      (fun c' hc' => by cases hc')
    rcases hr with hr | ⟨_, t', ins, _, hr⟩ <;> cases hr
    · exact ⟨⟨[], (List.append_nil _).symm⟩, (hcur _ rfl).1, (hcur _ rfl).2.1, (hcur _ rfl).2.2,
        fun _ h => h⟩
    · refine ⟨?_, (hcur _ rfl).1, (hcur _ rfl).2.1, (hcur _ rfl).2.2, fun _ h => h⟩
      rw [MsgSt.log_record, MsgSt.log_produce]
      by_cases hT : MsgTopic.outT c = T
      · subst hT; rw [if_pos rfl]; exact ⟨_, rfl⟩
      · rw [if_neg hT]; exact ⟨[], (List.append_nil _).symm⟩
  | deliverOut c =>
    obtain ⟨tk, μ, htk, hμ, hr⟩ := MsgSt.step_deliverOut_ok h
    have hcur := fun m1 h1 => MsgSt.cur_contract_of_advance (m := m) (m1 := m1) (T0 := .outT c)
      (T := T) h1 (MsgSt.cur_lt_of_next hμ) (fun c' hc' => by cases hc')
      (fun c' hc' => by rw [htk]; exact Option.some_ne_none tk)
    rcases hr with ⟨src, ch, ca, r, hm'⟩ | rfl
    · have h1 := hcur m' (by rw [hm', MsgSt.cur_noteWakeup, MsgSt.cur_sendAll]; rfl)
      subst hm'
      exact ⟨⟨_, by rw [MsgSt.log_noteWakeup, MsgSt.log_sendAll]; rfl⟩, h1.1, h1.2.1, h1.2.2,
        fun c' hc' => by rw [MsgSt.started_noteWakeup, MsgSt.started_sendAll]; exact hc'⟩
    · exact ⟨⟨[], (List.append_nil _).symm⟩, (hcur _ rfl).1, (hcur _ rfl).2.1, (hcur _ rfl).2.2,
        fun _ h => h⟩

/-- the names of the topics in the code -/
def MsgTopic.name : MsgTopic → Topic
  | .inT c => inputTopic c
  | .outT c => outputTopic c

/-- the model's topics are the code's topics: distinct model topics have distinct names
(`topic_injective`, re-checked against the topic-naming functions of the code on every run). -/
theorem msgTopic_name_injective (T T' : MsgTopic) (h : T.name = T'.name) : T = T' := by
  cases T with
  | inT a =>
    cases T' with
    | inT b =>
      by_cases hab : a = b
      · rw [hab]
      · exact absurd h (topic_injective a b hab).1
    | outT b => exact absurd h (topic_in_ne_out a b)
  | outT a =>
    cases T' with
    | inT b => exact absurd h.symm (topic_in_ne_out b a)
    | outT b =>
      by_cases hab : a = b
      · rw [hab]
      · exact absurd h (topic_injective a b hab).2.1

/-! ## non-vacuity: three components, `a` feeds `b` and `c`; the initial tick (all are roots) -/

theorem MsgSt.idle_empty {Val : Type} : ({} : MsgSt Val).Idle :=
  ⟨rfl, rfl, fun _ => rfl⟩

def msgW3 : Wiring := [("a", [("o", [("b", "i"), ("c", "i")])]), ("b", []), ("c", [])]

/-- `a` reports 7 and asks to be called back at 100; `b` and `c` report the sum of what they are
given plus one. -/
def msgR3 : MsgReact Nat := fun c _ ins =>
  if c = "a" then ([("o", 7)], some 100) else ([("o", (ins.map (·.2)).sum + 1)], none)

/-- the scheduler starts first, every component starts just before it is needed. -/
def msgActs1 : List MsgAct :=
  [.startSched, .startComp "a", .deliverIn "a", .deliverOut "a", .startComp "b", .startComp "c",
   .deliverIn "b", .deliverOut "b", .deliverIn "c", .deliverOut "c"]

/-- `b` and `a` start before the scheduler; `c` starts LATE: its `Input` is produced (and the
answer of `b` is consumed) while it has not subscribed. -/
def msgActs2 : List MsgAct :=
  [.startComp "b", .startComp "a", .startSched, .deliverIn "a", .deliverOut "a", .deliverIn "b",
   .deliverOut "b", .startComp "c", .deliverIn "c", .deliverOut "c"]

/-- everybody starts first; `b` and `c` react concurrently and `c`'s answer overtakes `b`'s. -/
def msgActs3 : List MsgAct :=
  [.startComp "b", .startComp "a", .startComp "c", .startSched, .deliverIn "a", .deliverOut "a",
   .deliverIn "b", .deliverIn "c", .deliverOut "c", .deliverOut "b"]

/-- the hypotheses of the theorems hold for the example -/
example : ∀ c ∈ extent msgW3 ["a", "b", "c"], (msgW3.ups c).isSome := by decide +kernel

theorem msgW3_acyclic : msgW3.Acyclic :=
  Wiring.acyclic_of_rank (fun c => if c = "a" then 0 else 1) (by decide +kernel)

example : msgW3.Acyclic := msgW3_acyclic

example : ReactWF (msgR3.at 0) := by
  intro c ins; unfold MsgReact.at msgR3; split <;> simp [akeys]

/-- interleaving 1 is an execution, completes the tick, and maps (by `MsgSt.abs`) to the
`TickSys` run that answers `a`, `b`, `c` in this order; `c` observed `(0, {i: 7})`. -/
example : ∃ m s, MsgSt.run msgW3 msgR3 0 ["a", "b", "c"] {} msgActs1 = some m ∧ m.Complete ∧
    s.Reachable msgW3 (msgR3.at 0) 0 ["a", "b", "c"] ∧ m.abs = some s ∧
    reactsOf "c" m.hist = [(0, [("i", 7)])] :=
  ⟨_, _, rfl, ⟨_, rfl, rfl⟩,
    .step (i := 0) (.step (i := 0) (.step (i := 0) (.init rfl) rfl) rfl) rfl, rfl, rfl⟩

/-- interleaving 2 (late `c`) is an execution and maps to the same `TickSys` run. -/
example : ∃ m s, MsgSt.run msgW3 msgR3 0 ["a", "b", "c"] {} msgActs2 = some m ∧ m.Complete ∧
    s.Reachable msgW3 (msgR3.at 0) 0 ["a", "b", "c"] ∧ m.abs = some s ∧
    reactsOf "c" m.hist = [(0, [("i", 7)])] :=
  ⟨_, _, rfl, ⟨_, rfl, rfl⟩,
    .step (i := 0) (.step (i := 0) (.step (i := 0) (.init rfl) rfl) rfl) rfl, rfl, rfl⟩

/-- interleaving 3 maps to a DIFFERENT `TickSys` run (answers `a`, `c`, `b`); the observations
are the same. -/
example : ∃ m s, MsgSt.run msgW3 msgR3 0 ["a", "b", "c"] {} msgActs3 = some m ∧ m.Complete ∧
    s.Reachable msgW3 (msgR3.at 0) 0 ["a", "b", "c"] ∧ m.abs = some s ∧
    reactsOf "c" m.hist = [(0, [("i", 7)])] ∧ reactsOf "b" m.hist = [(0, [("i", 7)])] :=
  ⟨_, _, rfl, ⟨_, rfl, rfl⟩,
    .step (i := 0) (.step (i := 1) (.step (i := 0) (.init rfl) rfl) rfl) rfl, rfl, rfl, rfl⟩

/-- in the middle of interleaving 2 (`c` not started yet, `a` and `b` done): the tick is not
complete, the `Input` of `c` waits in its log (hypotheses and conclusion of
`msg_not_complete_while_unstarted`), and the state maps to the `TickSys` state in which `c` is
the only pending dispatch. -/
example : ∃ m, MsgSt.run msgW3 msgR3 0 ["a", "b", "c"] {} (msgActs2.take 7) = some m ∧
    m.started = ["a", "b"] ∧
    m.trace = [.dispatch (.input "a" 0 []), .answer "a" [("o", 7)],
      .dispatch (.input "b" 0 [("i", 7)]), .dispatch (.input "c" 0 [("i", 7)]),
      .answer "b" [("o", 8)]] ∧
    m.next (.inT "c") = some (.disp (.input "c" 0 [("i", 7)])) ∧
    m.inflight "c" = some (.input "c" 0 [("i", 7)]) ∧
    (m.abs.map (·.pending)) = some [.input "c" 0 [("i", 7)]] :=
  ⟨_, rfl, rfl, rfl, rfl, rfl, rfl⟩

/-- a tick in which `b` and `c` are SKIPPED (root `a` reports no change) completes although
`b` and `c` never start: a `Skip` is produced and consumed by the scheduler itself. -/
example : ∃ m, MsgSt.run msgW3 (fun _ _ _ => (([] : List (Port × Nat)), none)) 5 ["a"] {}
      [.startSched, .startComp "a", .deliverIn "a", .deliverOut "a", .deliverOut "c",
       .deliverOut "b"] = some m ∧
    m.Complete ∧ m.started = ["a"] ∧ reactsOf "b" m.hist = [] := by
  decide +kernel

/-- the runs above are `Reach`able states from the empty (idle) bus. -/
example (m : MsgSt Nat) (h : MsgSt.run msgW3 msgR3 0 ["a", "b", "c"] {} msgActs2 = some m) :
    MsgSt.Reach msgW3 msgR3 0 ["a", "b", "c"] {} m :=
  MsgSt.Reach.run .init h

end Tickit
