/-
C07, run level, ARBITRARY PROCESSING COSTS — every interrupt is served promptly.

The model: `Core/SimCost.lean` (`masterInitialC` / `masterRunC`): the master loop of
`tickit/core/management/schedulers/master.py` with pacing, nested schedulers at any depth below the
master, external stimuli (interrupts) between ticks AND in the middle of a tick, the k-th tick
taking `cost k` ns of real time for an ARBITRARY `cost : Nat → Nat`.  Speed = `sp.num / sp.den`.

    async def schedule_interrupt(self, source):
        when = SimTime(self.ticker.time + int((time_ns() - self.last_time) * self.simulation_speed))
        pending = self.wakeups.get(source)
        if pending is not None and pending < when:
            when = pending                      # an earlier wakeup of `source` is kept
        self._pending_interrupts.setdefault(source, when)
        self.add_wakeup(source, when)           # sets `new_wakeup`: the sleep is computed afresh

    async def _do_tick(self):
        ...
        components, when = self.get_first_wakeups()      # the EARLIEST wakeups: one tick for all of them
        for component in components:
            del self.wakeups[component]
        self.last_time = time_ns()                       # start of the tick
        await self.ticker(when, {component for component in components})
        self.last_time = time_ns()                       # end of the tick

Every handled stimulus `ev` is an element of the log
`initLogC … ++ runLogC …` (`Lemmas/CostRun.lean`): `ev.st` the stimulus, `ev.top` the top-level
component the master sees interrupting (the component itself, or the outermost system component
that contains it), `ev.now` the real time at which it is handled, `ev.stamp` the simulation time
stamped on it, `ev.when ≤ ev.stamp` the wakeup written for `ev.top`, `ev.k` the number of tick
records written so far (`ticks[ev.k - 1]` is the last tick started before the stimulus — the tick
IN PROGRESS if `ev.mid` —, `ticks[ev.k]` the next one).

* S  `c07C_served_or_pending` — NEVER LOST, NEVER OVERTAKEN: for every handled stimulus, EITHER
  there is a first tick record `x = ticks[j]`, `j ≥ ev.k`, that SERVES it (`ServedAt`): `x.time ≤
  ev.when ≤ ev.stamp`, `ev.top` is one of its roots (or `ev.top` is wired downstream of one of its
  roots and has replaced the wakeup by its answer, see below), every tick record in between is for
  a simulation time strictly before `ev.when` (no LATER callback is served first), and a device
  `ev.top` has been updated in tick `j` (a new observation at `x.time`, appended after the
  stimulus was handled); OR the wakeup is still pending in the final state of the run and all
  later ticks were for strictly earlier times.
  `c07C_served` — the second case is excluded when the run is long enough: fewer than `nTicks`
  ticks and fewer than `steps` iterations used (`c07C_run_complete`: then no wakeup is left);
  `c07C_served_of_reached` — or, for simulations that never run out of wakeups, when some tick
  record after the stimulus is for a time `≥ ev.when`.
  `c07C_served_root` — if `ev.top` is wired downstream of no other top-level component, the serving
  tick has `ev.top` among its ROOTS.
* P  promptness (in the same theorem, `PromptAt`):
  - a stimulus handled BETWEEN ticks at `ev.now`: the next tick starts AT `ev.now`;
  - a stimulus handled in the MIDDLE of tick `z = ticks[ev.k-1]` (started `z.real`, cost `c`):
    the next tick starts no later than `z.real + c + sleepFor (ev.when - z.time)`, exactly then if it
    is the tick for `ev.when`, and `sleepFor (ev.when - z.time) ≤ ev.now - z.real < c`: the extra
    delay beyond the end of the tick in progress is at most the part of that tick that had elapsed
    when the interrupt was raised, hence less than its duration (`c07C_mid_gap`);
  - every tick in between (an earlier wakeup served first) delays the serving tick by its cost
    plus the sleep for the simulated time that separates it from `ev.when`:
    `ticks[i+1].real ≤ ticks[i].real + cost i + sleepFor (ev.when - ticks[i].time)`; summed up:
    `x.real ≤ (first tick bound) + Σ_{ev.k ≤ i < j} (cost i + sleepFor (ev.when - ticks[i].time))`.
  `sleepFor Δ = max 0 ⌈Δ·den/num⌉` is the sleep the code computes for `Δ` ns of simulation time at
  the end of a tick.  All these bounds are attained (examples at the end).
* K  coalescing (same theorem; `c07C_coalesce`): every later stimulus of the same top-level
  component handled before the serving tick `j` (`ev'.k ≤ j`) is served by the SAME tick record.

What "serves" means in THIS model, and why the second alternative of `ServesC` (as `PendC` of the
statements, defined in `Lemmas/C07CostRun.lean`) is there: the tick
of `Core/Sim.lean` writes the answer of a component with plain `add_wakeup` (`wakeups[c] = call_at`);
the guard `_pending_interrupts` of `MasterScheduler.add_wakeup` is not part of it.  So when a tick
for an EARLIER time updates `ev.top` as a dependant of one of its roots and `ev.top` answers with a
callback request, that request replaces the pending interrupt wakeup in the model (in the code
the smaller of the two is kept).  In that case `ev.top` has been updated after the interrupt was
raised, in a tick for a time `< ev.when` — which is what C07 asks for — but it was not a root.
`c07C_served_root` excludes the case by a hypothesis on the wiring.
-/
import TickitModel.Lemmas.C07CostRun
import TickitModel.Props.C12Cost

namespace Tickit

open Pacing TimeMono CostRun

/-- tick record `x = ticks[j]` serves the handled stimulus `ev` (`ServesC`, for the wakeup of
`ev.top`); every tick record between the stimulus and `x` is for a time strictly before `ev.when`
and does not have `ev.top` among its roots. -/
structure CostRun.StimEvC.ServedAt (S : Static) (fuel : Nat) (sp : Speed) (L : Level)
    (ticks : List TickRec) (ev : StimEvC) (j : Nat) (x : TickRec) : Prop where
  idx : ev.k ≤ j ∧ ticks[j]? = some x
  serves : ServesC L (ev.top S fuel) (ev.when S fuel sp) x
  not_after_stamp : x.time ≤ ev.stamp sp
  between : ∀ i y, ev.k ≤ i → i < j → ticks[i]? = some y →
    y.time < ev.when S fuel sp ∧ y.time < ev.stamp sp ∧ ev.top S fuel ∉ y.roots

/-- `Σ_{k ≤ i < k+n} (cost i + sleepFor (B - ticks[i].time))` -/
def delayBetween (sp : Speed) (cost : Nat → Nat) (B : SimTime) (ticks : List TickRec) (k : Nat) :
    Nat → Int
  | 0 => 0
  | n + 1 => delayBetween sp cost B ticks k n +
      (match ticks[k + n]? with
        | some y => (cost (k + n) : Int) + sleepFor sp (B - y.time)
        | none => 0)

/-- how promptly the serving tick `x = ticks[j]` of the handled stimulus `ev` is started. -/
structure CostRun.StimEvC.PromptAt (S : Static) (fuel : Nat) (sp : Speed) (cost : Nat → Nat)
    (ticks : List TickRec) (ev : StimEvC) (j : Nat) (x : TickRec) : Prop where
  /-- a stimulus handled between ticks: the next tick starts at the very real time `ev.now` -/
  first_between : ev.mid = false → ∀ x0, ticks[ev.k]? = some x0 → x0.real = ev.now
  /-- a stimulus handled in the middle of tick `z`: the next tick starts when `z` has ended, no
  later than the sleep for `ev.when - z.time` after that, exactly then if it is the tick for
  `ev.when` -/
  first_mid : ev.mid = true → ∀ z x0, ticks[ev.k - 1]? = some z → ticks[ev.k]? = some x0 →
    z.real + cost (ev.k - 1) ≤ x0.real ∧
    x0.real ≤ z.real + cost (ev.k - 1) + sleepFor sp (ev.when S fuel sp - z.time) ∧
    (x0.time = ev.when S fuel sp →
      x0.real = z.real + cost (ev.k - 1) + sleepFor sp (ev.when S fuel sp - z.time))
  /-- every tick served first delays the next one by its cost plus the sleep for the simulated
  time that separates it from `ev.when`, and by nothing else -/
  chain : ∀ i y b, ev.k ≤ i → i < j → ticks[i]? = some y → ticks[i + 1]? = some b →
    y.real + cost i ≤ b.real ∧ b.real ≤ y.real + cost i + sleepFor sp (ev.when S fuel sp - y.time)
  /-- summed up, between ticks -/
  total_between : ev.mid = false → ev.now ≤ x.real ∧
    x.real ≤ ev.now + delayBetween sp cost (ev.when S fuel sp) ticks ev.k (j - ev.k)
  /-- summed up, mid-tick -/
  total_mid : ev.mid = true → ∀ z, ticks[ev.k - 1]? = some z →
    z.real + cost (ev.k - 1) ≤ x.real ∧
    x.real ≤ z.real + cost (ev.k - 1) + sleepFor sp (ev.when S fuel sp - z.time) +
      delayBetween sp cost (ev.when S fuel sp) ticks ev.k (j - ev.k)
  /-- the serving tick begins after the interrupt was raised (and handled) -/
  after : ev.st.real ≤ ev.now ∧ ev.now ≤ x.real

theorem CostRun.ServedFrom.servedAt {S : Static} {fuel : Nat} {sp : Speed} {L : Level}
    {cost : Nat → Nat} {ticks : List TickRec} {ev : StimEvC} {j : Nat} {x : TickRec}
    (h : ServedFrom L sp cost ticks (ev.top S fuel) (ev.when S fuel sp) ev.k j x) :
    ev.ServedAt S fuel sp L ticks j x :=
  have hws : ev.when S fuel sp ≤ ev.stamp sp := stimWhen_le_stamp _ _ _
  ⟨h.idx, h.serves, Int.le_trans h.serves.1 hws, fun i y hi hij hy =>
    have hw := h.waits i y hi hij hy
    ⟨hw.1, Int.lt_of_lt_of_le hw.1 hws, hw.2.1⟩⟩

theorem delay_telescope (sp : Speed) (cost : Nat → Nat) (B : SimTime) (ticks : List TickRec)
    (k j : Nat)
    (hchain : ∀ i y b, k ≤ i → i < j → ticks[i]? = some y → ticks[i + 1]? = some b →
      y.real + cost i ≤ b.real ∧ b.real ≤ y.real + cost i + sleepFor sp (B - y.time)) :
    ∀ n a b, k + n ≤ j → ticks[k]? = some a → ticks[k + n]? = some b →
      a.real ≤ b.real ∧ b.real ≤ a.real + delayBetween sp cost B ticks k n := by
  intro n
  induction n with
  | zero =>
    intro a b _ ha hb
    rw [Nat.add_zero, ha] at hb
    cases hb
    exact ⟨Int.le_refl _, Int.le_of_eq (Int.add_zero _).symm⟩
  | succ n ih =>
    intro a b hle ha hb
    obtain ⟨y, hy⟩ : ∃ y, ticks[k + n]? = some y :=
      ⟨_, List.getElem?_eq_getElem (Nat.lt_of_succ_lt (List.getElem?_eq_some_iff.1 hb).1)⟩
    obtain ⟨i1, i2⟩ := ih a y (Nat.le_of_succ_le hle) ha hy
    obtain ⟨c1, c2⟩ := hchain (k + n) y b (Nat.le_add_right k n) hle hy hb
    rw [delayBetween, hy]
    simp only []
    exact ⟨by omega, by omega⟩

/-- **the first tick after a stimulus.**  For every handled stimulus `ev` and the next tick record
`x0 = ticks[ev.k]` (if there is one): it is for a time `≤ ev.when`; if the stimulus was handled
between ticks, it starts AT `ev.now`; if it was handled in the middle of tick `z = ticks[ev.k - 1]`,
it starts when `z` has ended and no later than `sleepFor (ev.when - z.time)` after that — exactly
then if it is the tick for `ev.when`. -/
theorem c07C_first_tick (S : Static) (orc : Oracle) (fuel : Nat) (t0 : SimTime) (now0 : Int)
    (sp : Speed) (cost : Nat → Nat) (steps nTicks : Nat) (stims0 stims : List Stim)
    (m m2 : MasterSt) (tr : TickRec) (ticks : List TickRec)
    (h : masterInitialC S orc fuel sp cost t0 now0 stims0 = .ok (m, tr, stims))
    (h2 : masterRunC S orc fuel sp cost steps nTicks m stims [tr] = .ok (m2, ticks))
    (hn : 0 < sp.num) (hd : 0 < sp.den) :
    ∀ ev ∈ initLogC S orc fuel sp cost t0 now0 stims0 ++
        runLogC S orc fuel sp cost steps nTicks m stims 1,
      ∀ x0, ticks[ev.k]? = some x0 →
        x0.time ≤ ev.when S fuel sp ∧
        (ev.mid = false → x0.real = ev.now) ∧
        (ev.mid = true → ∀ z, ticks[ev.k - 1]? = some z →
          z.real + cost (ev.k - 1) ≤ x0.real ∧
          x0.real ≤ z.real + cost (ev.k - 1) + sleepFor sp (ev.when S fuel sp - z.time) ∧
          (x0.time = ev.when S fuel sp →
            x0.real = z.real + cost (ev.k - 1) + sleepFor sp (ev.when S fuel sp - z.time))) := by
  intro ev hev x0 hx0
  obtain ⟨L, sim, out, s2, _, rfl, htr⟩ := initial_traceC h h2
  obtain ⟨pre, post, hsplit⟩ := List.append_of_mem hev
  obtain ⟨⟨e1, _, z, ez, ezt, _, ezl, _⟩, rest, acc1, hk, hafter⟩ :=
    htr.events hn (Linked.initial sp cost t0 now0 L.wiring.components sim stims0).sync pre ev post hsplit
  cases hm : ev.mid with
  | false =>
    rw [hm] at hafter
    obtain ⟨r1, _⟩ := hafter.c07_next hn _ _ (stimStepC_pend_self S fuel sp ev) x0 (hk ▸ hx0)
    exact ⟨r1, fun _ => (hafter.next_real _ _ rfl (reached_stimStep S fuel hd ev.m ev.st e1) x0
      (hk ▸ hx0)).1, fun hm' => nomatch hm'⟩
  | true =>
    -- the trace that follows `ev` starts in the tick in progress, `z`, which ends at `z.real + cost`
    rw [hm] at hafter ezl
    obtain ⟨r1, r2, r3, r4⟩ := hafter.c07_next hn _ _ (stimStepC_pend_self S fuel sp ev) x0 (hk ▸ hx0)
    refine ⟨r1, (fun hm' => nomatch hm'), fun _ z' hz' => ?_⟩
    rw [ez] at hz'
    cases hz'
    have ezl' : ev.m.lastReal = z.real := ezl
    rw [← ezl', ezt]
    exact ⟨r2, r3, r4⟩

/-- **the elapsed part of the tick in progress.**  For a stimulus handled in the middle of tick
`z = ticks[ev.k - 1]`: the sleep for `ev.when - z.time` is at most the sleep for
`ev.stamp - z.time`, which is at most `ev.now - z.real`, the part of the tick that had elapsed when
the interrupt was handled, which is less than the cost of the tick. -/
theorem c07C_mid_gap (S : Static) (orc : Oracle) (fuel : Nat) (t0 : SimTime) (now0 : Int)
    (sp : Speed) (cost : Nat → Nat) (steps nTicks : Nat) (stims0 stims : List Stim)
    (m m2 : MasterSt) (tr : TickRec) (ticks : List TickRec)
    (h : masterInitialC S orc fuel sp cost t0 now0 stims0 = .ok (m, tr, stims))
    (h2 : masterRunC S orc fuel sp cost steps nTicks m stims [tr] = .ok (m2, ticks))
    (hn : 0 < sp.num) (hd : 0 < sp.den) :
    ∀ ev ∈ initLogC S orc fuel sp cost t0 now0 stims0 ++
        runLogC S orc fuel sp cost steps nTicks m stims 1,
      ev.mid = true → ∀ z, ticks[ev.k - 1]? = some z →
        0 ≤ sleepFor sp (ev.when S fuel sp - z.time) ∧
        sleepFor sp (ev.when S fuel sp - z.time) ≤ sleepFor sp (ev.stamp sp - z.time) ∧
        sleepFor sp (ev.stamp sp - z.time) ≤ ev.now - z.real ∧
        ev.now - z.real < cost (ev.k - 1) := by
  intro ev hev hm z hz
  have hlaw := (runC_stamp_law S orc fuel t0 now0 sp cost steps nTicks stims0 stims m m2 tr ticks
    h h2 hn hd).2 ev hev
  obtain ⟨_, z', hz', hzt, hzl, hin⟩ := hlaw.last_tick
  rw [hz] at hz'
  cases hz'
  rw [hm, if_pos rfl] at hzl
  have hle := Int.le_trans hlaw.real_mono.1 hlaw.real_mono.2
  have hst : ev.stamp sp - z.time = ((ev.now - z.real) * sp.num) / sp.den := by
    rw [hlaw.stamp_eq, hzt, hzl]
    exact Int.sub_eq_iff_eq_add'.mpr rfl
  refine ⟨sleepFor_nonneg sp hn _, sleepFor_mono sp hn _ _ (Int.sub_le_sub_right hlaw.when_le _),
    ?_, ?_⟩
  · rw [hst]
    exact sleepFor_floor_le sp hn hd _ (by omega)
  · have := (hin hm).2.2
    omega

/-- **C07 at run level with processing costs.**  Whole simulation (master level with nested
schedulers below it), any oracle, any speed `num/den` with `num, den > 0`, any cost function, any
list of stimuli, any budget `steps`, `nTicks`; `L` is the master level and the name `""` of the
master level is not the name of a system component.  For EVERY handled stimulus `ev` (at any
position `pre ++ ev :: post` of the log: in the middle of the initial tick, between ticks, in the
middle of a later tick), with `top = ev.top`, the observations of the final state extend those
made when the stimulus was handled by `new`, and

* EITHER (served) there are `j ≥ ev.k` and `x = ticks[j]` such that
  - `ServedAt`: `x` serves the stimulus, and no later callback is served before it;
  - if `top` is a device, `new` contains an observation of `top` at time `x.time`: the device is
    updated in tick `j`, which began after the interrupt was handled;
  - `PromptAt`: `x` starts after the interrupt was raised, and the real time at which it starts is
    bounded as described in the file header;
  - every LATER handled stimulus `ev'` of the same `top` with `ev'.k ≤ j` is served by the same
    tick record: interrupts raised before the component is served share one update;
* OR (not yet served) the final master state still holds a wakeup of `top` not after `ev.when`,
  and every tick record after the stimulus is for a time `< ev.when` and does not have `top`
  among its roots: the interrupt is NOT LOST, the run was stopped before its turn. -/
theorem c07C_served_or_pending (S : Static) (orc : Oracle) (fuel : Nat) (t0 : SimTime) (now0 : Int)
    (sp : Speed) (cost : Nat → Nat) (steps nTicks : Nat) (stims0 stims : List Stim)
    (m m2 : MasterSt) (tr : TickRec) (ticks : List TickRec) (L : Level)
    (h : masterInitialC S orc fuel sp cost t0 now0 stims0 = .ok (m, tr, stims))
    (h2 : masterRunC S orc fuel sp cost steps nTicks m stims [tr] = .ok (m2, ticks))
    (hroot : S.isSys "" = false) (hL : S.level "" = some L) (hn : 0 < sp.num) (hd : 0 < sp.den) :
    ∀ pre ev post, initLogC S orc fuel sp cost t0 now0 stims0 ++
        runLogC S orc fuel sp cost steps nTicks m stims 1 = pre ++ ev :: post →
      ∃ new, m2.sim.obs = ev.m.sim.obs ++ new ∧
        ((∃ j x, ev.ServedAt S fuel sp L ticks j x ∧
            (S.isSys (ev.top S fuel) = false →
              ∃ o ∈ new, o.comp = ev.top S fuel ∧ o.time = x.time) ∧
            ev.PromptAt S fuel sp cost ticks j x ∧
            (∀ ev' ∈ post, ev'.top S fuel = ev.top S fuel → ev'.k ≤ j →
              ev'.ServedAt S fuel sp L ticks j x)) ∨
         (PendC m2 (ev.top S fuel) (ev.when S fuel sp) ∧
            ∀ i y, ev.k ≤ i → ticks[i]? = some y →
              y.time < ev.when S fuel sp ∧ ev.top S fuel ∉ y.roots)) := by
  intro pre ev post hsplit
  have hev : ev ∈ initLogC S orc fuel sp cost t0 now0 stims0 ++
      runLogC S orc fuel sp cost steps nTicks m stims 1 :=
    hsplit ▸ List.mem_append_right _ List.mem_cons_self
  have hfirst := c07C_first_tick S orc fuel t0 now0 sp cost steps nTicks stims0 stims m m2 tr
    ticks h h2 hn hd ev hev
  obtain ⟨L0, sim, out, s2, _, rfl, htr⟩ := initial_traceC h h2
  obtain ⟨⟨_, _, z, ez, _, _, _, et⟩, rest, acc1, hk, hafter⟩ :=
    htr.events hn (Linked.initial sp cost t0 now0 L0.wiring.components sim stims0).sync pre ev post hsplit
  -- the wakeup written for `ev` along the trace that follows it
  obtain ⟨new, hnew, hcase⟩ := hafter.c07_serve hroot hL hn (ev.top S fuel) (ev.when S fuel sp)
    ((stimStep_lookup S fuel sp ev.toStimEv _).trans (if_pos rfl))
  refine ⟨new, hnew.trans (congrArg (· ++ new) (stimStepC_obs S fuel sp ev.m ev.st)), ?_⟩
  rw [hk] at hcase
  rcases hcase with ⟨j, x, hs, hdev, hlog⟩ | ⟨hp, hall⟩
  · obtain ⟨hj, hx⟩ := hs.idx
    refine Or.inl ⟨j, x, hs.servedAt, hdev, ?_, fun ev' hev' htop hk' => ?_⟩
    · -- promptness: the first tick after the stimulus, then the chain of waiting ticks
      have hchain := hs.waits.chain
      obtain ⟨x0, hx0⟩ : ∃ x0, ticks[ev.k]? = some x0 :=
        ⟨ticks[ev.k]'(Nat.lt_of_le_of_lt hj (List.getElem?_eq_some_iff.1 hx).1),
          List.getElem?_eq_getElem _⟩
      obtain ⟨t1, t2⟩ := delay_telescope sp cost (ev.when S fuel sp) ticks ev.k j hchain (j - ev.k)
        x0 x (Nat.le_of_eq (Nat.add_sub_cancel' hj)) hx0 (by rw [Nat.add_sub_cancel' hj]; exact hx)
      obtain ⟨_, hf1, hf2⟩ := hfirst x0 hx0
      refine ⟨fun hm x0' hx0' => (hfirst x0' hx0').2.1 hm,
        fun hm z x0' hz hx0' => (hfirst x0' hx0').2.2 hm z hz, hchain, fun hm => hf1 hm ▸ ⟨t1, t2⟩,
        fun hm z hz => ?_, ev.toStimEv.real_le_now, ?_⟩
      · obtain ⟨f1, f2, _⟩ := hf2 hm z hz
        exact ⟨Int.le_trans f1 t1, Int.le_trans t2 (Int.add_le_add_right f2 _)⟩
      · cases hm : ev.mid with
        | false => exact hf1 hm ▸ t1
        | true =>
          exact Int.le_trans (Int.le_of_lt (Int.lt_of_lt_of_le (et hm).2.2 (hf2 hm z ez).1)) t1
    · -- a later stimulus of the same component, handled before tick `j`
      have := hlog ev' hev' htop hk'
      rw [← htop] at this
      exact this.servedAt
  · refine Or.inr ⟨hp, fun i y hi hy => ?_⟩
    obtain ⟨b1, b2, _⟩ := hall (i + 1) i y hi (Nat.lt_succ_self i) hy
    exact ⟨b1, b2⟩

/-- **the run is long enough.**  If the run has written fewer than `nTicks` tick records after
the initial one (`ticks.length ≤ nTicks`) and has made fewer than `steps` iterations — one per
tick, one per stimulus handled between ticks (`betweenCount`) — it has stopped because the master
had no wakeup left. -/
theorem c07C_run_complete (S : Static) (orc : Oracle) (fuel : Nat) (sp : Speed) (cost : Nat → Nat)
    (steps nTicks : Nat) (stims : List Stim) (m m2 : MasterSt) (tr : TickRec) (ticks : List TickRec)
    (h2 : masterRunC S orc fuel sp cost steps nTicks m stims [tr] = .ok (m2, ticks))
    (hticks : ticks.length ≤ nTicks)
    (hsteps : ticks.length + betweenCount (runLogC S orc fuel sp cost steps nTicks m stims 1) ≤ steps) :
    (firstWakeups (m2.sim.sched "").wake).2 = none := by
  exact (masterRunC_budget S orc fuel sp cost steps nTicks m stims [tr] m2 ticks h2).2.2
    (Nat.lt_one_add_iff.2 hticks) (Nat.lt_one_add_iff.2 hsteps)

/-- **served, if the run is long enough.**  If the run stopped because the master had no wakeup
left (which is so when neither budget was used up, `c07C_run_complete`), EVERY handled stimulus has
been served: the first alternative of `c07C_served_or_pending` holds. -/
theorem c07C_served (S : Static) (orc : Oracle) (fuel : Nat) (t0 : SimTime) (now0 : Int)
    (sp : Speed) (cost : Nat → Nat) (steps nTicks : Nat) (stims0 stims : List Stim)
    (m m2 : MasterSt) (tr : TickRec) (ticks : List TickRec) (L : Level)
    (h : masterInitialC S orc fuel sp cost t0 now0 stims0 = .ok (m, tr, stims))
    (h2 : masterRunC S orc fuel sp cost steps nTicks m stims [tr] = .ok (m2, ticks))
    (hroot : S.isSys "" = false) (hL : S.level "" = some L) (hn : 0 < sp.num) (hd : 0 < sp.den)
    (hend : (firstWakeups (m2.sim.sched "").wake).2 = none) :
    ∀ pre ev post, initLogC S orc fuel sp cost t0 now0 stims0 ++
        runLogC S orc fuel sp cost steps nTicks m stims 1 = pre ++ ev :: post →
      ∃ new, m2.sim.obs = ev.m.sim.obs ++ new ∧
        ∃ j x, ev.ServedAt S fuel sp L ticks j x ∧
          (S.isSys (ev.top S fuel) = false →
            ∃ o ∈ new, o.comp = ev.top S fuel ∧ o.time = x.time) ∧
          ev.PromptAt S fuel sp cost ticks j x ∧
          (∀ ev' ∈ post, ev'.top S fuel = ev.top S fuel → ev'.k ≤ j →
            ev'.ServedAt S fuel sp L ticks j x) := by
  intro pre ev post hsplit
  obtain ⟨new, hnew, hcase⟩ := c07C_served_or_pending S orc fuel t0 now0 sp cost steps nTicks stims0
    stims m m2 tr ticks L h h2 hroot hL hn hd pre ev post hsplit
  refine ⟨new, hnew, ?_⟩
  rcases hcase with hs | ⟨hp, _⟩
  · exact hs
  · exact absurd hend hp.firstWakeups_ne_none

/-- **served as a root.**  If the interrupting top-level component is wired downstream of no
OTHER top-level component (`hsrc`: a decidable condition on the master wiring; it holds in
particular for every component without wired inputs), the tick that serves a stimulus has the
component among its ROOTS, and it is for a simulation time `≤ ev.when ≤ ev.stamp`. -/
theorem c07C_served_root (S : Static) (fuel : Nat) (sp : Speed) (L : Level) (ticks : List TickRec)
    (ev : StimEvC) (j : Nat) (x : TickRec) (hs : ev.ServedAt S fuel sp L ticks j x)
    (hsrc : ∀ r ∈ L.wiring.components, ev.top S fuel ∈ L.wiring.dependants r → r = ev.top S fuel) :
    ev.top S fuel ∈ x.roots ∧ x.time ≤ ev.when S fuel sp ∧ ev.when S fuel sp ≤ ev.stamp sp :=
  ⟨hs.serves.root hsrc, hs.serves.1, stimWhen_le_stamp _ _ _⟩

/-- **served, once the run has reached the time of the interrupt.**  For simulations that never
run out of wakeups (a device that asks to be called back periodically): if some tick record after
the stimulus is for a simulation time `≥ ev.when` — the run has been carried on up to the time of
the interrupt — the stimulus has been served: the first alternative of `c07C_served_or_pending`
holds (in the second one every later tick is for a time `< ev.when`). -/
theorem c07C_served_of_reached (S : Static) (orc : Oracle) (fuel : Nat) (t0 : SimTime) (now0 : Int)
    (sp : Speed) (cost : Nat → Nat) (steps nTicks : Nat) (stims0 stims : List Stim)
    (m m2 : MasterSt) (tr : TickRec) (ticks : List TickRec) (L : Level)
    (h : masterInitialC S orc fuel sp cost t0 now0 stims0 = .ok (m, tr, stims))
    (h2 : masterRunC S orc fuel sp cost steps nTicks m stims [tr] = .ok (m2, ticks))
    (hroot : S.isSys "" = false) (hL : S.level "" = some L) (hn : 0 < sp.num) (hd : 0 < sp.den) :
    ∀ pre ev post, initLogC S orc fuel sp cost t0 now0 stims0 ++
        runLogC S orc fuel sp cost steps nTicks m stims 1 = pre ++ ev :: post →
      (∃ i y, ev.k ≤ i ∧ ticks[i]? = some y ∧ ev.when S fuel sp ≤ y.time) →
      ∃ new, m2.sim.obs = ev.m.sim.obs ++ new ∧
        ∃ j x, ev.ServedAt S fuel sp L ticks j x ∧
          (S.isSys (ev.top S fuel) = false →
            ∃ o ∈ new, o.comp = ev.top S fuel ∧ o.time = x.time) ∧
          ev.PromptAt S fuel sp cost ticks j x ∧
          (∀ ev' ∈ post, ev'.top S fuel = ev.top S fuel → ev'.k ≤ j →
            ev'.ServedAt S fuel sp L ticks j x) := by
  intro pre ev post hsplit ⟨i, y, hi, hy, hle⟩
  obtain ⟨new, hnew, hcase⟩ := c07C_served_or_pending S orc fuel t0 now0 sp cost steps nTicks stims0
    stims m m2 tr ticks L h h2 hroot hL hn hd pre ev post hsplit
  refine ⟨new, hnew, ?_⟩
  rcases hcase with hs | ⟨_, hall⟩
  · exact hs
  · exact absurd hle (Int.not_le.2 (hall i y hi hy).1)

/-- **K, coalescing.**  Two handled stimuli `ev` (earlier) and `ev'` (later in the log) of the
same top-level component: if `ev'` is handled before `ev` is served (`ev'.k ≤ j` for the serving
tick `ticks[j]` of `ev`), ONE tick record serves both — unless the run was stopped before `ev` was
served, and then the wakeup is still pending. -/
theorem c07C_coalesce (S : Static) (orc : Oracle) (fuel : Nat) (t0 : SimTime) (now0 : Int)
    (sp : Speed) (cost : Nat → Nat) (steps nTicks : Nat) (stims0 stims : List Stim)
    (m m2 : MasterSt) (tr : TickRec) (ticks : List TickRec) (L : Level)
    (h : masterInitialC S orc fuel sp cost t0 now0 stims0 = .ok (m, tr, stims))
    (h2 : masterRunC S orc fuel sp cost steps nTicks m stims [tr] = .ok (m2, ticks))
    (hroot : S.isSys "" = false) (hL : S.level "" = some L) (hn : 0 < sp.num) (hd : 0 < sp.den) :
    ∀ pre ev post, initLogC S orc fuel sp cost t0 now0 stims0 ++
        runLogC S orc fuel sp cost steps nTicks m stims 1 = pre ++ ev :: post →
      (∃ j x, ev.ServedAt S fuel sp L ticks j x ∧
        ∀ ev' ∈ post, ev'.top S fuel = ev.top S fuel → ev'.k ≤ j →
          ev'.ServedAt S fuel sp L ticks j x) ∨
      PendC m2 (ev.top S fuel) (ev.when S fuel sp) := by
  intro pre ev post hsplit
  obtain ⟨_, _, hcase⟩ := c07C_served_or_pending S orc fuel t0 now0 sp cost steps nTicks stims0
    stims m m2 tr ticks L h h2 hroot hL hn hd pre ev post hsplit
  rcases hcase with ⟨j, x, h1, _, _, h4⟩ | ⟨hp, _⟩
  · exact Or.inl ⟨j, x, h1, h4⟩
  · exact Or.inr hp

/-! ## non-vacuity and tightness (evaluated at build time)

`S`: a flat master level with three devices: `a` (no inputs), `b` whose input `i` is wired to the
output `o` of `a`, and `e` (no inputs).  `SN`: a master level with a device `d` and a system
component `sys` that contains the devices `a` and `b`.  Non-zero costs, speeds `≠ 1`. -/

namespace C07CostEx

open C12RunEx C12CostEx

def W : Wiring := Wiring.fromInverse [("a", []), ("b", [("i", ("a", "o"))]), ("e", [])]
def L : Level := ⟨"", W⟩
def S : Static := { levels := [L], systems := [], parent := [("a", ""), ("b", ""), ("e", "")] }

def WN : Wiring := Wiring.fromInverse [("d", []), ("sys", [])]
def LN : Level := ⟨"", WN⟩
def SN : Static :=
  { levels := [LN, ⟨"sys", Wiring.fromInverse [("external", []), ("a", []), ("b", []), ("expose", [])]⟩]
    systems := ["sys"]
    parent := [("d", ""), ("sys", ""), ("a", "sys"), ("b", "sys")] }

/-- the tick records `(time, real, roots)` of a run from `t0 = 0`, `now0 = 0` -/
def run (S : Static) (orc : Oracle) (sp : Speed) (cost : Nat → Nat) (stims : List Stim)
    (steps k : Nat) : Option (List (Int × Int × List Comp)) :=
  match masterInitialC S orc 10 sp cost 0 0 stims with
  | .ok (m, tr, rest) =>
    match masterRunC S orc 10 sp cost steps k m rest [tr] with
    | .ok (_, ticks) => some (ticks.map (fun x => (x.time, x.real, x.roots)))
    | .error _ => none
  | .error _ => none

/-- Boolean version of `ServesC` -/
def servesB (L : Level) (top : Comp) (e : SimTime) (x : TickRec) : Bool :=
  decide (x.time ≤ e) && (decide (top ∈ x.roots) ||
    (decide (x.time < e) && x.roots.any (fun r =>
      decide (r ∈ L.wiring.components) && decide (top ∈ L.wiring.dependants r))))

/-- first index `≥ k` (among the next `n` records) whose tick record serves `(top, e)` -/
def findServe (L : Level) (ticks : List TickRec) (top : Comp) (e : SimTime) : Nat → Nat → Option Nat
  | _, 0 => none
  | k, n + 1 => match ticks[k]? with
    | some x => if servesB L top e x then some k else findServe L ticks top e (k + 1) n
    | none => none

/-- for every handled stimulus `(st.real, comp, mid, k, now, stamp, top, when)`, and for the first
tick record that serves it: `(j, time, real, top is a root, top has an observation at that time
made after the stimulus, the upper bound of PromptAt.total_between / total_mid)`; `none` if the
run ends before it is served -/
def report (S : Static) (L : Level) (orc : Oracle) (sp : Speed) (cost : Nat → Nat)
    (stims : List Stim) (steps k : Nat) :
    Option (List ((Int × Comp × Bool × Nat × Int × SimTime × Comp × SimTime) ×
      Option (Nat × Int × Int × Bool × Bool × Int))) :=
  match masterInitialC S orc 10 sp cost 0 0 stims with
  | .ok (m, tr, rest) =>
    match masterRunC S orc 10 sp cost steps k m rest [tr] with
    | .ok (m2, ticks) =>
      some ((initLogC S orc 10 sp cost 0 0 stims ++ runLogC S orc 10 sp cost steps k m rest 1).map
        (fun ev =>
          let top := ev.top S 10
          let wh := ev.when S 10 sp
          ((ev.st.real, ev.st.comp, ev.mid, ev.k, ev.now, ev.stamp sp, top, wh),
            match findServe L ticks top wh ev.k ticks.length with
            | some j => match ticks[j]?, ticks[ev.k - 1]? with
              | some x, some z =>
                let first : Int :=
                  if ev.mid then z.real + cost (ev.k - 1) + sleepFor sp (wh - z.time) else ev.now
                some (j, x.time, x.real, decide (top ∈ x.roots),
                  (m2.sim.obs.drop ev.m.sim.obs.length).any (fun o => o.comp == top && o.time == x.time),
                  first + delayBetween sp cost wh ticks ev.k (j - ev.k))
              | _, _ => none
            | none => none)))
    | .error _ => none
  | .error _ => none

def outs (v : Int) (c : Option Int) : DevResp := ⟨[("o", v)], c, false⟩

/-- the budget used by a run: number of tick records, number of stimuli handled between ticks,
and the time of the first wakeup left in the final state -/
def budget (S : Static) (orc : Oracle) (sp : Speed) (cost : Nat → Nat) (stims : List Stim)
    (steps k : Nat) : Option (Nat × Nat × Option SimTime) :=
  match masterInitialC S orc 10 sp cost 0 0 stims with
  | .ok (m, tr, rest) =>
    match masterRunC S orc 10 sp cost steps k m rest [tr] with
    | .ok (m2, ticks) =>
      some (ticks.length, betweenCount (runLogC S orc 10 sp cost steps k m rest 1),
        (firstWakeups (m2.sim.sched "").wake).2)
    | .error _ => none
  | .error _ => none

-- the hypotheses on the configuration, for `S` and for `SN`
example : S.isSys "" = false ∧ S.level "" = some L ∧ SN.isSys "" = false ∧ SN.level "" = some LN :=
  ⟨by decide, rfl, by decide, rfl⟩
-- `hsrc` of `c07C_served_root`: `a` and `e` are downstream of no other component; `b` is (of `a`)
example : ∀ r ∈ L.wiring.components, "e" ∈ L.wiring.dependants r → r = "e" := by decide
example : ∀ r ∈ L.wiring.components, "a" ∈ L.wiring.dependants r → r = "a" := by decide
example : ¬ ∀ r ∈ L.wiring.components, "b" ∈ L.wiring.dependants r → r = "b" := by decide
example : ∀ r ∈ LN.wiring.components, "sys" ∈ LN.wiring.dependants r → r = "sys" := by decide
-- the theorem for every run of `S` at speed 3/2
example (orc : Oracle) (fuel : Nat) (t0 : SimTime) (now0 : Int) (cost : Nat → Nat)
    (steps nTicks : Nat) (stims0 stims : List Stim) (m m2 : MasterSt) (tr : TickRec)
    (ticks : List TickRec)
    (h : masterInitialC S orc fuel ⟨3, 2⟩ cost t0 now0 stims0 = .ok (m, tr, stims))
    (h2 : masterRunC S orc fuel ⟨3, 2⟩ cost steps nTicks m stims [tr] = .ok (m2, ticks)) :=
  c07C_served_or_pending S orc fuel t0 now0 ⟨3, 2⟩ cost steps nTicks stims0 stims m m2 tr ticks L
    h h2 (by decide) rfl (by decide) (by decide)

-- (1) speed 3/2, costs 4, 3, 2, 6, then 1; `a` waits for 10, 20, …
-- * real 2, `e`: in the MIDDLE of the initial tick [0, 4): stamp `⌊2 · 3/2⌋ = 3`; the next tick is
--   the tick for 3, started at `0 + 4 + sleepFor 3 = 4 + ⌈3 · 2/3⌉ = 6`: the bound of `first_mid` /
--   `total_mid` is attained, and so is `c07C_mid_gap`: `sleepFor 3 = 2 = ev.now - z.real`.
-- * real 9, `e`: BETWEEN ticks (tick 1 is [6, 9)): stamp 3, served at once, at real time 9.
-- * real 10, `b`: in the middle of tick 2 = [9, 11): stamp `3 + ⌊1 · 3/2⌋ = 4`, served at
--   `9 + 2 + sleepFor (4 - 3) = 11 + ⌈2/3⌉ = 12`.
-- * real 30, `e`: between ticks; stamp 20: served at once by the tick for `a`'s callback at 20
--   (`e` raised its interrupt simultaneously with a due callback: one tick, both are roots).
#guard run S [("a", per 10 30), ("b", quiet 30), ("e", quiet 30)] ⟨3, 2⟩ (costOf [4, 3, 2, 6] 1)
    [⟨2, "e"⟩, ⟨9, "e"⟩, ⟨10, "b"⟩, ⟨30, "e"⟩] 200 6 ==
  some [(0, 0, ["b", "a", "e"]), (3, 6, ["e"]), (3, 9, ["e"]), (4, 12, ["b"]), (10, 22, ["a"]),
    (20, 30, ["a", "e"]), (30, 38, ["a"])]
#guard report S L [("a", per 10 30), ("b", quiet 30), ("e", quiet 30)] ⟨3, 2⟩ (costOf [4, 3, 2, 6] 1)
    [⟨2, "e"⟩, ⟨9, "e"⟩, ⟨10, "b"⟩, ⟨30, "e"⟩] 200 6 ==
  some [((2, "e", true, 1, 2, 3, "e", 3), some (1, 3, 6, true, true, 6)),
    ((9, "e", false, 2, 9, 3, "e", 3), some (2, 3, 9, true, true, 9)),
    ((10, "b", true, 3, 10, 4, "b", 4), some (3, 4, 12, true, true, 12)),
    ((30, "e", false, 5, 30, 20, "e", 20), some (5, 20, 30, true, true, 30))]
example : sleepFor ⟨3, 2⟩ 3 = 2 ∧ sleepFor ⟨3, 2⟩ (4 - 3) = 1 ∧ sleepFor ⟨3, 2⟩ 0 = 0 := by decide

-- (2) COALESCING, same system: `e` is interrupted at real 2 (mid-tick, stamp 3) and again at
-- real 5, between ticks, before it is served: stamp `⌊(5 - 4) · 3/2⌋ = 1`, which LOWERS the wakeup
-- to 1.  ONE tick record, number 1 = (1, 5, [e]), serves both (`c07C_coalesce`); for the first
-- stimulus it comes before the bound 6 of `total_mid`, for the second it starts at `ev.now = 5`.
#guard report S L [("a", per 10 30), ("b", quiet 30), ("e", quiet 30)] ⟨3, 2⟩ (costOf [4, 3, 2, 6] 1)
    [⟨2, "e"⟩, ⟨5, "e"⟩] 200 3 ==
  some [((2, "e", true, 1, 2, 3, "e", 3), some (1, 1, 5, true, true, 6)),
    ((5, "e", false, 1, 5, 1, "e", 1), some (1, 1, 5, true, true, 5))]

-- (3) AN EARLIER WAKEUP IS SERVED FIRST, speed 3: `a` asks for time 1; the initial tick is [0, 4),
-- so the tick for 1 is due at `4 + ⌈1/3⌉ = 5`.  At real 5 `e` is interrupted: stamp
-- `⌊(5 - 4) · 3⌋ = 3`.  The tick for 1 goes first, AT `ev.now = 5` (`first_between`), takes 3 ns;
-- the tick for 3 follows at `5 + 3 + sleepFor (3 - 1) = 8 + ⌈2/3⌉ = 9`: the bounds of `chain`
-- and `total_between` are attained.
#guard run S [("a", [⟨[], some 1, false⟩, ⟨[], none, false⟩]), ("b", quiet 30), ("e", quiet 30)] ⟨3, 1⟩
    (costOf [4, 3, 2] 1) [⟨5, "e"⟩] 200 8 ==
  some [(0, 0, ["b", "a", "e"]), (1, 5, ["a"]), (3, 9, ["e"])]
#guard report S L [("a", [⟨[], some 1, false⟩, ⟨[], none, false⟩]), ("b", quiet 30), ("e", quiet 30)] ⟨3, 1⟩
    (costOf [4, 3, 2] 1) [⟨5, "e"⟩] 200 8 ==
  some [((5, "e", false, 1, 5, 3, "e", 3), some (2, 3, 9, true, true, 9))]
example : delayBetween ⟨3, 1⟩ (costOf [4, 3, 2] 1) 3 [⟨0, 0, []⟩, ⟨1, 5, ["a"]⟩, ⟨3, 9, ["e"]⟩] 1 1 = 4 := by
  decide
-- this run is complete (`c07C_run_complete`): 3 tick records `≤ nTicks = 8`, `3 + 1 ≤ steps = 200`
-- iterations, and no wakeup is left; with `nTicks = 1` it is cut: the wakeup 3 of `e` is left
#guard budget S [("a", [⟨[], some 1, false⟩, ⟨[], none, false⟩]), ("b", quiet 30), ("e", quiet 30)] ⟨3, 1⟩
    (costOf [4, 3, 2] 1) [⟨5, "e"⟩] 200 8 == some (3, 1, none)
#guard budget S [("a", [⟨[], some 1, false⟩, ⟨[], none, false⟩]), ("b", quiet 30), ("e", quiet 30)] ⟨3, 1⟩
    (costOf [4, 3, 2] 1) [⟨5, "e"⟩] 200 1 == some (2, 1, some 3)

-- (4) two interrupts in the middle of the same tick [0, 4), speed 1: `a` at real 1 (stamp 1), `e`
-- at real 3 (stamp 3).  The tick for 1 starts at `4 + 1 = 5` and takes 3 ns; the tick for 3 at
-- `5 + 3 + sleepFor (3 - 1) = 10` (`chain` attained; `total_mid` gives 12: the first tick came
-- before its own bound `4 + sleepFor 3 = 7`).  `e` waits until `10 = ev.now + cost 0 + cost 1`:
-- the end of the tick in progress, the part of it that had elapsed, and the earlier tick.
#guard report S L [("a", quiet 30), ("b", quiet 30), ("e", quiet 30)] ⟨1, 1⟩ (costOf [4, 3, 2] 1)
    [⟨1, "a"⟩, ⟨3, "e"⟩] 200 8 ==
  some [((1, "a", true, 1, 1, 1, "a", 1), some (1, 1, 5, true, true, 5)),
    ((3, "e", true, 1, 3, 3, "e", 3), some (2, 3, 10, true, true, 12))]

-- (5) THE SECOND ALTERNATIVE OF `ServesC` (model only).  `a` asks for 5; `b` is interrupted at
-- real 8 in the initial tick [0, 10): stamp 8.  The tick for 5 (root `a`, started at 15) changes
-- the output of `a`, so `b` is updated in it, at time `5 < 8`, after the interrupt; `b` answers
-- with a callback request for 50, which in the model replaces its wakeup 8 (the code keeps 8:
-- `_pending_interrupts`).  The serving tick record is number 1; `b` is not one of its roots.
#guard run S [("a", [outs 0 (some 5), outs 1 none]),
    ("b", [⟨[], none, false⟩, ⟨[], some 50, false⟩, ⟨[], none, false⟩]), ("e", quiet 30)] ⟨1, 1⟩
    (costOf [10, 3, 2] 1) [⟨8, "b"⟩] 200 8 ==
  some [(0, 0, ["b", "a", "e"]), (5, 15, ["a"]), (50, 63, ["b"])]
#guard report S L [("a", [outs 0 (some 5), outs 1 none]),
    ("b", [⟨[], none, false⟩, ⟨[], some 50, false⟩, ⟨[], none, false⟩]), ("e", quiet 30)] ⟨1, 1⟩
    (costOf [10, 3, 2] 1) [⟨8, "b"⟩] 200 8 ==
  some [((8, "b", true, 1, 8, 8, "b", 8), some (1, 5, 15, false, true, 18))]

-- (6) NOT LOST: the same stimulus as in (1) with `nTicks = 0`: the run stops before the interrupt
-- is served (second alternative of `c07C_served_or_pending`); with `nTicks = 1` it is served.
#guard report S L [("a", per 10 30), ("b", quiet 30), ("e", quiet 30)] ⟨3, 2⟩ (costOf [4, 3, 2, 6] 1)
    [⟨2, "e"⟩] 200 0 == some [((2, "e", true, 1, 2, 3, "e", 3), none)]
#guard report S L [("a", per 10 30), ("b", quiet 30), ("e", quiet 30)] ⟨3, 2⟩ (costOf [4, 3, 2, 6] 1)
    [⟨2, "e"⟩] 200 1 == some [((2, "e", true, 1, 2, 3, "e", 3), some (1, 3, 6, true, true, 6))]

-- (7) INSIDE A NESTED SYSTEM, speed 2/3, costs 6, 2, 5, then 1: device `a` inside `sys` is
-- interrupted at real 3, in the middle of the initial tick [0, 6) (stamp `⌊3 · 2/3⌋ = 2`), and
-- device `b` inside `sys` at real 12, between ticks (stamp `2 + ⌊(12 - 11) · 2/3⌋ = 2`).  The master
-- sees `sys` interrupting (`ev.top`); the serving ticks have `sys` among their roots: the first at
-- `6 + sleepFor 2 = 6 + ⌈2 · 3/2⌉ = 9`, the second at once, at real 12.
#guard run SN [("d", quiet 30), ("a", quiet 30), ("b", quiet 30)] ⟨2, 3⟩ (costOf [6, 2, 5] 1)
    [⟨3, "a"⟩, ⟨12, "b"⟩] 200 8 ==
  some [(0, 0, ["d", "sys"]), (2, 9, ["sys"]), (2, 12, ["sys"])]
#guard report SN LN [("d", quiet 30), ("a", quiet 30), ("b", quiet 30)] ⟨2, 3⟩ (costOf [6, 2, 5] 1)
    [⟨3, "a"⟩, ⟨12, "b"⟩] 200 8 ==
  some [((3, "a", true, 1, 3, 2, "sys", 2), some (1, 2, 9, true, false, 9)),
    ((12, "b", false, 2, 12, 2, "sys", 2), some (2, 2, 12, true, false, 12))]

end C07CostEx

/-
Not covered here:
* the tick itself is atomic in the model (`tickLevel`): an interrupt raised in the middle of a tick
  is applied to the wakeups the tick leaves behind (`Core/SimCost.lean`), and the answer of a
  component is written with plain `add_wakeup`.  The guard `_pending_interrupts` of
  `MasterScheduler.add_wakeup` (a pending interrupt is not displaced by a later callback request of
  the same component) is therefore not modelled, which is why `ServesC` has its second alternative;
  at the bookkeeping level the guard is covered by `Props/C07.lean` / `C07Loop.lean`.
* what happens INSIDE the system component once the master has started the serving tick (the inner
  interrupt queue, the inner roots) is the subject of `Props/C07Nested.lean`, `C07TwoLevel.lean`.
* a closed form for the total delay without the sleeps `sleepFor (ev.when - ticks[i].time)` would
  need "no callback in the past" and a bound on how overdue the earlier wakeups are; the chain
  inequality holds without any such hypothesis.
-/

end Tickit
