/-
C07 (nested level) — interrupts of components inside a system simulation are never lost,
whenever they arrive relative to the system's inner tick.
-/
import TickitModel.Lemmas.NestedIntLemmas

namespace Tickit

theorem ninv_init : NInv {} :=
  NInv.init

theorem ninv_step (s s' : NSt) (a : NAct) (h : NInv s) (hs : s.step a = some s') : NInv s' :=
  h.step hs

/-- for every history of inner interrupts, inner tick starts, update beginnings and tick ends -/
theorem nested_no_interrupt_lost (acts : List NAct) : NInv (({} : NSt).run acts) :=
  NInv.init.run acts

/-- an interrupt that arrives while the inner tick is running is served by the NEXT inner tick:
when that tick starts the component is among its roots. -/
theorem queued_becomes_root (s s' : NSt) (c : Comp) (hq : c ∈ s.queued) (due : List Comp)
    (hs : s.step (.startTick due) = some s') : ∃ rem, s'.ticking = some rem ∧ c ∈ rem :=
  NSt.root_of_startTick (Or.inr hq) hs

/-- while no inner tick runs, an OWED component (then it is queued, by `NInv`) means that the
enclosing scheduler has been told, so that next inner tick does come (composition with C07
`no_interrupt_lost` at the master, or with this theorem one level up).  That everything queued,
owed or not, has been passed up is `NSt.told_step` / `TInv.told`. -/
theorem queued_means_told (acts : List NAct) (c : Comp) (hc : c ∈ (({} : NSt).run acts).owed)
    (hidle : (({} : NSt).run acts).ticking = none) : (({} : NSt).run acts).upOwed = true := by
  rcases (nested_no_interrupt_lost acts).owed c hc with hr | ⟨_, hu⟩
  · exact absurd hidle (IsRoot.ne_none hr)
  · exact hu

/-- emptying the queue after the tick instead of before loses the interrupt (the seeded defect):
interrupt during the running tick, tick ends — the component is owed an update but is neither
queued nor a root. -/
theorem clear_after_tick_loses :
    let s0 : NSt := { ticking := some [] }
    let s1 := (s0.stepLate (.interrupt "c")).getD s0
    let s2 := (s1.stepLate .endTick).getD s1
    "c" ∈ s2.owed ∧ "c" ∉ s2.queued ∧ s2.ticking = none := by
  decide +kernel

end Tickit
