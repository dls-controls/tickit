/-
C08 / C03 through nesting, whole runs — every tick a fully concurrent (INTERLEAVED) execution.

`MasterRunInter` (`Core/SimInterRun.lean`) is the master loop of `Core/Sim.lean` (wakeup bookkeeping
between ticks, pacing, external stimuli) with every tick replaced by an arbitrary complete
interleaved execution `TickInter` of it.  Every such run is matched, tick by tick, by a run over
atomic any-order ticks (`interleaved_run_has_atomic_run`); with it two theorems of
`Props/C08NestedAnyRun.lean` about `MasterRunAny` carry over to runs whose system simulations tick
concurrently: determinism of whole runs, and refinement of the flat run over the resolved wiring (as
there, for runs without external stimuli).  Agreement with the FIFO model is determinism once more:
the FIFO run is a run over interleaved ticks (`fifo_run_is_any`, `any_run_is_interleaved`).
`any_order_run_inputs_synced` and `any_order_run_has_fifo` have no counterpart here.
-/
import TickitModel.Lemmas.InterRun
import TickitModel.Props.C08NestedAnyRun

namespace Tickit

/-- a run over atomic ticks is a run over interleaved ticks -/
theorem any_run_is_interleaved (S : Static) (orc : Oracle) (fuel : Nat) (sp : Speed)
    (steps nTicks : Nat) (m : MasterSt) (stims : List Stim) (acc : List TickRec)
    (r : MasterSt × List TickRec) (h : MasterRunAny S orc fuel sp steps nTicks m stims acc r) :
    MasterRunInter S orc fuel sp steps nTicks m stims acc r := by
  induction h with
  | outOfSteps => exact .outOfSteps
  | ticksDone => exact .ticksDone
  | stim hs _ ih => exact .stim hs ih
  | tick hs hfw ht _ ih => exact .tick hs hfw (tickLevelAny_inter ht) ih
  | idle hs hn => exact .idle hs hn

/-- **every run over interleaved ticks has a run over atomic ticks** (initial tick and master
loop): the same ticks are done (same simulation times, real times and roots), and the final master
states have the same clocks and, under every key, the same device state, update count, scheduler
state and observation sequence. -/
theorem interleaved_run_has_atomic_run (S : Static) (hS : S.Valid) (orc : Oracle) (fuel : Nat)
    (t0 : SimTime) (now : Int) (sp : Speed) (steps nTicks : Nat) (stims : List Stim)
    (r0 : MasterSt × TickRec) (r : MasterSt × List TickRec)
    (h1 : MasterInitialInter S orc t0 now r0)
    (h2 : MasterRunInter S orc fuel sp steps nTicks r0.1 stims [r0.2] r) :
    ∃ r0' r', MasterInitialAny S orc t0 now r0' ∧
      MasterRunAny S orc fuel sp steps nTicks r0'.1 stims [r0'.2] r' ∧ r'.2 = r.2 ∧
      r'.1.tickerTime = r.1.tickerTime ∧ r'.1.lastReal = r.1.lastReal ∧ r'.1.now = r.1.now ∧
      ∀ x, r'.1.sim.loc x = r.1.sim.loc x := by
  obtain ⟨r0', hi, e1, e2⟩ := masterInitialInter_any hS h1
  obtain ⟨r', hr, f1, f2⟩ := masterRunInter_any hS h2 r0'.1 e1
  rw [← e2] at hr
  exact ⟨r0', r', hi, hr, f2, f1.tickerTime, f1.lastReal, f1.now, f1.sim⟩

/-- **Schedule independence of whole runs, fully concurrent.**  Two runs of the master loop over
the same valid configuration, recorded device responses, initial time, speed and external stimuli
— every tick an arbitrary complete interleaved execution — do the same ticks and end in equivalent
states; every device, at whatever depth, has made the same sequence of observations. -/
theorem interleaved_run_deterministic (S : Static) (hS : S.Valid) (orc : Oracle) (fuel : Nat)
    (t0 : SimTime) (now : Int) (sp : Speed) (steps nTicks : Nat) (stims : List Stim)
    (r0 r0' : MasterSt × TickRec) (r r' : MasterSt × List TickRec)
    (h1 : MasterInitialInter S orc t0 now r0) (h1' : MasterInitialInter S orc t0 now r0')
    (h2 : MasterRunInter S orc fuel sp steps nTicks r0.1 stims [r0.2] r)
    (h2' : MasterRunInter S orc fuel sp steps nTicks r0'.1 stims [r0'.2] r') :
    r.1.sim.Equiv r'.1.sim ∧ TicksEquiv r.2 r'.2 ∧ ∀ d, ObsEq (r.1.sim.obsOf d) (r'.1.sim.obsOf d) := by
  obtain ⟨a0, a, ai, ar, at2, _, _, _, al⟩ :=
    interleaved_run_has_atomic_run S hS orc fuel t0 now sp steps nTicks stims r0 r h1 h2
  obtain ⟨b0, b, bi, br, bt2, _, _, _, bl⟩ :=
    interleaved_run_has_atomic_run S hS orc fuel t0 now sp steps nTicks stims r0' r' h1' h2'
  obtain ⟨d1, d2, _⟩ := any_order_run_deterministic S hS orc fuel t0 now sp steps nTicks stims a0 b0 a b
    ai bi ar br
  have hsim : r.1.sim.Equiv r'.1.sim := by
    intro x
    rw [← al x, ← bl x]
    exact d1.sim x
  rw [at2, bt2] at d2
  exact ⟨hsim, d2, fun d => (hsim d).ob⟩

/-- every run over interleaved ticks agrees with the FIFO run, when the model completes the latter -/
theorem interleaved_run_agrees_with_fifo (S : Static) (hS : S.Valid) (orc : Oracle) (fuel : Nat)
    (t0 : SimTime) (now : Int) (sp : Speed) (steps nTicks : Nat) (stims : List Stim)
    (m m2 : MasterSt) (tr : TickRec) (ticks : List TickRec)
    (hf : masterInitial S orc fuel t0 now = .ok (m, tr))
    (hf2 : masterRun S orc fuel sp steps nTicks m stims [tr] = .ok (m2, ticks))
    (r0 : MasterSt × TickRec) (r : MasterSt × List TickRec)
    (h1 : MasterInitialInter S orc t0 now r0)
    (h2 : MasterRunInter S orc fuel sp steps nTicks r0.1 stims [r0.2] r) :
    r.1.sim.Equiv m2.sim ∧ TicksEquiv r.2 ticks ∧ ∀ d, ObsEq (r.1.sim.obsOf d) (m2.sim.obsOf d) := by
  obtain ⟨fi, fr⟩ := fifo_run_is_any S orc fuel t0 now sp steps nTicks m m2 tr stims ticks hf hf2
  cases fi with
  | mk hL ht =>
    exact interleaved_run_deterministic S hS orc fuel t0 now sp steps nTicks stims r0 _ r (m2, ticks)
      h1 (.mk hL (tickLevelAny_inter ht)) h2
      (any_run_is_interleaved S orc fuel sp steps nTicks _ stims _ _ fr)

/-- **C03 / C08 through system boundaries, fully concurrent, without any assumption on the FIFO
model.**  Every run without external stimuli (`stims = []`: initial tick + callback ticks) of a
valid nested configuration in which every tick is an arbitrary complete INTERLEAVED execution has,
device by device, the observations of a run of the flat system over the resolved (flattened) wiring,
which is `Synced` (the inputs every device was given at every update are, port by port, the latest
values reported on the resolved source outputs) and has the run's tick times.  All theorems about
`FlatRun` (C03, C04, C06, C08) thereby apply to its observations. -/
theorem interleaved_run_refines_flatRun (S : Static) (hS : S.Valid) (orc : Oracle) (fuel0 rfuel : Nat)
    (hr : S.resolveFuel ≤ rfuel) (t0 : SimTime) (now : Int) (sp : Speed) (steps nTicks : Nat)
    (r0 : MasterSt × TickRec) (r : MasterSt × List TickRec)
    (h1 : MasterInitialInter S orc t0 now r0)
    (h2 : MasterRunInter S orc fuel0 sp steps nTicks r0.1 [] [r0.2] r) :
    ∃ (devs : DevSeq V) (st : FlatSt V) (times : List SimTime),
      FlatRun (Wiring.fromInverse (S.flatInverse rfuel)) devs t0 (r.2.length - 1) st times ∧
      Synced (Wiring.fromInverse (S.flatInverse rfuel)) st ∧
      times = (r.2.map (·.time)).reverse ∧
      ∀ d, ObsEq (r.1.sim.obsOf d) (st.obsOf d) := by
  obtain ⟨a0, a, ai, ar, at2, _, _, _, al⟩ :=
    interleaved_run_has_atomic_run S hS orc fuel0 t0 now sp steps nTicks [] r0 r h1 h2
  obtain ⟨devs, st, times, g1, g2, g3, g4⟩ :=
    any_order_run_refines_flatRun S hS orc fuel0 rfuel hr t0 now sp steps nTicks a0 a ai ar
  rw [at2] at g1 g3
  refine ⟨devs, st, times, g1, g2, g3, fun d => ?_⟩
  have : r.1.sim.obsOf d = a.1.sim.obsOf d := (congrArg SLoc.ob (al d)).symm
  rw [this]
  exact g4 d

end Tickit
