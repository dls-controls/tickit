/-
Non-vacuity of `Props/AnyTransfer*.lean`: theorems of each group (C05, C09, C04 with and without
stimuli, C06 at answer and at run level, C02) applied to the concrete valid nested
configuration `S0` of `Props/C08NestedAnyEx.lean` (master = system `s` + device `z`, `s.y → z.i`;
inside `s` the independent devices `a`, `b`, `expose.y ← a.o`; `b` asks at 0 to be called back at 5)
and to executions that do NOT answer first-in first-out (inside `s`: `b`, `a`, `external`, `expose`).
The executions are found by evaluating their schedules (`execAny_sound`); the other hypotheses are
discharged by closed terms (`rfl`, `decide`).  Not applied here: `any_order_nesting_transparent_initial`,
`any_order_answer_callAt_not_past`, `any_order_run_has_fifo_stims`, `any_order_dispatched_iff`,
`any_order_flatten_valid`.
-/
import TickitModel.Props.AnyTransfer
import TickitModel.Props.AnyTransferC02
import TickitModel.Props.AnyTransferC06
import TickitModel.Props.AnyTransferStim
import TickitModel.Props.C08NestedAnyEx
import TickitModel.Props.C04Mono

namespace Tickit.AnyEx

open Sched -- `Sched.step`, `Sched.done` of `Lemmas/InterExec.lean`: the schedules `execAny_sound` evaluates

/-- the inner tick of `s` in the initial tick, answer order `b`, `a`, `external`, `expose` -/
theorem inner2 : ∃ r, TickLevelAny S0 orc0 "s" 0 (sysRoots S0 {} "s" 0) [] (sysPre {} "s" 0) r ∧
    runNoPastB orc0 r.1 = true ∧ sysCallAt r.1 "s" 0 = some 5 :=
  execAny_sound (step 2 done <| step 1 done <| step 0 done <| step 0 done done) (by decide +kernel)

/-- the initial tick of the master with that inner tick (`exec2`), as an execution of the tick … -/
theorem exec2' : ∃ r, TickLevelAny S0 orc0 "" 0 ["z", "s"] [] {} r ∧ runNoPastB orc0 r.1 = true :=
  ⟨_, tick0, by decide +kernel⟩

/-- … and as the initial tick of a run: afterwards the master has `s` pending for 5, which is the
wakeup of `b` inside `s` -/
theorem init2 : ∃ r0, MasterInitialAny S0 orc0 0 0 r0 ∧
    (firstWakeups (r0.1.sim.sched "").wake).2 = some 5 ∧
    (firstWakeups (r0.1.sim.sched "s").wake).2 = some 5 ∧ runNoPastB orc0 r0.1.sim = true :=
  ⟨_, .mk (L := ⟨"", topW⟩) rfl tick0, rfl, rfl, by decide +kernel⟩

/-- the two-tick any-order run `run2` (ticks at 0 and 5), with `RunNoPast` checked on its final state -/
theorem run2' : ∃ r0 r, MasterInitialAny S0 orc0 0 0 r0 ∧
    MasterRunAny S0 orc0 10 ⟨1, 1⟩ 5 1 r0.1 [] [r0.2] r ∧ r.2.map (·.time) = [0, 5] ∧
    runNoPastB orc0 r.1.sim = true :=
  ⟨_, _, run2_exec.1, run2_exec.2, rfl, by decide +kernel⟩

/-- a run with an external stimulus: after the initial tick, at real time 3 (= simulation time 3 at
speed 1) device `b` inside `s` raises an interrupt; it is queued in `s`'s scheduler, the master
stamps `s` with 3, and the tick at 3 updates `b` (inside `s`: `external` answered before `b`). -/
theorem runStim : ∃ r0 r, MasterInitialAny S0 orc0 0 0 r0 ∧
    MasterRunAny S0 orc0 10 ⟨1, 1⟩ 5 1 r0.1 [⟨3, "b"⟩] [r0.2] r ∧ r.2.map (·.time) = [0, 3] ∧
    runNoPastB orc0 r.1.sim = true := by
  obtain ⟨r3, h3, p⟩ := execAny_sound (S := S0) (orc := orc0) (lvl := "") (t := 3) (roots := ["s"])
    (inCh := []) (st := tickStart (stimStep S0 10 ⟨1, 1⟩ ⟨st2, 0, 0, 0⟩ ⟨3, "b"⟩).sim ["s"])
    (P := fun r => runNoPastB orc0 r.1 = true)
    (step 0 (step 1 done <| step 0 done done) <| step 0 done done) (by decide +kernel)
  exact ⟨_, _, .mk (L := ⟨"", topW⟩) rfl tick0,
    .stim (st := ⟨3, "b"⟩) (rest := []) rfl (.tick (comps := ["s"]) (w := 3) rfl rfl h3 .ticksDone),
    rfl, p⟩

theorem isDevice_a : S0.isDevice "a" := ⟨rfl, rfl⟩
theorem isDevice_b : S0.isDevice "b" := ⟨rfl, rfl⟩

theorem S0_depth : S0.DepthLe 10 := by
  intro c k h
  have hpar : ∀ x p, alookup S0.parent x = some p → p = "" ∨ p = "s" := by
    intro x p hx
    have hm := mem_of_alookup_eq_some hx
    simp only [S0, List.mem_cons, Prod.mk.injEq, List.not_mem_nil, or_false] at hm
    rcases hm with ⟨_, rfl⟩ | ⟨_, rfl⟩ | ⟨_, rfl⟩ | ⟨_, rfl⟩ <;> simp
  cases h with
  | direct _ => omega
  | step hp hne h' =>
    cases h' with
    | direct _ => omega
    | step hp' hne' _ =>
      exfalso
      rcases hpar _ _ hp with rfl | rfl
      · exact hne rfl
      · have : alookup S0.parent "s" = some "" := rfl
        rw [this] at hp'
        exact hne' (Option.some.inj hp').symm

/-- C05 applied: after the (non-FIFO) initial tick `a`, deep inside `s`, has exactly one observation,
at time 0, and `s`'s scheduler has done its initial tick. -/
example : ∃ r0, MasterInitialAny S0 orc0 0 0 r0 ∧ (∃ ins, r0.1.sim.obsOf "a" = [(0, ins)]) ∧
    r0.1.sim.updates "b" = 1 ∧ (r0.1.sim.sched "s").firstDone = true := by
  obtain ⟨r0, h, _⟩ := init2
  obtain ⟨c1, c2, _, c4, _⟩ := any_order_initial_tick_complete S0 S0_valid orc0 0 0 r0 h
  exact ⟨r0, h, c1 "a" isDevice_a, c2 "b" isDevice_b, c4 "s" rfl⟩

/-- one tick, one time: every observation the non-FIFO execution appends is stamped 0 -/
example : ∃ r, TickLevelAny S0 orc0 "" 0 ["z", "s"] [] {} r ∧
    ∃ new, r.1.obs = ({} : SimSt).obs ++ new ∧ ∀ o ∈ new, o.time = 0 ∧ S0.Below "" o.comp := by
  obtain ⟨r, h, _⟩ := exec2'
  exact ⟨r, h, (any_order_tick_one_time S0 S0_valid orc0 "" 0 _ [] (by simp) {} r h).2⟩

/-- C09 applied: the flattening of `S0` (resolution fuel 20) has an any-order run of the same length
as `run2`, and EVERY such run has the tick times 0, 5 and gives every device the observations of
`run2`. -/
example : ∃ r0 r, MasterInitialAny S0 orc0 0 0 r0 ∧
    MasterRunAny S0 orc0 10 ⟨1, 1⟩ 5 1 r0.1 [] [r0.2] r ∧
    (∃ fuel2 q0 q, MasterInitialAny (S0.flatten 20) orc0 0 0 q0 ∧
      MasterRunAny (S0.flatten 20) orc0 fuel2 ⟨1, 1⟩ 5 1 q0.1 [] [q0.2] q) ∧
    ∀ fuel2 q0 q, MasterInitialAny (S0.flatten 20) orc0 0 0 q0 →
      MasterRunAny (S0.flatten 20) orc0 fuel2 ⟨1, 1⟩ 5 1 q0.1 [] [q0.2] q →
      q.2.map (·.time) = [0, 5] ∧ ∀ d, ObsEq (r.1.sim.obsOf d) (q.1.sim.obsOf d) := by
  obtain ⟨r0, r, h1, h2, ht, _⟩ := run2'
  have hr : S0.ResolveStable 20 := S0_valid.resolveStable (by decide +kernel)
  refine ⟨r0, r, h1, h2,
    any_order_flatten_run_exists S0 S0_valid orc0 10 20 hr 0 0 ⟨1, 1⟩ 5 1 r0 r h1 h2, ?_⟩
  intro fuel2 q0 q g1 g2
  obtain ⟨e1, _, e3⟩ := any_order_nesting_transparent_run_fuel S0 S0_valid orc0 10 fuel2 20 (by decide +kernel)
    0 0 ⟨1, 1⟩ 5 1 r0 q0 r q h1 h2 g1 g2
  exact ⟨by rw [← e1, ht], e3⟩

/-- C04 applied to the any-order run `run2` (hypothesis `RunNoPast` checked by `runNoPastB`) -/
example : ∃ r0 r, MasterInitialAny S0 orc0 0 0 r0 ∧
    MasterRunAny S0 orc0 10 ⟨1, 1⟩ 5 1 r0.1 [] [r0.2] r ∧ RunNoPast orc0 r.1.sim ∧
    (r.2.map (·.time)).Pairwise (· ≤ ·) ∧ r.1.sim.Good := by
  obtain ⟨r0, r, h1, h2, _, hnp⟩ := run2'
  have hnp' := runNoPastB_implies orc0 _ hnp
  have := any_order_wake_not_before S0 S0_valid orc0 10 0 0 ⟨1, 1⟩ 5 1 r0 r h1 h2 hnp'
  exact ⟨r0, r, h1, h2, hnp', this.2.2.2, this.1⟩

/-- C04 with an external stimulus applied to `runStim` (ticks at 0 and 3) -/
example : ∃ r0 r, MasterInitialAny S0 orc0 0 0 r0 ∧
    MasterRunAny S0 orc0 10 ⟨1, 1⟩ 5 1 r0.1 [⟨3, "b"⟩] [r0.2] r ∧ r.2.map (·.time) = [0, 3] ∧
    (r.2.map (·.time)).Pairwise (· ≤ ·) := by
  obtain ⟨r0, r, h1, h2, ht, hnp⟩ := runStim
  exact ⟨r0, r, h1, h2, ht, any_order_time_monotone_stims S0 S0_valid orc0 10 S0_depth 0 0 ⟨1, 1⟩ 5 1 _
    r0 r h1 h2 (runNoPastB_implies orc0 _ hnp)⟩

/-- C04 inside a tick: the non-FIFO execution of the master's initial tick adds no wakeup before 0 -/
example : ∃ r, TickLevelAny S0 orc0 "" 0 ["z", "s"] [] {} r ∧ r.1.Good ∧
    ∀ l e, e ∈ (r.1.sched l).wake → e ∈ (({} : SimSt).sched l).wake ∨ (0 : SimTime) ≤ e.2 := by
  obtain ⟨r, h, hnp⟩ := exec2'
  obtain ⟨g1, g2, _⟩ := any_order_system_callAt_not_past S0 S0_valid orc0 "" 0 _ [] (by simp) {} r h
    SimSt.good_empty (runNoPastB_implies orc0 _ hnp)
  exact ⟨r, h, g1, g2⟩

/-- … and the `call_at` reported by `s` after its (non-FIFO) inner tick, 5, is not before the tick -/
example : ∃ r, TickLevelAny S0 orc0 "s" 0 (sysRoots S0 {} "s" 0) [] (sysPre {} "s" 0) r ∧
    sysCallAt r.1 "s" 0 = some 5 ∧ ∀ w, sysCallAt r.1 "s" 0 = some w → (0 : SimTime) ≤ w := by
  obtain ⟨r, h, hnp, hca⟩ := inner2
  exact ⟨r, h, hca, (any_order_nested_tick_callAt_not_past S0 S0_valid orc0 "s" 0 _ [] (by simp) {} r
    SimSt.good_empty h (runNoPastB_implies orc0 _ hnp)).2⟩

/-- C06 applied to the answer of the system component `s` in the initial tick: what `s` reports, 5,
is the minimum of its inner wakeups. -/
example : ∃ st2 o ch ca, AnswerAny S0 orc0 ⟨"", topW⟩ [] {} [] (.input "s" 0 []) (st2, o, ch, ca) ∧
    ca = some 5 ∧ (∃ x, alookup (st2.sched "s").wake x = some 5) ∧
    ∀ x t', alookup (st2.sched "s").wake x = some t' → (5 : SimTime) ≤ t' := by
  obtain ⟨⟨st2, out⟩, h, _, hca⟩ := inner2
  have ha : AnswerAny S0 orc0 ⟨"", topW⟩ [] {} [] (.input "s" 0 []) (st2, [], out, sysCallAt st2 "s" 0) :=
    .sys rfl rfl rfl h
  obtain ⟨_, hq, hmin⟩ := any_order_system_callback_is_min S0 S0_valid orc0 ⟨"", topW⟩ [] {}
    SimSt.wakeWF_empty [] "s" 0 [] rfl rfl rfl st2 [] out _ ha
  have hint : (st2.sched "s").interrupts = [] := by
    cases hi : (st2.sched "s").interrupts with
    | nil => rfl
    | cons x xs =>
      have := hq (by rw [hi]; simp)
      simp only at hca
      rw [hca] at this
      cases this
  exact ⟨st2, [], out, _, ha, hca, (hmin hint).1 5 hca⟩

/-- run-level C06 applied after the non-FIFO initial tick (a run of zero callback ticks): the
bookkeeping invariant holds, and the master's next tick time, 5, is a device's own pending callback
(`b` in the scheduler of `s`), the earliest one. -/
example : ∃ r0, MasterInitialAny S0 orc0 0 0 r0 ∧ SchedOK S0 r0.1.sim ∧
    (∃ d P, S0.isDevice d ∧ alookup S0.parent d = some P ∧ alookup (r0.1.sim.sched P).wake d = some 5) ∧
    ∀ x, x ∈ sysRoots S0 r0.1.sim "s" 5 ↔ x ∈ (r0.1.sim.sched "s").interrupts ∨
      alookup (r0.1.sim.sched "s").wake x = some 5 ∨ x = pseudoExternal ∨
        ((r0.1.sim.sched "s").firstDone = false ∧ ∃ Lc, S0.level "s" = some Lc ∧ x ∈ Lc.wiring.components) := by
  obtain ⟨r0, h, hw, hws, _⟩ := init2
  have hrun : MasterRunAny S0 orc0 10 ⟨1, 1⟩ 5 0 r0.1 [] [r0.2] (r0.1, [r0.2]) := .ticksDone
  refine ⟨r0, h, any_order_run_schedOK S0 S0_valid orc0 10 0 0 ⟨1, 1⟩ 5 0 r0 (r0.1, [r0.2]) h hrun, ?_, ?_⟩
  · exact ((any_order_next_tick_is_min_device_callback S0 S0_valid orc0 10 0 0 ⟨1, 1⟩ 5 0 r0 (r0.1, [r0.2]) h hrun).1
      5 hw).1
  · exact any_order_nestedDue_exact S0 r0.1.sim
      (any_order_run_wakeWF S0 S0_valid orc0 10 0 0 ⟨1, 1⟩ 5 0 [] r0 (r0.1, [r0.2]) h hrun) "s" 5 hws

/-- R4 (`any_order_last_tick_requested`, which rests on the strengthened refinement
`any_order_run_refines_flatRun_wake`) applied to `run2`: its latest tick, at 5, was asked for by a
component whose recorded response says `call_at = 5`, which had been updated at tick time 0 and is
updated at 5. -/
example : ∃ r0 r, MasterInitialAny S0 orc0 0 0 r0 ∧
    MasterRunAny S0 orc0 10 ⟨1, 1⟩ 5 1 r0.1 [] [r0.2] r ∧
    ∃ (c : Comp) (j : Nat) (resp : DevResp), (agetD orc0 c [])[j]? = some resp ∧ resp.callAt = some 5 ∧
      (∃ ins, (0, ins) ∈ r.1.sim.obsOf c) ∧ ∃ init g, r.1.sim.obsOf c = init ++ [(5, g)] := by
  obtain ⟨h1, h2⟩ := run2_exec
  obtain ⟨c, j, resp, e1, e2, ⟨t_req, ins, e3, e4⟩, e5⟩ := any_order_last_tick_requested S0 S0_valid orc0
    10 0 0 ⟨1, 1⟩ 5 1 _ _ h1 h2 [_] _ rfl (List.cons_ne_nil _ _)
  obtain rfl : t_req = 0 := List.mem_singleton.1 e4
  exact ⟨_, _, h1, h2, c, j, resp, e1, e2, ⟨ins, e3⟩, e5⟩

/-- C02 applied: `a` lives INSIDE the system `s`; in the non-FIFO execution it is handed a dispatch
(through the `Input` of `s`), hence in the other execution (`exec1`) it is handed an equivalent one;
and the dispatches of the master level obey the C02 characterisation. -/
example : ∃ r r', TickLevelAny S0 orc0 "" 0 ["z", "s"] [] {} r ∧
    TickLevelAny S0 orc0 "" 0 ["z", "s"] [] {} r' ∧
    r.1.obs.map (·.comp) ≠ r'.1.obs.map (·.comp) ∧
    ∃ d d', Recv S0 orc0 "" 0 ["z", "s"] [] {} r "a" d ∧ Recv S0 orc0 "" 0 ["z", "s"] [] {} r' "a" d' ∧
      Dispatch.Equiv d d' ∧ d.time = 0 := by
  obtain ⟨r, h2, ho2, _⟩ := exec2
  obtain ⟨r', h1, ho1, _⟩ := exec1
  obtain ⟨d, hd⟩ := Recv.inside_of_root S0_valid (by simp) h2 (L := ⟨"", topW⟩) rfl (s := "s") (by decide +kernel)
    rfl rfl rfl (Ls := ⟨"s", sW⟩) rfl (x := "a") (by decide +kernel)
  obtain ⟨d', hd', he⟩ := any_order_same_dispatch S0 S0_valid orc0 "" 0 _ _ [] [] {} {} r r'
    (fun _ => Iff.rfl) (MapEq.refl _) (by simp) (by simp) (.refl SimSt.wakeWF_empty) h1 "a" d hd
  exact ⟨r, r', h2, h1, by rw [ho1, ho2]; decide, d, d', hd, hd', he,
    ((any_order_dispatch_time S0 S0_valid orc0 "" 0 _ [] (by simp) {} r).1 "a" d hd).1⟩

/-- the C02 characterisation on the trace of the master level of the non-FIFO execution: `s` and `z`
are roots, so both get an `Input`. -/
example : ∃ r L tr recs, LevelExec S0 orc0 "" 0 ["z", "s"] [] {} r L tr recs ∧
    (∃ ins, dispatchOf tr "s" = some (.input "s" 0 ins)) := by
  obtain ⟨r, h2, _⟩ := exec2
  obtain ⟨L, tr, recs, he⟩ := (any_order_trace_exists S0 orc0 "" 0 _ [] {} r).1 h2
  obtain ⟨k1, k2, _⟩ := any_order_input_iff_root_or_changed S0 S0_valid orc0 "" 0 _ [] (by simp) {} r L tr
    recs he
  have hL : L = ⟨"", topW⟩ := by
    obtain ⟨_, _, hl, _⟩ := he
    exact (Option.some.inj hl).symm
  subst hL
  refine ⟨r, _, tr, recs, he, ?_⟩
  cases hd : dispatchOf tr "s" with
  | none => exact absurd (by decide) ((k1 "s").1 hd)
  | some d =>
    obtain ⟨ins, hins⟩ := ((k2 "s" d hd).1).2 (Or.inl (by decide))
    exact ⟨ins, by rw [hins]⟩

/-- C02 at observation level: `b` is either left alone by both executions or updated once by both,
at 0, with the same inputs (the theorem's disjunction as it stands; which of the two is not decided
here) -/
example : ∃ r r', TickLevelAny S0 orc0 "" 0 ["z", "s"] [] {} r ∧
    TickLevelAny S0 orc0 "" 0 ["z", "s"] [] {} r' ∧
    ((r.1.obsOf "b" = ({} : SimSt).obsOf "b" ∧ r'.1.obsOf "b" = ({} : SimSt).obsOf "b") ∨
      ∃ m m', r.1.obsOf "b" = ({} : SimSt).obsOf "b" ++ [(0, m)] ∧
        r'.1.obsOf "b" = ({} : SimSt).obsOf "b" ++ [(0, m')] ∧ MapEq m m') := by
  obtain ⟨r, h2, _⟩ := exec2
  obtain ⟨r', h1, _⟩ := exec1
  exact ⟨r, r', h2, h1, any_order_same_updates S0 S0_valid orc0 "" 0 _ _ [] [] {} {} r r'
    (fun _ => Iff.rfl) (MapEq.refl _) (by simp) (by simp) (.refl SimSt.wakeWF_empty) h2 h1 "b"⟩

end Tickit.AnyEx
