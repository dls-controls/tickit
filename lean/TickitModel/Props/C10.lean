/-
C10 — unconnected parts of a simulation never influence each other (one tick, any answer
orders; topic separation is in Props/C15).  At the end the checked counterexample `ceW`: without
`w.WF` a root inside the part can drag in a component outside it.
-/
import TickitModel.Lemmas.PartLemmas
import TickitModel.Props.C01

namespace Tickit

variable {Val : Type}

/-- **noninterference of one tick.**  `A` is a set of components that no wire connects to the rest
of the wiring `w`, `wa` the wiring of `A` alone.  In ANY complete run of a tick of the whole
simulation (any answer order, the other components doing whatever they do) and ANY complete run of
the same tick of `A` alone (roots = the roots that lie in `A`) every component of `A` receives the
same dispatch: the same devices of `A` are invoked with the same inputs, the others skipped. -/
theorem part_tick_same (w wa : Wiring) (A : Comp → Prop) (hp : IsPart w wa A)
    (hw : RouterOK w) (hwa : RouterOK wa) (hacyc : w.Acyclic) (hacyca : wa.Acyclic)
    (react : React Val) (hr : ReactWF react) (hext : Det.ReactExtN react)
    (t : SimTime) (roots rootsA : List Comp) (hroots : ∀ r, r ∈ rootsA ↔ r ∈ roots ∧ A r)
    (s sa : TickSys Val) (h : s.Reachable w react t roots) (ha : sa.Reachable wa react t rootsA)
    (hf : s.tk.toUpdate = []) (hfa : sa.tk.toUpdate = []) (c : Comp) (hc : A c) :
    SameDispatch (dispatchOf s.trace c) (dispatchOf sa.trace c) := by
  have _ := hacyc -- hypothesis not needed: the rank induction runs over `wa` only
  exact sameDispatch_on hw hwa hacyca hp.conn_iff (fun a p c q _ h' => (hp.inside a p c q h').1)
    hr hext (fun c hc => ⟨fun h' => (hroots c).2 ⟨h', hc⟩, fun h' => ((hroots c).1 h').1⟩)
    (fun c hc => hp.extent_iff roots rootsA c hc hroots) h ha hf hfa c hc

/-- a tick of the whole does not stall because of an extra part: as long as components remain to
be updated, some dispatch is pending — on ANY acyclic wiring (this is `progress` of `Props/C01.lean`
word for word; nothing in the statement speaks of parts). -/
theorem whole_never_stalls (w : Wiring) (hacyc : w.Acyclic) (react : React Val) (t : SimTime)
    (roots : List Comp) (hroots : ∀ c ∈ extent w roots, (w.ups c).isSome)
    (s : TickSys Val) (hs : s.Reachable w react t roots) (hne : s.tk.toUpdate ≠ []) : s.pending ≠ [] := by
  exact progress w hacyc react t roots hroots s hs hne

/-- a component outside every extent rooted in `A` is never dispatched because of `A`:
roots inside `A` never drag in anything outside `A`.  (`w.WF` — the wiring is a Python
dict of dicts of sets — is needed: with a shadowed duplicate port key the tree would contain
a child that is no wire, see `ce_isPart`/`ce_extent` below.) -/
theorem extent_stays_inside (w wa : Wiring) (A : Comp → Prop) (hp : IsPart w wa A) (hwf : w.WF)
    (rootsA : List Comp) (hA : ∀ r ∈ rootsA, A r) (c : Comp) (hc : c ∈ extent w rootsA) : A c := by
  exact hp.extent_inside hwf hA hc

/-- the hypothesis is satisfiable in general: the union of two well-formed wirings over
disjoint component sets has each of them as a part (so `part_tick_same` applies to any
configuration extended by a disconnected device, chain or whole system simulation). -/
theorem isPart_append (wa wb : Wiring) (hwa : wa.WF) (hwb : wb.WF)
    (hdisj : ∀ c, c ∈ wa.components → c ∉ wb.components) :
    IsPart (wa ++ wb) wa (fun c => c ∈ wa.components) := by
  exact IsPart.append wa wb hwa hwb hdisj

/-! ### `IsPart.extent_inside` needs `w.WF`

A wiring with a duplicated (shadowed) port key: `Conn` reads the first entry (Python could
never hold this value), `children` folds over both. -/

def ceW : Wiring := [("a", [("o", []), ("o", [("b", "i")])])]
def ceWa : Wiring := [("a", [])]

theorem ceW_noConn (x : Comp) (p : Port) (y : Comp) (q : Port) : ¬ ceW.Conn x p y q := by
  rintro ⟨ports, ins, h1, h2, h3⟩
  simp only [ceW, alookup_cons, alookup_nil] at h1
  split at h1
  · cases h1
    simp only [alookup_cons, alookup_nil] at h2
    split at h2
    · cases h2
      exact nomatch h3
    · cases h2
  · cases h1

theorem ceWa_noConn (x : Comp) (p : Port) (y : Comp) (q : Port) : ¬ ceWa.Conn x p y q := by
  rintro ⟨ports, ins, h1, h2, h3⟩
  simp only [ceWa, alookup_cons, alookup_nil] at h1
  split at h1
  · cases h1; simp at h2
  · cases h1

theorem mem_dependants_leaf {w : Wiring} {r : Comp} (h : alookup w r = none) (x : Comp) :
    x ∈ w.dependants r ↔ x = r := by
  have : w.children r = none := by simp [Wiring.children, h]
  simp [Wiring.dependants, Wiring.bfsFuel, bfs, this]

theorem ce_a_mem (w : Wiring) (hw : ∀ r, r ≠ "a" → alookup w r = none) (roots : List Comp) :
    "a" ∈ extent w roots ↔ "a" ∈ roots := by
  rw [mem_extent_iff]
  constructor
  · rintro ⟨r, hr, h⟩
    by_cases hra : r = "a"
    · exact hra ▸ hr
    · exact ((mem_dependants_leaf (hw r hra) "a").1 h) ▸ hr
  · intro h
    exact ⟨"a", h, (Wiring.dependants_closed w "a").1⟩

theorem ce_isPart : IsPart ceW ceWa (fun c => c = "a") where
  conn_iff := fun a p b q _ => ⟨fun h => absurd h (ceW_noConn _ _ _ _), fun h => absurd h (ceWa_noConn _ _ _ _)⟩
  closed := fun a p b q h => absurd h (ceW_noConn _ _ _ _)
  inside := fun a p b q h => absurd h (ceWa_noConn _ _ _ _)
  ups_some := by
    rintro c rfl
    decide
  extent_iff := by
    rintro roots rootsA c rfl hroots
    rw [ce_a_mem ceW (fun r hr => by simp [ceW, alookup_cons, Ne.symm hr]),
      ce_a_mem ceWa (fun r hr => by simp [ceWa, alookup_cons, Ne.symm hr]), hroots]
    simp

/-- `IsPart` alone does not keep the extent inside: the root `a ∈ A` drags in `b ∉ A`. -/
theorem ce_extent : "b" ∈ extent ceW ["a"] ∧ ¬ ("b" = "a") := by decide +kernel

end Tickit
