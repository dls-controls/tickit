/-
C04 — ticks are serialised, carry one time each, and time never runs backwards: one tick
(`one_time_per_tick`, and `tick_complete` on the ticker's trace) and flat callback histories
(`NoPastCallbacks`, defined in `Lemmas/FlatDetLemmas.lean`, is what keeps time from running
backwards; with interrupts: `Props/FlatInt.lean`).
-/
import TickitModel.Lemmas.FlatDetLemmas

namespace Tickit

variable {Val : Type} [DecidableEq Val]

/-- all updates of one tick carry that tick's time (observations added by a tick at `t`). -/
theorem one_time_per_tick (w : Wiring) (dev : DevFn Val) (st st' : FlatSt Val) (t : SimTime)
    (roots : List Comp) (hrun : TickRun w dev st t roots st')
    (o : Comp × SimTime × List (Port × Val)) (ho : o ∈ st'.obs) (hn : o ∉ st.obs) : o.2.1 = t := by
  obtain ⟨c, t', g⟩ := o
  have hin := FlatSt.mem_obsOf.2 ho
  rcases Det.tickRun_cases hrun c with ⟨hob, _⟩ | ⟨given, hob, _⟩ <;> rw [hob] at hin
  · exact absurd (FlatSt.mem_obsOf.1 hin) hn
  · rcases List.mem_append.1 hin with h | h
    · exact absurd (FlatSt.mem_obsOf.1 h) hn
    · cases List.mem_singleton.1 h
      rfl

/-- a tick is finished only when every member of its extent has answered, and each member
was dispatched exactly once (serialisation: the next tick starts from the finished state).  Nothing
in the proof depends on the reaction function being `st.react dev t`: both facts are clauses of the
ticker invariant `PreInv` (`resolved`, `count`), which holds for every `react`. -/
theorem tick_complete (w : Wiring) (dev : DevFn Val) (st st' : FlatSt Val) (t : SimTime)
    (roots : List Comp) (s : TickSys Val)
    (hs : s.Reachable w (st.react dev t) t roots) (hf : s.tk.toUpdate = []) (c : Comp) (hc : c ∈ extent w roots) :
    (∃ ch, Ev.answer c ch ∈ s.trace) ∧ (s.trace.filter (Ev.isDispatchOf c)).length = 1 := by
  have _ := st' -- not needed
  have hi := hs.inv.pre
  obtain ⟨ch, hch⟩ := (hi.resolved c hc).1 (by rw [hf]; rfl)
  refine ⟨⟨ch, hch⟩, ?_⟩
  have h1 := hi.count c
  have h2 : 1 ≤ (s.trace.filter (Ev.isAnswerOf c)).length :=
    List.length_pos_of_mem (List.mem_filter.2 ⟨hch, by simp [Ev.isAnswerOf]⟩)
  omega

/-- if no device asks to be called back in the past, every pending wakeup is at or after the time
of the last tick. -/
theorem wake_not_before (w : Wiring) (devs : DevSeq Val) (hpast : NoPastCallbacks devs)
    (t0 : SimTime) (n : Nat) (st : FlatSt Val) (times : List SimTime)
    (hrun : FlatRun w devs t0 n st times) :
    ∃ tl rest, times = tl :: rest ∧ ∀ c t, alookup st.wake c = some t → tl ≤ t := by
  exact Det.flatRunI_wake_ge hpast (FlatInt.of_flatRun hrun) (FlatInt.stampsTimely_replicate n times)

/-- **successive tick times never decrease** (by `wake_not_before`: the next tick is at the
minimum of the pending wakeups). -/
theorem time_monotone (w : Wiring) (devs : DevSeq Val) (hpast : NoPastCallbacks devs)
    (t0 : SimTime) (n : Nat) (st : FlatSt Val) (times : List SimTime)
    (hrun : FlatRun w devs t0 n st times) : times.Pairwise (fun later earlier => earlier ≤ later) := by
  exact Det.flatRunI_time_monotone hpast (FlatInt.of_flatRun hrun)
    (FlatInt.stampsTimely_replicate n times)

/-- the components served by a callback tick are at least one, and each of them has a pending
wakeup at exactly the tick's time (flat callbacks-only histories; that the wakeup was requested by
the component itself is `no_invented_tick` in `Props/C06Run.lean`). -/
theorem tick_time_provenance (w : Wiring) (devs : DevSeq Val)
    (t0 : SimTime) (n : Nat) (st st' : FlatSt Val) (times : List SimTime) (cs : List Comp) (m : SimTime)
    (hrun : FlatRun w devs t0 n st times) (hf : firstWakeups st.wake = (cs, some m)) :
    cs ≠ [] ∧ ∀ c ∈ cs, alookup st.wake c = some m := by
  have _ := st' -- not needed
  obtain ⟨hne, hcs, _⟩ := firstWakeups_roots (Det.flatRun_uniqueKeys hrun) hf
  exact ⟨hne, fun c hc => (hcs c).1 hc⟩

end Tickit
