/-
C11 — a failing component stops the whole simulation cleanly (fail-stop), exception path: ONE
exception followed along the configuration tree (`Core/FailStop.lean`), with `runReturns` as "the
run call returns" at that level.  What happens at the top under every interleaving and with any
number of failures, with its own notion `StopSt.runReturned`, is `Props/C11Stop.lean`.
-/
import TickitModel.Lemmas.FailStopLemmas

namespace Tickit

/-- **identity preserved**: at every level, up to the master, the exception that arrives
names the original component and carries the original error — through any nesting depth. -/
theorem identity_preserved (cfg : List Tree) (target : Comp) (err : String) (r : Report)
    (h : failIn "" cfg target err = some r) : r.exc = ⟨target, err⟩ := by
  rw [failIn_eq_pathTo] at h
  obtain ⟨p, _, rfl⟩ := Option.map_eq_some_iff.mp h
  rfl

/-- **the error reaches the top-level scheduler** whenever the failing device exists anywhere
in the configuration, at any depth. -/
theorem reaches_master (cfg : List Tree) (target : Comp) (err : String)
    (ht : target ∈ devicesOf cfg) :
    ∃ r, failIn "" cfg target err = some r ∧ "" ∈ r.errored ∧ r.errored.getLast? = some "" := by
  rw [failIn_eq_pathTo, pathTo_eq]
  cases hc : pathChild cfg target with
  | none => exact absurd ht ((pathChild_none_iff target cfg).mp hc)
  | some p =>
    rw [Option.map_some, Option.map_some, Report.ofPath_append]
    exact ⟨_, rfl, List.mem_append_right _ (List.mem_singleton_self _), List.getLast?_concat⟩

/-- **every component on the way is told to stop**: for every scheduler on the path from the
master down to the failing device, every component it manages was sent `StopComponent`, and
its error flag is up; in particular every top-level component is stopped. -/
theorem all_on_path_stopped (cfg : List Tree) (target : Comp) (err : String) (r : Report)
    (h : failIn "" cfg target err = some r) :
    (∀ t ∈ cfg, t.name ∈ r.stopped) ∧
    (∃ p, pathTo "" cfg target = some p ∧ ∀ lvl ∈ p, lvl.1 ∈ r.errored ∧ ∀ c ∈ lvl.2, c ∈ r.stopped) := by
  rw [failIn_eq_pathTo] at h
  obtain ⟨p, hp, rfl⟩ := Option.map_eq_some_iff.mp h
  refine ⟨fun t ht => ?_, p, hp, fun lvl => Report.ofPath_covers target err⟩
  -- the master's own level closes the path
  rw [pathTo_eq] at hp
  obtain ⟨p', _, rfl⟩ := Option.map_eq_some_iff.mp hp
  exact (Report.ofPath_covers target err (List.mem_append_right p' (List.mem_singleton_self _))).2 _
    (List.mem_map_of_mem ht)

/-- nothing is reported for a component that does not exist -/
theorem no_report_for_unknown (cfg : List Tree) (target : Comp) (err : String)
    (ht : target ∉ devicesOf cfg) : failIn "" cfg target err = none := by
  rw [failIn_eq_pathTo, pathTo_eq, (pathChild_none_iff target cfg).mpr ht]; rfl

/-- `masterTicksAfterError` unfolded at `errorSet = true`: the definition is the loop condition
`while not self.error.is_set()` read as a function, and nothing else mentions it.  That the run
loop starts no tick after the flag is up, in every interleaving of the protocol, is
`no_new_tick_after_error` (`Props/C11Stop.lean`). -/
theorem no_tick_after_error (budget : Nat) : masterTicksAfterError true budget = 0 :=
  if_pos rfl

def exCfg : List Tree :=
  [.dev "a", .sys "s1" [.dev "b", .sys "s2" [.dev "deep", .dev "d2"]], .dev "z"]

example : (failIn "" exCfg "deep" "boom").map (·.exc) = some ⟨"deep", "boom"⟩ := by
  simp [exCfg, failIn_eq, findChild_sys, findChild_dev]
example : (failIn "" exCfg "deep" "boom").map (·.errored) = some ["s2", "s1", ""] := by
  simp [exCfg, failIn_eq, findChild_sys, findChild_dev]
example : (failIn "" exCfg "deep" "boom").map (·.stopped) = some ["deep", "d2", "b", "s2", "a", "s1", "z"] := by
  simp [exCfg, failIn_eq, findChild_sys, findChild_dev, Tree.name]

/-- what `TickitSimulation.run()` awaits: the master's task and every top-level component's
`run_forever`.  The master's loop ends when its error flag is up; a component's `run_forever`
returns once it was told to stop (its long-running tasks are cancelled). -/
def runReturns (cfg : List Tree) (r : Report) : Prop :=
  "" ∈ r.errored ∧ ∀ t ∈ cfg, t.name ∈ r.stopped

/-- **the run call returns** (at the level of the exception-path model): whenever a device that
exists anywhere in the configuration fails, the master's loop ends and every task the run call
awaits has been told to stop. -/
theorem run_returns (cfg : List Tree) (target : Comp) (err : String) (ht : target ∈ devicesOf cfg) :
    ∃ r, failIn "" cfg target err = some r ∧ runReturns cfg r := by
  obtain ⟨r, hr, hm, _⟩ := reaches_master cfg target err ht
  exact ⟨r, hr, hm, (all_on_path_stopped cfg target err r hr).1⟩

end Tickit
