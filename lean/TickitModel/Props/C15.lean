/-
C15 — the in-memory bus delivers per topic, in order, exactly once, with replay;
distinct components never share a topic; and (for C13) the in-memory bus is a refinement of the
state-interface contract bus (`syncBus_refines_contract`).
-/
import TickitModel.Lemmas.BusLemmas
import TickitModel.Lemmas.ContractBus
import TickitModel.Gen.Constants

namespace Tickit

/-- **exactly once, in order, with replay, nothing from other topics** — for every history
of subscribe/produce operations, with handlers that publish re-entrantly (to other topics:
`Stratified`), every (consumer, topic) subscribed at most once, and enough fuel for the
re-entrancy depth (`N` bounds the ranks). -/
theorem bus_exactly_once_in_order (h : Handler) (ops : List BusOp) (rank : Topic → Nat) (N : Nat)
    (hN : ∀ T, rank T < N) (hstrat : Stratified h rank) (honce : SubscribeOnce ops)
    (fuel : Nat) (hfuel : 2 * N + 2 ≤ fuel) (k : Cid) (T : Topic) :
    let b := ops.foldl (Bus.apply h fuel) {}
    b.received k T = if k ∈ b.subsOf T then b.log T else [] := by
  -- the invariant holds for every fuel: without fuel `Bus.push` does nothing at all and
  -- `Bus.pushAll` (`| 0, _, b => b`) leaves out the remaining publications of a handler whole,
  -- log entry and deliveries together.  So the bounds `hN`, `hfuel` are not needed for this half
  -- (exactly once); they are for the other (nothing is dropped: `reaction_is_logged`)
  intro b
  exact (fun _ _ => Bus.inv_of_history hstrat honce fuel k T) hN hfuel

/-- with no handlers publishing, the log of `T` is the list of values produced to `T`, in order. -/
theorem log_no_handlers (ops : List BusOp) (fuel : Nat) (hfuel : 1 ≤ fuel) (T : Topic) :
    (ops.foldl (Bus.apply (fun _ _ _ => []) fuel) {}).log T =
      ops.filterMap (fun op => match op with
        | .produce T' v => if T' = T then some v else none
        | .subscribe _ _ => none) := by
  obtain ⟨n, rfl⟩ : ∃ n, fuel = n + 1 := ⟨fuel - 1, by omega⟩
  rw [fold_noHandler_log]
  simp only [Bus.log, agetD, alookup, Option.getD_none, List.nil_append]
  rfl

/-- necessity of `SubscribeOnce`: subscribing twice replays the log twice. -/
theorem resubscribe_duplicates :
    let ops := [BusOp.produce "t" 1, .produce "t" 2, .subscribe 0 ["t"], .subscribe 0 ["t"]]
    (ops.foldl (Bus.apply (fun _ _ _ => []) 4) {}).received 0 "t" = [1, 2, 1, 2] := by
  simp [Bus.apply, Bus.subscribe, Bus.replay, Bus.push, Bus.deliverAll, Bus.deliver, Bus.pushAll,
    Bus.received, Bus.subsOf, Bus.log, agetD, alookup, upsert, sinsert]

/-- `input_topic` of `utils/topic_naming.py` over the generated constants. -/
def inputTopic (c : Comp) : Topic := Gen.topicPrefix ++ c ++ Gen.inSuffix
/-- `output_topic` of `utils/topic_naming.py` over the generated constants. -/
def outputTopic (c : Comp) : Topic := Gen.topicPrefix ++ c ++ Gen.outSuffix

theorem topic_cancel (p a b s : String) (h : p ++ a ++ s = p ++ b ++ s) : a = b := by
  have h' := congrArg String.toList h
  simp only [String.toList_append, List.append_assoc, List.append_cancel_left_eq,
    List.append_cancel_right_eq] at h'
  exact String.toList_inj.mp h'

/-- same prefix, suffixes neither of which is a suffix of the other: never equal, whatever
the middle parts.  (This is exact: if one suffix is a suffix of the other, two names collide.) -/
theorem topic_ne_of_suffix (p a b s₁ s₂ : String)
    (h₁ : ¬ s₁.toList <:+ s₂.toList) (h₂ : ¬ s₂.toList <:+ s₁.toList) :
    p ++ a ++ s₁ ≠ p ++ b ++ s₂ := by
  intro h
  have h' := congrArg String.toList h
  simp only [String.toList_append, List.append_assoc, List.append_cancel_left_eq] at h'
  rcases List.append_eq_append_iff.mp h' with ⟨c, _, hc⟩ | ⟨c, _, hc⟩
  · exact h₂ ⟨c, hc.symm⟩
  · exact h₁ ⟨c, hc.symm⟩

theorem topic_in_ne_out (a b : Comp) : inputTopic a ≠ outputTopic b :=
  topic_ne_of_suffix _ _ _ _ _ (by decide) (by decide)

/-- **distinct components never share an input or output topic**, and no input topic is
an output topic. -/
theorem topic_injective (a b : Comp) (hab : a ≠ b) :
    inputTopic a ≠ inputTopic b ∧ outputTopic a ≠ outputTopic b ∧
    inputTopic a ≠ outputTopic b ∧ outputTopic a ≠ inputTopic b :=
  ⟨fun h => hab (topic_cancel _ _ _ _ h), fun h => hab (topic_cancel _ _ _ _ h),
    topic_in_ne_out a b, (topic_in_ne_out b a).symm⟩

/-! non-vacuity: a stratified re-entrant handler (consumer 0 forwards `t` to `u`) and two histories
that subscribe every pair once; in `exOps2` consumer 0 ALSO subscribes to `u`, late, together with
`t`, in one subscribe call (its run is `exOps2_run`) -/
def exHandler : Handler := fun k T v => if k = 0 ∧ T = "t" then [("u", v + 10)] else []
def exOps : List BusOp :=
  [.subscribe 0 ["t"], .produce "t" 1, .subscribe 1 ["u"], .produce "t" 2, .subscribe 2 ["t"]]
def exOps2 : List BusOp :=
  [.produce "t" 1, .produce "t" 2, .subscribe 0 ["t", "u"], .produce "t" 3]

example : Stratified exHandler (fun T => if T = "u" then 1 else 0) := by
  intro k T v T' v' hmem
  unfold exHandler at hmem
  split at hmem
  · rename_i hc
    obtain ⟨rfl, rfl⟩ := hc
    simp at hmem
    obtain ⟨rfl, _⟩ := hmem
    decide
  · simp at hmem
example : SubscribeOnce exOps := by
  -- consumers 0, 1, 2 one by one; every other consumer subscribes to nothing
  intro (k : Nat)
  rcases k with _ | _ | _ | k
  · decide
  · decide
  · decide
  · exact List.nodup_nil

example : SubscribeOnce exOps2 := by
  intro (k : Nat)
  cases k with
  | zero => decide
  | succ k => exact List.nodup_nil

/-- the final state of `exOps2` (the model, run): the three readings below are taken from it. -/
theorem exOps2_run : exOps2.foldl (Bus.apply exHandler 6) {} =
    { topics := [("t", [1, 2, 3]), ("u", [11, 12, 13])],
      subs := [("t", [0]), ("u", [0])],
      recv := [(0, "t", 1), (0, "t", 2), (0, "u", 11), (0, "u", 12), (0, "t", 3), (0, "u", 13)] } := by
  simp [exOps2, exHandler, Bus.apply, Bus.subscribe, Bus.replay, Bus.push, Bus.deliverAll,
    Bus.deliver, Bus.pushAll, Bus.subsOf, Bus.log, agetD, alookup, upsert, sinsert]

/-- consumer 0 forwards `t → u` and subscribes to both in ONE late call; the replay of `t`
publishes 11, 12 to `u` before 0 is a subscriber of `u`, the replay of `u` then hands them over once, and 13 arrives live. -/
example : (exOps2.foldl (Bus.apply exHandler 6) {}).log "u" = [11, 12, 13] := by
  rw [exOps2_run]; rfl
example : (exOps2.foldl (Bus.apply exHandler 6) {}).received 0 "u" = [11, 12, 13] := by
  rw [exOps2_run]; rfl
example : (exOps2.foldl (Bus.apply exHandler 6) {}).received 0 "t" = [1, 2, 3] := by
  rw [exOps2_run]; rfl

/-- **nothing is dropped** (the complement of `bus_exactly_once_in_order`, which holds for any
fuel because starved publications are dropped whole): with fuel covering the re-entrancy depth,
every value produced at top level is in its topic's log, and every publication a handler made
in reaction to a delivery is in its topic's log as well. -/
theorem produced_is_logged (h : Handler) (ops : List BusOp) (fuel : Nat) (hfuel : 1 ≤ fuel) (T : Topic) (v : Int)
    (hp : BusOp.produce T v ∈ ops) : v ∈ (ops.foldl (Bus.apply h fuel) {}).log T := by
  obtain ⟨n, rfl⟩ : ∃ n, fuel = n + 1 := ⟨fuel - 1, by omega⟩
  exact Bus.fold_produced_logged n ops {} T v hp

theorem reaction_is_logged (h : Handler) (ops : List BusOp) (rank : Topic → Nat) (N : Nat)
    (hN : ∀ T, rank T < N) (hstrat : Stratified h rank) (honce : SubscribeOnce ops)
    (fuel : Nat) (hfuel : 2 * N + 2 ≤ fuel) (k : Cid) (T : Topic) (v : Int)
    (hd : (k, T, v) ∈ (ops.foldl (Bus.apply h fuel) {}).recv) (T' : Topic) (v' : Int) (hpub : (T', v') ∈ h k T v) :
    v' ∈ (ops.foldl (Bus.apply h fuel) {}).log T' := by
  -- `honce` is not needed for this half (nothing is dropped)
  exact (fun _ => Bus.closed_of_history hstrat hN fuel (by omega) ops (k, T, v) hd (T', v') hpub) honce

/-- **the internal bus refines the contract.**  For every history accepted by C15's theorem, what
each consumer received per topic is what the contract bus delivers to a subscriber whose cursor has
reached the end of the log. -/
theorem syncBus_refines_contract (h : Handler) (ops : List BusOp) (rank : Topic → Nat) (N : Nat)
    (hN : ∀ T, rank T < N) (hstrat : Stratified h rank) (honce : SubscribeOnce ops)
    (fuel : Nat) (hfuel : 2 * N + 2 ≤ fuel) :
    let b := ops.foldl (Bus.apply h fuel) {}
    ∃ (acts : List CAct) (c : CBus), CExec {} acts c ∧
      (∀ T, c.log T = b.log T) ∧
      (∀ k T, c.deliveredTo k T = b.received k T) ∧
      (∀ k T, k ∈ b.subsOf T ↔ (alookup c.cursors (k, T)).isSome) := by
  intro b
  exact contract_exec_of_inv b
    (fun k T => bus_exactly_once_in_order h ops rank N hN hstrat honce fuel hfuel k T)

end Tickit
