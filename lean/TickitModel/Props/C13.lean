/-
C13 — start-up order does not matter (state-interface contract: replay from the beginning;
a late participant is indistinguishable from a slow topic; a component can answer as soon
as it is subscribed).
-/
import TickitModel.Lemmas.ContractLemmas

namespace Tickit

/-- **replay, exactly once, in order**: in every execution of the contract bus, what consumer
`k` has been delivered from topic `T` is exactly the first `cursor` messages of the topic's
log — from the very first message, whether it was produced before or after `k` subscribed —
and nothing is delivered to a consumer that has not subscribed. -/
theorem contract_exactly_once (acts : List CAct) (b : CBus) (h : CExec {} acts b) (k : Nat) (T : CTopic) :
    match alookup b.cursors (k, T) with
    | some i => i ≤ (b.log T).length ∧ b.deliveredTo k T = (b.log T).take i
    | none => b.deliveredTo k T = [] := by
  obtain ⟨hle, hd⟩ := (h.inv CBus.Inv.empty) k T
  rw [agetD_eq] at hle hd
  cases hc : alookup b.cursors (k, T) with
  | some i => rw [hc] at hle hd; exact ⟨hle, hd⟩
  | none => rw [hc] at hd; exact hd

/-- whatever has been produced can still be delivered to every subscriber: a late subscriber
misses nothing (progress: while the cursor is behind, `deliver` is enabled). -/
theorem deliver_enabled (acts : List CAct) (b : CBus) (h : CExec {} acts b) (k : Nat) (T : CTopic) (i : Nat)
    (hc : alookup b.cursors (k, T) = some i) (hlt : i < (b.log T).length) :
    ∃ b', b.step (.deliver k T) = some b' := by
  have _ := h -- (holds in every state, reachable or not)
  exact ⟨_, CBus.step_deliver_of hc (List.getElem?_eq_getElem hlt)⟩

/-- **a late start is just a delay**: moving all subscriptions of an execution to the front,
everything else in the same order, gives an execution with the same topic logs and the same
deliveries in the same order.  Hence whatever holds for all delivery orders with everybody started
(C08) holds for every assignment of start delays. -/
theorem late_subscribe_is_delay (acts : List CAct) (b : CBus) (h : CExec {} acts b) :
    ∃ b', CExec {} (acts.filter CAct.isSubscribe ++ acts.filter (fun a => !a.isSubscribe)) b' ∧
      b'.delivered = b.delivered ∧ (∀ T, b'.log T = b.log T) ∧
      (∀ k T, alookup b'.cursors (k, T) = alookup b.cursors (k, T)) :=
  -- the reordered execution ends in `b` itself (`CExec.subscribes_first`)
  ⟨b, h.subscribes_first, rfl, fun _ => rfl, fun _ _ => rfl⟩

/-- **a component can answer as soon as it is subscribed**: with the producer created before
the subscription, no interleaving of start-up steps and (replayed or fresh) inputs ever
handles an input without a producer. -/
theorem producer_before_subscribe (evs : List CompEv) (h : RespectsStartOrder evs) :
    (evs.foldl CompSt.step {}).crashed = false :=
  CompSt.not_crashed_of_startOrder evs {} rfl rfl h

/-- with the opposite order an input replayed during `subscribe` crashes the component
(the behaviour before the repair) -/
theorem subscribe_before_producer_crashes :
    ([CompEv.start .subscribe, .input, .start .createProducer].foldl CompSt.step {}).crashed = true := by
  rfl

example : CExec {} [.produce "t" 1, .subscribe 0 "t", .deliver 0 "t"]
    { logs := [("t", [1])], cursors := [((0, "t"), 1)], delivered := [(0, "t", 1)] } :=
  .cons rfl (.cons rfl (.cons rfl (.nil _)))

end Tickit
