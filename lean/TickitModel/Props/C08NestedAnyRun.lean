/-
C08 through nesting, whole runs — the master loop over ANY-order ticks.

`MasterRunAny` (`Core/SimAnyRun.lean`) is `masterRun` of `Core/Sim.lean` (wakeup bookkeeping between
ticks, pacing, external stimuli) with every tick replaced by an arbitrary `TickLevelAny` execution
of it.  Its ticks consume no fuel; its argument `fuel` is the one it hands to `stimStep` for the
ticks an external interrupt raises, and means nothing when there are no stimuli
(`MasterRunAny.fuel_change`): hence the arbitrary `fuel0` in the theorems for `stims = []`.  The FIFO
run is one of these runs, all of them do the same ticks and end in equivalent states (same
per-device observations), and the flat theorems (`nested_refines_flatRun`, `nested_inputs_synced`)
transfer to every any-order run: first to those whose FIFO counterpart the model completes
(`any_order_run_inputs_synced`), then, since the model completes it for every sufficiently large
fuel (`any_order_run_has_fifo`), to all of them (`any_order_run_refines_flatRun`).
-/
import TickitModel.Lemmas.AnyRun
import TickitModel.Props.C03Nested

namespace Tickit

/-- **the FIFO run is one of the any-order runs** (initial tick and master loop). -/
theorem fifo_run_is_any (S : Static) (orc : Oracle) (fuel : Nat) (t0 : SimTime) (now : Int) (sp : Speed)
    (steps nTicks : Nat) (m m2 : MasterSt) (tr : TickRec) (stims : List Stim) (ticks : List TickRec)
    (h : masterInitial S orc fuel t0 now = .ok (m, tr))
    (h2 : masterRun S orc fuel sp steps nTicks m stims [tr] = .ok (m2, ticks)) :
    MasterInitialAny S orc t0 now (m, tr) ∧
      MasterRunAny S orc fuel sp steps nTicks m stims [tr] (m2, ticks) :=
  ⟨masterInitial_any S orc fuel t0 now _ h, masterRun_any S orc fuel sp steps nTicks m stims [tr] _ h2⟩

/-- **Schedule independence of whole runs, through nesting.**  Two runs of the master loop over
the same valid configuration with the same recorded device responses, the same initial time, speed
and external stimuli — every tick an arbitrary any-order execution — do the same ticks (same
simulation times, same real times, the same sets of roots) and end in equivalent states; in
particular every device, at whatever depth, has made the same sequence of observations. -/
theorem any_order_run_deterministic (S : Static) (hS : S.Valid) (orc : Oracle) (fuel : Nat)
    (t0 : SimTime) (now : Int) (sp : Speed) (steps nTicks : Nat) (stims : List Stim)
    (r0 r0' : MasterSt × TickRec) (r r' : MasterSt × List TickRec)
    (h1 : MasterInitialAny S orc t0 now r0) (h1' : MasterInitialAny S orc t0 now r0')
    (h2 : MasterRunAny S orc fuel sp steps nTicks r0.1 stims [r0.2] r)
    (h2' : MasterRunAny S orc fuel sp steps nTicks r0'.1 stims [r0'.2] r') :
    r.1.Equiv r'.1 ∧ TicksEquiv r.2 r'.2 ∧ ∀ d, ObsEq (r.1.sim.obsOf d) (r'.1.sim.obsOf d) := by
  obtain ⟨e1, e2⟩ := masterInitialAny_det hS h1 h1'
  have hacc : TicksEquiv [r0.2] [r0'.2] := by rw [e2]; exact TicksEquiv.refl _
  obtain ⟨f1, f2⟩ := masterRunAny_det hS h2 e1 hacc h2'
  exact ⟨f1, f2, fun d => (f1.sim d).ob⟩

/-- every any-order run agrees with the FIFO run, when the model completes the latter. -/
theorem any_order_run_agrees_with_fifo (S : Static) (hS : S.Valid) (orc : Oracle) (fuel : Nat)
    (t0 : SimTime) (now : Int) (sp : Speed) (steps nTicks : Nat) (stims : List Stim)
    (m m2 : MasterSt) (tr : TickRec) (ticks : List TickRec)
    (hf : masterInitial S orc fuel t0 now = .ok (m, tr))
    (hf2 : masterRun S orc fuel sp steps nTicks m stims [tr] = .ok (m2, ticks))
    (r0 : MasterSt × TickRec) (r : MasterSt × List TickRec)
    (h1 : MasterInitialAny S orc t0 now r0)
    (h2 : MasterRunAny S orc fuel sp steps nTicks r0.1 stims [r0.2] r) :
    r.1.Equiv m2 ∧ TicksEquiv r.2 ticks ∧ ∀ d, ObsEq (r.1.sim.obsOf d) (m2.sim.obsOf d) := by
  obtain ⟨a1, a2⟩ := fifo_run_is_any S orc fuel t0 now sp steps nTicks m m2 tr stims ticks hf hf2
  exact any_order_run_deterministic S hS orc fuel t0 now sp steps nTicks stims r0 (m, tr) r (m2, ticks)
    h1 a1 h2 a2

/-- **C03 / C08 through system boundaries, for every answer order at every depth.**  If the FIFO
model completes a nested run (initial tick + callback ticks), then EVERY any-order run of the same
length has, device by device, the observations of a run of the flat system over the resolved
(flattened) wiring which is `Synced`: the inputs every device was given at every update are, port
by port, the latest values reported on the resolved source outputs — no mixture of this-tick and
previous-tick values, whatever the delivery orders inside every system simulation. -/
theorem any_order_run_inputs_synced (S : Static) (hS : S.Valid) (orc : Oracle) (fuel rfuel : Nat)
    (hr : S.resolveFuel ≤ rfuel) (t0 : SimTime) (now : Int) (sp : Speed) (steps nTicks : Nat)
    (m m2 : MasterSt) (tr : TickRec) (ticks : List TickRec)
    (hf : masterInitial S orc fuel t0 now = .ok (m, tr))
    (hf2 : masterRun S orc fuel sp steps nTicks m [] [tr] = .ok (m2, ticks))
    (r0 : MasterSt × TickRec) (r : MasterSt × List TickRec)
    (h1 : MasterInitialAny S orc t0 now r0)
    (h2 : MasterRunAny S orc fuel sp steps nTicks r0.1 [] [r0.2] r) :
    ∃ (devs : DevSeq V) (st : FlatSt V) (times : List SimTime),
      FlatRun (Wiring.fromInverse (S.flatInverse rfuel)) devs t0 (r.2.length - 1) st times ∧
      Synced (Wiring.fromInverse (S.flatInverse rfuel)) st ∧
      times = (r.2.map (·.time)).reverse ∧
      ∀ d, ObsEq (r.1.sim.obsOf d) (st.obsOf d) := by
  obtain ⟨_, hticks, hobs⟩ := any_order_run_agrees_with_fifo S hS orc fuel t0 now sp steps nTicks []
    m m2 tr ticks hf hf2 r0 r h1 h2
  obtain ⟨devs, st, times, hfr, htimes, hob⟩ :=
    nested_refines_flatRun S hS orc fuel rfuel hr t0 now sp steps nTicks m m2 tr ticks hf hf2
  obtain ⟨hS', _, hL, hro, hac⟩ := flatten_facts S hS rfuel
  have hsy := synced_run _ hro hac devs (hS'.ups_defined ⟨"", _⟩ (Static.level_some hL).1) t0 _ st times hfr
  refine ⟨devs, st, times, by rw [hticks.length_eq]; exact hfr, hsy, ?_, fun d => Det.obsEq_trans (hobs d) (hob d)⟩
  rw [htimes, hticks.times.1]

/-- **every any-order run (no external stimuli) has a FIFO counterpart**: for every sufficiently
large fuel the FIFO model completes the same run, doing the same ticks and ending in an equivalent
state. -/
theorem any_order_run_has_fifo (S : Static) (hS : S.Valid) (orc : Oracle) (fuel0 : Nat) (t0 : SimTime)
    (now : Int) (sp : Speed) (steps nTicks : Nat) (r0 : MasterSt × TickRec)
    (r : MasterSt × List TickRec) (h1 : MasterInitialAny S orc t0 now r0)
    (h2 : MasterRunAny S orc fuel0 sp steps nTicks r0.1 [] [r0.2] r) :
    ∃ F, ∀ fuel, F ≤ fuel → ∃ m tr m2 ticks, masterInitial S orc fuel t0 now = .ok (m, tr) ∧
      masterRun S orc fuel sp steps nTicks m [] [tr] = .ok (m2, ticks) ∧
      r.1.Equiv m2 ∧ TicksEquiv r.2 ticks := by
  obtain ⟨F, hF⟩ := masterRunAny_fifo_of_stable hS h1 h2
  exact ⟨F, fun fuel hfu => hF fuel hfu (fun _ h => nomatch h)⟩

/-- **C03 / C08 through system boundaries for EVERY answer order at every depth, without any
assumption on the FIFO model.**  The conclusion of `any_order_run_inputs_synced` for every any-order
run (initial tick + callback ticks, each tick an arbitrary execution) of a valid nested
configuration.  All theorems about `FlatRun` (C03, C04, C06, C08) thereby apply to the observations
of every any-order run. -/
theorem any_order_run_refines_flatRun (S : Static) (hS : S.Valid) (orc : Oracle) (fuel0 rfuel : Nat)
    (hr : S.resolveFuel ≤ rfuel) (t0 : SimTime) (now : Int) (sp : Speed) (steps nTicks : Nat)
    (r0 : MasterSt × TickRec) (r : MasterSt × List TickRec)
    (h1 : MasterInitialAny S orc t0 now r0)
    (h2 : MasterRunAny S orc fuel0 sp steps nTicks r0.1 [] [r0.2] r) :
    ∃ (devs : DevSeq V) (st : FlatSt V) (times : List SimTime),
      FlatRun (Wiring.fromInverse (S.flatInverse rfuel)) devs t0 (r.2.length - 1) st times ∧
      Synced (Wiring.fromInverse (S.flatInverse rfuel)) st ∧
      times = (r.2.map (·.time)).reverse ∧
      ∀ d, ObsEq (r.1.sim.obsOf d) (st.obsOf d) := by
  obtain ⟨F, hF⟩ := any_order_run_has_fifo S hS orc fuel0 t0 now sp steps nTicks r0 r h1 h2
  obtain ⟨m, tr, m2, ticks, hmi, hmr, _⟩ := hF F (Nat.le_refl _)
  exact any_order_run_inputs_synced S hS orc F rfuel hr t0 now sp steps nTicks m m2 tr ticks hmi hmr
    r0 r h1 (h2.fuel_change (fun _ h => nomatch h))

end Tickit
