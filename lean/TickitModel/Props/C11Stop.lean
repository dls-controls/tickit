/-
C11 — fail-stop, the stop protocol of the master scheduler under EVERY interleaving and ANY number
of failures (`Core/StopProtocol.lean`); `Props/C11.lean` follows ONE exception along the
configuration tree.  Here: what happens at the top once reports arrive: the coroutines
`MasterScheduler.run_forever`, any number of `handle_component_exception` handlers (one per report,
interleaving at every `await`, their `StopComponent` producers running in any order), the bus
delivering the stop messages, the components answering or failing, wakeups arriving at any moment.
`cfg.stopOnce = false` is the code as it is in /repo; `cfg.stopOnce = true` is the seeded change
C11-m7 ("only the first exception starts the shut down"), for which the hang is a theorem.
"Scheduler / bus steps" (`StopAct.isSys`) are: a move of the run loop, a handler statement, a
`StopComponent` producer, a delivery.  Everything else is the environment.
-/
import TickitModel.Lemmas.StopProtocolLive

namespace Tickit

variable {cfg : StopCfg} {s s' : StopSt}

/-- **the invariant holds in every reachable state** of the code as it is. -/
theorem stop_invariant (hcfg : cfg.stopOnce = false) (h : StopReach cfg s) : StopInv cfg s :=
  h.inv hcfg

/-- **once any report's handler has finished, `error` is set.**  In fact as soon as a handler has
come back from `super().handle_component_exception(...)` - i.e. it is about to execute, or has
executed, `self.ticker.finished.set()` - the master's `error` event is set. -/
theorem error_set_when_handler_finished (hcfg : cfg.stopOnce = false) (h : StopReach cfg s)
    (r : StopReport) (hr : r ∈ s.reports) (hpc : r.pc = .afterSuper ∨ r.pc = .done) :
    s.error = true :=
  (h.inv hcfg).errOfAfter r hr hpc

/-- **the run loop never starts a new tick after `error` is set** - nor after a failure was
merely reported: the step "the sleep expires and `await self.ticker(...)` starts" is not enabled,
for any set of components; the loop is inside the tick in which the failure happened, back at
`while not self.error.is_set()`, or out - never waiting for a wakeup, never sleeping. -/
theorem no_new_tick_after_error (hcfg : cfg.stopOnce = false) (h : StopReach cfg s)
    (he : s.error = true ∨ s.reports ≠ []) :
    (s.pc = .ticking ∨ s.pc = .top ∨ s.pc = .exited) ∧
    ∀ cs left, s.step cfg (.sleepExpires cs left) = none := by
  have hi := h.inv hcfg
  have hp : s.pc = .ticking ∨ s.pc = .top ∨ s.pc = .exited := by
    rcases he with he | he
    · exact hi.errPc he
    · exact hi.pc_of_reports he
  refine ⟨hp, fun cs left => if_neg fun hc => ?_⟩
  rcases hp with hp | hp | hp <;> exact nomatch hp.symm.trans hc.1

/-- the same as a statement about steps: with `error` set (or a report in flight) no step
whatsoever takes the run loop from outside a tick into a tick. -/
theorem no_step_into_tick_after_error (hcfg : cfg.stopOnce = false) (h : StopReach cfg s)
    (he : s.error = true ∨ s.reports ≠ []) (a : StopAct) (hs : s.step cfg a = some s')
    (hp : s'.pc = .ticking) : s.pc = .ticking := by
  rcases StopSt.step_pc_ticking a hs hp with h1 | ⟨cs, left, rfl⟩
  · exact h1
  · rw [(no_new_tick_after_error hcfg h he).2 cs left] at hs
    cases hs

/-- at `while not self.error.is_set()` with `error` set, the loop's next move is to leave. -/
theorem loop_exits_at_top (hp : s.pc = .top) (he : s.error = true) :
    s.step cfg .loop = some { s with pc := .exited } := by
  simp [StopSt.step, StopSt.loopStep, hp, he]

/-- **the ticker is released only after `error.set()`.**  Whenever a step sets the ticker's
`finished` event, either it is the normal end of a tick (the last awaited component answered and
no failure was reported), or it is the statement `self.ticker.finished.set()` of a handler - and
then `error` is already set. -/
theorem release_only_after_error (hcfg : cfg.stopOnce = false) (h : StopReach cfg s) (a : StopAct)
    (hs : s.step cfg a = some s') (h0 : s.finished = false) (h1 : s'.finished = true) :
    (s.error = true ∧ ∃ i, a = .handler i) ∨
    (s.reports = [] ∧ s'.toUpdate = [] ∧ ∃ c, a = .answer c) := by
  have hi := h.inv hcfg
  rcases StopSt.step_sets_finished a hs h0 h1 with ⟨c, rfl, htu⟩ | ⟨i, r, rfl, hri, hpc⟩
  · refine Or.inr ⟨?_, htu, c, rfl⟩
    -- with a report in flight a failed component stays awaited: the tick cannot complete
    apply Classical.byContradiction
    intro hne
    have hi' := (h.step hs).inv hcfg
    obtain ⟨x, hx⟩ := List.exists_mem_of_ne_nil _
      (hi'.failed_ne_nil (StopSt.step_reports_ne_nil _ hs hne))
    exact nomatch htu ▸ hi'.failedTu x hx
  · exact Or.inl ⟨hi.errOfAfter r (List.mem_of_getElem? hri) (Or.inl hpc), i, rfl⟩

/-- so the run loop can never observe "tick released, `error` clear" because of a report:
in every reachable state with a report in flight, `finished` set implies `error` set. -/
theorem never_released_with_error_clear (hcfg : cfg.stopOnce = false) (h : StopReach cfg s)
    (hr : s.reports ≠ []) (hf : s.finished = true) : s.error = true := by
  cases he : s.error with
  | true => rfl
  | false =>
    have := ((h.inv hcfg).inTick hr he).2
    rw [hf] at this; cases this

/-- **every component is sent `StopComponent` by the time the first handler finishes**: when a
handler has come back from `super()` (a fortiori when it has returned), and whenever `error` is
set, a `StopComponent` was produced for every component; each of them is still in flight or its
component has run `stop_component()`. -/
theorem all_stops_sent (hcfg : cfg.stopOnce = false) (h : StopReach cfg s)
    (he : s.error = true ∨ ∃ r ∈ s.reports, r.pc = .afterSuper ∨ r.pc = .done) :
    ∀ c ∈ cfg.comps, c ∈ s.stopSent ∧ (c ∈ s.inbox ∨ c ∈ s.stopped) := by
  have hi := h.inv hcfg
  have he' : s.error = true := by
    rcases he with he | ⟨r, hr, hpc⟩
    · exact he
    · exact hi.errOfAfter r hr hpc
  intro c hc
  exact ⟨hi.sentOfErr he' c hc, hi.sentTracked c (hi.sentOfErr he' c hc)⟩

/-- **identity.** The reports the master sees are exactly the failures, one report per failing
component, in order, each carrying the name of the component that failed; those components are
components of the system which the tick was waiting for.  Conversely no `StopComponent` is ever
produced, and no component stopped, unless a failure was reported. -/
theorem reports_are_the_failures (hcfg : cfg.stopOnce = false) (h : StopReach cfg s) :
    s.reports.map (·.src) = s.failed ∧ (∀ c ∈ s.failed, c ∈ s.toUpdate ∧ c ∈ cfg.comps) ∧
    (s.reports = [] → s.error = false ∧ s.stopSent = [] ∧ s.inbox = [] ∧ s.stopped = []) := by
  have hi := h.inv hcfg
  refine ⟨hi.ident, fun c hc => ⟨hi.failedTu c hc, hi.tuComps c (hi.failedTu c hc)⟩, fun hr => ?_⟩
  have hs := hi.noSpurious hr
  exact ⟨(hi.quiet hr).1, hs,
    List.eq_nil_iff_forall_not_mem.mpr fun c hc => List.not_mem_nil (hs ▸ hi.inboxSent c hc),
    List.eq_nil_iff_forall_not_mem.mpr fun c hc => List.not_mem_nil (hs ▸ hi.stoppedSent c hc)⟩

/-- **the measure is a bound.**  From any reachable state in which at least one failure was
reported, along ANY execution (any interleaving, any further failures, answers, wakeups), the
number of scheduler / bus steps plus the measure of the state reached is at most the measure of
the start: no execution contains more than `s.measure cfg` such steps. -/
theorem sys_steps_bounded (hcfg : cfg.stopOnce = false) (h : StopReach cfg s)
    (hr : s.reports ≠ []) (as : List StopAct) (hs : s.exec cfg as = some s') :
    stopCountSys as + s'.measure cfg ≤ s.measure cfg :=
  (h.inv hcfg).exec_measure hcfg as hr hs

/-- the single-step form of the bound. -/
theorem measure_decreases (hcfg : cfg.stopOnce = false) (h : StopReach cfg s)
    (hr : s.reports ≠ []) (a : StopAct) (hs : s.step cfg a = some s') :
    s'.measure cfg ≤ s.measure cfg ∧ (a.isSys = true → s'.measure cfg < s.measure cfg) :=
  (h.inv hcfg).measure_step hr a hs

/-- **every maximal execution ends with the run call returned.**  If, after any execution from a
reachable state with a reported failure, no scheduler / bus step is enabled any more, then the
run loop has exited and every component has run `stop_component()`: everything
`TickitSimulation.run()` awaits is finished.  Together with `sys_steps_bounded`: every execution
is either extendable by a scheduler / bus step - at most `measure` times - or has returned. -/
theorem maximal_execution_returns (hcfg : cfg.stopOnce = false) (h : StopReach cfg s)
    (hr : s.reports ≠ []) (as : List StopAct) (hs : s.exec cfg as = some s')
    (hq : s'.quiescent cfg) : s'.runReturned cfg :=
  have ⟨hi, hne⟩ := (h.inv hcfg).exec hcfg hr as hs
  hi.quiescent_returned hne hq

/-- **under any fair schedule the run call returns, and stays returned.**  Take any infinite
schedule of actions (those not enabled at their turn are skipped) which is weakly fair to the
scheduler and the bus.  From every reachable state with a reported failure there is a moment
from which on the run loop has exited and all components are stopped. -/
theorem fair_run_returns (hcfg : cfg.stopOnce = false) (h : StopReach cfg s) (hr : s.reports ≠ [])
    (σ : Nat → StopAct) (hfair : s.fair cfg σ) :
    ∃ n, ∀ k, (s.sched cfg σ (n + k)).runReturned cfg := by
  obtain ⟨m, _, hm⟩ := (h.inv hcfg).fair_returns hcfg hr σ hfair 0
  exact ⟨m, fun k => StopSt.runReturned_sched σ (Nat.le_add_right m k) hm⟩

/-- the goal is not only forced but attainable: some execution consisting of at most `measure`
scheduler / bus steps ends in a state where none of them is enabled and the run call has returned. -/
theorem some_execution_returns (hcfg : cfg.stopOnce = false) (h : StopReach cfg s)
    (hr : s.reports ≠ []) :
    ∃ as s', as.length ≤ s.measure cfg ∧ (∀ a ∈ as, a.isSys = true) ∧ s.exec cfg as = some s' ∧
      s'.quiescent cfg ∧ s'.runReturned cfg :=
  (h.inv hcfg).exists_exec_quiescent hcfg hr

/-- the fairness hypothesis of `fair_run_returns` is satisfiable from every reachable state with
a reported failure: play the execution of `some_execution_returns`, then wakeups for ever. -/
theorem fair_schedule_exists (hcfg : cfg.stopOnce = false) (h : StopReach cfg s)
    (hr : s.reports ≠ []) : ∃ σ, s.fair cfg σ := by
  obtain ⟨as, s', _, hsys, he, hq, hret⟩ := some_execution_returns hcfg h hr
  exact ⟨stopSchedOf as, StopSt.fair_of_exec as hsys he hq hret.1⟩

/-- no action undoes the return of the run call: nothing leaves `.exited`, and `stopped` only grows
(this is what extends `fair_run_returns` from one moment to all later ones). -/
theorem returned_is_stable (a : StopAct) (hs : s.step cfg a = some s') (h : s.runReturned cfg) :
    s'.runReturned cfg :=
  StopSt.runReturned_step a hs h

/-- **the bound in closed form**, at the moment of the FIRST failure of a tick: if no failure
was reported yet, the tick waits for `m` components (of a system of `n`) and one of them fails,
then `measure ≤ 1 + m·(2n+4)`: at most that many scheduler / bus steps separate the first
failure from the return of the run call, whatever else fails meanwhile.  The bound is
`2 + (2n+3) + (m-1)·(2n+4)`: the two moves of the run loop (leave the tick, leave the loop); the
handler of the first report (its first statement, `n` producers, `n` deliveries, `error.set()`,
`finished.set()`); and for each of the other `m-1` awaited components, which may still fail, such
a handler plus the 1 that `StopSt.measure` charges so that a failure itself lowers the measure. -/
theorem first_failure_bound (hcfg : cfg.stopOnce = false) (h : StopReach cfg s)
    (hr : s.reports = []) (c : Comp) (hs : s.step cfg (.fail c) = some s') :
    s'.reports ≠ [] ∧ s'.measure cfg ≤ 1 + s.toUpdate.length * (2 * cfg.comps.length + 4) := by
  have hi := h.inv hcfg
  cases StopStep.of_step hs with
  | fail hc hf =>
    refine ⟨List.append_ne_nil_of_right_ne_nil _ (List.cons_ne_nil _ _), ?_⟩
    -- before the failure: inside the tick, no handler, nothing in flight
    have hq := (hi.quiet hr).2.1 (List.ne_nil_of_mem hc)
    obtain ⟨_, _, hin, _⟩ := (reports_are_the_failures hcfg h).2.2 hr
    have hlt := StopSt.measure_fail (cfg := cfg) hc hf
    have := Nat.mul_le_mul_right (2 * cfg.comps.length + 4)
      (List.length_filter_le (· ∉ s.failed) s.toUpdate)
    simp only [StopSt.measure, StopSt.unfailed, hr, hin, hq.1, SLoopPc.cost, List.map_nil,
      List.sum_nil, List.length_nil] at hlt ⊢
    omega

/-- **`stopOnce = true` hangs.**  Components a, b, w; a and b fail in the initial tick, w answers.
The interleaving `stopOnceHistory` is executable in the variant and ends in `stopOnceBad`:
`error` is set, both handlers have returned, every component has been stopped - and the run loop
sits in `await self.new_wakeup.wait()` with no wakeup and the flag clear.  In that state NO
action other than a new wakeup is enabled. -/
theorem stopOnce_hangs :
    (StopSt.init (stopOnceCfg true)).exec (stopOnceCfg true) stopOnceHistory = some stopOnceBad ∧
    StopReach (stopOnceCfg true) stopOnceBad ∧
    stopOnceBad.error = true ∧ (∀ r ∈ stopOnceBad.reports, r.pc = .done) ∧
    (∀ c ∈ (stopOnceCfg true).comps, c ∈ stopOnceBad.stopped) ∧
    stopOnceBad.pc = .waiting ∧ stopOnceBad.hasWakeups = false ∧
    ¬ stopOnceBad.runReturned (stopOnceCfg true) ∧
    ∀ a, a ≠ .wakeup → stopOnceBad.step (stopOnceCfg true) a = none :=
  ⟨stopOnce_exec_bad, StopReach.exec _ .init stopOnce_exec_bad, rfl, by decide +kernel, by decide +kernel, rfl, rfl,
    by decide +kernel, stopOnceBad_dead⟩

/-- **it waits forever**: under any schedule without a new wakeup, finite or infinite, the run
loop of the variant stays where it is; `TickitSimulation.run()` never returns. -/
theorem stopOnce_waits_forever :
    (∀ as s', StopAct.wakeup ∉ as → stopOnceBad.exec (stopOnceCfg true) as = some s' →
      s'.pc = .waiting ∧ ¬ s'.runReturned (stopOnceCfg true)) ∧
    (∀ σ : Nat → StopAct, (∀ n, σ n ≠ .wakeup) → ∀ n,
      (stopOnceBad.sched (stopOnceCfg true) σ n).pc = .waiting ∧
      ¬ (stopOnceBad.sched (stopOnceCfg true) σ n).runReturned (stopOnceCfg true)) :=
  StopSt.parked_forever ⟨rfl, rfl⟩

/-- what goes wrong, as a violation of the safety property: after the first six actions of the
history the ticker is released (`finished` set) by the second report's handler while `error` is
still clear and the first handler is in the middle of its fan-out - in the code as it is this is
impossible (`never_released_with_error_clear`). -/
theorem stopOnce_releases_before_error :
    ∃ s, (StopSt.init (stopOnceCfg true)).exec (stopOnceCfg true) (stopOnceHistory.take 6) = some s ∧
      s.reports ≠ [] ∧ s.finished = true ∧ s.error = false ∧ s.pc = .ticking := by
  refine ⟨_, (by decide +kernel : _ = some
    { pc := .ticking, error := false, finished := true, stopping := true, hasWakeups := false,
      newWakeup := false, toUpdate := ["a", "b"], failed := ["a", "b"],
      reports := [⟨"a", .fanout ["a", "b", "w"]⟩, ⟨"b", .done⟩], inbox := [], stopSent := [],
      stopped := [] }), by decide +kernel, rfl, rfl, rfl⟩

/-- **the hang does not depend on the example**: in EVERY system with at least two components
`a ≠ b`, the variant has an interleaving of seven actions (both fail in the initial tick; the
first handler starts its fan-out; the second returns early and releases the ticker; the run loop
leaves the tick, finds `error` clear and no wakeup) after which - whatever the handlers, the bus
and the components do afterwards, for ever - the run loop does not move without a new wakeup and
the run call does not return. -/
theorem stopOnce_hangs_in_every_system (hcfg : cfg.stopOnce = true) (a b : Comp)
    (ha : a ∈ cfg.comps) (hb : b ∈ cfg.comps) (hab : a ≠ b) :
    ∃ s, (StopSt.init cfg).exec cfg (stopOncePrefix a b) = some s ∧ StopReach cfg s ∧
      s.reports ≠ [] ∧
      (∀ as s', StopAct.wakeup ∉ as → s.exec cfg as = some s' →
        s'.pc = .waiting ∧ ¬ s'.runReturned cfg) ∧
      (∀ σ : Nat → StopAct, (∀ n, σ n ≠ .wakeup) → ∀ n,
        (s.sched cfg σ n).pc = .waiting ∧ ¬ (s.sched cfg σ n).runReturned cfg) := by
  have he := stopOnce_parks cfg hcfg a b ha hb hab
  exact ⟨_, he, StopReach.exec _ .init he, List.cons_ne_nil _ _,
    StopSt.parked_forever (s := stopOnceParked cfg a b) ⟨rfl, rfl⟩⟩

/-- the parking lemma behind the hang holds for both variants: `_do_tick` does not look at
`error` while it waits, so a run loop parked in `new_wakeup.wait()` is moved by nothing but
`add_wakeup`.  The code as it is relies on never being parked while a report is in flight
(`no_new_tick_after_error`). -/
theorem parked_needs_wakeup (a : StopAct) (ha : a ≠ .wakeup) (hs : s.step cfg a = some s')
    (h : s.parked) : s'.parked :=
  StopSt.parked_step a ha hs h

/-! ### concrete instances (the hypotheses are satisfiable) -/

/-- in the code as it is the second handler cannot return early: the history of the variant is
not executable. -/
example : (StopSt.init (stopOnceCfg false)).exec (stopOnceCfg false) stopOnceHistory = none := by
  decide +kernel

/-- the same two failures in the code as it is, handlers interleaved (both fan-outs overlap): a
reachable state with two reports ... -/
def twoFailures : List StopAct := [ .fail "a", .fail "b", .answer "w", .handler 0, .handler 1 ]

def twoFailuresMid : StopSt :=
  { pc := .ticking, error := false, finished := false, stopping := false, hasWakeups := false,
    newWakeup := false, toUpdate := ["a", "b"], failed := ["a", "b"],
    reports := [⟨"a", .fanout ["a", "b", "w"]⟩, ⟨"b", .fanout ["a", "b", "w"]⟩], inbox := [],
    stopSent := [], stopped := [] }

theorem twoFailures_reach : StopReach (stopOnceCfg false) twoFailuresMid :=
  StopReach.exec twoFailures .init (by decide +kernel)

example : twoFailuresMid.reports ≠ [] ∧ twoFailuresMid.measure (stopOnceCfg false) = 18 := by
  decide +kernel

/-- ... from which one complete interleaving (18 scheduler / bus steps, as many as the measure:
the bound is attained; the second handler overtakes the first) ends with the run call returned. -/
def twoFailuresRest : List StopAct :=
  [ .produceStop 1 "w", .produceStop 0 "a", .produceStop 1 "b", .deliverStop "a", .produceStop 1 "a"
  , .handler 1            -- second report: `error.set()`
  , .produceStop 0 "b", .produceStop 0 "w"
  , .handler 1            -- second report: `finished.set()`
  , .loop                 -- the tick returns
  , .handler 0            -- first report: `error.set()` (again)
  , .loop                 -- `while not self.error.is_set()`: leave
  , .deliverStop "w", .deliverStop "b", .deliverStop "a", .deliverStop "b", .deliverStop "w"
  , .handler 0 ]          -- first report: `finished.set()` - nobody waits, harmless

def twoFailuresEnd : StopSt :=
  { pc := .exited, error := true, finished := true, stopping := false, hasWakeups := false,
    newWakeup := false, toUpdate := ["a", "b"], failed := ["a", "b"],
    reports := [⟨"a", .done⟩, ⟨"b", .done⟩], inbox := [],
    stopSent := ["w", "a", "b", "a", "b", "w"], stopped := ["w", "b", "a", "b", "w", "a"] }

theorem twoFailuresRest_exec :
    twoFailuresMid.exec (stopOnceCfg false) twoFailuresRest = some twoFailuresEnd := by
  decide +kernel

theorem twoFailuresEnd_quiescent : twoFailuresEnd.quiescent (stopOnceCfg false) :=
  StopSt.quiescent_of_done rfl (by decide +kernel) rfl

example : twoFailuresEnd.runReturned (stopOnceCfg false) ∧ stopCountSys twoFailuresRest = 18 := by
  decide +kernel

/-- instance of `maximal_execution_returns` -/
example : twoFailuresEnd.runReturned (stopOnceCfg false) :=
  maximal_execution_returns rfl twoFailures_reach (by decide +kernel) _ twoFailuresRest_exec
    twoFailuresEnd_quiescent

/-- a concrete fair schedule from the state with two overlapping fan-outs: the 18 steps above,
then wakeups for ever; so `fair_run_returns` applies to it. -/
example : twoFailuresMid.fair (stopOnceCfg false) (stopSchedOf twoFailuresRest) ∧
    ∃ n, ∀ k, (twoFailuresMid.sched (stopOnceCfg false) (stopSchedOf twoFailuresRest)
      (n + k)).runReturned (stopOnceCfg false) := by
  have hfair : twoFailuresMid.fair (stopOnceCfg false) (stopSchedOf twoFailuresRest) :=
    StopSt.fair_of_exec twoFailuresRest (by decide +kernel) twoFailuresRest_exec twoFailuresEnd_quiescent rfl
  exact ⟨hfair, fair_run_returns rfl twoFailures_reach (by decide +kernel) _ hfair⟩

/-- instance of `first_failure_bound`: the initial tick of three components, first failure:
at most 1 + 3·(2·3+4) = 31 scheduler / bus steps to go. -/
example : ∃ s, (StopSt.init (stopOnceCfg false)).step (stopOnceCfg false) (.fail "a") = some s ∧
    s.measure (stopOnceCfg false) ≤ 31 := by
  have hs : (StopSt.init (stopOnceCfg false)).step (stopOnceCfg false) (.fail "a") =
      some { StopSt.init (stopOnceCfg false) with failed := ["a"], reports := [⟨"a", .start⟩] } := by
    decide +kernel
  exact ⟨_, hs, (first_failure_bound (cfg := stopOnceCfg false) rfl .init rfl "a" hs).2⟩

end Tickit
