/-
C14 (ticker) — `Ticker.to_update` (`core/management/ticker.py`) holds one entry — `None` or
the handle of the task created by `schedule_possible_updates` — per component still to be
resolved in the current tick:

    self.to_update = {c: None for component in self.roots
                              for c in self.event_router.dependants(component)}     # _start_tick
    updating[component] = asyncio.create_task(self.update_component(Input(..)))       # schedule
    self.to_update.update(updating)
    self.to_update.pop(output.source)                                                 # propagate

In every reachable state of every tick (closed tick system of `Core/TickSys.lean`: every
wiring, root set, reaction and order of answers) the number of entries, and with it the number
of task handles and of dispatches not yet answered, is at most the number of components of
the wiring; it does not depend on the number of ticks done before, and `_start_tick` replaces
the dict.
-/
import TickitModel.Lemmas.TickerResLemmas

namespace Tickit

variable {Val : Type}

/-- everything `_start_tick` puts into `to_update` is a component of the wiring, provided the
roots are (they are: `ticker.components` for the first tick, keys of `wakeups` afterwards). -/
theorem extent_within_components (w : Wiring) (roots : List Comp)
    (hroots : ∀ r ∈ roots, r ∈ w.components) :
    (∀ c ∈ extent w roots, c ∈ w.components) ∧ (extent w roots).Nodup ∧
    (extent w roots).length ≤ w.components.length :=
  ⟨fun _ hc => extent_sub_components hroots hc, extent_nodup w roots,
    extent_length_le hroots⟩

/-- `EventRouter.components` has no duplicates, so its length is the number of components. -/
theorem components_is_a_set (w : Wiring) : w.components.Nodup := w.components_nodup

/-- **C14, ticker.** In every reachable state of a tick: `len(to_update)` ≤ the size of the
tick's extent ≤ the number of components of the wiring; the dispatches not yet answered (=
the live update/skip tasks' handles, flag `true`) are at most `len(to_update)`. -/
theorem ticker_toUpdate_bounded (w : Wiring) (react : React Val) (t : SimTime) (roots : List Comp)
    (hroots : ∀ r ∈ roots, r ∈ w.components)
    (s : TickSys Val) (hs : s.Reachable w react t roots) :
    s.tk.toUpdate.length ≤ (extent w roots).length ∧
    s.tk.toUpdate.length ≤ w.components.length ∧
    s.pending.length ≤ s.tk.toUpdate.length ∧
    (s.tk.toUpdate.filter (fun e => e.2)).length ≤ w.components.length := by
  have h1 := hs.inv.pre.toUpdate_length_le
  have h2 := extent_length_le hroots
  have h3 := hs.inv.pre.pending_length_le
  have h4 := List.length_filter_le (fun e : Comp × Bool => e.2) s.tk.toUpdate
  exact ⟨h1, by omega, h3, by omega⟩

/-- the bound by the extent needs no hypothesis on the roots. -/
theorem ticker_toUpdate_le_extent (w : Wiring) (react : React Val) (t : SimTime)
    (roots : List Comp) (s : TickSys Val) (hs : s.Reachable w react t roots) :
    s.tk.toUpdate.length ≤ (extent w roots).length ∧ s.pending.length ≤ s.tk.toUpdate.length :=
  ⟨hs.inv.pre.toUpdate_length_le, hs.inv.pre.pending_length_le⟩

/-- within a tick the dict only shrinks: each answered dispatch removes exactly one entry. -/
theorem ticker_toUpdate_shrinks (w : Wiring) (react : React Val) (s s' : TickSys Val) (i : Nat)
    (h : s.step w react i = some (.ok s')) :
    s'.tk.toUpdate.length + 1 = s.tk.toUpdate.length :=
  TickSys.step_measure' h

/-! ### non-vacuity: the diamond a → b, c → d -/

def c14W : Wiring :=
  [("a", [("o", [("b", "i"), ("c", "i")])]), ("b", [("o", [("d", "i1")])]),
   ("c", [("o", [("d", "i2")])]), ("d", [])]

example : c14W.components.length = 4 ∧ ∀ r ∈ ["a"], r ∈ c14W.components := by decide +kernel

example : ∃ s : TickSys Unit, s.Reachable c14W (fun _ _ => [("o", ())]) 0 ["a"] ∧
    s.tk.toUpdate.length = 3 ∧ s.pending.length = 2 := by
  refine ⟨_, .step (i := 0) (.init rfl) rfl, by decide +kernel, by decide +kernel⟩

end Tickit
