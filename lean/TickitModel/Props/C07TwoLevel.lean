/-
C07 (two levels composed) — an interrupt raised by a device INSIDE a system simulation is passed
up as an interrupt of the system component `sys`; the master therefore ticks `sys`; that tick's
`on_tick` starts an inner tick which has the device among its roots; and neither tick can end
before the device's update has begun.

`Props/C07.lean` proves the master half, `Props/C07Nested.lean` the nested half; here the two
transition systems run side by side (`TSt`, Core/TwoLevel.lean) and the composition is a theorem.

Every statement is about `s = ({} : TSt).run sys acts` for an arbitrary history `acts` (any
interleaving of inner interrupts, top-level interrupts, answers, tick starts, update beginnings and
tick ends; actions that are not enabled are ignored) and an arbitrary name `sys`.
-/
import TickitModel.Lemmas.TwoLevelLemmas

namespace Tickit
open Tickit.TwoLevel

/-- in every reachable state both levels keep their invariants (`MInv`: C07
`no_interrupt_lost`; `NInv`: `nested_no_interrupt_lost`) and they are LINKED: whenever the nested
scheduler counts on the enclosing one having been told (`upOwed`), the master does owe `sys` an
update (it was told, and `sys`'s update has not begun since); everything queued in the nested
scheduler has been passed up; an inner tick only runs while a master tick runs. -/
theorem two_level_inv (sys : Comp) (acts : List TAct) (s : TSt)
    (hs : s = ({} : TSt).run sys acts) :
    MInv s.m ∧ NInv s.n ∧
      (s.n.upOwed = true → sys ∈ s.m.owed) ∧
      (∀ c ∈ s.n.queued, s.n.upOwed = true) ∧
      (s.m.ticking = none → s.n.ticking = none) := by
  subst hs
  have h := (TInv.init sys).run acts
  exact ⟨h.m, h.n, h.link, h.told, h.tick⟩

/-- `beginSys` resets `upOwed` and removes `sys` from the master's `owed` together, and an inner
interrupt DURING the inner tick sets both again. -/
theorem two_level_inv_step (sys : Comp) (s s' : TSt) (a : TAct) (h : TInv sys s)
    (hs : s.step sys a = some s') : TInv sys s' :=
  h.step hs

/-- an inner component that is owed an update (it raised an interrupt and its update has
not begun since) is an unbegun root of the running inner tick, or it is queued AND the master owes
`sys` an update: as an unbegun root of the running master tick, or by an unserved interrupt with a
wakeup not later than its stamp. -/
theorem inner_interrupt_not_lost (sys : Comp) (acts : List TAct) (s : TSt)
    (hs : s = ({} : TSt).run sys acts) (c : Comp) (hc : c ∈ s.n.owed) :
    (∃ rem, s.n.ticking = some rem ∧ c ∈ rem) ∨
    (c ∈ s.n.queued ∧ sys ∈ s.m.owed ∧
      ((∃ rem, s.m.ticking = some rem ∧ sys ∈ rem) ∨
       (∃ i w, alookup s.m.pend sys = some i ∧ alookup s.m.wake sys = some w ∧ w ≤ i))) := by
  subst hs
  have h := (TInv.init sys).run acts
  exact (h.n.owed c hc).imp_right fun ⟨hq, hu⟩ => ⟨hq, h.link hu, h.m.owed_cases (h.link hu)⟩

/-- the same for every QUEUED inner component, owed or not (e.g. one that raised an interrupt
while it was an unbegun root and has begun that update since): the master owes `sys` an update. -/
theorem queued_has_master_obligation (sys : Comp) (acts : List TAct) (s : TSt)
    (hs : s = ({} : TSt).run sys acts) (c : Comp) (hq : c ∈ s.n.queued) :
    sys ∈ s.m.owed ∧ (s.SysRoot sys ∨ s.SysPending sys) := by
  subst hs
  have h := (TInv.init sys).run acts
  have hso := h.link (h.told c hq)
  exact ⟨hso, h.m.owed_cases hso⟩

/-- the master is idle (then no inner tick runs either) and `c` is owed an update.
Then `startTick` is enabled — the master has a wakeup, it cannot go quiet — and the tick it starts,
at time `t`, is not later than `sys`'s wakeup `w`, which is not later than the stamp `i` of the
unserved interrupt; `sys` is among the roots exactly if `w = t`; otherwise (an EARLIER wakeup of
other components is served first) `sys` keeps its pending record and wakeup, and `c` stays queued. -/
theorem idle_master_ticks_sys (sys : Comp) (acts : List TAct) (s : TSt)
    (hs : s = ({} : TSt).run sys acts) (c : Comp)
    (hidle : s.m.ticking = none) (hc : c ∈ s.n.owed) :
    s.n.ticking = none ∧
    ∃ s' cs t i w,
      s.step sys .startTick = some s' ∧ firstWakeups s.m.wake = (cs, some t) ∧
      s'.m.ticking = some cs ∧ s'.m.tickerTime = t ∧ s'.n = s.n ∧ c ∈ s'.n.queued ∧
      alookup s.m.pend sys = some i ∧ alookup s.m.wake sys = some w ∧ t ≤ w ∧ w ≤ i ∧
      (sys ∈ cs ↔ w = t) ∧
      (sys ∉ cs → alookup s'.m.pend sys = some i ∧ alookup s'.m.wake sys = some w) := by
  subst hs
  have h := (TInv.init sys).run acts
  generalize ({} : TSt).run sys acts = s at h hidle hc
  have hnt := h.tick hidle
  obtain ⟨hq, hu⟩ := (h.n.owed c hc).resolve_left fun hr => IsRoot.ne_none hr hnt
  obtain ⟨cs, t, i, w, hf, hi, hw, htw, hwi⟩ := h.m.next_tick hidle (h.link hu)
  have hstep : s.step sys .startTick = some { s with m :=
      { s.m with wake := delWakeups s.m.wake cs, pend := delWakeups s.m.pend cs,
                 tickerTime := t, ticking := some cs } } := by
    simp only [TSt.step, MSt.step, hidle, hf, Option.map_some]
  refine ⟨hnt, _, cs, t, i, w, hstep, hf, rfl, rfl, rfl, hq, hi, hw, htw, hwi, ?_, fun hn => ?_⟩
  · rw [(firstWakeups_spec s.m.wake h.m.wakeU cs t hf).1 sys, hw]
    exact ⟨Option.some.inj, congrArg some⟩
  · show alookup (delWakeups s.m.pend cs) sys = some i ∧ alookup (delWakeups s.m.wake cs) sys = some w
    rw [delWakeups_lookup _ h.m.pendU, delWakeups_lookup _ h.m.wakeU, if_neg hn, if_neg hn]
    exact ⟨hi, hw⟩

/-- when `sys`'s update begins (`on_tick`, `beginSys due`), the inner tick that starts
has every queued inner component among its roots — in particular every component that is owed an
update; and both sides of the link are reset together. -/
theorem beginSys_roots_owed (sys : Comp) (acts : List TAct) (s : TSt)
    (hs : s = ({} : TSt).run sys acts) (due : List Comp) (s' : TSt)
    (hstep : s.step sys (.beginSys due) = some s') :
    (∀ c ∈ s.n.queued, s'.InnerRoot c) ∧ (∀ c ∈ s.n.owed, s'.InnerRoot c) ∧
      s'.n.upOwed = false ∧ s'.n.queued = [] ∧ sys ∉ s'.m.owed ∧ ¬ s'.SysRoot sys := by
  subst hs
  have h := (TInv.init sys).run acts
  generalize ({} : TSt).run sys acts = s at h hstep
  refine ⟨fun c hq => innerRoot_of_beginSys (Or.inr hq) hstep,
    fun c hc => innerRoot_of_beginSys (innerObl_of_owed h.n hc) hstep, ?_⟩
  obtain ⟨m', n'⟩ := s'
  obtain ⟨-, hm, hn⟩ := step_halves hstep
  cases NSt.Step.of_step hn
  cases MSt.Step.of_step hm
  exact ⟨rfl, rfl, not_mem_filter_ne_self, fun hr => not_mem_filter_ne_self (isRoot_some.mp hr)⟩

/-- enabledness: the inner tick cannot end before every root has begun its update;
the master tick cannot end while an inner tick runs, nor before `sys` (if it is a root) has begun
its update; `sys` does not answer while its inner tick runs; `on_tick` is not re-entered. -/
theorem ends_wait (sys : Comp) (s : TSt) :
    (∀ c, s.InnerRoot c → s.step sys .innerEnd = none) ∧
    (s.n.ticking ≠ none → s.step sys .endTick = none) ∧
    (s.SysRoot sys → s.step sys .endTick = none) ∧
    (s.n.ticking ≠ none → ∀ callAt, s.step sys (.output sys callAt) = none) ∧
    (s.n.ticking ≠ none → ∀ due, s.step sys (.beginSys due) = none) := by
  refine ⟨fun c h => innerEnd_disabled_of_innerRoot h, ?_, fun h => endTick_disabled_of_sysRoot h,
    ?_, ?_⟩
  · exact fun hne => Option.eq_none_iff_forall_ne_some.mpr fun _ hs => hne (step_halves hs).1
  · exact fun hne _ =>
      Option.eq_none_iff_forall_ne_some.mpr fun _ hs => hne ((step_halves hs).1 rfl)
  · refine fun hne _ => Option.eq_none_iff_forall_ne_some.mpr fun ⟨_, _⟩ hs => ?_
    cases NSt.Step.of_step (step_halves hs).2.2 with
    | startTick _ ht => exact hne ht

/-- **the chain** (`on_tick` … `endTick`): from a reachable state in which `c` is owed an update,
take ANY continuation `pre ++ beginSys due :: mid` after which a master `endTick` is enabled, the
`beginSys` being executed (enabled when its turn comes).  Then somewhere in that continuation
`innerBegin c` is executed — `c`'s update begins after the interrupt was raised and before that
master tick ends — and right after it `c` is no longer owed an update (`TSt.Begins`; it may be
owed one again only by raising a new interrupt). -/
theorem inner_interrupt_chain (sys : Comp) (acts : List TAct) (s : TSt)
    (hs : s = ({} : TSt).run sys acts) (c : Comp) (hc : c ∈ s.n.owed)
    (pre mid : List TAct) (due : List Comp)
    (hb : ((s.run sys pre).step sys (.beginSys due)).isSome = true)
    (he : ((s.run sys (pre ++ TAct.beginSys due :: mid)).step sys .endTick).isSome = true) :
    ∃ h1 h2 s', pre ++ TAct.beginSys due :: mid = h1 ++ TAct.innerBegin c :: h2 ∧
      (s.run sys h1).step sys (.innerBegin c) = some s' ∧ c ∉ s'.n.owed := by
  subst hs
  have h := (TInv.init sys).run acts
  exact chain_core _ (innerObl_of_owed h.n hc) pre mid due hb he

/-- **the chain** (`startTick` … `endTick`): a master tick that starts — at any later point —
with `sys` among its roots cannot end before `c`'s update has begun: no `beginSys` needs to be
assumed, the master tick cannot end without it (and the inner tick it starts cannot end without
`innerBegin c`). -/
theorem inner_interrupt_chain_tick (sys : Comp) (acts : List TAct) (s : TSt)
    (hs : s = ({} : TSt).run sys acts) (c : Comp) (hc : c ∈ s.n.owed)
    (pre mid : List TAct) (s1 : TSt)
    (hst : (s.run sys pre).step sys .startTick = some s1) (hroot : s1.SysRoot sys)
    (he : ((s.run sys (pre ++ TAct.startTick :: mid)).step sys .endTick).isSome = true) :
    s.Begins sys (pre ++ TAct.startTick :: mid) c := by
  subst hs
  have h := (TInv.init sys).run acts
  exact chain_tick _ (innerObl_of_owed h.n hc) pre mid s1 hst hroot he

/-- **the chain**, when the obligation is already attached to the running ticks (`c` is an unbegun
root of the inner tick, or `sys` is an unbegun root of the master tick — by
`inner_interrupt_not_lost` the only other case is "`sys` has a wakeup not later than its stamp",
`idle_master_ticks_sys`): the NEXT master `endTick` comes after `c`'s update has begun. -/
theorem inner_interrupt_chain_current (sys : Comp) (acts : List TAct) (s : TSt)
    (hs : s = ({} : TSt).run sys acts) (c : Comp) (hc : c ∈ s.n.owed)
    (hroot : s.InnerRoot c ∨ s.SysRoot sys) (pre : List TAct)
    (he : ((s.run sys pre).step sys .endTick).isSome = true) :
    s.Begins sys pre c := by
  subst hs
  have h := (TInv.init sys).run acts
  exact chain_current _ (innerObl_of_owed h.n hc) hroot pre he

/-- the debt of an inner component is cleared only by the beginning of its update. -/
theorem inner_owed_cleared_only_by_update (sys : Comp) (s s' : TSt) (a : TAct)
    (hs : s.step sys a = some s') (c : Comp) (hc : c ∈ s.n.owed) (hn : c ∉ s'.n.owed) :
    a = .innerBegin c :=
  Classical.byContradiction fun hne =>
    hn ((step_halves hs).2.2.keeps NSt.owed_step hc fun h => hne (nested_eq_beginUpdate h))

/-! ## a checked history

`dev` (inside `sys`) raises an interrupt; the master ticks `sys`; `on_tick` starts the inner tick
rooted at `dev`; `dev`'s update begins; WHILE the inner tick is still running `dev` raises again
(stamp 20) — it is queued for the next inner tick and `sys` is re-interrupted at the master
(owed again, pending record 20, wakeup 20; the stale answer of `sys` asking for a callback at 5000
does not displace it); both running ticks end; the next master tick is at 20 with `sys` as its
root, and the inner tick it starts has `dev` as its root. -/

def c07History1 : List TAct :=
  [.innerInterrupt "dev" 10, .startTick, .beginSys [], .innerBegin "dev",
   .innerInterrupt "dev" 20]

def c07History2 : List TAct :=
  c07History1 ++ [.innerEnd, .output "sys" (some 5000), .endTick]

-- the interrupt arrives while the inner tick runs: queued, `sys` re-interrupted at the master
example :
    let s := ({} : TSt).run "sys" c07History1
    s.n.ticking = some [] ∧ s.m.ticking = some [] ∧ s.n.queued = ["dev"] ∧ s.n.upOwed = true ∧
      s.n.owed = ["dev"] ∧ s.m.owed = ["sys"] ∧ s.m.pend = [("sys", 20)] ∧
      s.m.wake = [("sys", 20)] := by
  decide +kernel

-- the running ticks end; nothing is forgotten
example :
    let s := ({} : TSt).run "sys" c07History2
    s.n.ticking = none ∧ s.m.ticking = none ∧ s.n.queued = ["dev"] ∧ s.n.owed = ["dev"] ∧
      s.m.owed = ["sys"] ∧ s.m.pend = [("sys", 20)] ∧ s.m.wake = [("sys", 20)] := by
  decide +kernel

-- the next master tick has `sys` as root, the next inner tick has `dev` as root
example :
    let s := ({} : TSt).run "sys" (c07History2 ++ [.startTick])
    s.m.ticking = some ["sys"] ∧ s.m.tickerTime = 20 ∧ s.n.ticking = none := by
  decide +kernel

example :
    let s := ({} : TSt).run "sys" (c07History2 ++ [.startTick, .beginSys []])
    s.m.ticking = some [] ∧ s.n.ticking = some ["dev"] ∧ s.n.queued = [] ∧ s.m.owed = [] ∧
      s.n.owed = ["dev"] := by
  decide +kernel

-- while `dev` has not begun, neither tick can end; once it has, both can, and nothing is owed
example :
    let s := ({} : TSt).run "sys" (c07History2 ++ [.startTick, .beginSys [], .innerEnd, .endTick])
    s.m.ticking = some [] ∧ s.n.ticking = some ["dev"] := by
  decide +kernel

example :
    let s := ({} : TSt).run "sys"
      (c07History2 ++ [.startTick, .beginSys [], .innerBegin "dev", .innerEnd, .endTick])
    s.m.ticking = none ∧ s.n.ticking = none ∧ s.n.owed = [] ∧ s.m.owed = [] ∧ s.m.wake = [] := by
  decide +kernel

-- the hypotheses of the chain theorems are satisfiable: after the interrupt that arrived during
-- the inner tick, the continuation `startTick, beginSys [], innerBegin dev, innerEnd` enables the
-- master `endTick`, and the theorem yields the executed `innerBegin "dev"` in it
example :
    ∃ h1 h2 s', [TAct.startTick] ++ TAct.beginSys [] :: [.innerBegin "dev", .innerEnd]
        = h1 ++ TAct.innerBegin "dev" :: h2 ∧
      ((({} : TSt).run "sys" c07History2).run "sys" h1).step "sys" (.innerBegin "dev") = some s' ∧
      "dev" ∉ s'.n.owed :=
  inner_interrupt_chain "sys" c07History2 _ rfl "dev" (by decide +kernel)
    [.startTick] [.innerBegin "dev", .innerEnd] [] (by decide +kernel) (by decide +kernel)

-- without the link the nested invariant alone is not enough (a nested scheduler that queues the
-- interrupt but does NOT raise the system's own interrupt): `dev` is owed an update, the nested
-- scheduler believes the master has been told, but the master owes nothing and never ticks again
theorem not_passed_up_loses :
    let s : TSt := { m := {}, n := (({} : NSt).step (.interrupt "dev")).getD {} }
    "dev" ∈ s.n.owed ∧ NInv s.n ∧ MInv s.m ∧ s.n.upOwed = true ∧ "sys" ∉ s.m.owed ∧
      s.step "sys" .startTick = none := by
  refine ⟨by decide +kernel, ?_, MInv.init, by decide +kernel, by decide +kernel, by decide +kernel⟩
  exact NInv.init.step (a := .interrupt "dev") rfl

-- an earlier wakeup of an ordinary component is served first; `sys` keeps its record
-- (`idle_master_ticks_sys`)
example :
    let s := ({} : TSt).run "sys"
      [.output "top" (some 5), .innerInterrupt "dev" 10, .startTick]
    s.m.ticking = some ["top"] ∧ s.m.pend = [("sys", 10)] ∧ s.m.wake = [("sys", 10)] ∧
      s.n.queued = ["dev"] := by
  decide +kernel

/-
* Progress is stated as safety (enabledness + "cannot end before"), as in C07: the model has no
  fairness assumption.  In particular no bound is given on the NUMBER of master ticks before the
  one that has `sys` among its roots: answers may ask for callbacks at arbitrary times (`output c
  (some w)` with any `w`), so ticks of other components at times earlier than `sys`'s wakeup can
  be inserted indefinitely; `idle_master_ticks_sys` says each such tick is at a time `t < w ≤ i`
  and leaves `sys`'s record untouched, and `inner_interrupt_chain_tick` starts from the tick that
  does serve `sys`.
* One nested level.  A deeper nesting is the same argument with `NSt` in the role of the master
  (`upOwed` is then the obligation `queued_means_told` speaks of).
-/

end Tickit
