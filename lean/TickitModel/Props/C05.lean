/-
C05 — the initial tick updates every device at every depth exactly once
(whole-simulation model with nested schedulers at any depth).
-/
import TickitModel.Lemmas.SimLoop

namespace Tickit

theorem masterInitial_post {S : Static} (hS : S.WF) {orc : Oracle} {fuel : Nat} {t0 : SimTime}
    {now : Int} {m : MasterSt} {tr : TickRec} (h : masterInitial S orc fuel t0 now = .ok (m, tr)) :
    tr.time = t0 ∧ LevelPost S "" t0 tr.roots {} m.sim ∧
      ∀ L, S.level "" = some L → ∀ c ∈ L.wiring.components, c ∈ tr.roots := by
  obtain ⟨L, st, out, hL, hr, rfl, rfl⟩ := masterInitial_eq_ok h
  refine ⟨rfl, tickLevel_post hS orc _ _ _ _ _ _ _ _ hr, fun L' hL' c hc => ?_⟩
  cases hL.symm.trans hL'
  exact hc

/-- C05 in terms of the tick's post-condition alone, so for the FIFO function and for every any-order
execution -/
theorem LevelPost.initial_complete {S : Static} (hS : S.WF) {t0 : SimTime} {roots : List Comp}
    {sim : SimSt} (hp : LevelPost S "" t0 roots {} sim)
    (hall : ∀ L, S.level "" = some L → ∀ c ∈ L.wiring.components, c ∈ roots) :
    (∀ d, S.isDevice d → sim.updates d = 1) ∧ (∀ o ∈ sim.obs, o.time = t0 ∧ S.isDevice o.comp) ∧
      ∀ s, S.isSys s = true → (alookup S.parent s).isSome → (sim.sched s).firstDone = true := by
  obtain ⟨new, hobs, hnd, hown, _, hdone⟩ := hp
  obtain ⟨hdev, hsys⟩ := hdone hall (fun s _ _ => SimSt.sched_empty_firstDone s)
  refine ⟨fun d hd => ?_, fun o ho => ?_, fun s hs hp => hsys s (Static.below_master hS hp) hs⟩
  · rw [SimSt.updates_of_obs hobs, sim_filter_comp_eq_one hnd (hdev d (Static.below_master hS hd.1) hd)]
    rfl
  · have ho' : o ∈ new := by simpa [hobs] using ho
    exact ⟨(hown o ho').1, (hown o ho').2.1⟩

/-- **C05.** If the initial tick of the master completes, every device of the configuration,
at whatever nesting depth and whether or not it is fed from outside its system, has been
updated exactly once, at the initial time — and nothing else was updated. -/
theorem initial_tick_complete (S : Static) (hS : S.WF) (orc : Oracle) (fuel : Nat) (t0 : SimTime) (now : Int)
    (m : MasterSt) (tr : TickRec) (h : masterInitial S orc fuel t0 now = .ok (m, tr)) :
    (∀ d, S.isDevice d → m.sim.updates d = 1) ∧
    (∀ o ∈ m.sim.obs, o.time = t0 ∧ S.isDevice o.comp) ∧
    tr.time = t0 := by
  obtain ⟨htr, hp, hall⟩ := masterInitial_post hS h
  exact ⟨(hp.initial_complete hS hall).1, (hp.initial_complete hS hall).2.1, htr⟩

/-- after the initial tick every nested scheduler has done its own initial tick. -/
theorem initial_tick_marks_systems (S : Static) (hS : S.WF) (orc : Oracle) (fuel : Nat) (t0 : SimTime) (now : Int)
    (m : MasterSt) (tr : TickRec) (h : masterInitial S orc fuel t0 now = .ok (m, tr))
    (s : Comp) (hs : S.isSys s = true) (hp : (alookup S.parent s).isSome) :
    (m.sim.sched s).firstDone = true := by
  obtain ⟨_, hpost, hall⟩ := masterInitial_post hS h
  exact (hpost.initial_complete hS hall).2.2 s hs hp

/-- a tick of any level updates each device below it at most once, all at the tick's time
(the inner tick lies inside the outer tick, at the same time — C04's nesting clause). -/
theorem tickLevel_once (S : Static) (hS : S.WF) (orc : Oracle) (fuel : Nat) (lvl : Comp) (t : SimTime)
    (roots : List Comp) (inCh : List (Port × V)) (st st' : SimSt) (out : List (Port × V))
    (h : tickLevel S orc fuel lvl t roots inCh st = .ok (st', out)) :
    (∀ d, st'.updates d ≤ st.updates d + 1) ∧
    (∃ new, st'.obs = st.obs ++ new ∧ ∀ o ∈ new, o.time = t) := by
  obtain ⟨new, hobs, hnd, hown, _, _⟩ := tickLevel_post hS orc _ _ _ _ _ _ _ _ h
  refine ⟨fun d => ?_, new, hobs, fun o ho => (hown o ho).1⟩
  rw [SimSt.updates_of_obs hobs d]
  have := sim_filter_comp_le_one hnd d
  omega

end Tickit
