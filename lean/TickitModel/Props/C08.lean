/-
C08 — results do not depend on message timing (flat simulations, callbacks):
the per-device observation sequences are the same for every answer order in every tick.
-/
import TickitModel.Lemmas.FlatDetLemmas

namespace Tickit

variable {Val : Type} [DecidableEq Val]

/-- two states are the same up to the order of keys inside their maps -/
structure FlatSt.Equiv (a b : FlatSt Val) : Prop where
  comps : ∀ c, MapEq (a.comp c).deviceInputs (b.comp c).deviceInputs ∧ MapEq (a.comp c).lastOutputs (b.comp c).lastOutputs
  wake : MapEq a.wake b.wake
  obs : ∀ c, ObsEq (a.obsOf c) (b.obsOf c)

/-- **one tick**: from equivalent states, two complete runs of the same tick (any two answer
orders) end in equivalent states — in particular every device made the same observation. -/
theorem tickRun_deterministic (w : Wiring) (hw : RouterOK w) (hacyc : w.Acyclic) (dev : DevFn Val)
    (hdev : DevExt dev) (a b a' b' : FlatSt Val) (t : SimTime) (roots roots' : List Comp)
    (hroots : ∀ c, c ∈ roots ↔ c ∈ roots')
    (hwa : (akeys a.wake).Nodup) (hwb : (akeys b.wake).Nodup)
    (hab : a.Equiv b) (ha : TickRun w dev a t roots a') (hb : TickRun w dev b t roots' b') :
    a'.Equiv b' := by
  have _ := hwa -- not needed (nor `hwb`): the wakeups are compared as mappings; the form without
  have _ := hwb -- them, per component, is `Det.tickRun_loc_equiv`
  have h := Det.tickRun_loc_equiv hw hacyc hdev hroots
    (fun c => ⟨(hab.comps c).1, (hab.comps c).2, hab.wake c, hab.obs c⟩) ha hb
  exact ⟨fun c => ⟨(h c).ins, (h c).outs⟩, fun c => (h c).wk, fun c => (h c).ob⟩

/-- **C08.** Two runs of the same flat simulation (same wiring, same deterministic devices,
same initial time, same number of ticks) have the same tick times and every device has the
same sequence of (time, inputs) observations — whatever the answer orders were. -/
theorem schedule_independent (w : Wiring) (hw : RouterOK w) (hacyc : w.Acyclic) (devs : DevSeq Val)
    (hdev : ∀ k, DevExt (devs k)) (t0 : SimTime) (n : Nat)
    (st1 st2 : FlatSt Val) (times1 times2 : List SimTime)
    (h1 : FlatRun w devs t0 n st1 times1) (h2 : FlatRun w devs t0 n st2 times2) :
    times1 = times2 ∧ ∀ c, ObsEq (st1.obsOf c) (st2.obsOf c) := by
  obtain ⟨_, ht, h⟩ :=
    Det.flatRunI_loc_equiv hw hacyc hdev (FlatInt.of_flatRun h1) (FlatInt.of_flatRun h2)
  exact ⟨ht, fun c => (h c).ob⟩

end Tickit
