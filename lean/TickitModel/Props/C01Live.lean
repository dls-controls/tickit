/-
C01 / C04 / C10 — liveness of a tick: "never stalls" at full strength.  Whatever has happened so
far in a tick (any answer order), the tick CAN be completed and WILL be completed by any run that
keeps answering: every run is finite (`step_measure`), no run gets stuck before the end
(`progress`, `step_ok`).  For the flat system: `tickRun_exists`, which stands in
`Lemmas/TickComplete.lean` because the run-level lemma files use it.
-/
import TickitModel.Lemmas.TickComplete
import TickitModel.Props.C01

namespace Tickit

variable {Val : Type}

/-- **every tick can be completed.**  From any reachable state of a tick on an acyclic wiring a
continuation of the run reaches the state where nothing is left to update (`finished`), and the
events so far are a prefix of its trace. -/
theorem tick_can_complete (w : Wiring) (hacyc : w.Acyclic) (react : React Val) (t : SimTime)
    (roots : List Comp) (hroots : ∀ c ∈ extent w roots, (w.ups c).isSome)
    (s : TickSys Val) (hs : s.Reachable w react t roots) :
    ∃ s' : TickSys Val, s'.Reachable w react t roots ∧ s'.tk.toUpdate = [] ∧
      ∃ post, s'.trace = s.trace ++ post := by
  exact TickSys.can_complete_aux w hacyc react t roots hroots _ s hs rfl

/-- **no run is stuck or infinite**: while a tick is unfinished EVERY choice of pending dispatch
is an enabled step and each step resolves exactly one component (`|toUpdate|` drops by one). -/
theorem every_step_makes_progress (w : Wiring) (hacyc : w.Acyclic) (react : React Val) (t : SimTime)
    (roots : List Comp) (hroots : ∀ c ∈ extent w roots, (w.ups c).isSome)
    (s : TickSys Val) (hs : s.Reachable w react t roots) (hne : s.tk.toUpdate ≠ []) :
    s.pending ≠ [] ∧ ∀ i, i < s.pending.length → ∃ s', s.step w react i = some (.ok s') ∧
      s'.tk.toUpdate.length + 1 = s.tk.toUpdate.length := by
  refine ⟨progress w hacyc react t roots hroots s hs hne, fun i hi => ?_⟩
  obtain ⟨s', h⟩ := step_ok w react t roots hroots s hs i hi
  exact ⟨s', h, step_measure w react s s' i h⟩

/-- non-vacuity: the diamond of `Props/C01` satisfies the hypotheses. -/
example : ∃ s' : TickSys Unit, s'.Reachable exW exReact 0 ["a"] ∧ s'.tk.toUpdate = [] := by
  obtain ⟨s0, h0⟩ := init_ok (Val := Unit) exW 0 ["a"] exW_ups
  obtain ⟨s', h1, h2, _⟩ := tick_can_complete exW exW_acyclic exReact 0 ["a"] exW_ups s0 (.init h0)
  exact ⟨s', h1, h2⟩

end Tickit
