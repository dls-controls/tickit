/-
C14 (system component, TCP io) — long runs use bounded scheduler resources: the two tasks of
`SystemComponent.on_tick` (inner tick against the error flag) and the reply tasks of `TcpIo`
(`Core/RaceRes.lean`).

For EVERY history:
  * a system component holds at most 2 tasks, none between ticks — a constant per system
    component, whatever the number of ticks (code as it is, commit f518297, the repair of
    defect F7a);
  * the TCP io stores a task handle only while that reply task is unfinished, and nothing for
    a closed connection: handles stored = replies in flight on open connections, whatever the
    number of chunks received (code as it is, commit 9447ad9, the repair of defect F7c).
The code before these commits grows by one task per tick / one stored handle per chunk.
-/
import TickitModel.Lemmas.RaceResLemmas

namespace Tickit

/-- the inductive invariant, with and without cancellation: `on_tick` (the task) is live
exactly while the race is on and it has not finished, likewise `error_state`. -/
theorem system_race_invariant (fixed : Bool) (acts : List SysRaceAct) :
    SysInv (({} : SysRaceSt).run fixed acts) :=
  SysInv.init.run acts

theorem system_race_invariant_step (fixed : Bool) (s s' : SysRaceSt) (a : SysRaceAct)
    (h : SysInv s) (hs : s.step fixed a = some s') : SysInv s' :=
  h.step hs

/-- **C14, system component.** After ANY history of `Input`s, completions of the inner tick,
errors raised by the inner scheduler and resumptions — any number of ticks — a system
component (code as it is) holds at most two live tasks, and none at all when it is not inside
`on_tick`: every tick releases what it created (the loser of the race is cancelled). -/
theorem system_race_bounded (acts : List SysRaceAct) :
    let s := ({} : SysRaceSt).run true acts
    s.tasks ≤ 2 ∧ (s.pc = .idle → s.tasks = 0) := by
  intro s
  have hg : SysGood s := SysGood.init.run acts
  refine ⟨hg.tasks_le, fun hpc => ?_⟩
  rw [SysRaceSt.tasks, hg.inv.tick, hg.inv.err, hg.noOrphanTick, hg.noOrphanErr, hpc]
  rfl

/-- **a constant per system component.** `k` system components side by side, any interleaving
of their actions: at most `2 * k` tasks in total. -/
theorem system_farm_bounded (k : Nat) (acts : List (Nat × SysRaceAct)) :
    sysFarmTasks (sysFarmRun true (List.replicate k {}) acts) ≤ 2 * k := by
  have h0 : ∀ s ∈ List.replicate k ({} : SysRaceSt), SysGood s := by
    intro s hs
    rw [List.eq_of_mem_replicate hs]
    exact SysGood.init
  obtain ⟨h1, h2⟩ := SysGood.farmRun h0 acts
  have := sum_map_le SysRaceSt.tasks 2 _ (fun s hs => (h1 s hs).tasks_le)
  rw [h2, List.length_replicate] at this
  exact this

/-- **growth before the repair.** `n` ordinary ticks (called, inner tick completes, `on_tick`
returns) of the code before commit f518297 leave `n` tasks waiting on the error flag — which
is never set in normal operation: one task leaked per tick, for every `n`. -/
theorem old_system_race_grows (n : Nat) :
    let s := ({} : SysRaceSt).run false (List.replicate n sysTickRound).flatten
    s.pc = .idle ∧ s.ticks = n ∧ s.tasks = n := by
  obtain ⟨h, ht, hk⟩ := sysTickRounds_run false n (s := {}) ⟨rfl, rfl, rfl⟩
  exact ⟨h.1, ht.trans (Nat.zero_add n), hk.trans (Nat.zero_add n)⟩

/-- the same ticks on the code as it is: nothing is left. -/
theorem new_system_race_clean (n : Nat) :
    let s := ({} : SysRaceSt).run true (List.replicate n sysTickRound).flatten
    s.pc = .idle ∧ s.ticks = n ∧ s.tasks = 0 := by
  obtain ⟨h, ht, hk⟩ := sysTickRounds_run true n (s := {}) ⟨rfl, rfl, rfl⟩
  exact ⟨h.1, ht.trans (Nat.zero_add n), hk⟩

/-- **C14, TCP io.** After ANY history of connections, chunks, finished replies, ends of
stream and returns of `handle` (code as it is):
  * every connection's set holds exactly the handles of its unfinished reply tasks — no
    finished task is retained — and a closed connection has neither tasks nor handles;
  * so the handles stored by the io = the reply tasks in flight on the OPEN connections, and
    the live tasks = one `handle` per open connection + those replies;
  * nothing is stored server-wide.
None of this depends on the number of chunks received (`chunksSeen`). -/
theorem tcp_bounded (acts : List TcpAct) :
    let s := ({} : TcpSt).run true acts
    (∀ c ∈ s.conns, c.held = c.inFlight ∧ (c.pc = .closed → c.inFlight = 0 ∧ c.held = 0)) ∧
    s.retained = s.replyLiveOpen ∧ s.tasks = s.openConns + s.replyLiveOpen ∧
    s.legacyHeld = 0 := by
  intro s
  have hg : TcpGood s := TcpGood.init.run acts
  refine ⟨?_, ?_, ?_, hg.2⟩
  · intro c hc
    obtain ⟨hheld, hclosed⟩ : ConnGood c := hg.1 c hc
    exact ⟨hheld, fun hcl => ⟨hclosed hcl, hheld.trans (hclosed hcl)⟩⟩
  · rw [hg.retained_eq, hg.replyLive_eq]
  · simp only [TcpSt.tasks]; rw [hg.replyLive_eq]

theorem tcp_invariant_step (s s' : TcpSt) (a : TcpAct) (h : TcpGood s)
    (hs : s.step true a = some s') : TcpGood s' :=
  h.step hs

/-- once every reply has been sent, the io stores nothing and runs one task per open
connection — however many chunks it has processed. -/
theorem tcp_quiescent (acts : List TcpAct) :
    let s := ({} : TcpSt).run true acts
    s.replyLive = 0 → s.retained = 0 ∧ s.tasks = s.openConns := by
  intro s h0
  have hg : TcpGood s := TcpGood.init.run acts
  exact ⟨by rw [hg.retained_eq, h0], by simp only [TcpSt.tasks]; omega⟩

/-- **growth before the repair.** One client, `n` chunks, each answered before the next: the
server-wide list of the code before commit 9447ad9 holds `n + 1` handles of FINISHED tasks
(no reply is in flight), for every `n`; the code as it is holds none after the same history. -/
theorem old_tcp_grows (n : Nat) :
    let s := ({} : TcpSt).run false (tcpChatter n)
    s.replyLive = 0 ∧ s.openConns = 1 ∧ s.chunksSeen = n ∧ s.retained = n + 1 := by
  intro s
  have : s = _ := tcpChatter_run false n
  rw [this]
  simp [TcpSt.replyLive, TcpSt.openConns, TcpSt.chunksSeen, TcpSt.retained]

theorem new_tcp_same_history_clean (n : Nat) :
    let s := ({} : TcpSt).run true (tcpChatter n)
    s.replyLive = 0 ∧ s.openConns = 1 ∧ s.chunksSeen = n ∧ s.retained = 0 := by
  intro s
  have : s = _ := tcpChatter_run true n
  rw [this]
  simp [TcpSt.replyLive, TcpSt.openConns, TcpSt.chunksSeen, TcpSt.retained]

/-! ### non-vacuity -/

/-- inside a tick the bound 2 is attained; after an error the inner tick is cancelled. -/
example : (({} : SysRaceSt).run true [.input]).tasks = 2 := by decide +kernel
example : (({} : SysRaceSt).run true [.input, .raiseError, .errTaskRuns, .resume]).tasks = 0 ∧
    (({} : SysRaceSt).run false [.input, .raiseError, .errTaskRuns, .resume]).tasks = 1 := by
  decide +kernel

/-- three system components, interleaved ticks. -/
example : sysFarmTasks (sysFarmRun true (List.replicate 3 {})
    [(0, .input), (2, .input), (0, .innerTickDone), (1, .input), (0, .resume)]) = 4 := by decide +kernel

/-- two clients; replies in flight on both; one closes after its replies are out. -/
example :
    let s := ({} : TcpSt).run true
      [.connect, .connect, .chunk 0, .chunk 1, .chunk 1, .replyDone 0, .eof 0, .replyDone 0,
       .finish 0, .replyDone 1]
    s.openConns = 1 ∧ s.replyLiveOpen = 2 ∧ s.retained = 2 ∧ s.tasks = 3 ∧ s.chunksSeen = 3 := by
  decide +kernel

example : (({} : TcpSt).run false (tcpChatter 7)).retained = 8 ∧
    (({} : TcpSt).run true (tcpChatter 7)).retained = 0 := by decide +kernel

end Tickit
