/-
C09 — system simulations are transparent: nesting does not change behaviour.
(whole-simulation model `tickLevel` with nested schedulers at any depth vs the same model run
on the mechanically flattened configuration)
-/
import TickitModel.Lemmas.FlattenCex
import TickitModel.Lemmas.FlattenStimRun
import TickitModel.Lemmas.FlattenStimCex

namespace Tickit

theorem flatten_devices (S : Static) (fuel : Nat) (c : Comp) :
    c ∈ (S.flatten fuel).devices ↔ c ∈ S.devices := by
  rw [S.flatten_devices_eq]

/-- the boundary bookkeeping of one nested tick, inwards: what the `external` mock component of a
nested level answers is exactly what the system component was given (`inCh`) — within the same
tick. -/
theorem external_passes_inputs (S : Static) (orc : Oracle) (fuel : Nat) (L : Level) (inCh : List (Port × V))
    (st : SimSt) (out0 : List (Port × V)) (t : SimTime) (ins : List (Port × V)) (hL : L.name ≠ "") :
    simAnswer S orc fuel L inCh st out0 (.input pseudoExternal t ins) = .ok (st, out0, inCh, none) := by
  simp [simAnswer, hL]

/-- outwards: what the `expose` mock component is given becomes what the system component answers
upward (the accumulator `out0` is replaced by `ins`). -/
theorem expose_collects_outputs (S : Static) (orc : Oracle) (fuel : Nat) (L : Level) (inCh : List (Port × V))
    (st : SimSt) (out0 : List (Port × V)) (t : SimTime) (ins : List (Port × V)) (hL : L.name ≠ "")
    (hne : pseudoExpose ≠ pseudoExternal) :
    simAnswer S orc fuel L inCh st out0 (.input pseudoExpose t ins) = .ok (st, ins, [], none) := by
  simp [simAnswer, hL, hne]

/-- **C09, initial tick.**  If the initial tick of the nested configuration completes, so does
the initial tick of its flattening (given enough fuel), and every device makes exactly the same
observation — same time, same inputs as a mapping — in both: values cross system boundaries, in
both directions and through pass-through ports, within that one tick.

The resolution fuel `rfuel` of the flattening has to be *sufficient*: `S.ResolveStable rfuel`
says one more unit of fuel changes no resolved source.  (`S.levels.length ≤ rfuel` does not give
it: a chain of pass-through systems needs two steps per system, see `Lemmas/FlattenCex.lean` for
a counterexample checked at build time.) -/
theorem nesting_transparent_initial (S : Static) (hS : S.Valid) (orc : Oracle) (fuel rfuel : Nat)
    (hr : S.ResolveStable rfuel) (t0 : SimTime) (now : Int)
    (m : MasterSt) (tr : TickRec) (h : masterInitial S orc fuel t0 now = .ok (m, tr)) :
    ∃ fuel' m' tr', masterInitial (S.flatten rfuel) orc fuel' t0 now = .ok (m', tr') ∧
      ∀ d, ObsEq (m.sim.obsOf d) (m'.sim.obsOf d) := by
  -- the run theorem with no step taken
  obtain ⟨m', tr', m2', ticks', h', hrun, -, -, ⟨_, _, hc, -⟩, -⟩ :=
    nesting_transparent_run_gen S hS orc fuel rfuel hr t0 now ⟨1, 1⟩ 0 0 [] (fun _ h => nomatch h)
      (fun _ h => nomatch h) m m tr [tr] h (stimsTimely_nil ..) (TimeMono.masterRun_stop (Or.inl rfl))
  cases (TimeMono.masterRun_stop (Or.inl rfl)).symm.trans hrun
  exact ⟨1, m', tr', h', hc.dev.obs⟩

/-- **a computable sufficient resolution fuel**: the number of (level, component) pairs, plus the
number of levels, plus one (`Static.resolveFuel`).  Every step of a resolution chain sits at a
(level, component) pair and, in a valid configuration, no pair is visited twice. -/
theorem resolveFuel_sufficient (S : Static) (hS : S.Valid) (rfuel : Nat) (hr : S.resolveFuel ≤ rfuel) :
    S.ResolveStable rfuel :=
  hS.resolveStable hr

/-- **C09, initial tick**, with the computable fuel bound. -/
theorem nesting_transparent_initial_fuel (S : Static) (hS : S.Valid) (orc : Oracle) (fuel rfuel : Nat)
    (hr : S.resolveFuel ≤ rfuel) (t0 : SimTime) (now : Int)
    (m : MasterSt) (tr : TickRec) (h : masterInitial S orc fuel t0 now = .ok (m, tr)) :
    ∃ fuel' m' tr', masterInitial (S.flatten rfuel) orc fuel' t0 now = .ok (m', tr') ∧
      ∀ d, ObsEq (m.sim.obsOf d) (m'.sim.obsOf d) :=
  nesting_transparent_initial S hS orc fuel rfuel (hS.resolveStable hr) t0 now m tr h

/-- **C09, whole run (callbacks).**  Continuing both simulations for the same number of callback
ticks (no external stimuli), the tick times coincide and every device keeps making the same
observations: callbacks requested inside a system are served at exactly the requested time. -/
theorem nesting_transparent_run (S : Static) (hS : S.Valid) (orc : Oracle) (fuel rfuel : Nat)
    (hr : S.ResolveStable rfuel) (t0 : SimTime) (now : Int) (sp : Speed) (steps nTicks : Nat)
    (m m2 : MasterSt) (tr : TickRec) (ticks : List TickRec)
    (h : masterInitial S orc fuel t0 now = .ok (m, tr))
    (h2 : masterRun S orc fuel sp steps nTicks m [] [tr] = .ok (m2, ticks)) :
    ∃ fuel' m' tr' m2' ticks', masterInitial (S.flatten rfuel) orc fuel' t0 now = .ok (m', tr') ∧
      masterRun (S.flatten rfuel) orc fuel' sp steps nTicks m' [] [tr'] = .ok (m2', ticks') ∧
      ticks.map (·.time) = ticks'.map (·.time) ∧ ticks.map (·.real) = ticks'.map (·.real) ∧
      ∀ d, ObsEq (m2.sim.obsOf d) (m2'.sim.obsOf d) := by
  obtain ⟨m', tr', m2', ticks', h', hrun, ht, hre, ⟨_, _, hc, _⟩, _⟩ :=
    nesting_transparent_run_gen S hS orc fuel rfuel hr t0 now sp steps nTicks [] (fun _ h => nomatch h) (fun _ h => nomatch h)
      m m2 tr ticks h (stimsTimely_nil ..) h2
  exact ⟨1, m', tr', m2', ticks', h', hrun, ht, hre, hc.dev.obs⟩

/-- **C09, whole run (callbacks)**, with the computable fuel bound. -/
theorem nesting_transparent_run_fuel (S : Static) (hS : S.Valid) (orc : Oracle) (fuel rfuel : Nat)
    (hr : S.resolveFuel ≤ rfuel) (t0 : SimTime) (now : Int) (sp : Speed) (steps nTicks : Nat)
    (m m2 : MasterSt) (tr : TickRec) (ticks : List TickRec)
    (h : masterInitial S orc fuel t0 now = .ok (m, tr))
    (h2 : masterRun S orc fuel sp steps nTicks m [] [tr] = .ok (m2, ticks)) :
    ∃ fuel' m' tr' m2' ticks', masterInitial (S.flatten rfuel) orc fuel' t0 now = .ok (m', tr') ∧
      masterRun (S.flatten rfuel) orc fuel' sp steps nTicks m' [] [tr'] = .ok (m2', ticks') ∧
      ticks.map (·.time) = ticks'.map (·.time) ∧ ticks.map (·.real) = ticks'.map (·.real) ∧
      ∀ d, ObsEq (m2.sim.obsOf d) (m2'.sim.obsOf d) :=
  nesting_transparent_run S hS orc fuel rfuel (hS.resolveStable hr) t0 now sp steps nTicks m m2 tr ticks h h2

/-- **C09, whole run with external stimuli (interrupts).**  For every history of callbacks and of
interrupts raised on devices between ticks, the nested simulation and its flattening tick at the
same times and every device makes the same observations, provided that

* every stimulus names a device of the configuration (an interrupt of a system component has no
  counterpart in the flattening);
* every interrupted device either requests a callback at every update or never requests one
  (`Oracle.InterruptSafe`): the flat master overwrites the device's own (later) pending callback
  with the interrupt stamp, the nested master overwrites the enclosing system's (later) entry,
  which is restored from the inner wakeups after the tick (an EARLIER entry would be kept by
  either master — `when = min(existing wakeup, stamp)` — but timely stimuli never meet one);
* the stimuli are *timely* along the nested run: `stimsTimely … false m stims = true`
  (`Lemmas/FlattenStimDefs.lean`; the `Bool` says whether an interrupt has been raised since the
  last tick, `false` after the initial tick).  `stimsTimely` replays `masterRun` and checks every
  stimulus it handles against the earliest wakeup `w` in the master's table (nothing is checked
  while the table is empty): the first interrupt after a tick must have a stamp `≤ w`, every
  further interrupt before the next tick a stamp `= w` — so all interrupts raised between two
  ticks carry the SAME stamp.  It is a computed check along the given run: no theorem derives it
  from a condition on the stimuli, the speed or the oracle (`stimsTimely_nil`, for no stimuli, is
  the only lemma that yields it); for a concrete run it is evaluated.

Counterexamples for each hypothesis are checked in `Lemmas/FlattenStimCex.lean`. -/
theorem nesting_transparent_run_stims (S : Static) (hS : S.Valid) (orc : Oracle) (fuel rfuel : Nat)
    (hr : S.resolveFuel ≤ rfuel) (t0 : SimTime) (now : Int) (sp : Speed) (steps nTicks : Nat)
    (stims : List Stim) (hdev : ∀ st ∈ stims, S.isDevice st.comp) (hsafe : orc.InterruptSafe stims)
    (m m2 : MasterSt) (tr : TickRec) (ticks : List TickRec)
    (h : masterInitial S orc fuel t0 now = .ok (m, tr))
    (htimely : stimsTimely S orc fuel sp steps nTicks false m stims = true)
    (h2 : masterRun S orc fuel sp steps nTicks m stims [tr] = .ok (m2, ticks)) :
    ∃ fuel' m' tr' m2' ticks', masterInitial (S.flatten rfuel) orc fuel' t0 now = .ok (m', tr') ∧
      masterRun (S.flatten rfuel) orc fuel' sp steps nTicks m' stims [tr'] = .ok (m2', ticks') ∧
      ticks.map (·.time) = ticks'.map (·.time) ∧ ticks.map (·.real) = ticks'.map (·.real) ∧
      ∀ d, ObsEq (m2.sim.obsOf d) (m2'.sim.obsOf d) := by
  obtain ⟨m', tr', m2', ticks', h', hrun, ht, hre, ⟨_, _, hc, _⟩, _⟩ :=
    nesting_transparent_run_gen S hS orc fuel rfuel (hS.resolveStable hr) t0 now sp steps nTicks
      stims hdev hsafe m m2 tr ticks h htimely h2
  exact ⟨1, m', tr', m2', ticks', h', hrun, ht, hre, hc.dev.obs⟩

end Tickit
