/-
C19 with CANCELLATION — the ZeroMQ push stream (`adapters/io/zeromq_push_io.py`) when any
suspended sender task may be cancelled at any suspension point (`Core/ZmqCancel.lean`).

All theorems are about `ZmqC.init.run acts` for an ARBITRARY list `acts` of actions: queueing,
spawning direct sequences, the `_ensure_socket` of `setup`, moves of senders in any order, and
any number of `cancel k` at any place (lock queue, inside the factory, inside `drain()`,
inside `queue.get()`).
-/
import TickitModel.Lemmas.ZmqCancelLive
import TickitModel.Lemmas.ZmqSharedLemmas

namespace Tickit

/-- **at most one socket is ever created.**  "Created" means: a call of the socket factory
RETURNED, i.e. the assignment `self._socket = await self._socket_factory(..)` was executed
(`completed` counts exactly these).  A factory call that is cancelled raises at the `await`,
never reaches the assignment and hands no socket to the io; such calls are counted in
`aborted` and there can be any number of them — the factory must be called again afterwards,
otherwise no socket would ever exist, so "calls started ≤ 1" is NOT the property.
For every history `completed ≤ 1`, and calls started = completed + aborted + (1 if a call is
running now, which is exactly when the lock is held): at most one call runs at any moment. -/
theorem one_socket_cancel (acts : List ZCAct) :
    let c := ZmqC.init.run acts
    c.completed ≤ 1 ∧
    c.completed = (if c.base.socket then 1 else 0) ∧
    c.base.factoryCalls = c.completed + c.aborted + (if c.base.lockHeld.isSome then 1 else 0) ∧
    (c.base.socket = true → c.base.lockHeld = none) ∧
    (c.base.writes ≠ [] → c.completed = 1) := by
  intro c
  have h : CInv c := CInv.run_init acts
  refine ⟨by rw [h.comp]; split <;> omega, h.comp, h.calls, fun hs => ?_, fun hw => ?_⟩
  · cases hl : c.base.lockHeld with
    | none => rfl
    | some x => have := h.excl (by simp [hl]); rw [hs] at this; cases this
  · rw [h.comp, if_pos (h.wsock hw)]

/-- **a completed factory call is never repeated**: once the socket is stored it stays
stored, and no factory call is even STARTED any more, whatever happens afterwards (more
senders, more cancellations). -/
theorem socket_never_replaced (acts more : List ZCAct)
    (hs : (ZmqC.init.run acts).base.socket = true) :
    let c := ZmqC.init.run acts
    let c' := ZmqC.init.run (acts ++ more)
    c'.base.socket = true ∧ c'.base.factoryCalls = c.base.factoryCalls ∧
      c'.completed = 1 ∧ c.completed = 1 := by
  intro c c'
  have h : CInv c := CInv.run_init acts
  have h' : CInv c' := CInv.run_init _
  obtain ⟨m1, m2, _, _⟩ := ZmqC.run_mono h more
  have e : c' = c.run more := ZmqC.run_append _ _ _
  have hs' : c'.base.socket = true := by rw [e]; exact m1 hs
  refine ⟨hs', by rw [e]; exact m2 hs, ?_, ?_⟩
  · rw [h'.comp, if_pos hs']
  · rw [h.comp, if_pos hs]

/-- **the lock is never orphaned**: in every reachable state, if the lock is held its holder
is a task that was NOT cancelled and sits inside the factory, every task queued on the lock is
a task that was not cancelled and sits in `acquire()`, and nobody queues twice.  (A cancelled
holder released in `__aexit__`, a cancelled waiter left the queue.)  This is why no pattern of
cancellations can dead-lock `_ensure_socket`. -/
theorem lock_never_orphaned (acts : List ZCAct) :
    let c := ZmqC.init.run acts
    (∀ h, c.base.lockHeld = some h →
      h ∉ c.cancelled ∧ ∃ s, c.base.senders[h]? = some s ∧ s.pc = .inFactory) ∧
    (∀ w ∈ c.base.waiters, w ∉ c.cancelled ∧ ∃ s, c.base.senders[w]? = some s ∧ s.pc = .wantLock) ∧
    c.base.waiters.Nodup ∧
    (∀ k ∈ c.cancelled, c.base.lockHeld ≠ some k ∧ k ∉ c.base.waiters) := by
  intro c
  have h : CInv c := CInv.run_init acts
  refine ⟨fun x hx => ⟨(h.held x hx).1, get_of_pcAt (h.held x hx).2⟩,
    fun w hw => ⟨(h.wait w hw).1, get_of_pcAt (h.wait w hw).2⟩, h.nodup,
    fun k hk => ⟨fun hl => (h.held k hl).1 hk, fun hw => (h.wait k hw).1 hk⟩⟩

/-- **progress**: take ANY reachable state (any cancellations so far, anywhere) and any task
`k` that was not cancelled and is inside `send_message` before its write — about to take the
lock, queued on it behind any number of waiters, behind a holder, or inside the factory —
holding message `m`.  Then there is a finite schedule of enabled sender moves (no further
cancellation, no new task, no new message) after which `k` has written `m`, the socket exists and
nobody else was cancelled.  So no pattern of cancellations of OTHER tasks can leave `k`
without the socket. -/
theorem cancel_does_not_block (acts : List ZCAct) (k : Nat) (s : Sender) (m : Nat) :
    let c := ZmqC.init.run acts
    c.base.senders[k]? = some s → k ∉ c.cancelled →
    (s.pc = .wantLock ∨ s.pc = .inFactory ∨ s.pc = .ready) → s.cur = some m →
    ∃ sched c', c.exec (zsteps sched) = some c' ∧ c'.base.wr k = c.base.wr k ++ [m] ∧
      c'.base.socket = true ∧ c'.cancelled = c.cancelled := by
  intro c hk hlive hpc hcur
  have h : CInv c := CInv.run_init acts
  obtain ⟨c', _, hs, _⟩ := zlive_send h hk hlive hpc
  obtain ⟨sched, he⟩ := hs.reach
  have hwr : c'.base.wr k = c.base.wr k ++ [m] := by rw [hs.wr, hcur]; rfl
  refine ⟨sched, c', he, hwr, ?_, hs.cancelled_eq⟩
  apply (h.exec he).wsock
  intro hnil
  have : c'.base.wr k = [] := by simp [Zmq.wr, hnil]
  rw [this] at hwr
  exact absurd hwr.symm (by simp)

/-- the same for the bare `_ensure_socket()` of `setup` (no message): a live caller leaves
`_ensure_socket` with the socket. -/
theorem ensure_gets_socket (acts : List ZCAct) (k : Nat) (s : Sender) :
    let c := ZmqC.init.run acts
    c.base.senders[k]? = some s → k ∉ c.cancelled → (s.pc = .wantLock ∨ s.pc = .inFactory) →
    ∃ sched c', c.exec (zsteps sched) = some c' ∧ c'.base.socket = true ∧
      c'.base.senders[k]? = some { s with pc := .ready } ∧ c'.cancelled = c.cancelled := by
  intro c hk hlive hpc
  have h : CInv c := CInv.run_init acts
  obtain ⟨c', hm⟩ := zlive_ensure h hk hlive hpc
  obtain ⟨sched, he⟩ := hm.reach
  exact ⟨sched, c', he, (h.exec he).sock k (Or.inl (by rw [pcAt_of_get hm.snd])), hm.snd, hm.cancelled_eq⟩

/-- **queue order, at most once — whatever is cancelled**: what the queue loop (sender 0) has
written, followed by the one message it may hold, followed by the remaining queue, is exactly
the sequence of all messages ever queued.  So the written messages are a prefix of the queued
ones: none twice, none out of order, none invented.  (If the loop is cancelled while holding
a message, that message is `inflight` for ever: lost, not duplicated.) -/
theorem queued_in_order_once_cancel (acts : List ZCAct) :
    let c := ZmqC.init.run acts
    ∃ inflight : List Nat, inflight.length ≤ 1 ∧
      c.base.wr 0 ++ inflight ++ c.base.queue = c.base.queued := by
  obtain ⟨s0, _, hq⟩ := (CInv.run_init acts).acc.q
  exact ⟨s0.infl, s0.infl_length_le, hq⟩

/-- **direct sequences, at most once in order — for cancelled and non-cancelled senders
alike**: written ++ (message in hand) ++ (not yet started) = the sequence given to
`send_message_sequence_soon`. -/
theorem direct_in_order_cancel (acts : List ZCAct) (i : Nat) (hi : 0 < i) (s : Sender)
    (hs : (ZmqC.init.run acts).base.senders[i]? = some s) :
    ∃ inflight : List Nat, inflight.length ≤ 1 ∧
      (ZmqC.init.run acts).base.wr i ++ inflight ++ s.todo = s.orig :=
  ⟨s.infl, s.infl_length_le, (CInv.run_init acts).acc.d i s hi hs⟩

/-- **a cancelled task is finished**: it stays cancelled, its record is frozen and it never
writes again, whatever happens later.  With the two theorems above: a cancelled sender's
message is written at most once. -/
theorem cancelled_never_writes (acts more : List ZCAct) (k : Nat)
    (hk : k ∈ (ZmqC.init.run acts).cancelled) :
    let c := ZmqC.init.run acts
    let c' := ZmqC.init.run (acts ++ more)
    k ∈ c'.cancelled ∧ c'.base.wr k = c.base.wr k ∧ c'.base.senders[k]? = c.base.senders[k]? := by
  intro c c'
  have e : c' = c.run more := ZmqC.run_append _ _ _
  obtain ⟨_, _, m3, m4⟩ := ZmqC.run_mono (CInv.run_init acts) more
  rw [e]
  exact ⟨m3 k hk, (m4 k hk).2, (m4 k hk).1⟩

/-- **a non-cancelled direct sender gets its whole sequence written, exactly once each, in
order**, from any reachable state, by a finite schedule of sender moves (no further cancellation). -/
theorem direct_all_written_cancel (acts : List ZCAct) (k : Nat) (hk0 : k ≠ 0) (s : Sender) :
    let c := ZmqC.init.run acts
    c.base.senders[k]? = some s → k ∉ c.cancelled →
    ∃ sched c', c.exec (zsteps sched) = some c' ∧ c'.cancelled = c.cancelled ∧ c'.base.wr k = s.orig := by
  intro c hk hlive
  have h : CInv c := CInv.run_init acts
  obtain ⟨c', _, ⟨sched, he⟩, hcanc, _, hwr, _⟩ := zlive_done h hk hlive
  refine ⟨sched, c', he, hcanc, ?_⟩
  rw [hwr, Zmq.rest, if_neg hk0, ← List.append_assoc]
  exact h.acc.d k s (Nat.pos_of_ne_zero hk0) hk

/-- **while the forwarding task is not cancelled every queued message gets written, exactly
once each, in queue order**, from any reachable state, by a finite schedule of sender moves
after which the queue is empty (the forwarding task is sender 0). -/
theorem queue_all_written_cancel (acts : List ZCAct) :
    let c := ZmqC.init.run acts
    0 ∉ c.cancelled →
    ∃ sched c', c.exec (zsteps sched) = some c' ∧ c'.cancelled = c.cancelled ∧
      c'.base.wr 0 = c.base.queued ∧ c'.base.queue = [] := by
  intro c hlive
  have h : CInv c := CInv.run_init acts
  obtain ⟨s, hk, hq⟩ := h.acc.q
  obtain ⟨c', _, ⟨sched, he⟩, hcanc, _, hwr, hr⟩ := zlive_done h hk hlive
  refine ⟨sched, c', he, hcanc, ?_, hr⟩
  rw [hwr, ← List.append_assoc]
  exact hq

/-- **erasure**: a history without `cancel` actions is a history of the system of
`Core/Zmq.lean` — same shared state at the end, nobody cancelled, no call aborted.  Hence
`one_socket`, `queued_in_order_once`, `direct_in_order` of `Props/C19.lean` are the
cancel-free special cases of the theorems here (they spell out `Zmq.wr`:
`z.wr i = (z.writes.filter (·.1 == i)).map (·.2)`). -/
theorem cancel_free_is_base (acts : List ZCAct) (hno : ∀ a ∈ acts, a.isCancel = false) :
    (ZmqC.init.run acts).base = Zmq.init.run (eraseCancel acts) ∧
      (ZmqC.init.run acts).cancelled = [] ∧ (ZmqC.init.run acts).aborted = 0 :=
  ZmqC.run_erase rfl acts hno

/-- conversely every history of `Core/Zmq.lean` is a history of the system with cancellation. -/
theorem base_is_cancel_free (acts : List ZAct) :
    (ZmqC.init.run (acts.map .base)).base = Zmq.init.run acts :=
  (ZmqC.run_map_base rfl acts).1

/-- a strict execution (every action enabled) is a history, so everything above also holds
after the schedules produced by the progress theorems. -/
theorem exec_is_run (acts sched : List ZCAct) (c' : ZmqC)
    (h : (ZmqC.init.run acts).exec sched = some c') : ZmqC.init.run (acts ++ sched) = c' := by
  rw [ZmqC.run_append]; exact ZmqC.run_of_exec h

/-! ## the seeded variant: a shared future awaited without `shield` -/

/-- the start-up race: `setup` (task 1), the queue loop holding message 5 (task 0) and a direct
send of message 7 (task 2) are all inside `_ensure_socket` while the socket connects. -/
def zmqRaceF : List ZFAct :=
  [.base .ensure, .base (.enqueue 5), .base (.spawn [7]), .base (.step 0), .base (.step 2),
   .base (.step 1), .base (.step 0), .base (.step 2)]

/-- the same race in the real code: task 1 holds the lock inside the factory, tasks 0 and 2
queue on the lock. -/
def zmqRaceC : List ZCAct :=
  [.base .ensure, .base (.enqueue 5), .base (.spawn [7]), .base (.step 0), .base (.step 2),
   .base (.step 1), .base (.step 0), .base (.step 2)]

/-- **seeded variant: ONE cancellation kills the stream for everybody, for ever.**  In the
variant (`Core/ZmqSharedFuture.lean`) cancel the direct send (task 2) during the race.  Then
for EVERY continuation — any scheduling, new messages, new senders, the connection coming up,
no further cancellation needed — nothing is ever written, no socket is ever stored, and
nobody ever gets past `_ensure_socket`. -/
theorem seeded_one_cancel_kills_stream (more : List ZFAct) :
    let z := ZmqF.init.run (zmqRaceF ++ [.cancel 2] ++ more)
    z.writes = [] ∧ z.socket = false ∧ z.fut = .cancelled ∧
      ∀ s ∈ z.senders, s.pc ≠ .ready ∧ s.pc ≠ .draining := by
  intro z
  have h0 : FDead (ZmqF.init.run (zmqRaceF ++ [.cancel 2])) := by
    refine ⟨by decide, by decide, by decide, by decide⟩
  have : FDead z := by
    show FDead (ZmqF.init.run (zmqRaceF ++ [.cancel 2] ++ more))
    rw [ZmqF.run_append]; exact h0.run more
  exact ⟨this.wr, this.sock, this.fut, this.pcs⟩

/-- in the variant the two tasks nobody cancelled are thrown out with a `CancelledError` as
soon as they are scheduled: `setup` (1) and the queue loop (0), whose message 5 is lost. -/
example :
    let z := ZmqF.init.run (zmqRaceF ++ [.cancel 2, .base (.step 0), .base (.step 1)])
    z.cancelled = [2] ∧ z.failed = [1, 0] ∧ z.writes = [] ∧ z.queued = [5] := by
  decide +kernel

/-- without the cancellation the variant behaves: one factory call, both messages written. -/
example :
    let z := ZmqF.init.run (zmqRaceF ++ [.connected, .base (.step 0), .base (.step 1), .base (.step 2),
      .base (.step 0), .base (.step 1), .base (.step 2)])
    z.factoryCalls = 1 ∧ z.writes = [(0, 5), (2, 7)] ∧ z.failed = [] := by
  decide +kernel

/-- **the real code, same incident**: cancelling the queued direct send (task 2) only removes
it from the lock queue; the holder finishes, the queue loop writes message 5. -/
example :
    let c := ZmqC.init.run (zmqRaceC ++ [.cancel 2] ++ zsteps [1, 0, 0, 1])
    c.base.writes = [(0, 5)] ∧ c.cancelled = [2] ∧ c.completed = 1 ∧ c.aborted = 0 ∧
      c.base.waiters = [] ∧ c.base.lockHeld = none := by
  decide +kernel

/-! ## non-vacuity of the theorems about the real code -/

/-- the HOLDER (task 1, `setup`) is cancelled inside the factory: `_socket` stays `None`, the
lock is released, the call is counted as aborted; the next waiter (task 0) calls the factory
again and this call completes.  Two calls started, ONE socket created, both messages written. -/
example :
    let c := ZmqC.init.run (zmqRaceC ++ [.cancel 1] ++ zsteps [0, 0, 0, 2, 2])
    c.base.factoryCalls = 2 ∧ c.completed = 1 ∧ c.aborted = 1 ∧ c.base.socket = true ∧
      c.base.writes = [(0, 5), (2, 7)] ∧ c.cancelled = [1] := by
  decide +kernel

/-- the state right after that cancellation: no socket, lock free, tasks 0 and 2 still queued
(the hypotheses of `cancel_does_not_block` hold for `k = 2`, `m = 7`, behind waiter 0). -/
example :
    let c := ZmqC.init.run (zmqRaceC ++ [.cancel 1])
    c.base.socket = false ∧ c.base.lockHeld = none ∧ c.base.waiters = [0, 2] ∧ c.aborted = 1 ∧
      2 ∉ c.cancelled ∧ (c.base.senders[2]?).map (fun s => (s.pc, s.cur)) = some (.wantLock, some 7) := by
  decide +kernel

/-- ... and a schedule as promised by `cancel_does_not_block`: waiter 0 goes through (creating
the socket), then task 2 writes 7. -/
example :
    let c := ZmqC.init.run (zmqRaceC ++ [.cancel 1])
    ∃ c', c.exec (zsteps [0, 0, 2, 2]) = some c' ∧ c'.base.wr 2 = c.base.wr 2 ++ [7] ∧
      c'.base.socket = true ∧ c'.cancelled = c.cancelled := by
  refine ⟨_, rfl, ?_, ?_, ?_⟩ <;> decide +kernel

/-- every waiter but one cancelled, then the holder cancelled too: the survivor still creates
the socket and writes. -/
example :
    let c := ZmqC.init.run (zmqRaceC ++ [.cancel 0, .cancel 1] ++ zsteps [2, 2, 2])
    c.base.writes = [(2, 7)] ∧ c.completed = 1 ∧ c.aborted = 1 ∧ c.base.factoryCalls = 2 ∧
      c.base.wr 0 = [] ∧ c.base.queued = [5] := by
  decide +kernel

/-- the queue loop cancelled inside `drain()` after its first message: the later messages stay
in the queue (`queued_in_order_once_cancel` with `inflight = []`), nothing is written twice. -/
example :
    let c := ZmqC.init.run ([.base (.enqueue 1), .base (.enqueue 2)] ++ zsteps [0, 0, 0, 0] ++
      [.cancel 0] ++ zsteps [0, 0, 0])
    c.base.writes = [(0, 1)] ∧ c.base.queue = [2] ∧ c.base.queued = [1, 2] ∧ c.cancelled = [0] := by
  decide +kernel

/-- a finished task cannot be cancelled (`Task.cancel()` returns `False`): the action is skipped. -/
example :
    let c := ZmqC.init.run ([.base (.spawn [7])] ++ zsteps [1, 1, 1, 1, 1] ++ [.cancel 1])
    c.base.writes = [(1, 7)] ∧ c.cancelled = [] := by
  decide +kernel

/-- a history with cancellations for `socket_never_replaced` / `cancelled_never_writes`. -/
example :
    let acts := zmqRaceC ++ [.cancel 1] ++ zsteps [0, 0]
    (ZmqC.init.run acts).base.socket = true ∧ 1 ∈ (ZmqC.init.run acts).cancelled := by
  decide +kernel

end Tickit
