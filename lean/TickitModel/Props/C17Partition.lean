/-
C17 / C05 — a configuration DIVIDED over several simulations (`build_simulation(..., components_to_run=...)`,
`tickit components NAME...`): a component is hosted by as many of the selections as there are requests that
name it, so by exactly one when the requests divide the configuration.

`selectComponents` is the model of the selection in `build_simulation`; the scheduler's wiring does not take the
selection as an argument at all (`wiring_from_configs_exact` is about the whole configuration) - that the code
agrees is what the divided runs of C05 / C13 / C17 and the configuration-file path of the generic checks compare.
-/
import TickitModel.Props.C17

namespace Tickit

/-- dividing a configuration in two: what one simulation hosts and what the other hosts are disjoint and together are
the whole configuration (as a permutation: nothing lost, nothing doubled) -/
theorem two_part_division (available req : List Comp) (h : ∀ c ∈ req, c ∈ available) :
    ∃ s1 s2, selectComponents available (some req) = some s1 ∧
      selectComponents available (some (available.filter (fun c => decide (c ∉ req)))) = some s2 ∧
      (s1 ++ s2).Perm available ∧ (∀ c, c ∈ s1 → c ∉ s2) := by
  refine ⟨available.filter (· ∈ req), available.filter (fun c => decide (c ∉ req)), select_subset _ _ h, ?_, ?_, ?_⟩
  · rw [select_subset]
    · congr 1
      apply List.filter_congr
      intro c hc
      simp [List.mem_filter, hc]
    · intro c hc
      exact (List.mem_filter.mp hc).1
  · have := List.filter_append_perm (fun c => decide (c ∈ req)) available
    simpa using this
  · intro c h1 h2
    simp only [List.mem_filter, decide_eq_true_eq] at h1 h2
    exact h2.2 h1.2

/-- any list of requests.  The selection for a request `r` is written `available.filter (· ∈ r)`, which is what
`selectComponents` returns for it by `select_subset` (`Props/C17`) when `r` names available components only (`hsub`;
the count itself does not depend on it). -/
theorem division_hosts_once (available : List Comp) (reqs : List (List Comp))
    (hsub : ∀ r ∈ reqs, ∀ c ∈ r, c ∈ available) (c : Comp) (hc : c ∈ available) :
    ((reqs.map (fun r => available.filter (· ∈ r))).filter (fun s => decide (c ∈ s))).length
      = (reqs.filter (fun r => decide (c ∈ r))).length := by
  induction reqs with
  | nil => simp
  | cons r rs ih =>
    have ih' := ih (fun r' hr' => hsub r' (List.mem_cons_of_mem _ hr'))
    simp only [List.map_cons, List.filter_cons]
    by_cases hr : c ∈ r
    · simp [hr, hc, List.mem_filter, ih']
    · simp [hr, List.mem_filter, ih']

example : selectComponents ["src", "sys", "sink"] (some ["sink", "src"]) = some ["src", "sink"] ∧
    selectComponents ["src", "sys", "sink"] (some ["sys"]) = some ["sys"] ∧
    selectComponents ["src", "sys", "sink"] (some ["ghost"]) = none := by decide +kernel

end Tickit
