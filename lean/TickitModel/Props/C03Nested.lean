/-
C03 / C08 through system boundaries — the nested whole-simulation model refines the flat
multi-tick system of `Core/Flat.lean` over the RESOLVED device-level wiring.

`Core/Flat.lean` (`FlatRun`) is the system for which C03 (`inputs_latest`, `synced_run`), C04
(`time_monotone`) and C08 (`schedule_independent`: every answer order gives the same observations)
are proved.  C09 (`nesting_transparent_run`) relates the nested model to the SAME model run on the
flattened configuration.  This file closes the gap: a run of the whole-simulation model on a FLAT
configuration is a `FlatRun` (with the devices' recorded responses as device functions), so that a
nested run has exactly the observations of some — hence, by C08, of every — `FlatRun` over the
resolved wiring, and all flat theorems transfer through system boundaries.
-/
import TickitModel.Props.C09
import TickitModel.Props.C03
import TickitModel.Props.C08
import TickitModel.Lemmas.RefineStim

namespace Tickit

/-- the observation log of the whole-simulation model in the format of `FlatSt.obs` -/
def SimSt.obsList (st : SimSt) : List (Comp × SimTime × List (Port × V)) :=
  st.obs.map (fun o => (o.comp, o.time, o.inputs))

/-- a configuration without system simulations: one level (the proofs use `S.systems = []` only) -/
def Static.IsFlat (S : Static) : Prop :=
  S.systems = [] ∧ ∃ L, S.levels = [L] ∧ L.name = ""

/-- **a flat whole-simulation run is a `FlatRun`**, with extensional device functions (`DevExt`,
the hypothesis of C08): the stronger form of `flat_sim_is_flatRun` below. -/
theorem flat_sim_is_flatRun_ext (S : Static) (hflat : S.IsFlat) (L : Level) (hL : S.level "" = some L)
    (orc : Oracle) (fuel : Nat) (t0 : SimTime) (now : Int) (sp : Speed) (steps nTicks : Nat)
    (m m2 : MasterSt) (tr : TickRec) (ticks : List TickRec)
    (h : masterInitial S orc fuel t0 now = .ok (m, tr))
    (h2 : masterRun S orc fuel sp steps nTicks m [] [tr] = .ok (m2, ticks)) :
    ∃ (devs : DevSeq V) (st : FlatSt V) (times : List SimTime),
      FlatRun L.wiring devs t0 (ticks.length - 1) st times ∧
      st.obs = m2.sim.obsList ∧ times = (ticks.map (·.time)).reverse ∧ ∀ k, DevExt (devs k) := by
  obtain ⟨devs, fl, times, hrun, hR, ht, hext, _⟩ := RefineStim.sim_flatRun hflat.1 hL h h2
  exact ⟨devs, fl, times, hrun, hR.obs, ht, hext⟩

/-- **a flat whole-simulation run is a `FlatRun`.**  For a flat configuration (`hS` is not used), a completed
initial tick followed by any number of callback ticks of the whole-simulation model is a run of the
flat multi-tick system over the same wiring, for suitable (oracle-derived) device functions, with
the same observation log and the same tick times. -/
theorem flat_sim_is_flatRun (S : Static) (hS : S.Valid) (hflat : S.IsFlat) (L : Level) (hL : S.level "" = some L)
    (orc : Oracle) (fuel : Nat) (t0 : SimTime) (now : Int) (sp : Speed) (steps nTicks : Nat)
    (m m2 : MasterSt) (tr : TickRec) (ticks : List TickRec)
    (h : masterInitial S orc fuel t0 now = .ok (m, tr))
    (h2 : masterRun S orc fuel sp steps nTicks m [] [tr] = .ok (m2, ticks)) :
    ∃ (devs : DevSeq V) (st : FlatSt V) (times : List SimTime),
      FlatRun L.wiring devs t0 (ticks.length - 1) st times ∧
      st.obs = m2.sim.obsList ∧ times = (ticks.map (·.time)).reverse := by
  have _ := hS -- not needed: on a flat configuration the loop is in lockstep with the flat system
  obtain ⟨devs, st, times, h1, h2, h3, _⟩ :=
    flat_sim_is_flatRun_ext S hflat L hL orc fuel t0 now sp steps nTicks m m2 tr ticks h h2
  exact ⟨devs, st, times, h1, h2, h3⟩

theorem obsOf_of_obs_eq {st : FlatSt V} {sim : SimSt} (h : st.obs = sim.obsList) (d : Comp) :
    st.obsOf d = sim.obsOf d := by
  unfold FlatSt.obsOf SimSt.obsOf
  rw [h, SimSt.obsList, List.filter_map, List.map_map]
  rfl

theorem flatten_facts (S : Static) (hS : S.Valid) (rfuel : Nat) :
    (S.flatten rfuel).Valid ∧ (S.flatten rfuel).IsFlat ∧
      (S.flatten rfuel).level "" = some ⟨"", Wiring.fromInverse (S.flatInverse rfuel)⟩ ∧
      RouterOK (Wiring.fromInverse (S.flatInverse rfuel)) ∧
      (Wiring.fromInverse (S.flatInverse rfuel)).Acyclic :=
  ⟨hS.flatten_valid rfuel, ⟨rfl, _, rfl, rfl⟩, rfl,
    (hS.flatten_valid rfuel).routerOK (L := ⟨"", _⟩) (List.mem_singleton_self _),
    (hS.flatten_valid rfuel).acyclic ⟨"", _⟩ (List.mem_singleton_self _)⟩

/-- **the nested model refines the flat system over the resolved wiring**: every completed nested
run (initial tick + callback ticks) has, device by device, the observations of a `FlatRun` over the
wiring of the flattened configuration. -/
theorem nested_refines_flatRun (S : Static) (hS : S.Valid) (orc : Oracle) (fuel rfuel : Nat)
    (hr : S.resolveFuel ≤ rfuel) (t0 : SimTime) (now : Int) (sp : Speed) (steps nTicks : Nat)
    (m m2 : MasterSt) (tr : TickRec) (ticks : List TickRec)
    (h : masterInitial S orc fuel t0 now = .ok (m, tr))
    (h2 : masterRun S orc fuel sp steps nTicks m [] [tr] = .ok (m2, ticks)) :
    ∃ (devs : DevSeq V) (st : FlatSt V) (times : List SimTime),
      FlatRun (Wiring.fromInverse (S.flatInverse rfuel)) devs t0 (ticks.length - 1) st times ∧
      times = (ticks.map (·.time)).reverse ∧
      ∀ d, ObsEq (m2.sim.obsOf d) (st.obsOf d) := by
  obtain ⟨fuel', m', tr', m2', ticks', h', hrun', ht, _, hobs⟩ :=
    nesting_transparent_run_fuel S hS orc fuel rfuel hr t0 now sp steps nTicks m m2 tr ticks h h2
  obtain ⟨hS', hflat, hL, _⟩ := flatten_facts S hS rfuel
  obtain ⟨devs, st, times, hfr, hob, htm⟩ := flat_sim_is_flatRun (S.flatten rfuel) hS' hflat _ hL
    orc fuel' t0 now sp steps nTicks m' m2' tr' ticks' h' hrun'
  have hlen : ticks.length = ticks'.length := by simpa using congrArg List.length ht
  refine ⟨devs, st, times, ?_, ?_, fun d => ?_⟩
  · rw [hlen]; exact hfr
  · rw [htm, ht]
  · rw [obsOf_of_obs_eq hob d]; exact hobs d

/-- **C03 through system boundaries.**  In a completed nested run every observation of every device,
at whatever depth, is explained by a flat run over the resolved wiring that is `Synced`: the inputs
it was given are, port by port, the latest values reported on the resolved source outputs. -/
theorem nested_inputs_synced (S : Static) (hS : S.Valid) (orc : Oracle) (fuel rfuel : Nat)
    (hr : S.resolveFuel ≤ rfuel) (t0 : SimTime) (now : Int) (sp : Speed) (steps nTicks : Nat)
    (m m2 : MasterSt) (tr : TickRec) (ticks : List TickRec)
    (h : masterInitial S orc fuel t0 now = .ok (m, tr))
    (h2 : masterRun S orc fuel sp steps nTicks m [] [tr] = .ok (m2, ticks)) :
    ∃ (devs : DevSeq V) (st : FlatSt V) (times : List SimTime),
      FlatRun (Wiring.fromInverse (S.flatInverse rfuel)) devs t0 (ticks.length - 1) st times ∧
      Synced (Wiring.fromInverse (S.flatInverse rfuel)) st ∧
      ∀ d, ObsEq (m2.sim.obsOf d) (st.obsOf d) := by
  obtain ⟨devs, st, times, hfr, _, hobs⟩ :=
    nested_refines_flatRun S hS orc fuel rfuel hr t0 now sp steps nTicks m m2 tr ticks h h2
  obtain ⟨hS', _, hL, hro, hac⟩ := flatten_facts S hS rfuel
  have hsy := synced_run _ hro hac devs (hS'.ups_defined ⟨"", _⟩ (Static.level_some hL).1) t0 _ st times hfr
  exact ⟨devs, st, times, hfr, hsy, hobs⟩

/-- **C08 through system boundaries.**  The observations of a completed nested run are those of
EVERY run of the flat system over the resolved wiring with the run's (extensional, oracle-derived)
device functions, whatever the answer orders inside the ticks. -/
theorem nested_schedule_independent (S : Static) (hS : S.Valid) (orc : Oracle) (fuel rfuel : Nat)
    (hr : S.resolveFuel ≤ rfuel) (t0 : SimTime) (now : Int) (sp : Speed) (steps nTicks : Nat)
    (m m2 : MasterSt) (tr : TickRec) (ticks : List TickRec)
    (h : masterInitial S orc fuel t0 now = .ok (m, tr))
    (h2 : masterRun S orc fuel sp steps nTicks m [] [tr] = .ok (m2, ticks)) :
    ∃ (devs : DevSeq V), (∀ k, DevExt (devs k)) ∧
      (∃ st times, FlatRun (Wiring.fromInverse (S.flatInverse rfuel)) devs t0 (ticks.length - 1) st times) ∧
      ∀ st times, FlatRun (Wiring.fromInverse (S.flatInverse rfuel)) devs t0 (ticks.length - 1) st times →
        times = (ticks.map (·.time)).reverse ∧ ∀ d, ObsEq (m2.sim.obsOf d) (st.obsOf d) := by
  obtain ⟨fuel', m', tr', m2', ticks', h', hrun', ht, _, hobs⟩ :=
    nesting_transparent_run_fuel S hS orc fuel rfuel hr t0 now sp steps nTicks m m2 tr ticks h h2
  obtain ⟨_, hflat, hL, hro, hac⟩ := flatten_facts S hS rfuel
  obtain ⟨devs, st, times, hfr, hob, htm, hext⟩ := flat_sim_is_flatRun_ext (S.flatten rfuel) hflat _ hL
    orc fuel' t0 now sp steps nTicks m' m2' tr' ticks' h' hrun'
  have hlen : ticks.length = ticks'.length := by simpa using congrArg List.length ht
  rw [← hlen] at hfr
  refine ⟨devs, hext, ⟨st, times, hfr⟩, fun st2 times2 hfr2 => ?_⟩
  obtain ⟨e1, e2⟩ := schedule_independent _ hro hac devs hext t0 _ st st2 times times2 hfr hfr2
  refine ⟨by rw [← e1, htm, ht], fun d => ?_⟩
  have hd := hobs d
  rw [← obsOf_of_obs_eq hob d] at hd
  exact Det.obsEq_trans hd (e2 d)

end Tickit
