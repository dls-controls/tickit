/-
Non-vacuity of `Props/C08NestedAny.lean`, `Props/C01NestedAny.lean` and
`Props/C08NestedAnyRun.lean`: a concrete VALID nested configuration, two different complete
executions of its initial tick, to which the theorems about one tick are applied, and a run of two
ticks (`tick0`, then the callback tick `tick5`: `run2`), to which those about whole runs are applied.

Master level: system simulation `s` and device `z`, wired `s.y → z.i`.  Inside `s`: devices `a`
and `b` (independent of each other), `expose.y ← a.o`.  Both `a` and `b` are roots of the initial
tick of `s`, so after `external` is dispatched three dispatches are pending at once.  Execution 1
answers them first-in first-out (`external`, `a`, `b`); execution 2 answers `b`, then `a`, then
`external`.  The global observation lists DIFFER (`a, b, z` against `b, a, z`), so do the key
orders of the maps, but by `nested_any_order_deterministic` the end states are equivalent.
-/
import TickitModel.Props.C08NestedAny
import TickitModel.Props.C08NestedAnyRun
import TickitModel.Props.C01NestedAny
import TickitModel.Lemmas.StaticValid
import TickitModel.Lemmas.InterExec

namespace Tickit.AnyEx

def sInv : InvWiring := [("a", []), ("b", []), ("external", []), ("expose", [("y", ("a", "o"))])]
def topInv : InvWiring := [("s", []), ("z", [("i", ("s", "y"))])]
def sW : Wiring := Wiring.fromInverse sInv
def topW : Wiring := Wiring.fromInverse topInv

def S0 : Static :=
  { levels := [⟨"", topW⟩, ⟨"s", sW⟩]
    systems := ["s"]
    parent := [("s", ""), ("z", ""), ("a", "s"), ("b", "s")] }

/-- `a` reports `o = 7`; `b` reports `o = 1` and asks to be called back at 5, where it reports
`o = 2`; `z` reports nothing -/
def orc0 : Oracle :=
  [("a", [⟨[("o", 7)], none, false⟩]),
   ("b", [⟨[("o", 1)], some 5, false⟩, ⟨[("o", 2)], none, false⟩]),
   ("z", [⟨[], none, false⟩])]

theorem S0_valid : S0.Valid :=
  Static.valid_of_checked (invs := [topInv, sInv])
    (depth := fun c => if c = "a" ∨ c = "b" then 1 else 0)
    (rank := fun c => if c = "z" ∨ c = "expose" then 1 else 0) (by decide +kernel) (by decide +kernel)

open Sched

/-- inside `s` the order is `external`, `a`, `b`, `expose` -/
theorem exec1 : ∃ r, TickLevelAny S0 orc0 "" 0 ["z", "s"] [] {} r ∧
    r.1.obs.map (·.comp) = ["a", "b", "z"] ∧ akeys r.1.devs = ["a", "b", "z"] :=
  execAny_sound
    (step 0 (step 0 done <| step 0 done <| step 0 done <| step 0 done done) <| step 0 done done)
    (by decide +kernel)

def st2 : SimSt :=
  { devs := [("b", ⟨[], [("o", 1)]⟩), ("a", ⟨[], [("o", 7)]⟩), ("z", ⟨[("i", 7)], []⟩)]
    count := [("b", 1), ("a", 1), ("z", 1)]
    scheds := [("s", ⟨[("b", 5)], [], true⟩), ("", ⟨[("s", 5)], [], false⟩)]
    obs := [⟨"b", 0, []⟩, ⟨"a", 0, []⟩, ⟨"z", 0, [("i", 7)]⟩] }

/-- inside `s` the order is `b`, `a`, `external`, `expose` -/
theorem tick0 : TickLevelAny S0 orc0 "" 0 ["z", "s"] [] {} (st2, []) :=
  let ⟨_, h, e⟩ := execAny_sound (P := (· = (st2, [])))
    (step 0 (step 2 done <| step 1 done <| step 0 done <| step 0 done done) <| step 0 done done)
    (by decide +kernel)
  e ▸ h

theorem exec2 : ∃ r, TickLevelAny S0 orc0 "" 0 ["z", "s"] [] {} r ∧
    r.1.obs.map (·.comp) = ["b", "a", "z"] ∧ akeys r.1.devs = ["b", "a", "z"] :=
  ⟨_, tick0, rfl, rfl⟩

/-- the hypotheses of `nested_any_order_deterministic` are met by the two executions above, which
are genuinely different (different global observation order) -/
example : ∃ r r', TickLevelAny S0 orc0 "" 0 ["z", "s"] [] {} r ∧
    TickLevelAny S0 orc0 "" 0 ["z", "s"] [] {} r' ∧ r.1.obs.map (·.comp) ≠ r'.1.obs.map (·.comp) ∧
    r.1.Equiv r'.1 ∧ MapEq r.2 r'.2 := by
  obtain ⟨r, h1, ho1, _⟩ := exec1
  obtain ⟨r', h2, ho2, _⟩ := exec2
  refine ⟨r, r', h1, h2, by rw [ho1, ho2]; decide, ?_⟩
  exact nested_any_order_deterministic S0 S0_valid orc0 "" 0 _ _ [] [] {} {} r r' (fun _ => Iff.rfl)
    (MapEq.refl _) (by simp) (by simp) (.refl SimSt.wakeWF_empty) h1 h2

/-- C01 for the second execution: nobody was updated twice. -/
example : ∃ r, TickLevelAny S0 orc0 "" 0 ["z", "s"] [] {} r ∧
    ∀ x, (r.1.obsOf x).length ≤ (({} : SimSt).obsOf x).length + 1 := by
  obtain ⟨r, h, _⟩ := exec2
  exact ⟨r, h, any_order_updates_le S0 S0_valid orc0 "" 0 _ [] (by simp) {} r h⟩

/-- in the resolved wiring `a.o` drives `z.i` (through `expose` of `s`).  The theorems about one
tick hold for every resolution fuel; 7 already gives the resolved wiring of `S0` (the run theorem
below asks for `S0.resolveFuel = 9 ≤ rfuel` and is given 20). -/
example : (Wiring.fromInverse (S0.flatInverse 7)).Conn "a" "o" "z" "i" := by decide +kernel

/-- so the update of `a` precedes the update of `z` in every execution — as it does in `exec1`
(`a, b, z`) and `exec2` (`b, a, z`). -/
example : ∃ r, TickLevelAny S0 orc0 "" 0 ["z", "s"] [] {} r ∧
    ∃ new, r.1.obs = ({} : SimSt).obs ++ new ∧
      ∀ pre oy post, new = pre ++ oy :: post → ∀ ox ∈ new, ∀ p q,
        (Wiring.fromInverse (S0.flatInverse 7)).Conn ox.comp p oy.comp q → ox ∈ pre := by
  obtain ⟨r, h, _⟩ := exec2
  exact ⟨r, h, any_order_update_after_resolved_sources S0 S0_valid orc0 7 "" 0 _ [] (by simp) {} r h⟩

def st5 : SimSt :=
  { devs := [("b", ⟨[], [("o", 2)]⟩), ("a", ⟨[], [("o", 7)]⟩), ("z", ⟨[("i", 7)], []⟩)]
    count := [("b", 2), ("a", 1), ("z", 1)]
    scheds := [("s", ⟨[], [], true⟩), ("", ⟨[], [], false⟩)]
    obs := [⟨"b", 0, []⟩, ⟨"a", 0, []⟩, ⟨"z", 0, [("i", 7)]⟩, ⟨"b", 5, []⟩] }

/-- the callback tick at 5 asked for by `b` (inside `s`: `external` is answered before `b`) -/
theorem tick5 : TickLevelAny S0 orc0 "" 5 ["s"] [] (tickStart st2 ["s"]) (st5, []) :=
  let ⟨_, h, e⟩ := execAny_sound (P := (· = (st5, [])))
    (step 0 (step 1 done <| step 0 done done) <| step 0 done done) (by decide +kernel)
  e ▸ h

/-- the run `tick0`, `tick5` with its master states and tick records spelt out -/
theorem run2_exec :
    MasterInitialAny S0 orc0 0 0 (⟨st2, 0, 0, 0⟩, ⟨0, 0, ["z", "s"]⟩) ∧
    MasterRunAny S0 orc0 10 ⟨1, 1⟩ 5 1 ⟨st2, 0, 0, 0⟩ [] [⟨0, 0, ["z", "s"]⟩]
      (⟨st5, 5, 5, 5⟩, [⟨0, 0, ["z", "s"]⟩, ⟨5, 5, ["s"]⟩]) :=
  ⟨.mk (L := ⟨"", topW⟩) rfl tick0, .tick (comps := ["s"]) (w := 5) rfl rfl tick5 .ticksDone⟩

theorem run2 : ∃ r0 r, MasterInitialAny S0 orc0 0 0 r0 ∧
    MasterRunAny S0 orc0 10 ⟨1, 1⟩ 5 1 r0.1 [] [r0.2] r ∧ r.2.map (·.time) = [0, 5] ∧
    r.1.sim.obs.map (·.comp) = ["b", "a", "z", "b"] :=
  ⟨_, _, run2_exec.1, run2_exec.2, rfl, rfl⟩

/-- any other any-order run of the same length does the same ticks -/
example (r0' : MasterSt × TickRec) (r' : MasterSt × List TickRec)
    (h1' : MasterInitialAny S0 orc0 0 0 r0')
    (h2' : MasterRunAny S0 orc0 10 ⟨1, 1⟩ 5 1 r0'.1 [] [r0'.2] r') :
    r'.2.map (·.time) = [0, 5] := by
  obtain ⟨r0, r, h1, h2, ht, _⟩ := run2
  have := (any_order_run_deterministic S0 S0_valid orc0 10 0 0 ⟨1, 1⟩ 5 1 [] r0 r0' r r' h1 h1' h2 h2').2.1
  rw [← this.times.1, ht]

/-- the unconditional transfer applied to the any-order run `run2`: its observations are those of a
`Synced` flat run over the resolved wiring (resolution fuel 20 ≥ `S0.resolveFuel`). -/
example : ∃ r0 r, MasterInitialAny S0 orc0 0 0 r0 ∧
    MasterRunAny S0 orc0 10 ⟨1, 1⟩ 5 1 r0.1 [] [r0.2] r ∧
    ∃ (devs : DevSeq V) (st : FlatSt V) (times : List SimTime),
      FlatRun (Wiring.fromInverse (S0.flatInverse 20)) devs 0 (r.2.length - 1) st times ∧
      Synced (Wiring.fromInverse (S0.flatInverse 20)) st ∧ times = (r.2.map (·.time)).reverse ∧
      ∀ d, ObsEq (r.1.sim.obsOf d) (st.obsOf d) := by
  obtain ⟨r0, r, h1, h2, _, _⟩ := run2
  exact ⟨r0, r, h1, h2, any_order_run_refines_flatRun S0 S0_valid orc0 10 20 (by decide +kernel) 0 0 ⟨1, 1⟩ 5 1
    r0 r h1 h2⟩

/-- and the FIFO model completes the tick of `exec2` with an equivalent result -/
example : ∃ r, TickLevelAny S0 orc0 "" 0 ["z", "s"] [] {} r ∧
    ∃ F, ∀ fuel, F ≤ fuel → ∃ rf, tickLevel S0 orc0 fuel "" 0 ["z", "s"] [] {} = .ok rf ∧
      r.1.Equiv rf.1 ∧ MapEq r.2 rf.2 := by
  obtain ⟨r, h, _⟩ := exec2
  exact ⟨r, h, any_order_fifo_exists S0 S0_valid orc0 "" 0 _ [] (by simp) {} SimSt.wakeWF_empty r h⟩

end Tickit.AnyEx
