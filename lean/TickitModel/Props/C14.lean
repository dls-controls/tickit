/-
C14 — long runs use bounded scheduler resources: the operation-level ledger (`Core/Ledger.lean`).
The ledger takes for granted that every COMPLETE operation has released the tasks and timers it
created (`Ledger.apply` leaves `live`, `retained`, `timers` alone) and counts the bookkeeping
entries only; that the operations do release them, step by step and for every interleaving, is
what `Props/C14Loop` (master run loop) and `Props/C14Race` (system component, TCP io) prove on
`Core/MasterLoopRes` and `Core/RaceRes`.
-/
import TickitModel.Core.Ledger

namespace Tickit

theorem Ledger.apply_inv (ncomp : Nat) (l : Ledger) (op : LOp) (h : l.entries ≤ 2 * ncomp) :
    (l.apply ncomp op).live = l.live ∧ (l.apply ncomp op).retained = l.retained ∧
    (l.apply ncomp op).timers = l.timers ∧ (l.apply ncomp op).entries ≤ 2 * ncomp := by
  cases op with
  | tickSleepWins | interrupt => exact ⟨rfl, rfl, rfl, Nat.min_le_left _ _⟩
  | tickPreempted | systemTick | tcpChunk => exact ⟨rfl, rfl, rfl, h⟩

/-- **bounded**: after any history of operations — any number of ticks, pre-emptions,
interrupts, system ticks and TCP chunks — the live tasks, retained finished tasks and timers
are back at their baseline, and the bookkeeping entries never exceed two per component.
(Both by the definition of `Ledger.apply`: it does not touch the first three and clamps the
entries at `2 * ncomp`; see the head of this file for what proves that the code behaves so.) -/
theorem resources_bounded (ncomp : Nat) (ops : List LOp) (l : Ledger) (h : l.entries ≤ 2 * ncomp) :
    (Ledger.run ncomp l ops).live = l.live ∧ (Ledger.run ncomp l ops).retained = l.retained ∧
    (Ledger.run ncomp l ops).timers = l.timers ∧ (Ledger.run ncomp l ops).entries ≤ 2 * ncomp := by
  induction ops generalizing l with
  | nil => exact ⟨rfl, rfl, rfl, h⟩
  | cons op ops ih =>
    obtain ⟨h1, h2, h3, h4⟩ := Ledger.apply_inv ncomp l op h
    obtain ⟨a, b, c, d⟩ := ih (l.apply ncomp op) h4
    exact ⟨a.trans h1, b.trans h2, c.trans h3, d⟩

/-- inside an operation the excess is bounded by the number of components taking part -/
theorem peak_bounded (ncomp : Nat) (op : LOp)
    (hd : match op with | .tickSleepWins d _ _ => d ≤ ncomp | .systemTick d => d ≤ ncomp | _ => True) :
    op.peakLive ≤ 2 + ncomp := by
  cases op with
  | tickSleepWins d | systemTick d => exact Nat.add_le_add_left hd 2
  | tickPreempted => exact Nat.le_add_right 2 ncomp
  | interrupt => exact Nat.zero_le _
  | tcpChunk => exact Nat.le_trans (Nat.le_succ 1) (Nat.le_add_right 2 ncomp)

/-- the behaviour before the repairs grows without bound: `n` system ticks leave `n` tasks -/
theorem leaky_grows (n : Nat) (l : Ledger) :
    ((List.replicate n (LOp.systemTick 1)).foldl Ledger.applyLeaky l).live = l.live + n := by
  induction n generalizing l with
  | zero => rfl
  | succ n ih =>
    rw [List.replicate_succ, List.foldl_cons, ih]
    exact (Nat.add_assoc _ 1 n).trans (congrArg _ (Nat.add_comm 1 n))

theorem leaky_tcp_grows (n : Nat) (l : Ledger) :
    ((List.replicate n LOp.tcpChunk).foldl Ledger.applyLeaky l).retained = l.retained + n := by
  induction n generalizing l with
  | zero => rfl
  | succ n ih =>
    rw [List.replicate_succ, List.foldl_cons, ih]
    exact (Nat.add_assoc _ 1 n).trans (congrArg _ (Nat.add_comm 1 n))

end Tickit
