/-
The flat multi-tick system WITH INTERRUPTS BETWEEN TICKS (`FlatRunI`, `Core/FlatInt.lean`): the
run-level theorems of C03, C04, C06 (R1, R2, R4 of `Props/C06Run.lean`), C08 for histories of
callbacks AND external stimuli, and C07 at flat run level (`interrupt_served`: an interrupt is never
lost and never overtaken).

A history is the initial tick followed by a script of `FAct`s in chronological order:
`.tick` = the scheduler step of `FlatRun.tick`; `.interrupt c stamp` = an adapter of `c` raises an
interrupt, the master scheduler stamps it and records the wakeup `min (wakeup of c) stamp`
(`intWake`, the `.interrupt` case of `MSt.step`).

Each fact is proved in the lemma files for `FlatRunI`; the `FlatRun` theorems are its interrupt-free
instances.  Some theorems here have the short name of the lemma they state with explicit arguments
(`flatRunI_counts` / `FlatInt.flatRunI_counts`, `synced_runI` / `Sync.synced_runI`): lemma files
cannot import this file and use the lemma.
-/
import TickitModel.Lemmas.CallbackLemmas
import TickitModel.Props.C03
import TickitModel.Props.C04
import TickitModel.Props.C06Run

namespace Tickit

open Callback

variable {Val : Type} [DecidableEq Val]

/-! ### T0: `FlatRun` is the interrupt-free fragment of `FlatRunI` -/

/-- **T0.**  A `FlatRun` of `n` callback ticks is the same thing as a `FlatRunI` whose script is
`n` times `.tick`. -/
theorem flatRun_is_flatRunI (w : Wiring) (devs : DevSeq Val) (t0 : SimTime) (n : Nat)
    (st : FlatSt Val) (times : List SimTime) :
    FlatRun w devs t0 n st times ↔
      FlatRunI w devs t0 (List.replicate n FAct.tick) n st times := by
  constructor
  · exact FlatInt.of_flatRun
  · intro h
    exact (FlatInt.to_flatRun h (fun a ha => (List.mem_replicate.1 ha).2)).1

/-- conversely, a `FlatRunI` whose script contains no interrupt is a `FlatRun` (and its script is
`n` times `.tick`). -/
theorem flatRunI_no_interrupt (w : Wiring) (devs : DevSeq Val) (t0 : SimTime) (sc : List FAct)
    (n : Nat) (st : FlatSt Val) (times : List SimTime) (h : FlatRunI w devs t0 sc n st times)
    (hsc : ∀ c stamp, FAct.interrupt c stamp ∉ sc) :
    FlatRun w devs t0 n st times ∧ sc = List.replicate n FAct.tick := by
  refine FlatInt.to_flatRun h (fun a ha => ?_)
  cases a with
  | tick => rfl
  | interrupt c stamp => exact absurd ha (hsc c stamp)

/-- bookkeeping: `n` is the number of ticks of the script; there are `n + 1` tick times. -/
theorem flatRunI_counts (w : Wiring) (devs : DevSeq Val) (t0 : SimTime) (sc : List FAct) (n : Nat)
    (st : FlatSt Val) (times : List SimTime) (h : FlatRunI w devs t0 sc n st times) :
    sc.count FAct.tick = n ∧ times.length = n + 1 := by
  exact FlatInt.flatRunI_counts h

/-- a continuation (`FlatExtI`) of a run is a run (scripts are concatenated). -/
theorem continuationI_is_run (w : Wiring) (devs : DevSeq Val) (t0 : SimTime) (sc0 sc : List FAct)
    (n n' : Nat) (st st' : FlatSt Val) (times times' : List SimTime)
    (hrun : FlatRunI w devs t0 sc0 n st times)
    (hext : FlatExtI w devs n st times sc n' st' times') :
    FlatRunI w devs t0 (sc0 ++ sc) n' st' times' := by
  exact FlatInt.FlatExtI.flatRunI hext hrun

/-- every run whose script has the prefix `sc0` is a continuation of a run with script `sc0`:
quantifying over continuations is quantifying over all longer scripts. -/
theorem runI_is_continuation (w : Wiring) (devs : DevSeq Val) (t0 : SimTime) (sc0 sc : List FAct)
    (n' : Nat) (st' : FlatSt Val) (times' : List SimTime)
    (hrun : FlatRunI w devs t0 (sc0 ++ sc) n' st' times') :
    ∃ n st times, FlatRunI w devs t0 sc0 n st times ∧
      FlatExtI w devs n st times sc n' st' times' := by
  exact FlatInt.flatRunI_split hrun

/-! ### T1: C03 with interrupts -/

/-- **T1.**  The invariant of C03 holds after every action of every run with interrupts
(an interrupt changes only `wake`, which `Synced` does not mention). -/
theorem synced_runI (w : Wiring) (hw : RouterOK w) (devs : DevSeq Val) (t0 : SimTime)
    (sc : List FAct) (n : Nat) (st : FlatSt Val) (times : List SimTime)
    (hrun : FlatRunI w devs t0 sc n st times) : Synced w st := by
  exact Sync.synced_runI hw hrun

/-- only components of the wiring ever have a wakeup entry. -/
theorem wake_keys_componentsI (w : Wiring) (hw : RouterOK w) (devs : DevSeq Val) (t0 : SimTime)
    (sc : List FAct) (n : Nat) (st : FlatSt Val) (times : List SimTime)
    (hrun : FlatRunI w devs t0 sc n st times) : ∀ c ∈ akeys st.wake, c ∈ w.components := by
  have _ := hw -- not needed
  exact Det.flatRunI_wake_keys hrun

/-- **C03 for a tick after any history of callbacks and interrupts** (`inputs_latest`), whether the
tick serves a callback or an interrupt. -/
theorem inputs_latest_tickI (w : Wiring) (hw : RouterOK w) (hacyc : w.Acyclic) (devs : DevSeq Val)
    (t0 : SimTime) (sc : List FAct) (n : Nat) (st : FlatSt Val) (times : List SimTime)
    (hrun : FlatRunI w devs t0 sc n st times) (cs : List Comp) (m : SimTime) (st' : FlatSt Val)
    (hf : firstWakeups st.wake = (cs, some m))
    (htick : TickRun w (devs (n + 1)) { st with wake := delWakeups st.wake cs } m cs st')
    (c : Comp) (t' : SimTime) (given : List (Port × Val))
    (hobs : (c, t', given) ∈ st'.obs) (hnew : (c, t', given) ∉ st.obs) :
    t' = m ∧
    (∀ a p q, w.Conn a p c q → alookup given q = alookup st'.reported (a, p)) ∧
    (∀ q v, alookup given q = some v → ∃ a p, w.Conn a p c q) := by
  exact inputs_latest w hw hacyc (devs (n + 1)) { st with wake := delWakeups st.wake cs } st' m cs
    (Det.extent_ups_isSome fun r hr => Det.flatRunI_wake_keys hrun r (firstWakeups_sub hf r hr))
    ((Sync.synced_runI hw hrun).with_wake _) htick c t' given hobs hnew

/-- **C03 over a whole run with interrupts**: EVERY observation `(c, t', given)` in the log of the
final state was made by the tick that ends a prefix `sc1` of the script (the initial tick if
`sc1 = []`), at that tick's time `t'`, and `given` holds exactly the latest values reported on the
wired upstream outputs at the end of that tick. -/
theorem inputs_latest_runI (w : Wiring) (hw : RouterOK w) (hacyc : w.Acyclic) (devs : DevSeq Val)
    (t0 : SimTime) (sc : List FAct) (n : Nat) (st : FlatSt Val) (times : List SimTime)
    (hrun : FlatRunI w devs t0 sc n st times)
    (c : Comp) (t' : SimTime) (given : List (Port × Val)) (hobs : (c, t', given) ∈ st.obs) :
    ∃ (sc1 sc2 : List FAct) (n1 : Nat) (st1 : FlatSt Val) (times1 : List SimTime),
      sc = sc1 ++ sc2 ∧ (sc1 = [] ∨ ∃ sc0, sc1 = sc0 ++ [FAct.tick]) ∧
      FlatRunI w devs t0 sc1 n1 st1 times1 ∧ FlatExtI w devs n1 st1 times1 sc2 n st times ∧
      times1.head? = some t' ∧ (c, t', given) ∈ st1.obs ∧
      (∀ a p q, w.Conn a p c q → alookup given q = alookup st1.reported (a, p)) ∧
      (∀ q v, alookup given q = some v → ∃ a p, w.Conn a p c q) := by
  induction hrun with
  | @initial st htick =>
    obtain ⟨rfl, h1, h2⟩ := inputs_latest w hw hacyc (devs 0) {} st t0 w.components
      (Det.extent_ups_isSome (fun r h => h)) (synced_init w) htick c t' given hobs (by simp)
    exact ⟨[], [], 0, st, [t'], rfl, Or.inl rfl, .initial htick, .refl, rfl, hobs, h1, h2⟩
  | @tick sc n st st' times cs m hprev hf htick ih =>
    by_cases hold : (c, t', given) ∈ st.obs
    · obtain ⟨sc1, sc2, n1, st1, times1, rfl, hsc1, hr, he, hh, ho, h1, h2⟩ := ih hold
      exact ⟨sc1, sc2 ++ [.tick], n1, st1, times1, by simp, hsc1, hr, he.tick hf htick, hh, ho,
        h1, h2⟩
    · obtain ⟨rfl, h1, h2⟩ := inputs_latest_tickI w hw hacyc devs t0 sc n st times hprev cs m st'
        hf htick c t' given hobs hold
      exact ⟨sc ++ [.tick], [], n + 1, st', t' :: times, by simp, Or.inr ⟨sc, rfl⟩,
        .tick hprev hf htick, .refl, rfl, hobs, h1, h2⟩
  | @interrupt sc n st times c' stamp hprev hc' ih =>
    obtain ⟨sc1, sc2, n1, st1, times1, rfl, hsc1, hr, he, hh, ho, h1, h2⟩ := ih hobs
    exact ⟨sc1, sc2 ++ [.interrupt c' stamp], n1, st1, times1, by simp, hsc1, hr,
      he.interrupt hc', hh, ho, h1, h2⟩

/-! ### T2: C08 with stimuli between ticks -/

/-- **T2.**  Two runs of the same flat simulation (same wiring, same deterministic devices, same
initial time) with the SAME script — the same stimuli at the same points of the history with the
same stamps — have the same number of ticks, the same tick times, and every device has the same
sequence of (time, inputs) observations, whatever the answer orders inside the ticks were. -/
theorem schedule_independentI (w : Wiring) (hw : RouterOK w) (hacyc : w.Acyclic)
    (devs : DevSeq Val) (hdev : ∀ k, DevExt (devs k)) (t0 : SimTime) (sc : List FAct)
    (n1 n2 : Nat) (st1 st2 : FlatSt Val) (times1 times2 : List SimTime)
    (h1 : FlatRunI w devs t0 sc n1 st1 times1) (h2 : FlatRunI w devs t0 sc n2 st2 times2) :
    n1 = n2 ∧ times1 = times2 ∧ (∀ c, ObsEq (st1.obsOf c) (st2.obsOf c)) ∧
      MapEq st1.wake st2.wake := by
  obtain ⟨hn, ht, h⟩ := Det.flatRunI_loc_equiv hw hacyc hdev h1 h2
  exact ⟨hn, ht, fun c => (h c).ob, fun c => (h c).wk⟩

/-! ### T3: C04 with interrupts -/

/-- **T3a.**  If no device asks to be called back in the past and every interrupt is stamped with
a time not before the last tick that precedes it, every pending wakeup — callback or interrupt —
is at or after the time of the last tick. -/
theorem wake_not_beforeI (w : Wiring) (devs : DevSeq Val) (hpast : NoPastCallbacks devs)
    (t0 : SimTime) (sc : List FAct) (n : Nat) (st : FlatSt Val) (times : List SimTime)
    (hrun : FlatRunI w devs t0 sc n st times) (htimely : StampsTimely sc times) :
    ∃ tl rest, times = tl :: rest ∧ ∀ c t, alookup st.wake c = some t → tl ≤ t := by
  exact Det.flatRunI_wake_ge hpast hrun htimely

/-- **T3b.**  Under the hypotheses of T3a successive tick times never decrease, with interrupts
anywhere between the ticks. -/
theorem time_monotoneI (w : Wiring) (devs : DevSeq Val) (hpast : NoPastCallbacks devs)
    (t0 : SimTime) (sc : List FAct) (n : Nat) (st : FlatSt Val) (times : List SimTime)
    (hrun : FlatRunI w devs t0 sc n st times) (htimely : StampsTimely sc times) :
    times.Pairwise (fun later earlier => earlier ≤ later) := by
  exact Det.flatRunI_time_monotone hpast hrun htimely

/-- under the same hypotheses NO tick that has happened is later than any pending wakeup. -/
theorem pending_not_overtakenI (w : Wiring) (devs : DevSeq Val) (hpast : NoPastCallbacks devs)
    (t0 : SimTime) (sc : List FAct) (n : Nat) (st : FlatSt Val) (times : List SimTime)
    (hrun : FlatRunI w devs t0 sc n st times) (htimely : StampsTimely sc times)
    (c : Comp) (t : SimTime) (hc : alookup st.wake c = some t) : ∀ m ∈ times, m ≤ t := by
  obtain ⟨tl, rest, rfl, hge⟩ := Det.flatRunI_wake_ge hpast hrun htimely
  have hmono := Det.flatRunI_time_monotone hpast hrun htimely
  intro m hm
  rcases List.mem_cons.1 hm with rfl | hm
  · exact hge c t hc
  · exact Int.le_trans ((List.pairwise_cons.1 hmono).1 m hm) (hge c t hc)

/-- unfolding `StampsTimely` (a recursive predicate on the script and the tick times). -/
theorem stampsTimely_iff (sc : List FAct) (times : List SimTime) :
    StampsTimely [] times ∧
    (StampsTimely (sc ++ [FAct.tick]) times ↔ StampsTimely sc times.tail) ∧
    (∀ c stamp, StampsTimely (sc ++ [FAct.interrupt c stamp]) times ↔
      (∀ tl, times.head? = some tl → tl ≤ stamp) ∧ StampsTimely sc times) := by
  exact ⟨FlatInt.stampsTimely_nil times, FlatInt.stampsTimely_snoc_tick,
    fun _ _ => FlatInt.stampsTimely_snoc_interrupt⟩

/-! ### T4: C07 at flat run level — an interrupt is never lost and never overtaken -/

/-- **R1 of C06 with interrupts.**  Let `c` have a pending wakeup `t` (callback or interrupt) after
a run.  For EVERY continuation — ticks and further interrupts of any component — exactly one of
`StillPendingI` (no new observation of `c`, its entry is `lowered c t script ≤ t`, every new tick
time is `< t`) and `FirstUpdateI` (the first new observation of `c` is at `t1 ≤ lowered c t scA ≤ t`,
and `c` is a root of the tick that made it iff `t1` is the entry then pending) holds. -/
theorem wakeup_exactI (w : Wiring) (hw : RouterOK w) (devs : DevSeq Val) (t0 : SimTime)
    (sc0 : List FAct) (n : Nat) (st : FlatSt Val) (times : List SimTime)
    (hrun : FlatRunI w devs t0 sc0 n st times)
    (c : Comp) (t : SimTime) (hc : alookup st.wake c = some t)
    (sc : List FAct) (n' : Nat) (st' : FlatSt Val) (times' : List SimTime)
    (hext : FlatExtI w devs n st times sc n' st' times') :
    (StillPendingI st times sc st' times' c t ∨
      FirstUpdateI w devs n st times sc n' st' times' c t) ∧
    ¬ (StillPendingI st times sc st' times' c t ∧
      FirstUpdateI w devs n st times sc n' st' times' c t) := by
  exact ⟨pending_or_servedI hw (Det.flatRunI_uniqueKeys hrun) hc hext,
    fun h => h.2.obs_ne h.1.no_new_obs⟩

/-- what `lowered` is: never above the old entry, the old entry itself if `c` was not interrupted
again, and in any case the old entry or the stamp of one of `c`'s interrupts in the script. -/
theorem lowered_spec (c : Comp) (t : SimTime) (sc sc' : List FAct) :
    lowered c t sc ≤ t ∧ lowered c t (sc ++ sc') ≤ lowered c t sc ∧
    ((∀ s, FAct.interrupt c s ∉ sc) → lowered c t sc = t) ∧
    (lowered c t sc = t ∨ FAct.interrupt c (lowered c t sc) ∈ sc) := by
  exact ⟨FlatInt.lowered_le c t sc, FlatInt.lowered_append c t sc sc' ▸ FlatInt.lowered_le _ _ _,
    FlatInt.lowered_eq_of_no_interrupt c t sc, FlatInt.lowered_cases c t sc⟩

/-- **never overtaken**: as long as `c` has not been updated since its wakeup `t` was pending, the
wakeup is still pending — with entry `lowered c t sc ≤ t` — and no tick at a time `≥ t` has
happened. -/
theorem wakeup_never_overtakenI (w : Wiring) (hw : RouterOK w) (devs : DevSeq Val) (t0 : SimTime)
    (sc0 : List FAct) (n : Nat) (st : FlatSt Val) (times : List SimTime)
    (hrun : FlatRunI w devs t0 sc0 n st times)
    (c : Comp) (t : SimTime) (hc : alookup st.wake c = some t)
    (sc : List FAct) (n' : Nat) (st' : FlatSt Val) (newT : List SimTime)
    (hext : FlatExtI w devs n st times sc n' st' (newT ++ times))
    (hobs : st'.obsOf c = st.obsOf c) :
    alookup st'.wake c = some (lowered c t sc) ∧ lowered c t sc ≤ t ∧ ∀ m ∈ newT, m < t := by
  rcases pending_or_servedI hw (Det.flatRunI_uniqueKeys hrun) hc hext with hp | hfu
  · obtain ⟨newT', heq, hall⟩ := hp.earlier
    have : newT = newT' := List.append_cancel_right heq
    subst this
    exact ⟨hp.pending, FlatInt.lowered_le c t sc, hall⟩
  · exact absurd hobs hfu.obs_ne

/-- **the first update is not late**: if `c`'s first new observation in a continuation is at `t1`
then `t1 ≤ t`, a tick at `t1` is part of the continuation, and in the tick that made it `c` is a
root iff `t1` equals the entry pending then. -/
theorem wakeup_first_updateI (w : Wiring) (hw : RouterOK w) (devs : DevSeq Val) (t0 : SimTime)
    (sc0 : List FAct) (n : Nat) (st : FlatSt Val) (times : List SimTime)
    (hrun : FlatRunI w devs t0 sc0 n st times)
    (c : Comp) (t : SimTime) (hc : alookup st.wake c = some t)
    (sc : List FAct) (n' : Nat) (st' : FlatSt Val) (times' : List SimTime)
    (hext : FlatExtI w devs n st times sc n' st' times')
    (t1 : SimTime) (given : List (Port × Val)) (rest : List (SimTime × List (Port × Val)))
    (hobs : st'.obsOf c = st.obsOf c ++ (t1, given) :: rest) :
    t1 ≤ t ∧ (∃ newT, times' = newT ++ times ∧ t1 ∈ newT) ∧
    ∃ (scA scB : List FAct) (k : Nat) (stA stB : FlatSt Val) (timesA : List SimTime)
      (cs : List Comp),
      sc = scA ++ FAct.tick :: scB ∧
      FlatExtI w devs n st times scA k stA timesA ∧
      alookup stA.wake c = some (lowered c t scA) ∧ stA.obsOf c = st.obsOf c ∧
      firstWakeups stA.wake = (cs, some t1) ∧
      TickRun w (devs (k + 1)) { stA with wake := delWakeups stA.wake cs } t1 cs stB ∧
      FlatExtI w devs (k + 1) stB (t1 :: timesA) scB n' st' times' ∧
      t1 ≤ lowered c t scA ∧ (c ∈ cs ↔ t1 = lowered c t scA) := by
  rcases pending_or_servedI hw (Det.flatRunI_uniqueKeys hrun) hc hext with hp | hfu
  · exact nomatch List.self_eq_append_right.1 (hp.no_new_obs.symm.trans hobs)
  · obtain ⟨scA, scB, k, stA, stB, timesA, cs, t1', given', rest', hsc, hA, hpA, hfA, htA, hB, hle,
      hroot, _, hob⟩ := hfu
    cases (List.cons.inj (List.append_cancel_left (hob.symm.trans hobs))).1
    refine ⟨Int.le_trans hle (FlatInt.lowered_le c t scA), ?_, scA, scB, k, stA, stB, timesA, cs,
      hsc, hA, hpA.pending, hpA.no_new_obs, hfA, htA, hB, hle, hroot⟩
    obtain ⟨n1, h1, _⟩ := FlatInt.FlatExtI.times_eq hA
    obtain ⟨n2, h2, _⟩ := FlatInt.FlatExtI.times_eq hB
    exact ⟨n2 ++ t1 :: n1, by rw [h2, h1, List.append_assoc]; rfl, List.mem_append_cons_self⟩

/-- **T4.**  After `.interrupt c stamp` the component `c` has a wakeup entry `e ≤ stamp` (`e` is
the stamp, or `c`'s earlier entry if that was lower), and `wakeup_exactI` applies to it.  In EVERY
continuation of the run either the wakeup is still pending, its entry lowered only by further
interrupts of `c`, never raised, and all ticks since the interrupt happened at times `< e` — the
interrupt is not lost and not overtaken; or `c` has been updated, first by a tick at a time
`≤ stamp`, of which `c` is a ROOT unless that time is strictly earlier than the entry then pending
(then `c` was updated as a dependant of another root). -/
theorem interrupt_served (w : Wiring) (hw : RouterOK w) (devs : DevSeq Val) (t0 : SimTime)
    (sc0 : List FAct) (c : Comp) (stamp : SimTime) (n : Nat) (st1 : FlatSt Val)
    (times : List SimTime)
    (hrun : FlatRunI w devs t0 (sc0 ++ [FAct.interrupt c stamp]) n st1 times) :
    ∃ e, alookup st1.wake c = some e ∧ e ≤ stamp ∧ c ∈ w.components ∧
      ∀ (sc : List FAct) (n' : Nat) (st' : FlatSt Val) (times' : List SimTime),
        FlatExtI w devs n st1 times sc n' st' times' →
        (StillPendingI st1 times sc st' times' c e ∨
          FirstUpdateI w devs n st1 times sc n' st' times' c e) ∧
        ¬ (StillPendingI st1 times sc st' times' c e ∧
          FirstUpdateI w devs n st1 times sc n' st' times' c e) := by
  obtain ⟨st, rfl, hcomp, _⟩ := FlatInt.inv_interrupt hrun
  obtain ⟨e, he, hle, _⟩ := FlatInt.intWake_self st.wake c stamp
  exact ⟨e, he, hle, hcomp, fun sc n' st' times' hext =>
    wakeup_exactI w hw devs t0 _ n _ times hrun c e he sc n' st' times' hext⟩

/-- the entry recorded by an interrupt: the stamp, unless `c` already had an earlier wakeup, which
is kept (an already due callback is not displaced, F15). -/
theorem interrupt_entry (w : Wiring) (devs : DevSeq Val) (t0 : SimTime)
    (sc0 : List FAct) (c : Comp) (stamp : SimTime) (n : Nat) (st1 : FlatSt Val)
    (times : List SimTime)
    (hrun : FlatRunI w devs t0 (sc0 ++ [FAct.interrupt c stamp]) n st1 times) :
    ∃ st, FlatRunI w devs t0 sc0 n st times ∧
      st1 = { st with wake := intWake st.wake c stamp } ∧
      (∀ c', c' ≠ c → alookup st1.wake c' = alookup st.wake c') ∧
      alookup st1.wake c = some (match alookup st.wake c with
        | some w0 => if w0 < stamp then w0 else stamp
        | none => stamp) := by
  obtain ⟨st, rfl, _, hprev⟩ := FlatInt.inv_interrupt hrun
  refine ⟨st, hprev, rfl, fun c' hc' => (FlatInt.intWake_lookup _ _ _ _).trans (if_neg hc'), ?_⟩
  show alookup (intWake st.wake c stamp) c = _
  rw [FlatInt.intWake_lookup, if_pos rfl]
  cases alookup st.wake c <;> rfl

/-- T4 in terms of observations, part 1: as long as `c` has not been updated since the interrupt,
it still has an entry `≤ stamp` and every tick since the interrupt happened strictly before the
stamp. -/
theorem interrupt_never_overtaken (w : Wiring) (hw : RouterOK w) (devs : DevSeq Val)
    (t0 : SimTime) (sc0 : List FAct) (c : Comp) (stamp : SimTime) (n : Nat) (st1 : FlatSt Val)
    (times : List SimTime)
    (hrun : FlatRunI w devs t0 (sc0 ++ [FAct.interrupt c stamp]) n st1 times)
    (sc : List FAct) (n' : Nat) (st' : FlatSt Val) (newT : List SimTime)
    (hext : FlatExtI w devs n st1 times sc n' st' (newT ++ times))
    (hobs : st'.obsOf c = st1.obsOf c) :
    (∃ e', alookup st'.wake c = some e' ∧ e' ≤ stamp) ∧ ∀ m ∈ newT, m < stamp := by
  obtain ⟨e, he, hle, _, _⟩ := interrupt_served w hw devs t0 sc0 c stamp n st1 times hrun
  obtain ⟨h1, h2, h3⟩ := wakeup_never_overtakenI w hw devs t0 _ n st1 times hrun c e he sc n' st'
    newT hext hobs
  exact ⟨⟨_, h1, Int.le_trans h2 hle⟩, fun m hm => Int.lt_of_lt_of_le (h3 m hm) hle⟩

/-- T4 in terms of observations, part 2: the first update of `c` after the interrupt happens at a
time `≤ stamp`, in a tick of the continuation. -/
theorem interrupt_first_update (w : Wiring) (hw : RouterOK w) (devs : DevSeq Val)
    (t0 : SimTime) (sc0 : List FAct) (c : Comp) (stamp : SimTime) (n : Nat) (st1 : FlatSt Val)
    (times : List SimTime)
    (hrun : FlatRunI w devs t0 (sc0 ++ [FAct.interrupt c stamp]) n st1 times)
    (sc : List FAct) (n' : Nat) (st' : FlatSt Val) (times' : List SimTime)
    (hext : FlatExtI w devs n st1 times sc n' st' times')
    (t1 : SimTime) (given : List (Port × Val)) (rest : List (SimTime × List (Port × Val)))
    (hobs : st'.obsOf c = st1.obsOf c ++ (t1, given) :: rest) :
    t1 ≤ stamp ∧ ∃ newT, times' = newT ++ times ∧ t1 ∈ newT := by
  obtain ⟨e, he, hle, _, _⟩ := interrupt_served w hw devs t0 sc0 c stamp n st1 times hrun
  obtain ⟨h1, h2, _⟩ := wakeup_first_updateI w hw devs t0 _ n st1 times hrun c e he sc n' st'
    times' hext t1 given rest hobs
  exact ⟨Int.le_trans h1 hle, h2⟩

/-! ### T5: C06 "never invented" with interrupts -/

/-- every wakeup entry `(c, x)` of every state of a run was requested by an update of `c` in a tick
`k ≤ n` of the run, the device function of that tick returning `callAt = some x`, or `x` is the
stamp of an interrupt of `c` in the script. -/
theorem wake_entry_provenanceI (w : Wiring) (devs : DevSeq Val) (t0 : SimTime) (sc : List FAct)
    (n : Nat) (st : FlatSt Val) (times : List SimTime) (hrun : FlatRunI w devs t0 sc n st times)
    (c : Comp) (x : SimTime) (hx : alookup st.wake c = some x) :
    (∃ (k : Nat) (t_req : SimTime) (ins : List (Port × Val)),
      k ≤ n ∧ times[n - k]? = some t_req ∧ (c, t_req, ins) ∈ st.obs ∧
      ((devs k) c t_req ins).callAt = some x) ∨ FAct.interrupt c x ∈ sc := by
  rcases FlatInt.wake_prov hrun c x hx with ⟨k, t_req, ins, h1, h2, h3, h4⟩ | h
  · exact Or.inl ⟨k, t_req, ins, h1, h2, FlatSt.mem_obsOf.1 h3, h4⟩
  · exact Or.inr h

/-- **T5.**  Every tick time of a run with interrupts is the initial time, a callback time
requested by a device in a tick of the run, or the stamp of an interrupt in the script: no tick
happens at a time nobody asked for. -/
theorem tick_provenanceI (w : Wiring) (devs : DevSeq Val) (t0 : SimTime) (sc : List FAct)
    (n : Nat) (st : FlatSt Val) (times : List SimTime) (hrun : FlatRunI w devs t0 sc n st times)
    (m : SimTime) (hm : m ∈ times) :
    m = t0 ∨
    (∃ (c : Comp) (k : Nat) (t_req : SimTime) (ins : List (Port × Val)),
      k ≤ n ∧ times[n - k]? = some t_req ∧ (c, t_req, ins) ∈ st.obs ∧
      ((devs k) c t_req ins).callAt = some m) ∨
    ∃ c, FAct.interrupt c m ∈ sc := by
  rcases FlatInt.tick_prov hrun m hm with h | ⟨c, ⟨k, t_req, ins, h1, h2, h3, h4⟩ | h⟩
  · exact Or.inl h
  · exact Or.inr (Or.inl ⟨c, k, t_req, ins, h1, h2, FlatSt.mem_obsOf.1 h3, h4⟩)
  · exact Or.inr (Or.inr ⟨c, h⟩)

/-- the tick of a scheduler step is caused by its roots: every root's entry equals the tick time
(C04 `tick_time_provenance` with interrupts). -/
theorem tick_time_provenanceI (w : Wiring) (devs : DevSeq Val) (t0 : SimTime) (sc : List FAct)
    (n : Nat) (st : FlatSt Val) (times : List SimTime) (cs : List Comp) (m : SimTime)
    (hrun : FlatRunI w devs t0 sc n st times) (hf : firstWakeups st.wake = (cs, some m)) :
    cs ≠ [] ∧ (∀ c, c ∈ cs ↔ alookup st.wake c = some m) ∧
      ∀ c t, alookup st.wake c = some t → m ≤ t := by
  exact firstWakeups_roots (Det.flatRunI_uniqueKeys hrun) hf

/-! ### merging and continuability (C06 R2 and `flatRun_can_continue` with interrupts) -/

/-- **R2 of C06 with interrupts** (`callback_served_one_tick`): simultaneous wakeups, callbacks and
interrupts alike, are served by ONE tick. -/
theorem wakeups_served_one_tickI (w : Wiring) (hw : RouterOK w) (devs : DevSeq Val) (t0 : SimTime)
    (sc : List FAct) (n : Nat) (st : FlatSt Val) (times : List SimTime)
    (hrun : FlatRunI w devs t0 sc n st times)
    (cs : List Comp) (m : SimTime) (hf : firstWakeups st.wake = (cs, some m)) (st' : FlatSt Val)
    (htick : TickRun w (devs (n + 1)) { st with wake := delWakeups st.wake cs } m cs st') :
    (∀ c, alookup st.wake c = some m ↔ c ∈ cs) ∧ cs.Nodup ∧
    ∀ c, alookup st.wake c = some m →
      ∃ given, st'.obsOf c = st.obsOf c ++ [(m, given)] ∧ (c, m, given) ∈ st'.obs ∧
        alookup st'.wake c = ((devs (n + 1)) c m given).callAt := by
  exact step_serves hw (Det.flatRunI_uniqueKeys hrun) hf htick

/-- a run can always be continued by a tick while a wakeup is pending (and by an interrupt of any
component at any time: constructor `FlatRunI.interrupt`). -/
theorem flatRunI_can_continue (w : Wiring) (hw : RouterOK w) (hacyc : w.Acyclic)
    (devs : DevSeq Val) (t0 : SimTime) (sc : List FAct) (n : Nat) (st : FlatSt Val)
    (times : List SimTime) (hrun : FlatRunI w devs t0 sc n st times) (hne : st.wake ≠ []) :
    ∃ st' m, FlatRunI w devs t0 (sc ++ [FAct.tick]) (n + 1) st' (m :: times) := by
  have _ := hw -- not needed
  obtain ⟨cs, m, st', hf, htick⟩ := can_tick hacyc (devs (n + 1)) (Det.flatRunI_wake_keys hrun) hne
  exact ⟨st', m, .tick hrun hf htick⟩

/-- after an interrupt stamped `stamp` a next tick is always possible, and the next scheduler step
(whatever it serves) happens at a time `≤ stamp`, with `c` as a root iff that time is `c`'s entry. -/
theorem interrupt_next_tick (w : Wiring) (hw : RouterOK w) (hacyc : w.Acyclic)
    (devs : DevSeq Val) (t0 : SimTime) (sc0 : List FAct) (c : Comp) (stamp : SimTime) (n : Nat)
    (st1 : FlatSt Val) (times : List SimTime)
    (hrun : FlatRunI w devs t0 (sc0 ++ [FAct.interrupt c stamp]) n st1 times) :
    (∃ st' m, FlatRunI w devs t0 (sc0 ++ [FAct.interrupt c stamp] ++ [FAct.tick]) (n + 1) st'
      (m :: times)) ∧
    ∀ cs m, firstWakeups st1.wake = (cs, some m) →
      m ≤ stamp ∧ (c ∈ cs ↔ alookup st1.wake c = some m) := by
  obtain ⟨e, he, hle, _, _⟩ := interrupt_served w hw devs t0 sc0 c stamp n st1 times hrun
  refine ⟨flatRunI_can_continue w hw hacyc devs t0 _ n st1 times hrun
    (ne_nil_iff_exists_alookup.mpr ⟨_, _, he⟩), fun cs m hf => ?_⟩
  obtain ⟨hcs, hmin, _, _⟩ := firstWakeups_spec _ (Det.flatRunI_uniqueKeys hrun) cs m hf
  exact ⟨Int.le_trans (hmin c e he) hle, hcs c⟩

/-! ### non-vacuity and checked counterexamples

The wiring `exCW` and the devices `exCDev` of `Props/C06Run.lean`: device `a` (reports its update
time on port `o`, callback every 2 ns) is wired into `a2` (never asks for a callback); device `b`
has a callback every 3 ns. -/

theorem exCDev_ext : ∀ k : Nat, DevExt ((fun _ => exCDev : DevSeq Int) k) :=
  fun _ _ _ _ _ _ => rfl

/-- the states of `exI_run`, in order: after the interrupt of `a2` stamped 3 (entry 3) -/
def exI1 : FlatSt Int := { exC1 with wake := intWake exC1.wake "a2" 3 }

/-- `exI_run` after the interrupt of `b` stamped 2, which lowers its callback entry 3 to 2 -/
def exI2 : FlatSt Int := { exI1 with wake := intWake exI1.wake "b" 2 }

/-- `exI_run` after the tick at 2 (root `b`, which asks for 5) -/
def exI3 : FlatSt Int :=
  { exC1 with wake := [("a", 4), ("a2", 3), ("b", 5)], obs := exC1.obs ++ [("b", 2, [])] }

/-- `exI_run` after the tick at 3 (root `a2`) -/
def exI4 : FlatSt Int :=
  { exI3 with wake := [("a", 4), ("b", 5)], obs := exI3.obs ++ [("a2", 3, [("i", 2)])] }

theorem exI_tick3 :
    TickRun exCW exCDev { exI2 with wake := delWakeups exI2.wake ["b"] } 2 ["b"] exI3 :=
  tickRun_of_eval [0] (by decide +kernel)

theorem exI_tick4 :
    TickRun exCW exCDev { exI3 with wake := delWakeups exI3.wake ["a2"] } 3 ["a2"] exI4 :=
  tickRun_of_eval [0] (by decide +kernel)

/-- a run with interrupts, in two parts.  Initial tick at 0; callback tick at 2 (root `a`, `a2` is
updated as a dependant); `a2` raises an interrupt stamped 3 (it had no wakeup: entry 3) — state
`st1`.  Continuation: `b` raises an interrupt stamped 2, which LOWERS its callback entry 3 to 2;
tick at 2 (root `b`, served early because of the interrupt; it asks for 5); tick at 3 (root `a2`:
the interrupt of `a2` is served at exactly its stamp).  Tick times `[3, 2, 2, 0]`. -/
theorem exI_run : ∃ st1 st' : FlatSt Int,
    FlatRunI exCW (fun _ => exCDev) 0 ([.tick] ++ [.interrupt "a2" 3]) 1 st1 [2, 0] ∧
    FlatExtI exCW (fun _ => exCDev) 1 st1 [2, 0] [.interrupt "b" 2, .tick, .tick] 3 st'
      [3, 2, 2, 0] ∧
    st1.wake = [("b", 3), ("a", 4), ("a2", 3)] ∧
    st1.obsOf "a2" = [(0, [("i", 0)]), (2, [("i", 2)])] ∧
    st'.obsOf "a2" = [(0, [("i", 0)]), (2, [("i", 2)]), (3, [("i", 2)])] ∧
    st'.obsOf "b" = [(0, []), (2, [])] ∧ st'.wake = [("a", 4), ("b", 5)] :=
  ⟨exI1, exI4,
    .interrupt (sc := [.tick]) (.tick (sc := []) (.initial exC_tick0) rfl exC_tick1)
      (by decide +kernel),
    .tick (sc := [.interrupt "b" 2, .tick])
      (.tick (sc := [.interrupt "b" 2]) (.interrupt (sc := []) .refl (by decide +kernel))
        (by decide +kernel) exI_tick3)
      (by decide +kernel) exI_tick4,
    by decide +kernel⟩

def exIScript : List FAct := [.tick, .interrupt "a2" 3, .interrupt "b" 2, .tick, .tick]

theorem exIScript_timely : StampsTimely exIScript [3, 2, 2, 0] :=
  ⟨fun _ h => Option.some.inj h ▸ by decide, fun _ h => Option.some.inj h ▸ by decide, trivial⟩

/-- T2, T3 and T5 applied to the whole run `exI_run`: every other run with the same script has the
same tick times and observations; the stamps are timely and time is monotone; every tick time is
accounted for. -/
example : ∃ st : FlatSt Int, FlatRunI exCW (fun _ => exCDev) 0 exIScript 3 st [3, 2, 2, 0] ∧
    (∀ n2 st2 times2, FlatRunI exCW (fun _ => exCDev) 0 exIScript n2 st2 times2 →
      3 = n2 ∧ [3, 2, 2, 0] = times2 ∧ (∀ c, ObsEq (st.obsOf c) (st2.obsOf c)) ∧
        MapEq st.wake st2.wake) ∧
    StampsTimely exIScript [3, 2, 2, 0] ∧
    ([3, 2, 2, 0] : List SimTime).Pairwise (fun later earlier => earlier ≤ later) ∧
    (∀ c t, alookup st.wake c = some t → ∀ m ∈ ([3, 2, 2, 0] : List SimTime), m ≤ t) ∧
    ∀ m ∈ ([3, 2, 2, 0] : List SimTime), m = 0 ∨
      (∃ (c : Comp) (k : Nat) (t_req : SimTime) (ins : List (Port × Int)),
        k ≤ 3 ∧ ([3, 2, 2, 0] : List SimTime)[3 - k]? = some t_req ∧ (c, t_req, ins) ∈ st.obs ∧
        (exCDev c t_req ins).callAt = some m) ∨
      ∃ c, FAct.interrupt c m ∈ exIScript := by
  obtain ⟨st1, st', hrun1, hext, _⟩ := exI_run
  have hrun : FlatRunI exCW (fun _ => exCDev) 0 exIScript 3 st' [3, 2, 2, 0] :=
    continuationI_is_run exCW _ 0 _ _ 1 3 st1 st' _ _ hrun1 hext
  refine ⟨st', hrun, fun n2 st2 times2 h2 => ?_, exIScript_timely, ?_, ?_, ?_⟩
  · exact schedule_independentI exCW exCW_routerOK exCW_acyclic _ exCDev_ext 0 exIScript 3 n2 st'
      st2 _ times2 hrun h2
  · exact time_monotoneI exCW _ exCDev_strict.noPast 0 exIScript 3 st' _ hrun exIScript_timely
  · exact fun c t hc => pending_not_overtakenI exCW _ exCDev_strict.noPast 0 exIScript 3 st' _ hrun
      exIScript_timely c t hc
  · exact fun m hm => tick_provenanceI exCW _ 0 exIScript 3 st' _ hrun m hm

/-- T4 applied to the interrupt of `a2` (stamp 3) in `exI_run`: its entry is 3; in EVERY
continuation exactly one of `StillPendingI`/`FirstUpdateI` holds; and in the continuation of
`exI_run` the interrupt is served (`FirstUpdateI`). -/
example : ∃ st1 : FlatSt Int,
    FlatRunI exCW (fun _ => exCDev) 0 ([.tick] ++ [.interrupt "a2" 3]) 1 st1 [2, 0] ∧
    alookup st1.wake "a2" = some 3 ∧
    (∀ sc n' st' times', FlatExtI exCW (fun _ => exCDev) 1 st1 [2, 0] sc n' st' times' →
      (StillPendingI st1 [2, 0] sc st' times' "a2" 3 ∨
        FirstUpdateI exCW (fun _ => exCDev) 1 st1 [2, 0] sc n' st' times' "a2" 3) ∧
      ¬ (StillPendingI st1 [2, 0] sc st' times' "a2" 3 ∧
        FirstUpdateI exCW (fun _ => exCDev) 1 st1 [2, 0] sc n' st' times' "a2" 3)) ∧
    ∃ st', FlatExtI exCW (fun _ => exCDev) 1 st1 [2, 0] [.interrupt "b" 2, .tick, .tick] 3 st'
        [3, 2, 2, 0] ∧
      FirstUpdateI exCW (fun _ => exCDev) 1 st1 [2, 0] [.interrupt "b" 2, .tick, .tick] 3 st'
        [3, 2, 2, 0] "a2" 3 := by
  obtain ⟨st1, st', hrun1, hext, hwk, hob1, hob', _⟩ := exI_run
  obtain ⟨e, he, _, _, hall⟩ :=
    interrupt_served exCW exCW_routerOK _ 0 [.tick] "a2" 3 1 st1 [2, 0] hrun1
  have h3 : alookup st1.wake "a2" = some 3 := hwk ▸ by decide +kernel
  have : e = 3 := Option.some.inj (he.symm.trans h3)
  subst this
  refine ⟨st1, hrun1, h3, hall, st', hext, ?_⟩
  rcases (hall _ _ _ _ hext).1 with hp | hfu
  · have := congrArg List.length hp.no_new_obs
    rw [hob1, hob'] at this
    simp at this
  · exact hfu

/-- **checked counterexample: `StampsTimely` is needed for T3.**  `a2` raises an interrupt stamped
1 after the tick at 2 (a stamp before the last tick — impossible under the pacing law): the next
tick is at 1, time runs backwards, although no device asks for a callback in the past. -/
theorem time_not_monotone_untimely : ∃ st : FlatSt Int,
    FlatRunI exCW (fun _ => exCDev) 0 [.tick, .interrupt "a2" 1, .tick] 2 st [1, 2, 0] ∧
    NoPastCallbacks (fun _ => exCDev : DevSeq Int) ∧
    ¬ StampsTimely [.tick, .interrupt "a2" 1, .tick] [1, 2, 0] ∧
    ¬ ([1, 2, 0] : List SimTime).Pairwise (fun later earlier => earlier ≤ later) := by
  have hpre : FlatRunI exCW (fun _ => exCDev) 0 [.tick, .interrupt "a2" 1] 1
      { exC1 with wake := intWake exC1.wake "a2" 1 } [2, 0] :=
    .interrupt (sc := [.tick]) (.tick (sc := []) (.initial exC_tick0) rfl exC_tick1)
      (by decide +kernel)
  -- the next scheduler step exists (`can_tick`); it serves the first wakeup, which is at 1
  obtain ⟨cs, m, st, hf, htick⟩ :=
    can_tick exCW_acyclic (exCDev : DevFn Int) (Det.flatRunI_wake_keys hpre) (by decide +kernel)
  cases hf.symm.trans (by decide +kernel : firstWakeups _ = (["a2"], some 1))
  exact ⟨st, .tick hpre hf htick, exCDev_strict.noPast, fun h => absurd (h.1 2 rfl) (by decide),
    by decide⟩

/-- **checked counterexample to "all tick times so far are `<` the CURRENT entry".**  After the
initial tick `b` has a callback entry 3.  Continuation: tick at 2 (`< 3`), then `b` raises an
(untimely) interrupt stamped 1: `b` has not been updated, its entry is now
`lowered "b" 3 [.tick, .interrupt "b" 1] = 1`, and the tick at 2 is not `< 1` (it is `< 3`, the
entry when the tick happened, as `StillPendingI` says).  With `≤`, and under
`StampsTimely`/`NoPastCallbacks`, the statement holds: `pending_not_overtakenI`. -/
theorem entry_below_earlier_tick : ∃ st st' : FlatSt Int,
    FlatRunI exCW (fun _ => exCDev) 0 [] 0 st [0] ∧ alookup st.wake "b" = some 3 ∧
    FlatExtI exCW (fun _ => exCDev) 0 st [0] [.tick, .interrupt "b" 1] 1 st' [2, 0] ∧
    st'.obsOf "b" = st.obsOf "b" ∧ alookup st'.wake "b" = some 1 ∧
    lowered "b" 3 [.tick, .interrupt "b" 1] = 1 := by
  exact ⟨exC0, { exC1 with wake := intWake exC1.wake "b" 1 }, .initial exC_tick0,
    by decide +kernel,
    .interrupt (sc := [.tick]) (.tick (sc := []) .refl rfl exC_tick1) (by decide +kernel),
    by decide +kernel, by decide +kernel, by decide +kernel⟩

/-
Not done here (nothing is left unproved in this file):
* LIVENESS of interrupts ("the interrupt IS served after finitely many ticks", the analogue of
  `callback_eventually_served`): with interrupts tick times need not increase STRICTLY even under
  `StrictFuture` (`exI_run` has two ticks at time 2), so the counting argument of C06Run does not
  carry over as it stands; a bound would have to count ticks per (time, set of components).
  Safety (`interrupt_served`: never lost, never overtaken) and continuability
  (`interrupt_next_tick`) are proved.
* C02 and `one_time_per_tick`/`tick_complete` (C04) are statements about ONE tick (`TickRun`,
  `TickSys.Reachable`); they apply verbatim to every tick of a `FlatRunI` and need no transfer.
-/

end Tickit
