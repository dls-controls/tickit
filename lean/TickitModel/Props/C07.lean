/-
C07 — every interrupt is served promptly whenever it arrives (scheduler bookkeeping:
no interrupt is lost, none waits for an unrelated callback, interrupts coalesce).
-/
import TickitModel.Lemmas.MasterLemmas

namespace Tickit

theorem minv_init : MInv {} :=
  MInv.init

/-- whenever the interrupt arrives: idle, during a tick, after an answer, before or after other
interrupts. -/
theorem minv_step (s s' : MSt) (a : MAct) (h : MInv s) (hs : s.step a = some s') : MInv s' :=
  h.step hs

/-- **no interrupt is lost**, for every history of interrupts, answers, tick starts, update
beginnings and tick ends, in any order. -/
theorem no_interrupt_lost (acts : List MAct) : MInv (({} : MSt).run acts) :=
  MInv.init.run acts

/-- **never displaced by a callback**: while `c` has an unserved interrupt stamped `i`, its
wakeup entry is never later than `i`, whatever its answers ask for. -/
theorem not_displaced (acts : List MAct) (c : Comp) (i : SimTime)
    (hp : alookup (({} : MSt).run acts).pend c = some i) :
    ∃ w, alookup (({} : MSt).run acts).wake c = some w ∧ w ≤ i :=
  (MInv.init.run acts).pend_wake c i hp

/-- **promptness**: when no tick is running and `c` is owed an update, the next tick is at a
simulation time no later than the interrupt's stamp — which (C12 `interrupt_due_now`,
`never_early`/`late_immediate`) is already due: the master does not sleep, in particular it
does not wait for an unrelated later callback. -/
theorem next_tick_not_after_stamp (acts : List MAct) (c : Comp)
    (hidle : (({} : MSt).run acts).ticking = none) (hc : c ∈ (({} : MSt).run acts).owed) :
    ∃ cs m i, firstWakeups (({} : MSt).run acts).wake = (cs, some m) ∧
      alookup (({} : MSt).run acts).pend c = some i ∧ m ≤ i := by
  obtain ⟨cs, m, i, w, hf, hi, _, hmw, hwi⟩ := (MInv.init.run acts).next_tick hidle hc
  exact ⟨cs, m, i, hf, hi, Int.le_trans hmw hwi⟩

/-- **served as a root**: when a tick starts at the wakeup time `w` of `c`, `c` is among its roots
(of any `c`: the hypotheses that `c` is owed and that no tick is running are not used; the second
follows from `hs`).  With `tick_ends_after_roots` (a tick cannot end before every root has begun
its update) the update of an owed `c` begins after the interrupt was raised and before that tick
ends. -/
theorem served_as_root (s s' : MSt) (h : MInv s) (c : Comp) (hc : c ∈ s.owed) (hidle : s.ticking = none)
    (w : SimTime) (hw : alookup s.wake c = some w) (hmin : (firstWakeups s.wake).2 = some w)
    (hs : s.step .startTick = some s') : ∃ rem, s'.ticking = some rem ∧ c ∈ rem := by
  cases MSt.Step.of_step hs with | startTick cs m _ hf => ?_
  refine ⟨cs, rfl, ?_⟩
  rw [hf] at hmin
  obtain ⟨hcs, _, _, _⟩ := firstWakeups_spec s.wake h.wakeU cs m hf
  rw [hcs c, hw]
  exact hmin.symm

theorem tick_ends_after_roots (s s' : MSt) (hs : s.step .endTick = some s') : s.ticking = some [] := by
  cases MSt.Step.of_step hs with | endTick ht => exact ht

/-- the debt is cleared by the beginning of the update only. -/
theorem owed_cleared_only_by_update (s s' : MSt) (a : MAct) (hs : s.step a = some s') (c : Comp)
    (hc : c ∈ s.owed) (hn : c ∉ s'.owed) : a = .beginUpdate c :=
  Classical.byContradiction fun hne => hn (MSt.owed_step hc hs hne)

/-- **coalescing**: interrupts of one component raised before it is served share one wakeup
entry, recorded for the first of them.

With the repaired `schedule_interrupt` (defect F15: an interrupt does not displace an EARLIER wakeup
of the same component) what is recorded is `s.intWhen c i1 = min(existing wakeup, i1)`; it is `i1`
when `c` had no wakeup (`interrupts_coalesce_fresh`). -/
theorem interrupts_coalesce (s s1 s2 : MSt) (h : MInv s) (c : Comp) (i1 i2 : SimTime)
    (hfresh : alookup s.pend c = none)
    (h1 : s.step (.interrupt c i1) = some s1) (h2 : s1.step (.interrupt c i2) = some s2) :
    alookup s2.pend c = some (s.intWhen c i1) ∧ s.intWhen c i1 ≤ i1 ∧
      (s2.wake.filter (fun e => e.1 == c)).length = 1 := by
  have hI2 := (h.step h1).step h2
  have hp : alookup s2.pend c = some (s.intWhen c i1) := by
    rw [MSt.eq_interruptAt h2, MSt.eq_interruptAt h1, MSt.interruptAt_pend, if_pos rfl,
      MSt.interruptAt_pend, if_pos rfl, hfresh]
    rfl
  refine ⟨hp, TimeMono.stimWhen_le_stamp s.wake c i1, ?_⟩
  obtain ⟨w, hw, _⟩ := hI2.pend_wake c _ hp
  apply filter_key_length_one _ hI2.wakeU
  rw [← alookup_isSome_iff, hw]
  rfl

theorem interrupts_coalesce_fresh (s s1 s2 : MSt) (h : MInv s) (c : Comp) (i1 i2 : SimTime)
    (hfresh : alookup s.pend c = none) (hnw : alookup s.wake c = none)
    (h1 : s.step (.interrupt c i1) = some s1) (h2 : s1.step (.interrupt c i2) = some s2) :
    alookup s2.pend c = some i1 ∧ (s2.wake.filter (fun e => e.1 == c)).length = 1 := by
  obtain ⟨hp, _, hl⟩ := interrupts_coalesce s s1 s2 h c i1 i2 hfresh h1 h2
  rw [s.intWhen_none c i1 hnw] at hp
  exact ⟨hp, hl⟩

/-- **the tick serving an interrupt is not later than its stamp**: right after
`schedule_interrupt(c)` stamped `stamp`, the wakeup entry of `c` is at most `stamp` — whether or
not an earlier interrupt or an earlier callback of `c` is still pending.  (With `not_displaced`
this stays so until the interrupt is served.) -/
theorem interrupt_wake_le_stamp (s s' : MSt) (c : Comp) (stamp : SimTime)
    (hs : s.step (.interrupt c stamp) = some s') :
    ∃ w', alookup s'.wake c = some w' ∧ w' ≤ stamp := by
  rw [MSt.eq_interruptAt hs]
  exact ⟨_, s.interruptAt_wake c _,
    Int.le_trans (earlier_le _ _).2 (TimeMono.stimWhen_le_stamp s.wake c stamp)⟩

/-- the record of a fresh interrupt is not later than its stamp. -/
theorem interrupt_record_le_stamp (s s' : MSt) (c : Comp) (stamp : SimTime)
    (hfresh : alookup s.pend c = none) (hs : s.step (.interrupt c stamp) = some s') :
    ∃ i, alookup s'.pend c = some i ∧ i ≤ stamp := by
  rw [MSt.eq_interruptAt hs]
  refine ⟨s.intWhen c stamp, ?_, TimeMono.stimWhen_le_stamp s.wake c stamp⟩
  rw [MSt.interruptAt_pend, if_pos rfl, hfresh]
  rfl

/-- with the invariant, the wakeup entry of a component whose callback is due not later than the
stamp stays exactly `w` (a pending interrupt of `c` is recorded no earlier than `c`'s wakeup, so
it cannot lower the entry either). -/
theorem interrupt_keeps_earlier_callback_eq (s s' : MSt) (h : MInv s) (c : Comp) (w stamp : SimTime)
    (hw : alookup s.wake c = some w) (hle : w ≤ stamp)
    (hs : s.step (.interrupt c stamp) = some s') :
    alookup s'.wake c = some w := by
  rw [MSt.eq_interruptAt hs]
  rw [s.interruptAt_wake, s.intWhen_of_le c w stamp hw hle]
  cases hp : alookup s.pend c with
  | none => exact congrArg some (ite_self _)
  | some i =>
    obtain ⟨w0, hw0, hwi⟩ := h.pend_wake c i hp
    cases hw.symm.trans hw0
    exact congrArg some (earlier_eq_right hwi)

/-- **an already due callback is never displaced by an interrupt** (the repaired
`schedule_interrupt`, `when = min(existing wakeup, stamp)`, defect F15): if `c` has a wakeup at `w ≤ stamp`
when its interrupt stamped `stamp` is scheduled, the wakeup entry of `c` afterwards is still not
later than `w` (it is `w`: `interrupt_keeps_earlier_callback_eq`). -/
theorem interrupt_keeps_earlier_callback (s s' : MSt) (h : MInv s) (c : Comp) (w stamp : SimTime)
    (hw : alookup s.wake c = some w) (hle : w ≤ stamp)
    (hs : s.step (.interrupt c stamp) = some s') :
    ∃ w', alookup s'.wake c = some w' ∧ w' ≤ w :=
  ⟨w, interrupt_keeps_earlier_callback_eq s s' h c w stamp hw hle hs, Int.le_refl _⟩

/-- exact form without the invariant: a strictly earlier wakeup and no pending interrupt recorded
for `c` — the entry stays exactly `w`, and `w` (not the stamp) is what is recorded as pending. -/
theorem interrupt_keeps_earlier_callback_exact (s s' : MSt) (c : Comp) (w stamp : SimTime)
    (hw : alookup s.wake c = some w) (hlt : w < stamp) (hfresh : alookup s.pend c = none)
    (hs : s.step (.interrupt c stamp) = some s') :
    alookup s'.wake c = some w ∧ alookup s'.pend c = some w := by
  rw [MSt.eq_interruptAt hs]
  rw [s.interruptAt_wake, s.interruptAt_pend, if_pos rfl, hfresh,
    s.intWhen_of_le c w stamp hw (Int.le_of_lt hlt)]
  exact ⟨congrArg some (ite_self _), rfl⟩

/-- conversely, a wakeup LATER than the stamp is replaced by the stamp (the interrupt is served
promptly, it does not wait for the later callback). -/
theorem interrupt_replaces_later_callback (s s' : MSt) (c : Comp) (w stamp : SimTime)
    (hw : alookup s.wake c = some w) (hlt : stamp ≤ w) (hfresh : alookup s.pend c = none)
    (hs : s.step (.interrupt c stamp) = some s') :
    alookup s'.wake c = some stamp ∧ alookup s'.pend c = some stamp := by
  rw [MSt.eq_interruptAt hs]
  rw [s.interruptAt_wake, s.interruptAt_pend, if_pos rfl, hfresh, s.intWhen_of_ge c w stamp hw hlt]
  exact ⟨congrArg some (ite_self _), rfl⟩

/-- what a wakeup table WITHOUT the pending-interrupt record does (the behaviour before the repair
of defect F5): the plain `upsert` of the stale answer of the running tick overwrites the entry
written by the interrupt.  The statement is about `upsert` alone; the model with the record, on
the same two events, is the `example` below. -/
theorem displaced_without_record :
    let wake0 : Wakeups := upsert [] "sys" 100          -- interrupt stamped 100
    let wake1 : Wakeups := upsert wake0 "sys" 5000      -- stale Output(call_at = 5000) overwrites
    alookup wake1 "sys" = some 5000 := by
  decide +kernel

example : (({} : MSt).run [.interrupt "sys" 100, .output "sys" (some 5000)]).wake = [("sys", 100)] := by decide +kernel

-- a callback due at 50 is kept by an interrupt stamped 100; one due at 5000 is replaced
example : (({} : MSt).run [.output "sys" (some 50), .interrupt "sys" 100]).wake = [("sys", 50)] := by decide +kernel
example : (({} : MSt).run [.output "sys" (some 5000), .interrupt "sys" 100]).wake = [("sys", 100)] := by decide +kernel

end Tickit
