/-
C12, run level, ARBITRARY PROCESSING COSTS — simulation time is paced against real time by the
configured speed, over the whole-simulation model with costs (`Core/SimCost.lean`:
`masterInitialC` / `masterRunC`, nested schedulers at any depth, external stimuli).

Speed = `sp.num / sp.den`; times are integer nanoseconds.  The tick whose record is `ticks[k]`
(the initial tick is `ticks[0]`) is started at real time `ticks[k].real` and takes `cost k` ns, for
an ARBITRARY cost function `cost : Nat → Nat`: it ends at `ticks[k].real + cost k`, and that is
when `MasterScheduler.last_time` is set for the pacing of the next tick.
`busy cost k = cost 0 + … + cost (k-1)` is the processing time spent before tick `k` starts.
Zero-cost versions: `Props/C12Run.lean`; one step: `Props/C12.lean`.

* Z  `masterRunC_zero_cost`, `masterInitialC_zero_cost`, `zero_cost_instance` — with all costs 0
  the loop with costs IS the zero-cost loop `masterRun`, so every theorem of `Props/C12Run.lean`
  is an instance (`runC_linear_law_zero_cost` spells one out).  The first two are restatements of
  `masterRunC_zero`, `masterInitialC_zero` of `Lemmas/CostTrace.lean`, where the lemma files (and
  through them `Props/C12Run.lean`) take them from.
* P1 `runC_never_early` — any stimuli, any costs: the tick `k+1` is not started before the tick
  `k` has ended, nor before real time has advanced by `(t_{k+1} - t_k)/speed` since that end;
  and its start is `dueReal`, the value the code computes from `sleep_time`.
  `runC_step_computed` — callbacks only: the start of tick `k+1` is exactly
  `real_k + cost k + max 0 ⌈(t_{k+1} - t_k)·den/num⌉`: less than 1 ns after the ideal time, exactly
  on it when the wait is a whole number of ns, and at once when the tick is overdue;
  `runC_step_zero_cost` — the same with all costs 0.
* P2 `runC_never_ahead` — any stimuli, any costs: `t_k ≤ t_0 + ⌊(real_k - real_0)·speed⌋`, and
  even with the processing time taken out: `t_k - t_0 ≤ (real_k - real_0 - busy k)·speed`.
  `runC_lag_bound` — callbacks only, no callback in the past: the lag is the processing time
  plus the rounding of the sleeps and nothing else:
  `(t_k - t_0)/speed ≤ real_k - real_0 - busy k ≤ (t_k - t_0)/speed + k·(1 - 1/num)`;
  in simulation time (`runC_lag_simtime`):
  `t_0 + ⌊(real_k - real_0)·speed⌋ - t_k ≤ ⌊(busy k·num + k·(num-1))/den⌋`.
  `runC_linear_exact_of_dvd`, `runC_linear_exact` — no rounding term when every wait is a whole
  number of ns (e.g. `num = 1`): `t_k - t_0 = (real_k - real_0 - busy k)·speed` exactly.
* P3 `runC_stamp_law`, `runC_stamp_formula` — every stimulus handled is stamped
  `t_k + ⌊(now - (real_k + cost k))·speed⌋` when it is handled between ticks (relative to the END
  of the last tick `k`), and `t_k + ⌊(now - real_k)·speed⌋` when it arrives in the middle of tick
  `k` (relative to its START), where `now` is the real time at which it is handled;
  `runC_stim_now` — `now` is the stimulus' own real time when the stimuli come in time order.
-/
import TickitModel.Lemmas.CostOrder
import TickitModel.Props.C12Run

namespace Tickit

open Pacing TimeMono CostRun

/-- **Z.**  If every tick takes no time, `masterRunC` returns exactly what `masterRun` of
`Core/Sim.lean` returns. -/
theorem masterRunC_zero_cost (S : Static) (orc : Oracle) (fuel : Nat) (sp : Speed)
    (cost : Nat → Nat) (hc : ∀ k, cost k = 0) (steps nTicks : Nat) (m : MasterSt)
    (stims : List Stim) (acc : List TickRec) :
    masterRunC S orc fuel sp cost steps nTicks m stims acc =
      masterRun S orc fuel sp steps nTicks m stims acc :=
  masterRunC_zero S orc fuel sp cost hc steps nTicks m stims acc

/-- **Z, initial tick.**  If the initial tick takes no time, `masterInitialC` is `masterInitial`
and leaves all the stimuli for the run. -/
theorem masterInitialC_zero_cost (S : Static) (orc : Oracle) (fuel : Nat) (sp : Speed)
    (cost : Nat → Nat) (hc : cost 0 = 0) (t0 : SimTime) (now0 : Int) (stims : List Stim) :
    masterInitialC S orc fuel sp cost t0 now0 stims =
      (masterInitial S orc fuel t0 now0).map (fun r => (r.1, r.2, stims)) :=
  masterInitialC_zero S orc fuel sp cost hc t0 now0 stims

/-- **Z, as an instance.**  A successful run with all costs 0 is a successful run of the
zero-cost model with the same stimuli, the same final state and the same tick records: the
hypotheses of every theorem in `Props/C12Run.lean` are met. -/
theorem zero_cost_instance (S : Static) (orc : Oracle) (fuel : Nat) (t0 : SimTime) (now0 : Int)
    (sp : Speed) (cost : Nat → Nat) (hc : ∀ k, cost k = 0) (steps nTicks : Nat)
    (stims0 stims : List Stim) (m m2 : MasterSt) (tr : TickRec) (ticks : List TickRec)
    (h : masterInitialC S orc fuel sp cost t0 now0 stims0 = .ok (m, tr, stims))
    (h2 : masterRunC S orc fuel sp cost steps nTicks m stims [tr] = .ok (m2, ticks)) :
    stims = stims0 ∧ masterInitial S orc fuel t0 now0 = .ok (m, tr) ∧
    masterRun S orc fuel sp steps nTicks m stims0 [tr] = .ok (m2, ticks) := by
  rw [masterInitialC_zero_cost S orc fuel sp cost (hc 0)] at h
  rw [masterRunC_zero_cost S orc fuel sp cost hc] at h2
  cases hi : masterInitial S orc fuel t0 now0 with
  | error e => rw [hi] at h; cases h
  | ok r =>
    rw [hi] at h
    simp only [Except.map, Except.ok.injEq, Prod.mk.injEq] at h
    obtain ⟨h1, h3, h4⟩ := h
    subst h4
    refine ⟨rfl, ?_, h2⟩
    rw [← h1, ← h3]

/-- the linear law of `Props/C12Run.lean` read off the model with costs, all costs 0 -/
theorem runC_linear_law_zero_cost (S : Static) (orc : Oracle) (fuel : Nat) (t0 : SimTime)
    (now0 : Int) (sp : Speed) (cost : Nat → Nat) (hc : ∀ k, cost k = 0) (steps nTicks : Nat)
    (m m2 : MasterSt) (tr : TickRec) (ticks : List TickRec) (stims : List Stim)
    (h : masterInitialC S orc fuel sp cost t0 now0 [] = .ok (m, tr, stims))
    (h2 : masterRunC S orc fuel sp cost steps nTicks m stims [tr] = .ok (m2, ticks))
    (hn : 0 < sp.num) (hnp : RunNoPast orc m2.sim) :
    ∀ (k : Nat) (x : TickRec), ticks[k]? = some x →
      (x.time - t0) * sp.den ≤ (x.real - now0) * sp.num ∧
      (x.real - now0) * sp.num ≤ (x.time - t0) * sp.den + k * (sp.num - 1) := by
  obtain ⟨_, hi, hr⟩ := zero_cost_instance S orc fuel t0 now0 sp cost hc steps nTicks [] stims
    m m2 tr ticks h h2
  exact run_linear_law S orc fuel t0 now0 sp steps nTicks m m2 tr ticks hi hr hn hnp

/-- **P1.**  Whole simulation, any stimuli, any costs, any positive `sp.num`.  Tick `a = ticks[i]`
ends at `a.real + cost i`, and for the next one, `b = ticks[i+1]`:
* it is not started before that END, nor before real time has advanced by
  `(b.time - a.time)/speed` since it;
* its start is the value the code computes: with `N ≥ a.real + cost i` the real time at which
  `sleep_time(b.time)` is evaluated for the last time (`N` is the end of tick `a` itself when
  there are no stimuli; a stimulus arriving during the sleep cancels it and the sleep is computed
  afresh), `sleep_time = ((b.time - a.time)·den - (N - (a.real + cost i))·num)/num` ns, and the tick
  starts at `N` if that is not positive (the tick is overdue: it starts immediately), else at
  `N + ⌈sleep_time⌉`. -/
theorem runC_never_early (S : Static) (orc : Oracle) (fuel : Nat) (t0 : SimTime) (now0 : Int)
    (sp : Speed) (cost : Nat → Nat) (steps nTicks : Nat) (stims0 stims : List Stim)
    (m m2 : MasterSt) (tr : TickRec) (ticks : List TickRec)
    (h : masterInitialC S orc fuel sp cost t0 now0 stims0 = .ok (m, tr, stims))
    (h2 : masterRunC S orc fuel sp cost steps nTicks m stims [tr] = .ok (m2, ticks))
    (hn : 0 < sp.num) :
    ∀ (i : Nat) (a b : TickRec), ticks[i]? = some a → ticks[i + 1]? = some b →
      a.real + cost i ≤ b.real ∧
      (b.time - a.time) * sp.den ≤ (b.real - (a.real + cost i)) * sp.num ∧
      ∃ N : Int, a.real + cost i ≤ N ∧ (stims0 = [] → N = a.real + cost i) ∧
        b.real =
          (if (b.time - a.time) * sp.den - (N - (a.real + cost i)) * sp.num ≤ 0 then N
           else N + ceilDiv ((b.time - a.time) * sp.den - (N - (a.real + cost i)) * sp.num) sp.num) := by
  obtain ⟨hlinks, _⟩ := initial_linksC h h2 hn
  intro i a b ha hb
  have hl := hlinks i a b ha hb
  obtain ⟨h1, h3⟩ := hl.never_early hn
  obtain ⟨N, hN1, hN2, hN3⟩ := hl
  exact ⟨h1, h3, N, hN1, hN2, hN3⟩

/-- **P1, callbacks only: the start of each tick, exactly.**  Without stimuli, any costs: the next
tick starts exactly the rounded-up wait `max 0 ⌈(b.time - a.time)·den/num⌉` after the END of the
previous one.  So, when simulation time does not go back, it starts less than 1 ns after the
ideal time and exactly on it when the wait is a whole number of nanoseconds; an overdue tick
(`b.time ≤ a.time`) starts at once, when the previous one ends. -/
theorem runC_step_computed (S : Static) (orc : Oracle) (fuel : Nat) (t0 : SimTime) (now0 : Int)
    (sp : Speed) (cost : Nat → Nat) (steps nTicks : Nat) (stims : List Stim)
    (m m2 : MasterSt) (tr : TickRec) (ticks : List TickRec)
    (h : masterInitialC S orc fuel sp cost t0 now0 [] = .ok (m, tr, stims))
    (h2 : masterRunC S orc fuel sp cost steps nTicks m stims [tr] = .ok (m2, ticks))
    (hn : 0 < sp.num) :
    ∀ (i : Nat) (a b : TickRec), ticks[i]? = some a → ticks[i + 1]? = some b →
      b.real = a.real + cost i +
        (if (b.time - a.time) * sp.den ≤ 0 then 0 else ceilDiv ((b.time - a.time) * sp.den) sp.num) ∧
      (a.time ≤ b.time →
        (b.real - (a.real + cost i)) * sp.num < (b.time - a.time) * sp.den + sp.num) ∧
      (a.time ≤ b.time → (sp.num : Int) ∣ (b.time - a.time) * sp.den →
        (b.real - (a.real + cost i)) * sp.num = (b.time - a.time) * sp.den) ∧
      (b.time ≤ a.time → b.real = a.real + cost i) := by
  obtain ⟨hlinks, _⟩ := initial_linksC h h2 hn
  intro i a b ha hb
  have hl := hlinks i a b ha hb
  have hc := hl.computed rfl
  refine ⟨hc, fun hm => ?_, fun hm hdiv => hl.exact rfl hm hdiv, fun hm => ?_⟩
  · exact Int.lt_of_le_of_lt (hl.lag hn rfl hm) (Int.add_lt_add_left (Int.sub_one_lt_of_le (Int.le_refl _)) _)
  · rw [hc, if_pos (Int.mul_nonpos_of_nonpos_of_nonneg (Int.sub_nonpos_of_le hm)
      (Int.natCast_nonneg _))]
    exact Int.add_zero _

/-- **P1 at zero cost.**  Callbacks only, every tick free (`cost k = 0` for all `k`): each tick
starts exactly the rounded-up wait after the START of the previous one (which is also its end):
`b.real = a.real + max 0 ⌈(b.time - a.time)·den/num⌉`. -/
theorem runC_step_zero_cost (S : Static) (orc : Oracle) (fuel : Nat) (t0 : SimTime) (now0 : Int)
    (sp : Speed) (cost : Nat → Nat) (hc : ∀ k, cost k = 0) (steps nTicks : Nat) (stims : List Stim)
    (m m2 : MasterSt) (tr : TickRec) (ticks : List TickRec)
    (h : masterInitialC S orc fuel sp cost t0 now0 [] = .ok (m, tr, stims))
    (h2 : masterRunC S orc fuel sp cost steps nTicks m stims [tr] = .ok (m2, ticks))
    (hn : 0 < sp.num) :
    ∀ (i : Nat) (a b : TickRec), ticks[i]? = some a → ticks[i + 1]? = some b →
      b.real = a.real +
        (if (b.time - a.time) * sp.den ≤ 0 then 0 else ceilDiv ((b.time - a.time) * sp.den) sp.num) := by
  intro i a b ha hb
  have := (runC_step_computed S orc fuel t0 now0 sp cost steps nTicks stims m m2 tr ticks h h2 hn
    i a b ha hb).1
  rw [hc i, Int.natCast_zero, Int.add_zero] at this
  exact this

/-- **P2, never ahead.**  Whole simulation, any stimuli, any costs, any positive `sp.num`.  At
the k-th tick record real time has advanced at least by the processing time `busy cost k` of the
ticks before it, and simulation time is not ahead of the scaled real time even when that
processing time is taken out; in particular (for `sp.den > 0`)
`x.time ≤ t0 + ⌊(x.real - now0)·num/den⌋`. -/
theorem runC_never_ahead (S : Static) (orc : Oracle) (fuel : Nat) (t0 : SimTime) (now0 : Int)
    (sp : Speed) (cost : Nat → Nat) (steps nTicks : Nat) (stims0 stims : List Stim)
    (m m2 : MasterSt) (tr : TickRec) (ticks : List TickRec)
    (h : masterInitialC S orc fuel sp cost t0 now0 stims0 = .ok (m, tr, stims))
    (h2 : masterRunC S orc fuel sp cost steps nTicks m stims [tr] = .ok (m2, ticks))
    (hn : 0 < sp.num) :
    ∀ (k : Nat) (x : TickRec), ticks[k]? = some x →
      now0 + busy cost k ≤ x.real ∧
      (x.time - t0) * sp.den ≤ (x.real - now0 - busy cost k) * sp.num ∧
      (x.time - t0) * sp.den ≤ (x.real - now0) * sp.num ∧
      (0 < sp.den → x.time ≤ t0 + ((x.real - now0) * sp.num) / sp.den) := by
  obtain ⟨hlinks, h0, ht, hr⟩ := initial_linksC h h2 hn
  intro k x hk
  obtain ⟨h1, h3⟩ := paced_never_ahead hn hlinks h0 k x hk
  rw [ht, hr] at h3
  rw [hr] at h1
  have h4 : (x.time - t0) * (sp.den : Int) ≤ (x.real - now0) * sp.num :=
    Int.le_trans h3 (Int.mul_le_mul_of_nonneg_right (Int.sub_le_self _ (Int.natCast_nonneg _))
      (Int.natCast_nonneg _))
  refine ⟨h1, h3, h4, fun hd => ?_⟩
  have := Int.le_ediv_of_mul_le (Int.natCast_pos.2 hd) h4
  simp only [SimTime] at this ⊢
  omega

/-- **P2, the lag, from non-decreasing tick times.**  Callbacks only, any costs.  For the k-th
tick record `x = ticks[k]`:
`(x.time - t0)/speed ≤ x.real - now0 - busy cost k ≤ (x.time - t0)/speed + k·(1 - 1/sp.num)`. -/
theorem runC_lag_bound_of_mono (S : Static) (orc : Oracle) (fuel : Nat) (t0 : SimTime) (now0 : Int)
    (sp : Speed) (cost : Nat → Nat) (steps nTicks : Nat) (stims : List Stim)
    (m m2 : MasterSt) (tr : TickRec) (ticks : List TickRec)
    (h : masterInitialC S orc fuel sp cost t0 now0 [] = .ok (m, tr, stims))
    (h2 : masterRunC S orc fuel sp cost steps nTicks m stims [tr] = .ok (m2, ticks))
    (hn : 0 < sp.num)
    (hmono : (ticks.map (·.time)).Pairwise (· ≤ ·)) :
    ∀ (k : Nat) (x : TickRec), ticks[k]? = some x →
      (x.time - t0) * sp.den ≤ (x.real - now0 - busy cost k) * sp.num ∧
      (x.real - now0 - busy cost k) * sp.num ≤ (x.time - t0) * sp.den + k * (sp.num - 1) := by
  obtain ⟨hlinks, h0, ht, hr⟩ := initial_linksC h h2 hn
  intro k x hk
  have h1 := (paced_never_ahead hn hlinks h0 k x hk).2
  have h3 := paced_lag (fun i a b ha hb =>
    (hlinks i a b ha hb).lag hn rfl (pairwise_consec ticks hmono i a b ha hb)) h0 k x hk
  rw [ht, hr] at h1 h3
  exact ⟨h1, h3⟩

/-- **P2, the lag.**  Callbacks only, no device asks to be called back in the past
(`RunNoPast`), ANY costs, any positive speed.  At the k-th tick, real time minus the processing
time spent so far obeys the zero-cost linear law `run_linear_law`, with its rounding term
`k·(sp.num - 1)` in units of `1/sp.num` ns (less than 1 ns per tick).  Hence the lag behind real
time itself, `(x.real - now0)·num - (x.time - t0)·den` (in units of `1/den` ns of simulation
time), is at least the processing time scaled by the speed, `busy cost k · num`, and at most that
plus the rounding term: processing costs are never caught up (each sleep is counted from the end
of the previous tick) and nothing else is lost. -/
theorem runC_lag_bound (S : Static) (orc : Oracle) (fuel : Nat) (t0 : SimTime) (now0 : Int)
    (sp : Speed) (cost : Nat → Nat) (steps nTicks : Nat) (stims : List Stim)
    (m m2 : MasterSt) (tr : TickRec) (ticks : List TickRec)
    (h : masterInitialC S orc fuel sp cost t0 now0 [] = .ok (m, tr, stims))
    (h2 : masterRunC S orc fuel sp cost steps nTicks m stims [tr] = .ok (m2, ticks))
    (hn : 0 < sp.num)
    (hnp : RunNoPast orc m2.sim) :
    ∀ (k : Nat) (x : TickRec), ticks[k]? = some x →
      ((x.time - t0) * sp.den ≤ (x.real - now0 - busy cost k) * sp.num ∧
       (x.real - now0 - busy cost k) * sp.num ≤ (x.time - t0) * sp.den + k * (sp.num - 1)) ∧
      (busy cost k * sp.num ≤ (x.real - now0) * sp.num - (x.time - t0) * sp.den ∧
       (x.real - now0) * sp.num - (x.time - t0) * sp.den ≤ busy cost k * sp.num + k * (sp.num - 1)) := by
  intro k x hk
  have hb := runC_lag_bound_of_mono S orc fuel t0 now0 sp cost steps nTicks stims m m2 tr ticks h h2 hn
    (simC_time_monotone S orc fuel t0 now0 sp cost steps nTicks [] stims m m2 tr ticks h h2 hnp) k x hk
  refine ⟨hb, ?_⟩
  obtain ⟨h1, h3⟩ := hb
  rw [Int.sub_mul (x.real - now0)] at h1 h3
  simp only [SimTime] at h1
  exact ⟨by omega, by omega⟩

/-- **P2, the lag in simulation time.**  Callbacks only, no callback in the past, any costs,
any positive speed `num/den`: at the k-th tick
`t0 + ⌊(x.real - now0)·num/den⌋ - x.time ≤ ⌊(busy cost k · num + k·(num - 1))/den⌋`
— the simulation is behind the scaled real time by no more than the costs so far scaled by the
speed plus the rounding term — and never ahead: the left-hand side is `≥ 0`. -/
theorem runC_lag_simtime (S : Static) (orc : Oracle) (fuel : Nat) (t0 : SimTime) (now0 : Int)
    (sp : Speed) (cost : Nat → Nat) (steps nTicks : Nat) (stims : List Stim)
    (m m2 : MasterSt) (tr : TickRec) (ticks : List TickRec)
    (h : masterInitialC S orc fuel sp cost t0 now0 [] = .ok (m, tr, stims))
    (h2 : masterRunC S orc fuel sp cost steps nTicks m stims [tr] = .ok (m2, ticks))
    (hn : 0 < sp.num) (hd : 0 < sp.den)
    (hnp : RunNoPast orc m2.sim) :
    ∀ (k : Nat) (x : TickRec), ticks[k]? = some x →
      0 ≤ t0 + ((x.real - now0) * sp.num) / sp.den - x.time ∧
      t0 + ((x.real - now0) * sp.num) / sp.den - x.time ≤
        (busy cost k * sp.num + k * (sp.num - 1)) / sp.den := by
  intro k x hk
  have ha := ((runC_never_ahead S orc fuel t0 now0 sp cost steps nTicks [] stims m m2 tr ticks h h2 hn)
    k x hk).2.2.2 hd
  have hb := ((runC_lag_bound S orc fuel t0 now0 sp cost steps nTicks stims m m2 tr ticks h h2 hn hnp)
    k x hk).2.2
  exact ⟨Int.sub_nonneg_of_le ha, floor_lag_le (Int.natCast_pos.2 hd) hb⟩

/-- **P2, exact.**  Callbacks only, no callback in the past, any costs, and every wait a whole
number of nanoseconds (`sp.num ∣ (b.time - a.time) * sp.den` for consecutive ticks): simulation
time EQUALS `t0 + speed × (elapsed real time - processing time so far)` at every tick. -/
theorem runC_linear_exact_of_dvd (S : Static) (orc : Oracle) (fuel : Nat) (t0 : SimTime) (now0 : Int)
    (sp : Speed) (cost : Nat → Nat) (steps nTicks : Nat) (stims : List Stim)
    (m m2 : MasterSt) (tr : TickRec) (ticks : List TickRec)
    (h : masterInitialC S orc fuel sp cost t0 now0 [] = .ok (m, tr, stims))
    (h2 : masterRunC S orc fuel sp cost steps nTicks m stims [tr] = .ok (m2, ticks))
    (hn : 0 < sp.num)
    (hnp : RunNoPast orc m2.sim)
    (hdiv : ∀ (i : Nat) (a b : TickRec), ticks[i]? = some a → ticks[i + 1]? = some b →
      (sp.num : Int) ∣ (b.time - a.time) * sp.den) :
    ∀ (k : Nat) (x : TickRec), ticks[k]? = some x →
      (x.time - t0) * sp.den = (x.real - now0 - busy cost k) * sp.num := by
  obtain ⟨hlinks, h0, ht, hr⟩ := initial_linksC h h2 hn
  have hmono := simC_time_monotone S orc fuel t0 now0 sp cost steps nTicks [] stims m m2 tr ticks h h2 hnp
  intro k x hk
  have := paced_exact hn rfl hlinks hmono hdiv h0 k x hk
  rw [ht, hr] at this
  exact this

/-- **P2, exact, speeds `1/den`.**  With `sp.num = 1` every wait is a whole number of
nanoseconds: `x.time - t0 = speed × (x.real - now0 - busy cost k)` at every tick, any costs. -/
theorem runC_linear_exact (S : Static) (orc : Oracle) (fuel : Nat) (t0 : SimTime) (now0 : Int)
    (sp : Speed) (cost : Nat → Nat) (steps nTicks : Nat) (stims : List Stim)
    (m m2 : MasterSt) (tr : TickRec) (ticks : List TickRec)
    (h : masterInitialC S orc fuel sp cost t0 now0 [] = .ok (m, tr, stims))
    (h2 : masterRunC S orc fuel sp cost steps nTicks m stims [tr] = .ok (m2, ticks))
    (hn : sp.num = 1)
    (hnp : RunNoPast orc m2.sim) :
    ∀ (k : Nat) (x : TickRec), ticks[k]? = some x →
      (x.time - t0) * sp.den = (x.real - now0 - busy cost k) * sp.num :=
  runC_linear_exact_of_dvd S orc fuel t0 now0 sp cost steps nTicks stims m m2 tr ticks h h2
    (by omega) hnp (fun _ _ _ _ _ => by rw [hn]; exact Int.one_dvd _)

/-- what P3 says about one handled stimulus `ev` (handled in master state `ev.m`, after `ev.k`
tick records, in the middle of tick `ev.k - 1` if `ev.mid`, else after it), with
`now = ev.now = max st.real m.now` the real time at which it is handled and
`stamp = ev.stamp sp = interruptStamp m.tickerTime now m.lastReal sp` the time stamped on it. -/
structure CostRun.StimEvC.Lawful (S : Static) (fuel : Nat) (sp : Speed) (cost : Nat → Nat)
    (t0 : SimTime) (now0 : Int) (ticks : List TickRec) (ev : StimEvC) : Prop where
  /-- `z = ticks[k-1]` is the last tick record before the stimulus; the master has its time, and
  as `lastReal` its END `z.real + cost (k-1)` — or its START `z.real` for a stimulus that is
  handled while the tick is in progress, and then `z.real < st.real`, `now < z.real + cost (k-1)` -/
  last_tick : 1 ≤ ev.k ∧ ∃ z, ticks[ev.k - 1]? = some z ∧ z.time = ev.m.tickerTime ∧
    ev.m.lastReal = (if ev.mid then z.real else z.real + cost (ev.k - 1)) ∧
    (ev.mid = true → z.real < ev.st.real ∧ ev.st.real < z.real + cost (ev.k - 1) ∧
      ev.now < z.real + cost (ev.k - 1))
  /-- real time has not run backwards since `lastReal`, and handling does not move it back -/
  real_mono : ev.m.lastReal ≤ ev.m.now ∧ ev.m.now ≤ ev.now
  /-- **stamp law**: `stamp - tickerTime = ⌊(now - lastReal) × speed⌋` -/
  stamp_law : (ev.stamp sp - ev.m.tickerTime) * sp.den ≤ (ev.now - ev.m.lastReal) * sp.num ∧
    (ev.now - ev.m.lastReal) * sp.num < (ev.stamp sp - ev.m.tickerTime + 1) * sp.den
  /-- the same with the floor written as integer division (the argument is `≥ 0`) -/
  stamp_eq : ev.stamp sp = ev.m.tickerTime + ((ev.now - ev.m.lastReal) * sp.num) / sp.den
  /-- the stamp is never ahead of real time: `(stamp - t0)/speed ≤ now - now0` -/
  not_ahead : (ev.stamp sp - t0) * sp.den ≤ (ev.now - now0) * sp.num
  /-- the wakeup written for the interrupting top-level component is not after the stamp -/
  when_le : ev.when S fuel sp ≤ ev.stamp sp
  /-- for a stimulus handled between ticks: a tick for `stamp` is due at once, and the next tick
  record `ticks[k]`, if there is one, is started at that very real time `now`, for a simulation
  time `≤ ev.when`; it is either the tick for `ev.when`, and then it serves the interrupt
  (`ev.top ∈ roots`), or the tick of an earlier wakeup that is served first. -/
  served : ev.mid = false →
    dueReal { ev.m with now := ev.now } sp (ev.stamp sp) = ev.now ∧
    ∀ x, ticks[ev.k]? = some x → x.real = ev.now ∧ x.time ≤ ev.when S fuel sp ∧
      (x.time = ev.when S fuel sp → ev.top S fuel ∈ x.roots)

/-- what handling a stimulus writes (between ticks or in the middle of one): the interrupting
top-level component `ev.top` gets the wakeup `ev.when`, which is `ev.stamp sp` unless an earlier
wakeup of `top` is still pending, which is kept. -/
theorem stampC_written (S : Static) (fuel : Nat) (sp : Speed) (ev : StimEvC) :
    ((stimStepC S fuel sp ev.m ev.st).sim.sched "").wake =
      addWakeup (ev.m.sim.sched "").wake (ev.top S fuel) (ev.when S fuel sp) ∧
    ev.when S fuel sp ≤ ev.stamp sp ∧
    (stimStepC S fuel sp ev.m ev.st).now = ev.now ∧
    (stimStepC S fuel sp ev.m ev.st).tickerTime = ev.m.tickerTime ∧
    (stimStepC S fuel sp ev.m ev.st).lastReal = ev.m.lastReal :=
  ⟨stimStep_wake S fuel sp ev.m ev.st, stimWhen_le_stamp _ _ _, rfl, rfl, rfl⟩

/-- **P3.**  Whole simulation with stimuli and costs.  The stimuli handled are, in order, those
handled in the middle of the initial tick (`initLogC`, computed alongside `masterInitialC`) and
those handled by the run (`runLogC`, computed alongside `masterRunC`): an initial segment of the
given stimuli `stims0`.  Every one of them is `Lawful`: its stamp is counted from the END
`real_k + cost k` of the last tick `k` when it is handled between ticks, from the START `real_k`
of the tick in progress otherwise. -/
theorem runC_stamp_law (S : Static) (orc : Oracle) (fuel : Nat) (t0 : SimTime) (now0 : Int)
    (sp : Speed) (cost : Nat → Nat) (steps nTicks : Nat) (stims0 stims : List Stim)
    (m m2 : MasterSt) (tr : TickRec) (ticks : List TickRec)
    (h : masterInitialC S orc fuel sp cost t0 now0 stims0 = .ok (m, tr, stims))
    (h2 : masterRunC S orc fuel sp cost steps nTicks m stims [tr] = .ok (m2, ticks))
    (hn : 0 < sp.num) (hd : 0 < sp.den) :
    (∃ rest, stims0 = (initLogC S orc fuel sp cost t0 now0 stims0 ++
      runLogC S orc fuel sp cost steps nTicks m stims 1).map (·.st) ++ rest) ∧
    ∀ ev ∈ initLogC S orc fuel sp cost t0 now0 stims0 ++
        runLogC S orc fuel sp cost steps nTicks m stims 1,
      ev.Lawful S fuel sp cost t0 now0 ticks := by
  obtain ⟨L, sim, out, s2, _, rfl, htr⟩ := initial_traceC h h2
  refine ⟨⟨s2, htr.log_stims⟩, fun ev hev => ?_⟩
  obtain ⟨pre, post, hsplit⟩ := List.append_of_mem hev
  obtain ⟨⟨e1, e2, z, ez, ezt, ezi, ezl, et⟩, rest, acc1, hk, hafter⟩ :=
    htr.events hn (Linked.initial sp cost t0 now0 L.wiring.components sim stims0).sync
      pre ev post hsplit
  have hnow := ev.toStimEv.le_now
  have hlast : ev.m.lastReal ≤ ev.now := Int.le_trans e1 hnow
  have hzl : z.real ≤ ev.m.lastReal := by
    rw [ezl]
    split
    · exact Int.le_refl _
    · exact Int.le_add_of_nonneg_right (Int.natCast_nonneg _)
  refine ⟨⟨e2, z, ez, ezt, ezl, et⟩, ⟨e1, hnow⟩,
    stamp_law ev.m.tickerTime ev.now ev.m.lastReal sp hd hlast,
    interruptStamp_eq ev.m.tickerTime ev.now ev.m.lastReal sp hlast, ?_,
    stimWhen_le_stamp _ _ _, fun hm => ⟨?_, fun x hx => ?_⟩⟩
  · show (interruptStamp ev.m.tickerTime ev.now ev.m.lastReal sp - t0) * (sp.den : Int) ≤ _
    rw [← ezt]
    exact stamp_not_ahead z.time t0 ev.now ev.m.lastReal now0 z.real sp hd hlast hzl ezi
  · exact interrupt_due_now { ev.m with now := ev.now } sp hd hn hlast
  · -- the trace that follows a stimulus handled between ticks starts with its wakeup reached
    rw [hm] at hafter
    exact hafter.next_real _ _ rfl (reached_stimStep S fuel hd ev.m ev.st e1) x (hk ▸ hx)

/-- **P3, the stamp written out.**  For every handled stimulus `ev`, with `z = ticks[ev.k - 1]`
the last tick record before it and `now = max st.real m.now` the real time at which it is handled:
* handled between ticks: `stamp = z.time + ⌊(now - (z.real + cost (k-1)))·num/den⌋`, with
  `now ≥ z.real + cost (k-1)`, the end of that tick;
* handled while tick `z` is in progress: `stamp = z.time + ⌊(now - z.real)·num/den⌋`, with
  `z.real < now < z.real + cost (k-1)`: relative to the START of the tick. -/
theorem runC_stamp_formula (S : Static) (orc : Oracle) (fuel : Nat) (t0 : SimTime) (now0 : Int)
    (sp : Speed) (cost : Nat → Nat) (steps nTicks : Nat) (stims0 stims : List Stim)
    (m m2 : MasterSt) (tr : TickRec) (ticks : List TickRec)
    (h : masterInitialC S orc fuel sp cost t0 now0 stims0 = .ok (m, tr, stims))
    (h2 : masterRunC S orc fuel sp cost steps nTicks m stims [tr] = .ok (m2, ticks))
    (hn : 0 < sp.num) (hd : 0 < sp.den) :
    ∀ ev ∈ initLogC S orc fuel sp cost t0 now0 stims0 ++
        runLogC S orc fuel sp cost steps nTicks m stims 1,
      ∃ z, ticks[ev.k - 1]? = some z ∧ ev.now = max ev.st.real ev.m.now ∧
        (ev.mid = false → z.real + cost (ev.k - 1) ≤ ev.now ∧
          ev.stamp sp = z.time + ((ev.now - (z.real + cost (ev.k - 1))) * sp.num) / sp.den) ∧
        (ev.mid = true → z.real < ev.now ∧ ev.now < z.real + cost (ev.k - 1) ∧
          ev.stamp sp = z.time + ((ev.now - z.real) * sp.num) / sp.den) := by
  intro ev hev
  obtain ⟨⟨_, z, hz, hzt, hzl, hmid⟩, ⟨hr1, hr2⟩, _, heq, _⟩ :=
    (runC_stamp_law S orc fuel t0 now0 sp cost steps nTicks stims0 stims m m2 tr ticks h h2 hn hd).2
      ev hev
  have hlast := Int.le_trans hr1 hr2
  refine ⟨z, hz, ev.toStimEv.now_eq_max, fun hm => ?_, fun hm => ?_⟩
  · rw [hm, if_neg Bool.false_ne_true] at hzl
    rw [heq, hzt, hzl]
    exact ⟨hzl ▸ hlast, rfl⟩
  · rw [hm, if_pos rfl] at hzl
    obtain ⟨h1, _, h3⟩ := hmid hm
    rw [heq, hzt, hzl]
    exact ⟨Int.lt_of_lt_of_le h1 ev.toStimEv.real_le_now, h3, rfl⟩

/-- **P3, the real time of a stimulus.**  When the stimuli come in the order of their real times
and none lies at or before the start `now0` of the simulation, every handled stimulus is handled
at its own real time: `now = st.real`.  So the stamps of `runC_stamp_formula` read
`t_k + ⌊(st.real - (real_k + cost k))·num/den⌋` between ticks and `t_k + ⌊(st.real - real_k)·num/den⌋`
in the middle of tick `k`. -/
theorem runC_stim_now (S : Static) (orc : Oracle) (fuel : Nat) (t0 : SimTime) (now0 : Int)
    (sp : Speed) (cost : Nat → Nat) (steps nTicks : Nat) (stims0 stims : List Stim)
    (m m2 : MasterSt) (tr : TickRec) (ticks : List TickRec)
    (h : masterInitialC S orc fuel sp cost t0 now0 stims0 = .ok (m, tr, stims))
    (h2 : masterRunC S orc fuel sp cost steps nTicks m stims [tr] = .ok (m2, ticks))
    (hs : stims0.Pairwise (fun a b => a.real ≤ b.real))
    (hm : ∀ x ∈ stims0, now0 < x.real) :
    ∀ ev ∈ initLogC S orc fuel sp cost t0 now0 stims0 ++
        runLogC S orc fuel sp cost steps nTicks m stims 1,
      ev.now = ev.st.real := by
  obtain ⟨_, sim, _, s2, _, _, htr⟩ := initial_traceC h h2
  intro ev hev
  have hle := htr.now_le ⟨hs, fun x hx => ⟨Int.le_of_lt (hm x hx), hm x hx⟩⟩ ev hev
  show (if ev.st.real < ev.m.now then ev.m.now else ev.st.real) = ev.st.real
  rw [if_neg (by omega)]

/-! ## non-vacuity and tightness (evaluated at build time)

The master level of `Props/C12Run.lean` (`C12RunEx.S`): two devices, `d` asks to be called back
periodically, `e` never does.  Non-zero costs, speeds `≠ 1`. -/

namespace C12CostEx

open C12RunEx

def costOf (l : List Nat) (dflt : Nat) : Nat → Nat := fun k => l[k]?.getD dflt

/-- the tick records `(time, real, roots)` of a run from `t0 = 0`, `now0 = 0`, whether
`RunNoPast` holds in the final state, and for every tick `k` the lag with the processing time
taken out, `(real_k - busy cost k) * num - time_k * den` (in units of `1/num` ns of real time) -/
def run (orc : Oracle) (sp : Speed) (cost : Nat → Nat) (stims : List Stim) (k : Nat) :
    Option (List (Int × Int × List Comp) × Bool × List Int) :=
  match masterInitialC S orc 10 sp cost 0 0 stims with
  | .ok (m, tr, rest) =>
    match masterRunC S orc 10 sp cost 200 k m rest [tr] with
    | .ok (m2, ticks) =>
      some (ticks.map (fun x => (x.time, x.real, x.roots)), runNoPastB orc m2.sim,
        (List.range ticks.length).map (fun i => match ticks[i]? with
          | some x => (x.real - busy cost i) * sp.num - x.time * sp.den
          | none => 0))
    | .error _ => none
  | .error _ => none

/-- the handled stimuli: `(st.real, st.comp, k, mid, now, stamp, top, when)` -/
def log (orc : Oracle) (sp : Speed) (cost : Nat → Nat) (stims : List Stim) (k : Nat) :
    Option (List (Int × Comp × Nat × Bool × Int × SimTime × Comp × SimTime)) :=
  match masterInitialC S orc 10 sp cost 0 0 stims with
  | .ok (m, _, rest) =>
    some ((initLogC S orc 10 sp cost 0 0 stims ++ runLogC S orc 10 sp cost 200 k m rest 1).map
      (fun ev => (ev.st.real, ev.st.comp, ev.k, ev.mid, ev.now, ev.stamp sp, ev.top S 10,
        ev.when S 10 sp)))
  | .error _ => none

def run0 (orc : Oracle) (sp : Speed) (stims : List Stim) (k : Nat) :
    Option (List (Int × Int × List Comp)) :=
  (C12RunEx.run orc sp stims k).map (·.1)

-- Z: with all costs 0 the tick records are those of the zero-cost model (`masterRunC_zero_cost`)
#guard (run [("d", per 10 30), ("e", quiet 30)] ⟨3, 2⟩ (fun _ => 0) [⟨3, "e"⟩, ⟨3, "d"⟩, ⟨5, "e"⟩] 5).map (·.1) ==
  run0 [("d", per 10 30), ("e", quiet 30)] ⟨3, 2⟩ [⟨3, "e"⟩, ⟨3, "d"⟩, ⟨5, "e"⟩] 5

-- P1/P2, speed 3/2, period 2, costs 5, 0, 7, 1, 3: each wait is 4/3 ns, slept as 2 ns from the
-- END of the previous tick: real = 0, 0+5+2, 7+0+2, 9+7+2, 18+1+2, 21+3+2 (`runC_step_computed`).
-- The lag with the processing time (busy = 0, 5, 5, 12, 13, 16) taken out is exactly
-- `k * (num - 1) = 2k`: the bound of `runC_lag_bound` is attained.
#guard run [("d", per 2 30), ("e", quiet 30)] ⟨3, 2⟩ (costOf [5, 0, 7, 1, 3] 2) [] 5 ==
  some ([(0, 0, ["d", "e"]), (2, 7, ["d"]), (4, 9, ["d"]), (6, 18, ["d"]), (8, 21, ["d"]), (10, 26, ["d"])],
    true, [0, 2, 4, 6, 8, 10])
-- the step formula and the lag bound of tick 3 on these numbers
example : (18 : Int) = 9 + (7 : Nat) + (if ((6 : Int) - 4) * (2 : Nat) ≤ 0 then 0 else ceilDiv (((6 : Int) - 4) * (2 : Nat)) (3 : Nat)) := by decide
example : busy (costOf [5, 0, 7, 1, 3] 2) 3 = 12 ∧
    ((6 : Int) - 0) * (2 : Nat) ≤ (18 - 0 - (12 : Nat)) * (3 : Nat) ∧
    ((18 : Int) - 0 - (12 : Nat)) * (3 : Nat) ≤ (6 - 0) * (2 : Nat) + (3 : Nat) * ((3 : Nat) - 1) := by decide
-- speed 2/3, period 1, costs 4, 1, 0, 6, 2: each wait is 3/2 ns, slept as 2 ns; the bound
-- `k * (num - 1) = k` is attained
#guard run [("d", per 1 30), ("e", quiet 30)] ⟨2, 3⟩ (costOf [4, 1, 0, 6] 2) [] 5 ==
  some ([(0, 0, ["d", "e"]), (1, 6, ["d"]), (2, 9, ["d"]), (3, 11, ["d"]), (4, 19, ["d"]), (5, 23, ["d"])],
    true, [0, 1, 2, 3, 4, 5])
-- speed 3/2, period 3: every wait is a whole number of nanoseconds (2): no rounding term, the lag
-- is the processing time and nothing else (`runC_linear_exact_of_dvd`)
#guard run [("d", per 3 30), ("e", quiet 30)] ⟨3, 2⟩ (costOf [5, 0, 7, 1, 3] 2) [] 5 ==
  some ([(0, 0, ["d", "e"]), (3, 7, ["d"]), (6, 9, ["d"]), (9, 18, ["d"]), (12, 21, ["d"]), (15, 26, ["d"])],
    true, [0, 0, 0, 0, 0, 0])
-- speed 1/3 (`num = 1`), period 7: exact (`runC_linear_exact`): real = busy + 3 * time
#guard run [("d", per 7 30), ("e", quiet 30)] ⟨1, 3⟩ (costOf [5, 0, 7, 1, 3] 2) [] 5 ==
  some ([(0, 0, ["d", "e"]), (7, 26, ["d"]), (14, 47, ["d"]), (21, 75, ["d"]), (28, 97, ["d"]), (35, 121, ["d"])],
    true, [0, 0, 0, 0, 0, 0])
-- an overdue tick starts at once, when the previous tick ends (`runC_step_computed`, last part):
-- speed 1/2; at time 6 (tick [17, 20)) `d` asks for time 5: the tick for 5 starts at 17 + 3.
-- The hypothesis "no callback in the past" of `runC_lag_bound` is needed: `RunNoPast` fails, and
-- the lag of tick 2 with the processing time taken out is 2 > k * (num - 1) = 0.  P1 and
-- `runC_never_ahead` hold all the same.
#guard run [("d", [⟨[], some 6, false⟩, ⟨[], some 5, false⟩, ⟨[], none, false⟩]), ("e", quiet 30)] ⟨1, 2⟩
    (costOf [5, 3, 7] 2) [] 5 ==
  some ([(0, 0, ["d", "e"]), (6, 17, ["d"]), (5, 20, ["d"])], false, [0, 0, 2])

-- P3, speed 3/2, costs 4, 3, 2, 6, 1; `d` waits for 10.
-- * real 2, `e`: in the middle of the initial tick [0, 4): stamp `0 + ⌊(2 - 0) * 3/2⌋ = 3`, relative
--   to its START.  Its tick is paced from the end of the initial tick: 4 + ⌈3 * 2/3⌉ = 6.
-- * real 9, `e`: tick 1 is [6, 9), so this is between ticks: stamp `3 + ⌊(9 - (6 + 3)) * 3/2⌋ = 3`,
--   relative to the END of tick 1; served at once, at real time 9 (tick 2, [9, 11)).
-- * real 10, `d`: in the middle of tick 2: stamp `3 + ⌊(10 - 9) * 3/2⌋ = 4` (`min 10 4` for `d`).
--   Its tick: 11 + ⌈1 * 2/3⌉ = 12 (tick 3, [12, 18); `d` then asks for 20: 18 + ⌈16 * 2/3⌉ = 29).
-- * real 30, `e`: tick 4 is [29, 30): between ticks, stamp `20 + ⌊(30 - (29 + 1)) * 3/2⌋ = 20`.
#guard run [("d", per 10 30), ("e", quiet 30)] ⟨3, 2⟩ (costOf [4, 3, 2, 6] 1)
    [⟨2, "e"⟩, ⟨9, "e"⟩, ⟨10, "d"⟩, ⟨30, "e"⟩] 6 ==
  some ([(0, 0, ["d", "e"]), (3, 6, ["e"]), (3, 9, ["e"]), (4, 12, ["d"]), (20, 29, ["d"]), (20, 30, ["e"]),
    (30, 38, ["d"])], true, [0, 0, 0, 1, 2, 2, 3])
#guard log [("d", per 10 30), ("e", quiet 30)] ⟨3, 2⟩ (costOf [4, 3, 2, 6] 1)
    [⟨2, "e"⟩, ⟨9, "e"⟩, ⟨10, "d"⟩, ⟨30, "e"⟩] 6 ==
  some [(2, "e", 1, true, 2, 3, "e", 3), (9, "e", 2, false, 9, 3, "e", 3), (10, "d", 3, true, 10, 4, "d", 4),
    (30, "e", 5, false, 30, 20, "e", 20)]
-- the stamp formulas on these numbers: between ticks (from the end 6 + 3 of tick 1; a later one:
-- real 14 after a tick [6, 9) at time 3 would give 3 + ⌊5 * 3/2⌋ = 10) and mid-tick (from the start 9)
example : interruptStamp 3 9 (6 + 3) ⟨3, 2⟩ = 3 + ((9 - (6 + 3)) * 3) / 2 := by decide
example : interruptStamp 3 14 (6 + 3) ⟨3, 2⟩ = 10 := by decide
example : interruptStamp 3 10 9 ⟨3, 2⟩ = 3 + ((10 - 9) * 3) / 2 := by decide
-- one step with a cost, as the code computes it: previous tick at time 0 started at 100 and took
-- 30 ns; the tick for 1000 at speed 2 is due 500 ns after its END: 130 + 500.  In `Props/C12.lean`
-- the same 30 ns spent after `last_time` was set give 100 + 500.
example : dueReal { tickerTime := 0, lastReal := 100 + 30, now := 100 + 30 } ⟨2, 1⟩ 1000 = 630 := by decide

end C12CostEx

/-
Not covered here:
* an upper bound on the lag for runs WITH stimuli (as in `Props/C12Run.lean`: an interrupt tick
  rounds the stamp DOWN to a whole simulated nanosecond and may be served after an earlier
  wakeup), with or without costs;
* for a stimulus handled in the MIDDLE of a tick, `Lawful` gives its stamp (relative to the start
  of the tick) and `runC_never_early` paces its tick from the END of that tick, so it is served
  `⌈⌊(now - real_k)·speed⌋/speed⌉ ≤ now - real_k` ns after the tick ends unless something earlier is
  served first (example above: arrival at 2 in the tick [0, 4), own tick at 4 + 2); here only the
  lower bound (P1) is proved for that, the upper bound is `c07C_first_tick` / `c07C_mid_gap` of
  `Props/C07Cost.lean`;
* the tick itself is atomic in the model (`tickLevel`): a mid-tick interrupt is applied to the
  wakeups left by the tick, which for the interrupting component and the tick in progress is what
  the code produces in either order of arrival (see `Core/SimCost.lean`; in LATER ticks the model
  lets a callback answer replace the interrupt's wakeup, see the header of `Props/C07Cost.lean`);
  the interleaving of a mid-tick interrupt with the updates of a NESTED scheduler that is itself in
  the middle of its tick is not modelled;
* the cost of a tick is a parameter (`cost k`): nothing is said about what determines it.
-/

end Tickit
