/-
C18, HTTP path — a request reaches exactly the matched endpoint's own handler, once; the interrupt
is raised iff that endpoint is declared interrupting, after the effect and before the reply; an
unmatched request runs nothing.  (Model: Core/Http.lean.  aiohttp's route resolution is a
parameter: `httpRequestWith_shape` holds for every resolver that returns only registered, accepting
routes and reports none only when there is none, and so does the permutation theorem
`httpRequestWith_perm` of `Lemmas/HttpLemmas`, of which `httpRequest_perm` and `httpRequestIdx_perm`
are the instances for the two resolvers of the model; the `httpRequest_*` theorems are about
registration-order resolution, the `httpRequestIdx_*` theorems about the indexed resolution of the
installed aiohttp 3.14.3, and the two agree on tables registered most specific first.)
-/
import TickitModel.Lemmas.HttpLemmas

namespace Tickit
namespace Http

/-- `firstMatch` is the FIRST endpoint, in registration order, whose method serves the request's
method and whose path template matches the whole path; `a` are the `{name}` segments it captures. -/
theorem firstMatch_spec (eps : List Endpoint) (m : Method) (p : Path) (e : Endpoint) (a : Args) :
    firstMatch eps m p = some (e, a) ↔
      ∃ i : Nat, eps[i]? = some e ∧ e.accepts m p = some a ∧
        ∀ j : Nat, j < i → ∀ e' : Endpoint, eps[j]? = some e' → e'.accepts m p = none :=
  findSome?_pair_eq_some_iff (fun e : Endpoint => e.accepts m p) eps e a

theorem firstMatch_none_iff (eps : List Endpoint) (m : Method) (p : Path) :
    firstMatch eps m p = none ↔ ∀ e ∈ eps, e.accepts m p = none :=
  findSome?_pair_eq_none_iff (fun e : Endpoint => e.accepts m p) eps

/-- registration-order resolution over the route definitions that `create_route_definitions`
builds picks the route of the first matching endpoint. -/
theorem resolveFirst_createRouteDefinitions (eps : List Endpoint) (m : Method) (p : Path) :
    resolveFirst (createRouteDefinitions eps) m p =
      (firstMatch eps m p).map (fun ea => (ea.1.define, ea.2)) := by
  unfold resolveFirst firstMatch createRouteDefinitions
  rw [List.findSome?_map, List.map_findSome?]
  congr 1
  funext e
  show (e.accepts m p).map _ = ((e.accepts m p).map _).map _
  rw [Option.map_map]
  rfl

/-- the trace of a request under registration-order resolution, in one equation: that of the
first matching endpoint, or aiohttp's error response. -/
theorem httpRequest_eq (eps : List Endpoint) (m : Method) (p : Path) :
    httpRequest eps m p =
      match firstMatch eps m p with
      | some (e, a) => e.trace a
      | none => [.error (if pathKnown (createRouteDefinitions eps) p then 405 else 404)] := by
  unfold httpRequest httpRequestWith serve
  rw [resolveFirst_createRouteDefinitions]
  cases firstMatch eps m p with
  | none => rfl
  | some ea => exact ea.1.define_serve ea.2

/-- **matched request.**  If `e` is the first endpoint that matches, the trace is exactly: `e`'s own
adapter method runs once with the captured path variables, then — iff `e` is declared interrupting —
`raise_interrupt()` is awaited, then the response that this method returned is sent. -/
theorem httpRequest_matched (eps : List Endpoint) (m : Method) (p : Path) (e : Endpoint) (a : Args)
    (h : firstMatch eps m p = some (e, a)) :
    httpRequest eps m p =
      [.effect e.handler a] ++ (if e.interrupt then [.interrupt] else []) ++ [.reply e.handler] := by
  rw [httpRequest_eq, h]
  rfl

/-- **unmatched request.**  No endpoint matches ⇒ the trace is a single error response
(405 if some template matches the path under another method, else 404): no adapter method runs,
no interrupt is raised. -/
theorem httpRequest_unmatched (eps : List Endpoint) (m : Method) (p : Path)
    (h : ∀ e ∈ eps, e.accepts m p = none) :
    httpRequest eps m p =
      [.error (if pathKnown (createRouteDefinitions eps) p then 405 else 404)] :=
  httpRequestWith_unmatched resolveFirst_sound eps m p h

def Event.isEffect : Event → Bool
  | .effect _ _ => true
  | _ => false

/-- **exactly once.**  One adapter-method run if some endpoint matches, else none; one interrupt if
the first matching endpoint is declared interrupting, else none. -/
theorem httpRequest_counts (eps : List Endpoint) (m : Method) (p : Path) :
    ((httpRequest eps m p).filter Event.isEffect).length =
        (if (firstMatch eps m p).isSome then 1 else 0) ∧
    (httpRequest eps m p).count .interrupt =
        (match firstMatch eps m p with
         | some (e, _) => if e.interrupt then 1 else 0
         | none => 0) := by
  rw [httpRequest_eq]
  cases firstMatch eps m p with
  | none => exact ⟨rfl, rfl⟩
  | some ea =>
    obtain ⟨⟨_, _, interrupt, _⟩, a⟩ := ea
    cases interrupt <;> exact ⟨rfl, rfl⟩

/-- **interrupt iff declared** by the first matching endpoint. -/
theorem httpRequest_interrupt_iff (eps : List Endpoint) (m : Method) (p : Path) :
    Event.interrupt ∈ httpRequest eps m p ↔
      ∃ e a, firstMatch eps m p = some (e, a) ∧ e.interrupt = true := by
  cases h : firstMatch eps m p with
  | none =>
    rw [httpRequest_unmatched eps m p ((firstMatch_none_iff eps m p).mp h)]
    simp
  | some ea =>
    obtain ⟨e, a⟩ := ea
    rw [httpRequest_matched eps m p e a h]
    cases hi : e.interrupt <;> simp [hi]

/-- **interrupt placement.**  Whenever an interrupt occurs, the trace is exactly
`[effect, interrupt, reply]`: one interrupt, strictly after the effect of the matched endpoint's
own method and strictly before its reply. -/
theorem httpRequest_interrupt_between (eps : List Endpoint) (m : Method) (p : Path)
    (h : Event.interrupt ∈ httpRequest eps m p) :
    ∃ e a, firstMatch eps m p = some (e, a) ∧
      httpRequest eps m p = [.effect e.handler a, .interrupt, .reply e.handler] := by
  obtain ⟨e, a, hfm, hi⟩ := (httpRequest_interrupt_iff eps m p).mp h
  exact ⟨e, a, hfm, by rw [httpRequest_matched eps m p e a hfm]; simp [hi]⟩

/-- **no match ⇒ nothing happens**, stated on the trace: no effect and no interrupt. -/
theorem httpRequest_unmatched_quiet (eps : List Endpoint) (m : Method) (p : Path)
    (h : ∀ e ∈ eps, e.accepts m p = none) :
    (∀ ev ∈ httpRequest eps m p, ev.isEffect = false) ∧ Event.interrupt ∉ httpRequest eps m p := by
  rw [httpRequest_unmatched eps m p h]
  simp [Event.isEffect]

/-- **aiohttp as a parameter.**  Whatever rule the router uses, as long as it returns only
registered routes that accept the request (`Sound`) and reports no route only when none accepts
(`Complete`): the trace is either the full, correctly ordered trace of ONE endpoint of the table
that accepts the request, or — when no endpoint accepts it — a single error response.
(`httpRequestWith_cases` of `Lemmas/HttpLemmas` with `Endpoint.trace` written out; that one also
gives the status of the error.) -/
theorem httpRequestWith_shape {R : Resolver} (hs : R.Sound) (hc : R.Complete)
    (eps : List Endpoint) (m : Method) (p : Path) :
    (∃ e ∈ eps, ∃ a, e.accepts m p = some a ∧
        httpRequestWith R eps m p =
          [.effect e.handler a] ++ (if e.interrupt then [.interrupt] else []) ++ [.reply e.handler]) ∨
    ((∀ e ∈ eps, e.accepts m p = none) ∧ ∃ s, httpRequestWith R eps m p = [.error s]) := by
  rcases httpRequestWith_cases hs hc eps m p with ⟨e, he, a, hacc, htr⟩ | ⟨hnone, htr⟩
  · exact Or.inl ⟨e, he, a, hacc, htr⟩
  · exact Or.inr ⟨hnone, _, htr⟩

/-- **own handler (what a late-binding closure would break).**  The `i`-th route definition that
`create_route_definitions` yields carries the method and path of the `i`-th endpoint and a
callable that invokes THAT endpoint's adapter method, for every position of every table, however
many interrupting endpoints there are. -/
theorem route_calls_own_handler (eps : List Endpoint) (i : Nat) (e : Endpoint)
    (h : eps[i]? = some e) :
    ∃ r, (createRouteDefinitions eps)[i]? = some r ∧ r.method = e.method ∧ r.path = e.path ∧
      r.handler.target = e.handler ∧
      ∀ a, r.handler.call a =
        ([.effect e.handler a] ++ (if e.interrupt then [.interrupt] else []), e.handler) := by
  refine ⟨e.define, by rw [createRouteDefinitions_getElem?, h]; rfl, rfl, rfl, e.wrapped_target, ?_⟩
  intro a
  exact e.wrapped_call a

/-- the same on the trace: every effect and every reply event of a request names the handler stored
with the first matching endpoint — never another endpoint's. -/
theorem httpRequest_handler_is_matched (eps : List Endpoint) (m : Method) (p : Path) (e : Endpoint)
    (a : Args) (h : firstMatch eps m p = some (e, a)) :
    (∀ h' a', Event.effect h' a' ∈ httpRequest eps m p → h' = e.handler ∧ a' = a) ∧
    (∀ h', Event.reply h' ∈ httpRequest eps m p → h' = e.handler) := by
  rw [httpRequest_matched eps m p e a h]
  cases e.interrupt <;> simp

/-- three interrupting endpoints (and two that are not), as in the IoBox-like valve adapter used
by the seeded change C18-m6. -/
def exValve : List Endpoint :=
  [ ⟨[.lit "close"], "PUT", true, 10⟩,
    ⟨[.lit "open"], "PUT", true, 11⟩,
    ⟨[.lit "state"], "GET", false, 12⟩,
    ⟨[.lit "vent"], "PUT", true, 13⟩,
    ⟨[.lit "zero", .var "ch"], "POST", false, 14⟩ ]

example : startsOk exValve = true ∧ nonOverlapping exValve = true := by decide +kernel

/-- every one of the three interrupting endpoints runs its own method and replies with its own
response; the non-interrupting ones raise no interrupt; an unknown path or method runs nothing. -/
example :
    httpRequest exValve "PUT" ["close"] = [.effect 10 [], .interrupt, .reply 10] ∧
    httpRequest exValve "PUT" ["open"] = [.effect 11 [], .interrupt, .reply 11] ∧
    httpRequest exValve "PUT" ["vent"] = [.effect 13 [], .interrupt, .reply 13] ∧
    httpRequest exValve "GET" ["state"] = [.effect 12 [], .reply 12] ∧
    httpRequest exValve "HEAD" ["state"] = [.effect 12 [], .reply 12] ∧
    httpRequest exValve "POST" ["zero", "3"] = [.effect 14 [("ch", "3")], .reply 14] ∧
    httpRequest exValve "GET" ["open"] = [.error 405] ∧
    httpRequest exValve "PUT" ["shut"] = [.error 404] := by decide +kernel

/-- the late-binding variant (seeded change C18-m6: the wrapper is defined inside the loop and
refers to a variable of the enclosing generator frame): every interrupting endpoint's wrapper
calls the method of the LAST interrupting endpoint.  NOT the code; a counter-model. -/
def createRouteDefinitionsLateBound (eps : List Endpoint) : List RouteDef :=
  let last := ((eps.filter (·.interrupt)).getLast?.map (·.handler)).getD 0
  eps.map (fun e => ⟨e.method, e.path, if e.interrupt then .posthoc (.bound last) else .bound e.handler⟩)

/-- `route_calls_own_handler` is what separates the code from the late-binding variant: there the
route of `/close` (position 0) invokes `/vent`'s method 13, and `PUT /close` has `/vent`'s effect
and reply.  (With a single interrupting endpoint the two coincide.) -/
example :
    ((createRouteDefinitionsLateBound exValve)[0]?.map (·.handler.target)) = some 13 ∧
    ((createRouteDefinitions exValve)[0]?.map (·.handler.target)) = some 10 ∧
    serve resolveFirst (createRouteDefinitionsLateBound exValve) "PUT" ["close"] =
      [.effect 13 [], .interrupt, .reply 13] := by decide +kernel

/-- **permuting non-overlapping routes changes nothing.**  If no request is accepted by two
entries of the table (`nonOverlapping`, a decidable syntactic test that is exact, see
`overlaps_exact`), then every request has the same trace under every arrangement of the table. -/
theorem httpRequest_perm (eps eps' : List Endpoint) (hp : eps.Perm eps')
    (hno : nonOverlapping eps = true) (m : Method) (p : Path) :
    httpRequest eps m p = httpRequest eps' m p :=
  httpRequestWith_perm resolveFirst_sound resolveFirst_complete resolveFirst_sound
    resolveFirst_complete eps eps' hp hno m p

/-- the overlap test means what it says: two endpoints overlap iff some request (method and
path) is accepted by both. -/
theorem overlaps_exact (e f : Endpoint) :
    e.overlaps f = true ↔ ∃ m p, (e.accepts m p).isSome ∧ (f.accepts m p).isSome :=
  Endpoint.overlaps_iff e f

/-- permuting non-overlapping routes changes nothing under the indexed resolution of aiohttp 3.14.3
either, which on such a table serves every request exactly as registration-order resolution does. -/
theorem httpRequestIdx_perm (eps eps' : List Endpoint) (hp : eps.Perm eps')
    (hno : nonOverlapping eps = true) (m : Method) (p : Path) :
    httpRequestIdx eps m p = httpRequestIdx eps' m p ∧ httpRequestIdx eps m p = httpRequest eps' m p :=
  ⟨httpRequestWith_perm resolveIndexed_sound resolveIndexed_complete resolveIndexed_sound
      resolveIndexed_complete eps eps' hp hno m p,
   httpRequestWith_perm resolveIndexed_sound resolveIndexed_complete resolveFirst_sound
      resolveFirst_complete eps eps' hp hno m p⟩

example : httpRequest exValve.reverse "PUT" ["open"] = httpRequest exValve "PUT" ["open"] :=
  (httpRequest_perm exValve exValve.reverse (List.reverse_perm exValve).symm (by decide +kernel) _ _).symm

/-- discovery: `get_endpoints` visits the adapter's members in name order, so the table is a
rearrangement of the marked methods that does not depend on the order in which the class body
declares them; for non-overlapping routes the method NAMES are therefore irrelevant too. -/
theorem getEndpoints_perm (members members' : List (String × Option Endpoint))
    (hp : members.Perm members') : (getEndpoints members).Perm (getEndpoints members') := by
  unfold getEndpoints
  exact ((List.mergeSort_perm _ _).trans (hp.trans (List.mergeSort_perm _ _).symm)).filterMap _

theorem getEndpoints_names_irrelevant (members : List (String × Option Endpoint))
    (hno : nonOverlapping (members.filterMap (·.2)) = true) (m : Method) (p : Path) :
    httpRequest (getEndpoints members) m p = httpRequest (members.filterMap (·.2)) m p := by
  have hp : (getEndpoints members).Perm (members.filterMap (·.2)) :=
    (List.mergeSort_perm _ _).filterMap _
  exact (httpRequest_perm _ _ hp.symm hno m p).symm

/-- **indexed resolution (aiohttp 3.14.3).**  The endpoint that serves a request is a matching
endpoint whose template has a literal prefix of maximal length, and among those the first
registered; the trace is that endpoint's, in the order of `httpRequest_matched` (effect, interrupt
iff declared, reply). -/
theorem httpRequestIdx_matched (eps : List Endpoint) (m : Method) (p : Path) (i : Nat) (e : Endpoint)
    (a : Args) (hi : eps[i]? = some e) (hacc : e.accepts m p = some a)
    (hbest : ∀ (j : Nat) (e' : Endpoint), eps[j]? = some e' → (e'.accepts m p).isSome →
      e'.spec < e.spec ∨ (e'.spec = e.spec ∧ i ≤ j)) :
    httpRequestIdx eps m p =
      [.effect e.handler a] ++ (if e.interrupt then [.interrupt] else []) ++ [.reply e.handler] := by
  have hr : resolveIndexed (createRouteDefinitions eps) m p = some (e.define, a) := by
    rw [resolveIndexed_eq_some_iff]
    refine ⟨i, by rw [createRouteDefinitions_getElem?, hi]; rfl, hacc, fun j r' hr' hacc' => ?_⟩
    rw [createRouteDefinitions_getElem?] at hr'
    obtain ⟨e', hj, rfl⟩ := Option.map_eq_some_iff.mp hr'
    exact hbest j e' hj hacc'
  unfold httpRequestIdx httpRequestWith serve
  rw [hr]
  exact e.define_serve a

theorem httpRequestIdx_unmatched (eps : List Endpoint) (m : Method) (p : Path)
    (h : ∀ e ∈ eps, e.accepts m p = none) :
    httpRequestIdx eps m p =
      [.error (if pathKnown (createRouteDefinitions eps) p then 405 else 404)] :=
  httpRequestWith_unmatched resolveIndexed_sound eps m p h

/-- **when registration order IS what aiohttp does.**  If overlapping routes are registered most
specific first (`specificityOrdered`, decidable; in particular if no routes overlap), the installed
aiohttp serves every request exactly as registration-order resolution does. -/
theorem httpRequestIdx_eq_httpRequest (eps : List Endpoint) (hord : specificityOrdered eps = true)
    (m : Method) (p : Path) : httpRequestIdx eps m p = httpRequest eps m p := by
  cases hfm : firstMatch eps m p with
  | none =>
    have hn := (firstMatch_none_iff eps m p).mp hfm
    rw [httpRequestIdx_unmatched eps m p hn, httpRequest_unmatched eps m p hn]
  | some ea =>
    obtain ⟨e, a⟩ := ea
    obtain ⟨i, hi, hacc, hbefore⟩ := (firstMatch_spec eps m p e a).mp hfm
    rw [httpRequest_matched eps m p e a hfm]
    apply httpRequestIdx_matched eps m p i e a hi hacc
    intro j e' hj hacc'
    have hij : i ≤ j := Nat.le_of_not_lt fun h => by
      rw [hbefore j h e' hj] at hacc'
      cases hacc'
    rcases Nat.lt_or_eq_of_le hij with hlt | rfl
    · have hov : e.overlaps e' = true :=
        (Endpoint.overlaps_iff e e').mpr ⟨m, p, hacc ▸ rfl, hacc'⟩
      obtain ⟨hi', rfl⟩ := List.getElem?_eq_some_iff.mp hi
      obtain ⟨hj', rfl⟩ := List.getElem?_eq_some_iff.mp hj
      rcases List.pairwise_iff_getElem.mp ((specificityOrdered_iff eps).mp hord) i j hi' hj' hlt
        with h | h
      · rw [hov] at h
        cases h
      · exact (Nat.lt_or_eq_of_le h).imp_right fun h => ⟨h, hij⟩
    · cases hi.symm.trans hj
      exact Or.inr ⟨rfl, hij⟩

example : specificityOrdered exValve = true ∧
    specificityOrdered [⟨[.lit "a", .lit "b"], "GET", false, 1⟩, ⟨[.lit "a", .var "x"], "GET", false, 0⟩] = true ∧
    nonOverlapping [⟨[.lit "a", .lit "b"], "GET", false, 1⟩, ⟨[.lit "a", .var "x"], "GET", false, 0⟩] = false := by
  decide +kernel

/-- the two resolutions differ only on overlapping routes of different specificity: `/a/{x}`
registered before `/a/b`.  Registration order serves `GET /a/b` from the first, the installed
aiohttp from the second (observed on aiohttp 3.14.3). -/
example :
    let eps : List Endpoint := [⟨[.lit "a", .var "x"], "GET", false, 0⟩, ⟨[.lit "a", .lit "b"], "GET", true, 1⟩]
    httpRequest eps "GET" ["a", "b"] = [.effect 0 [("x", "b")], .reply 0] ∧
    httpRequestIdx eps "GET" ["a", "b"] = [.effect 1 [], .interrupt, .reply 1] ∧
    nonOverlapping eps = false := by decide +kernel

end Http
end Tickit
