/-
C03 / C07 / C08 through system boundaries WITH INTERRUPTS — the whole-simulation model with
external stimuli refines the flat multi-tick system with interrupts `FlatRunI`
(`Core/FlatInt.lean`) over the RESOLVED device-level wiring.

`Props/C03Nested.lean` closes the gap between the whole-simulation model (`masterInitial` /
`masterRun`) and the nondeterministic flat system for CALLBACK histories.  This file does the same
for histories with stimuli (`List Stim`, interrupts raised between ticks), in three steps: a run on a
FLAT configuration is a `FlatRunI` (`flat_sim_is_flatRunI`, by `Lemmas/RefineStim.lean`); with C09
(`nesting_transparent_run_gen`: the nested run and the run on the flattened configuration handle the same
stimuli) a NESTED run has the observations of a `FlatRunI` over the resolved wiring
(`nested_refines_flatRunI`); the flat theorems `synced_runI`, `schedule_independentI` go through system
boundaries (`nested_inputs_synced_int`, `nested_schedule_independent_int`).
-/
import TickitModel.Props.C03Nested
import TickitModel.Props.FlatInt

namespace Tickit

open Pacing

/-- **Step 1: a flat whole-simulation run with stimuli is a `FlatRunI`.**  For a flat, structurally
valid configuration (`S.WF`: the components of the wiring are the children of the master), a
completed initial tick followed by any history of callback ticks and of stimuli on components of
the wiring is a run of the flat multi-tick system with interrupts over the same wiring, for
suitable (oracle-derived, extensional) device functions and a script `sc`, with the same observation
log and the same tick times.  The script's interrupts are exactly the stimuli the master handled
(`Pacing.runLog`, in order): the stimulus handled when `ev.k` tick records had been written comes
after `ev.k - 1` `.tick`s of the script (`interruptsAt sc 1`), with the stamp the master computed.  The
stamps are timely: never before the time of the last tick (`StampsTimely`, the hypothesis of
`time_monotoneI`, `wake_not_beforeI`, `pending_not_overtakenI`). -/
theorem flat_sim_is_flatRunI (S : Static) (hS : S.WF) (hflat : S.IsFlat) (L : Level)
    (hL : S.level "" = some L) (orc : Oracle) (fuel : Nat) (t0 : SimTime) (now : Int) (sp : Speed)
    (steps nTicks : Nat) (stims : List Stim)
    (hst : ∀ st ∈ stims, st.comp ∈ L.wiring.components)
    (m m2 : MasterSt) (tr : TickRec) (ticks : List TickRec)
    (h : masterInitial S orc fuel t0 now = .ok (m, tr))
    (h2 : masterRun S orc fuel sp steps nTicks m stims [tr] = .ok (m2, ticks)) :
    ∃ (devs : DevSeq V) (sc : List FAct) (fl : FlatSt V) (times : List SimTime),
      (∀ k, DevExt (devs k)) ∧
      FlatRunI L.wiring devs t0 sc (ticks.length - 1) fl times ∧
      fl.obs = m2.sim.obsList ∧ times = (ticks.map (·.time)).reverse ∧
      interruptsAt sc 1 = (runLog S orc fuel sp steps nTicks m stims 1).map
        (fun ev => (ev.k, ev.st.comp, ev.stamp sp)) ∧
      StampsTimely sc times := by
  obtain ⟨hLm, hname⟩ := Static.level_some hL
  -- all that is needed of `S.WF`: the stimulated components are children of the master in
  -- `S.parent`, so that `raiseInterrupt` reports the component itself (`S.IsFlat` does not mention
  -- `S.parent`; see `raiseInterrupt_needs_parent` below)
  have hpar : ∀ st ∈ stims, st.comp ∈ L.wiring.components ∧ alookup S.parent st.comp = some "" := by
    intro st hs
    refine ⟨hst st hs, ?_⟩
    rcases hS.members L hLm st.comp (hst st hs) with hp | ⟨hne, _⟩
    · rw [hp, hname]
    · exact absurd hname hne
  obtain ⟨devs, sc, fl, times, hinv, _, hlog⟩ := RefineStim.sim_flatRunI hflat.1 hL hpar h h2
  exact ⟨devs, sc, fl, times, hinv.ext, hinv.run, hinv.rel.obs, hinv.times_eq, hlog, hinv.timely⟩

theorem script_interrupts_of_interruptsAt {sc : List FAct} {k0 : Nat} {log : List StimEv}
    {sp : Speed} (h : interruptsAt sc k0 = log.map (fun ev => (ev.k, ev.st.comp, ev.stamp sp))) :
    sc.filterMap FAct.interruptOf = log.map (fun ev => (ev.st.comp, ev.stamp sp)) := by
  rw [interruptsAt_forget sc k0, h, List.map_map]
  rfl

theorem runLog_stims (S : Static) (orc : Oracle) (fuel : Nat) (sp : Speed) (steps nTicks : Nat)
    (m : MasterSt) (stims : List Stim) (acc : List TickRec) (m2 : MasterSt) (ticks : List TickRec)
    (h2 : masterRun S orc fuel sp steps nTicks m stims acc = .ok (m2, ticks)) :
    ∃ rest, stims = (runLog S orc fuel sp steps nTicks m stims acc.length).map (·.st) ++ rest :=
  (masterRun_runLog S orc fuel sp steps nTicks m stims acc m2 ticks h2).log_stims

/-- why step 1 asks for `S.WF`: `S.IsFlat` says nothing about
`S.parent`, and with a stray parent entry the master sees ANOTHER component interrupting. -/
theorem raiseInterrupt_needs_parent :
    let S : Static := ⟨[⟨"", Wiring.fromInverse [("a", [])]⟩], [], [("a", "x")]⟩
    S.IsFlat ∧ "a" ∈ (Wiring.fromInverse [("a", [])]).components ∧
      (raiseInterrupt S 2 "a" {}).2 = "x" := by
  refine ⟨⟨rfl, _, rfl, rfl⟩, by decide, by decide⟩

/-- **Step 2: the nested model refines the flat system with interrupts over the resolved wiring.**
Every completed nested run — initial tick, callback ticks, and timely stimuli on interrupt-safe
devices at any depth (the hypotheses of C09 `nesting_transparent_run_stims`) — has the tick times
and, device by device, the observations of a `FlatRunI` over the wiring of the flattened
configuration, with extensional device functions, whose script's interrupts are exactly the
stimuli handled by the NESTED run (`Pacing.runLog` of the nested run), each on the interrupted
DEVICE itself, at the same point of the history and with the stamp the nested master computed; the
stamps are timely. -/
theorem nested_refines_flatRunI (S : Static) (hS : S.Valid) (orc : Oracle) (fuel rfuel : Nat)
    (hr : S.resolveFuel ≤ rfuel) (t0 : SimTime) (now : Int) (sp : Speed) (steps nTicks : Nat)
    (stims : List Stim) (hdev : ∀ st ∈ stims, S.isDevice st.comp) (hsafe : orc.InterruptSafe stims)
    (m m2 : MasterSt) (tr : TickRec) (ticks : List TickRec)
    (h : masterInitial S orc fuel t0 now = .ok (m, tr))
    (htimely : stimsTimely S orc fuel sp steps nTicks false m stims = true)
    (h2 : masterRun S orc fuel sp steps nTicks m stims [tr] = .ok (m2, ticks)) :
    ∃ (devs : DevSeq V) (sc : List FAct) (st : FlatSt V) (times : List SimTime),
      (∀ k, DevExt (devs k)) ∧
      FlatRunI (Wiring.fromInverse (S.flatInverse rfuel)) devs t0 sc (ticks.length - 1) st times ∧
      times = (ticks.map (·.time)).reverse ∧
      (∀ d, ObsEq (m2.sim.obsOf d) (st.obsOf d)) ∧
      interruptsAt sc 1 = (runLog S orc fuel sp steps nTicks m stims 1).map
        (fun ev => (ev.k, ev.st.comp, ev.stamp sp)) ∧
      StampsTimely sc times := by
  obtain ⟨m', tr', m2', ticks', h', hrun', ht, _, ⟨_, _, hc, _⟩, hagree⟩ :=
    nesting_transparent_run_gen S hS orc fuel rfuel (hS.resolveStable hr) t0 now sp steps nTicks
      stims hdev hsafe m m2 tr ticks h htimely h2
  obtain ⟨hS', hflat, hL, _⟩ := flatten_facts S hS rfuel
  have hst' : ∀ st ∈ stims, st.comp ∈ (Wiring.fromInverse (S.flatInverse rfuel)).components :=
    fun st hs => (S.flatW_components hS rfuel st.comp).2 (Static.mem_devices_iff.2 (hdev st hs))
  obtain ⟨devs, sc, st, times, hext, hfr, hob, htm, hlog, hty⟩ :=
    flat_sim_is_flatRunI (S.flatten rfuel) hS'.toWF hflat _ hL orc 1 t0 now sp steps nTicks
      stims hst' m' m2' tr' ticks' h' hrun'
  have hlen : ticks.length = ticks'.length := by simpa using congrArg List.length ht
  refine ⟨devs, sc, st, times, hext, ?_, ?_, fun d => ?_, hlog.trans hagree.symm, hty⟩
  · rw [hlen]; exact hfr
  · rw [htm, ht]
  · rw [obsOf_of_obs_eq hob d]; exact hc.dev.obs d

/-- **C03 through system boundaries, with interrupts.**  In a completed nested run with timely
stimuli on interrupt-safe devices every observation of every device, at whatever depth — whether
made in a tick that serves a callback or an interrupt — is explained by a flat run with the same
interrupts over the resolved wiring that is `Synced`: the inputs it was given are, port by port,
the latest values reported on the resolved source outputs. -/
theorem nested_inputs_synced_int (S : Static) (hS : S.Valid) (orc : Oracle) (fuel rfuel : Nat)
    (hr : S.resolveFuel ≤ rfuel) (t0 : SimTime) (now : Int) (sp : Speed) (steps nTicks : Nat)
    (stims : List Stim) (hdev : ∀ st ∈ stims, S.isDevice st.comp) (hsafe : orc.InterruptSafe stims)
    (m m2 : MasterSt) (tr : TickRec) (ticks : List TickRec)
    (h : masterInitial S orc fuel t0 now = .ok (m, tr))
    (htimely : stimsTimely S orc fuel sp steps nTicks false m stims = true)
    (h2 : masterRun S orc fuel sp steps nTicks m stims [tr] = .ok (m2, ticks)) :
    ∃ (devs : DevSeq V) (sc : List FAct) (st : FlatSt V) (times : List SimTime),
      FlatRunI (Wiring.fromInverse (S.flatInverse rfuel)) devs t0 sc (ticks.length - 1) st times ∧
      Synced (Wiring.fromInverse (S.flatInverse rfuel)) st ∧
      (∀ d, ObsEq (m2.sim.obsOf d) (st.obsOf d)) ∧
      interruptsAt sc 1 = (runLog S orc fuel sp steps nTicks m stims 1).map
        (fun ev => (ev.k, ev.st.comp, ev.stamp sp)) := by
  obtain ⟨devs, sc, st, times, _, hfr, _, hobs, hlog, _⟩ :=
    nested_refines_flatRunI S hS orc fuel rfuel hr t0 now sp steps nTicks stims hdev hsafe
      m m2 tr ticks h htimely h2
  have hsy := synced_runI _ (flatten_facts S hS rfuel).2.2.2.1 devs t0 sc _ st times hfr
  exact ⟨devs, sc, st, times, hfr, hsy, hobs, hlog⟩

/-- **C08 through system boundaries, with interrupts.**  The observations of a completed nested
run with stimuli are those of EVERY run of the flat system over the resolved wiring with the run's
(extensional, oracle-derived) device functions and the run's script — the same stimuli at the same
points of the history with the same stamps — whatever the answer orders inside the ticks. -/
theorem nested_schedule_independent_int (S : Static) (hS : S.Valid) (orc : Oracle)
    (fuel rfuel : Nat) (hr : S.resolveFuel ≤ rfuel) (t0 : SimTime) (now : Int) (sp : Speed)
    (steps nTicks : Nat) (stims : List Stim) (hdev : ∀ st ∈ stims, S.isDevice st.comp)
    (hsafe : orc.InterruptSafe stims) (m m2 : MasterSt) (tr : TickRec) (ticks : List TickRec)
    (h : masterInitial S orc fuel t0 now = .ok (m, tr))
    (htimely : stimsTimely S orc fuel sp steps nTicks false m stims = true)
    (h2 : masterRun S orc fuel sp steps nTicks m stims [tr] = .ok (m2, ticks)) :
    ∃ (devs : DevSeq V) (sc : List FAct), (∀ k, DevExt (devs k)) ∧
      interruptsAt sc 1 = (runLog S orc fuel sp steps nTicks m stims 1).map
        (fun ev => (ev.k, ev.st.comp, ev.stamp sp)) ∧
      (∃ st times,
        FlatRunI (Wiring.fromInverse (S.flatInverse rfuel)) devs t0 sc (ticks.length - 1) st times) ∧
      ∀ n st times, FlatRunI (Wiring.fromInverse (S.flatInverse rfuel)) devs t0 sc n st times →
        n = ticks.length - 1 ∧ times = (ticks.map (·.time)).reverse ∧
        ∀ d, ObsEq (m2.sim.obsOf d) (st.obsOf d) := by
  obtain ⟨devs, sc, st, times, hext, hfr, htm, hobs, hlog, _⟩ :=
    nested_refines_flatRunI S hS orc fuel rfuel hr t0 now sp steps nTicks stims hdev hsafe
      m m2 tr ticks h htimely h2
  obtain ⟨_, _, _, hro, hac⟩ := flatten_facts S hS rfuel
  refine ⟨devs, sc, hext, hlog, ⟨st, times, hfr⟩, fun n2 st2 times2 hfr2 => ?_⟩
  obtain ⟨e0, e1, e2, _⟩ := schedule_independentI _ hro hac devs hext t0 sc _ _ st st2 times times2 hfr hfr2
  exact ⟨e0.symm, by rw [← e1, htm], fun d => Det.obsEq_trans (hobs d) (e2 d)⟩

/-! ### non-vacuity (checked at build time)

The three-level configuration `C09StimCex.S1` with the four stimuli of the sanity check of
`Lemmas/FlattenStimCex.lean` (timely, interrupt-safe devices at depths 0, 1, 2; both runs complete
with the tick times `[0, 3, 4, 7, 8, 10, 12, 14, 20]`): the log of the NESTED run — what the
interrupts of the script of step 2 are — has four entries, and it is the log of the run of the
flattened configuration (`nesting_transparent_run_gen`). -/

section NonVacuity
open C09StimCex

/-- the `(position, device, stamp)` triples of the stimuli handled by a run of 8 ticks -/
def exHandled (S : Static) (fuel : Nat) (stims : List Stim) : List (Nat × Comp × SimTime) :=
  match masterInitial S orc1 fuel 0 0 with
  | .ok (m, _) => (runLog S orc1 fuel ⟨1, 1⟩ 200 8 m stims 1).map (RefineStim.evKey ⟨1, 1⟩)
  | .error _ => []

#guard timely S1 orc1 ⟨1,1⟩ 8 [⟨3, "d5"⟩, ⟨4, "d1"⟩, ⟨8, "d4"⟩, ⟨12, "d3"⟩]
#guard exHandled S1 10 [⟨3, "d5"⟩, ⟨4, "d1"⟩, ⟨8, "d4"⟩, ⟨12, "d3"⟩] ==
  [(1, "d5", 3), (2, "d1", 4), (4, "d4", 8), (6, "d3", 12)]
#guard exHandled (S1.flatten 30) 1 [⟨3, "d5"⟩, ⟨4, "d1"⟩, ⟨8, "d4"⟩, ⟨12, "d3"⟩] ==
  [(1, "d5", 3), (2, "d1", 4), (4, "d4", 8), (6, "d3", 12)]

end NonVacuity

/-
NOT COVERED — C04 with interrupts through the refinement (a `time_monotoneI` for nested runs): no
such theorem is stated.  `time_monotoneI` needs
`NoPastCallbacks devs` (`∀ k c t ins w, (devs k c t ins).callAt = some w → t ≤ w`, for EVERY time
`t`).  The device functions of the refinement (`Refine.devOf`: the next recorded response of the
oracle) ignore the time they are called at, so for them `NoPastCallbacks` holds only if no recorded
response ever requests a callback: the transferred statement would be (nearly) vacuous.  An honest
version needs device functions that answer only at the time of their tick plus a congruence lemma
for `TickRun` (a tick at `t` consults its device function at time `t` only); that is not cheap, and
`sim_time_monotone` (`Props/C04Mono.lean`) already proves monotonicity of the whole-simulation
model directly, with stimuli, under a hypothesis on the recorded responses.  What IS delivered for
C04: the refined script satisfies `StampsTimely` (step 1, step 2) — the interrupt-side hypothesis of
`time_monotoneI`, `wake_not_beforeI`, `pending_not_overtakenI`.
-/

end Tickit
