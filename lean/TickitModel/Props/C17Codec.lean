/-
C17 — writing a configuration out and loading it back gives an equal configuration, at any nesting
depth; an unknown tag is rejected; decoding uses the registry through `dispatch` only.
-/
import TickitModel.Lemmas.CodecLemmas

namespace Tickit

/-- **round trip**: decoding the encoding of a well-formed entry (tag registered, exactly the
class's fields) returns that entry — of exactly the class named by its tag — for any nesting depth. -/
theorem config_roundtrip (reg : List ClassSig) (e : Entry) (h : e.WFor reg) (fuel : Nat) (hf : e.depth ≤ fuel) :
    decode reg fuel e.encode = some e :=
  Entry.roundtrip reg e h fuel hf

/-- an entry whose tag names no registered class is rejected, whatever its fields -/
theorem unknown_tag_rejected (reg : List ClassSig) (e : Entry) (fuel : Nat)
    (h : dispatch reg e.tag = none) : decode reg fuel e.encode = none := by
  obtain ⟨tag, name, inputs, fields, children⟩ := e
  exact decode_unknown_tag reg fuel tag name inputs fields children h

/-- two registries under which EVERY tag names the same class decode alike, at every depth (they may
differ as lists: in order, or in entries shadowed by an earlier one with the same tag) -/
theorem decode_depends_on_tag_only (reg reg' : List ClassSig) (fuel : Nat) (d : Data)
    (h : ∀ tag, dispatch reg tag = dispatch reg' tag) : decode reg fuel d = decode reg' fuel d :=
  decode_congr reg reg' h fuel d

end Tickit
