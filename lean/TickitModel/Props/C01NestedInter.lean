/-
C01 through nesting — FULLY CONCURRENT (`Core/SimInter.lean`): the inner ticks of sibling system
components interleave step by step, and the global observation list is written in real-time order
by all active scheduler levels.  Still, in every complete interleaved execution of a tick no
device, at whatever depth, is updated more than once, and a device is updated only AFTER every
device that feeds it and is updated in the tick.

"At most once" comes from the atomic counterpart `tickInter_atomic` of the execution and the
any-order theorem.  The order is NOT inherited that way (the atomic counterpart has a different
global observation list); it is proved directly on the small-step semantics
(`Lemmas/InterOrder.lean`).
-/
import TickitModel.Lemmas.InterOrder
import TickitModel.Props.C01NestedAny

namespace Tickit

/-- **C01 through nesting, fully concurrent, at most once.**  In every complete interleaved
execution of a tick every component's observation sequence grows by at most one entry, stamped with
the tick's time: no device, at whatever depth, is updated twice in a tick. -/
theorem interleaved_update_at_most_once (S : Static) (hS : S.Valid) (orc : Oracle) (lvl : Comp)
    (t : SimTime) (roots : List Comp) (inCh : List (Port × V)) (hn : (akeys inCh).Nodup) (st : SimSt)
    (r : SimSt × List (Port × V)) (h : TickInter S orc lvl t roots inCh st r) (x : Comp) :
    r.1.obsOf x = st.obsOf x ∨ ∃ m, r.1.obsOf x = st.obsOf x ++ [(t, m)] := by
  obtain ⟨st'', ha, hl⟩ := tickInter_atomic hS h
  have hx : st''.obsOf x = r.1.obsOf x := congrArg SLoc.ob (hl x)
  rw [← hx]
  exact any_order_update_at_most_once S hS orc lvl t roots inCh hn st _ ha x

/-- `interleaved_update_at_most_once` in terms of update counts -/
theorem interleaved_updates_le (S : Static) (hS : S.Valid) (orc : Oracle) (lvl : Comp)
    (t : SimTime) (roots : List Comp) (inCh : List (Port × V)) (hn : (akeys inCh).Nodup) (st : SimSt)
    (r : SimSt × List (Port × V)) (h : TickInter S orc lvl t roots inCh st r) (x : Comp) :
    (r.1.obsOf x).length ≤ (st.obsOf x).length + 1 := by
  rcases interleaved_update_at_most_once S hS orc lvl t roots inCh hn st r h x with h | ⟨m, h⟩
  · rw [h]; omega
  · rw [h]; simp

/-- **C01 through nesting, order, fully concurrent (structural form).**  In every complete
interleaved execution of a tick, whenever `x` feeds `y` (`S.Feeds x y`: `x` belongs to a component
that is wired — directly or through other components — into the component `y` belongs to, at the
level where their places in the nesting tree separate) and both are updated in the tick, the update
of `x` comes before the update of `y` in the global (real-time) observation list — also when `x` and
`y` live in different system simulations whose inner ticks overlapped in time. -/
theorem interleaved_update_order (S : Static) (hS : S.Valid) (orc : Oracle) (lvl : Comp)
    (t : SimTime) (roots : List Comp) (inCh : List (Port × V)) (st : SimSt)
    (r : SimSt × List (Port × V)) (h : TickInter S orc lvl t roots inCh st r) :
    ∃ new, r.1.obs = st.obs ++ new ∧ (∀ o ∈ new, S.Below lvl o.comp) ∧
      ∀ pre oy post, new = pre ++ oy :: post → ∀ ox ∈ new, S.Feeds ox.comp oy.comp → ox ∈ pre :=
  tickInter_ordered hS h

/-- **C01 through nesting, order, fully concurrent (resolved wiring).**  In every complete
interleaved execution of a tick a device is updated only AFTER every device that feeds it through
the resolved (flattened) wiring — the wires after resolving `expose` / `external` — and is updated
in the same tick, at whatever depths the two devices live. -/
theorem interleaved_update_after_resolved_sources (S : Static) (hS : S.Valid) (orc : Oracle)
    (rfuel : Nat) (lvl : Comp) (t : SimTime) (roots : List Comp) (inCh : List (Port × V))
    (st : SimSt) (r : SimSt × List (Port × V)) (h : TickInter S orc lvl t roots inCh st r) :
    ∃ new, r.1.obs = st.obs ++ new ∧
      ∀ pre oy post, new = pre ++ oy :: post → ∀ ox ∈ new, ∀ p q,
        (Wiring.fromInverse (S.flatInverse rfuel)).Conn ox.comp p oy.comp q → ox ∈ pre := by
  obtain ⟨new, h1, _, h3⟩ := tickInter_ordered hS h
  exact ⟨new, h1, fun pre oy post hsp ox hox p q hc =>
    h3 pre oy post hsp ox hox (flat_wire_feeds hS rfuel hc)⟩

end Tickit
