/-
C08 through nesting — ANY answer order at EVERY nesting depth.

`Core/SimAny.lean` states one tick of the nested whole-simulation model as a relation
`TickLevelAny` in which every scheduler level may answer any pending dispatch next, and the answer
of a system component is any such execution of its inner level (`Core/Sim.lean` fixes first-in
first-out at every level).  The FIFO model is one of the executions (`fifo_is_any`); on a valid
configuration two executions of the same tick from equivalent states end equivalently
(`nested_any_order_deterministic`); and the FIFO model completes every tick that has an execution at
all (`any_order_fifo_exists`), so that agreement with it needs no assumption about it.

Equivalence of states (`SimSt.Equiv`, unfolded by `simSt_equiv_iff`) compares maps as mappings and
the observations device by device (inputs as mappings, `ObsEq`).  The global observation list is an
interleaving and DOES differ between executions; association lists differ in key order.

This file is about ONE tick; whole runs of the master loop are in `Props/C08NestedAnyRun.lean`.
-/
import TickitModel.Lemmas.AnyDet
import TickitModel.Lemmas.AnyLive

namespace Tickit

theorem simSt_equiv_iff (a b : SimSt) :
    a.Equiv b ↔ ∀ x,
      MapEq (agetD a.devs x {}).deviceInputs (agetD b.devs x {}).deviceInputs ∧
      MapEq (agetD a.devs x {}).lastOutputs (agetD b.devs x {}).lastOutputs ∧
      agetD a.count x 0 = agetD b.count x 0 ∧
      (MapEq (a.sched x).wake (b.sched x).wake ∧ UniqueKeys (a.sched x).wake ∧
        UniqueKeys (b.sched x).wake ∧ (∀ c, c ∈ (a.sched x).interrupts ↔ c ∈ (b.sched x).interrupts) ∧
        (a.sched x).firstDone = (b.sched x).firstDone) ∧
      ObsEq (a.obsOf x) (b.obsOf x) := by
  -- the two sides differ only in the packaging: structures on the left, conjunctions on the right
  constructor <;> intro h x
  all_goals
    obtain ⟨h1, h2, h3, ⟨s1, s2, s3, s4, s5⟩, h5⟩ := h x
    exact ⟨h1, h2, h3, ⟨s1, s2, s3, s4, s5⟩, h5⟩

/-- **The FIFO model is one of the any-order executions**: whenever `tickLevel` (every level
answers its pending dispatches first-in first-out) completes a tick, that tick is a `TickLevelAny`
execution with the same result.  For the code: the synchronous schedule is one of the schedules
the bus may produce. -/
theorem fifo_is_any (S : Static) (orc : Oracle) (fuel : Nat) (lvl : Comp) (t : SimTime)
    (roots : List Comp) (inCh : List (Port × V)) (st : SimSt) (r : SimSt × List (Port × V))
    (h : tickLevel S orc fuel lvl t roots inCh st = .ok r) :
    TickLevelAny S orc lvl t roots inCh st r :=
  tickLevel_any fuel lvl t roots inCh st r h

/-- **Frame**: a tick of level `lvl`, whatever the answer orders, changes nothing that is kept
under a key which is neither `lvl` nor below `lvl`; all wakeup maps stay dicts; the exposed output
changes form a dict. -/
theorem any_order_frame (S : Static) (hS : S.Valid) (orc : Oracle) (lvl : Comp) (t : SimTime)
    (roots : List Comp) (inCh : List (Port × V)) (st : SimSt) (r : SimSt × List (Port × V))
    (h : TickLevelAny S orc lvl t roots inCh st r) :
    (∀ x, x ≠ lvl → ¬ S.Below lvl x → r.1.loc x = st.loc x) ∧ (st.WakeWF → r.1.WakeWF) ∧
      (akeys r.2).Nodup :=
  let p := tickLevelAny_post1 hS h
  ⟨p.frame, p.wf, p.nodup⟩

/-- **Schedule independence through nesting.**  On a valid configuration (acyclic well-formed
wiring with one source per input at every level, unique names, …), two executions of the same
tick of the same level — the same time, root sets equal as sets, input changes equal as mappings
— started in equivalent states end in equivalent states and expose the same output changes (as a
mapping), WHATEVER the order in which pending dispatches were answered at this level and inside
every system component at every depth.  For the code: the outcome of a tick does not depend on
the order and latency with which the bus delivers the components' outputs, also inside system
simulations. -/
theorem nested_any_order_deterministic (S : Static) (hS : S.Valid) (orc : Oracle) (lvl : Comp)
    (t : SimTime) (roots roots' : List Comp) (inCh inCh' : List (Port × V)) (st st' : SimSt)
    (r r' : SimSt × List (Port × V))
    (hroots : ∀ c, c ∈ roots ↔ c ∈ roots') (hin : MapEq inCh inCh')
    (hn : (akeys inCh).Nodup) (hn' : (akeys inCh').Nodup) (hst : st.Equiv st')
    (h1 : TickLevelAny S orc lvl t roots inCh st r)
    (h2 : TickLevelAny S orc lvl t roots' inCh' st' r') :
    r.1.Equiv r'.1 ∧ MapEq r.2 r'.2 :=
  tickLevelAny_det_equiv hS hroots hin hn hn' hst h1 h2

/-- two executions of the same tick from the SAME state (whose wakeup maps are dicts). -/
theorem any_order_same_start (S : Static) (hS : S.Valid) (orc : Oracle) (lvl : Comp) (t : SimTime)
    (roots : List Comp) (inCh : List (Port × V)) (hn : (akeys inCh).Nodup) (st : SimSt)
    (hwf : st.WakeWF) (r r' : SimSt × List (Port × V))
    (h1 : TickLevelAny S orc lvl t roots inCh st r) (h2 : TickLevelAny S orc lvl t roots inCh st r') :
    r.1.Equiv r'.1 ∧ MapEq r.2 r'.2 :=
  nested_any_order_deterministic S hS orc lvl t roots roots inCh inCh st st r r' (fun _ => Iff.rfl)
    (MapEq.refl _) hn hn (.refl hwf) h1 h2

/-- **every any-order execution agrees with the FIFO model**: if `tickLevel` completes the tick,
every execution of that tick, whatever its answer orders, ends in a state equivalent to the FIFO
model's and exposes the same output changes. -/
theorem any_order_agrees_with_fifo (S : Static) (hS : S.Valid) (orc : Oracle) (fuel : Nat)
    (lvl : Comp) (t : SimTime) (roots : List Comp) (inCh : List (Port × V))
    (hn : (akeys inCh).Nodup) (st : SimSt) (hwf : st.WakeWF) (rf r : SimSt × List (Port × V))
    (hf : tickLevel S orc fuel lvl t roots inCh st = .ok rf)
    (h : TickLevelAny S orc lvl t roots inCh st r) :
    r.1.Equiv rf.1 ∧ MapEq r.2 rf.2 :=
  any_order_same_start S hS orc lvl t roots inCh hn st hwf r rf h
    (fifo_is_any S orc fuel lvl t roots inCh st rf hf)

/-- **C08 through nesting, observations.**  The sequence of `(time, inputs)` observations made by
each device is the same in all executions of a tick, at whatever depth the device lives and
whatever the answer orders were at every level. -/
theorem any_order_same_observations (S : Static) (hS : S.Valid) (orc : Oracle) (lvl : Comp)
    (t : SimTime) (roots roots' : List Comp) (inCh inCh' : List (Port × V)) (st st' : SimSt)
    (r r' : SimSt × List (Port × V))
    (hroots : ∀ c, c ∈ roots ↔ c ∈ roots') (hin : MapEq inCh inCh')
    (hn : (akeys inCh).Nodup) (hn' : (akeys inCh').Nodup) (hst : st.Equiv st')
    (h1 : TickLevelAny S orc lvl t roots inCh st r)
    (h2 : TickLevelAny S orc lvl t roots' inCh' st' r') (d : Comp) :
    ObsEq (r.1.obsOf d) (r'.1.obsOf d) :=
  ((nested_any_order_deterministic S hS orc lvl t roots roots' inCh inCh' st st' r r' hroots hin hn
    hn' hst h1 h2).1 d).ob

/-- **the FIFO model completes every tick that has an any-order execution, and agrees with it**,
for every sufficiently large fuel.  So "every any-order execution agrees with the FIFO model" needs
no assumption about the FIFO model. -/
theorem any_order_fifo_exists (S : Static) (hS : S.Valid) (orc : Oracle) (lvl : Comp) (t : SimTime)
    (roots : List Comp) (inCh : List (Port × V)) (hn : (akeys inCh).Nodup) (st : SimSt)
    (hwf : st.WakeWF) (r : SimSt × List (Port × V))
    (h : TickLevelAny S orc lvl t roots inCh st r) :
    ∃ F, ∀ fuel, F ≤ fuel → ∃ rf, tickLevel S orc fuel lvl t roots inCh st = .ok rf ∧
      r.1.Equiv rf.1 ∧ MapEq r.2 rf.2 :=
  tickLevelAny_fifo hS hn hwf h

end Tickit
