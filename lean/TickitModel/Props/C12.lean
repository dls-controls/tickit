/-
C12 — simulation time is paced against real time by the configured speed
(exact arithmetic: speed = num/den > 0, times in integer nanoseconds).
`never_early`, `exact_when_free` and `stamp_law` stand in `Lemmas/MiscArith.lean`, because the lemma
files on the runs of the master loop use them and no lemma file imports a property file.
-/
import TickitModel.Lemmas.MiscArith

namespace Tickit

/-- a late tick is started at once, never delayed further. -/
theorem late_immediate (m : MasterSt) (s : Speed) (whenT : SimTime)
    (hlate : sleepNumer whenT m.tickerTime m.now m.lastReal s ≤ 0) : dueReal m s whenT = m.now := by
  exact if_pos hlate

/-- an interrupt's own tick is due immediately (it never waits). -/
theorem interrupt_due_now (m : MasterSt) (s : Speed) (hs : 0 < s.den) (hn : 0 < s.num) (hnow : m.lastReal ≤ m.now) :
    dueReal m s (interruptStamp m.tickerTime m.now m.lastReal s) = m.now := by
  -- `hn` is not needed: an overdue tick is started at once without dividing by `num`
  have _ := hn
  rw [dueReal_eq, if_pos]
  exact Int.sub_nonpos_of_le (stamp_law m.tickerTime m.now m.lastReal s hs hnow).1

/-- **linear law**, one step: if `simTime - t0 = speed·(real - r0)` held when the previous
tick ended, it holds again when the next tick (callback or interrupt) starts, provided the
products are integral. -/
theorem linear_step_callback (m : MasterSt) (s : Speed) (hs : 0 < s.num) (t0 : SimTime) (r0 : Int)
    (hinv : (m.tickerTime - t0) * s.den = (m.lastReal - r0) * s.num)
    (whenT : SimTime)
    (hnn : 0 ≤ sleepNumer whenT m.tickerTime m.now m.lastReal s)
    (hdiv : (s.num : Int) ∣ sleepNumer whenT m.tickerTime m.now m.lastReal s) :
    (whenT - t0) * s.den = (dueReal m s whenT - r0) * s.num := by
  exact linear_next hinv (exact_when_free m s hs whenT hnn hdiv).symm

theorem linear_step_interrupt (m : MasterSt) (s : Speed) (hd : 0 < s.den) (t0 : SimTime) (r0 : Int)
    (hinv : (m.tickerTime - t0) * s.den = (m.lastReal - r0) * s.num)
    (hnow : m.lastReal ≤ m.now)
    (hdiv : (s.den : Int) ∣ (m.now - m.lastReal) * s.num) :
    (interruptStamp m.tickerTime m.now m.lastReal s - t0) * s.den = (m.now - r0) * s.num := by
  -- `hd` is not needed: `hdiv` alone makes the floor of the stamp exact
  have _ := hd
  refine linear_next hinv ?_
  rw [interruptStamp_sub m.tickerTime m.now m.lastReal s hnow]
  exact Int.ediv_mul_cancel hdiv

example : dueReal { tickerTime := 0, lastReal := 100, now := 130 } ⟨2, 1⟩ 1000 = 600 := by decide
example : interruptStamp 1000 250 100 ⟨2, 1⟩ = 1300 := by decide

end Tickit
