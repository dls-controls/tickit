/-
C17 — configuration entries are dispatched by type tag; component selection.
(pydantic / PyYAML are parameters of the model: see the trusted base.)
-/
import TickitModel.Core.Config
import TickitModel.Lemmas.MiscLemmas

namespace Tickit

/-- the class chosen for a tag is a registered class that carries this tag (`dispatch` compares tags
and never looks at `ClassSig.fields`). -/
theorem dispatch_by_tag (reg : List ClassSig) (tag : String) (c : ClassSig)
    (h : dispatch reg tag = some c) : c ∈ reg ∧ c.tag = tag := by
  unfold dispatch at h
  exact ⟨List.mem_of_find?_eq_some h, by simpa using List.find?_some h⟩

/-- a tag naming no known class is rejected, and only then. -/
theorem dispatch_none_iff (reg : List ClassSig) (tag : String) :
    dispatch reg tag = none ↔ ∀ c ∈ reg, c.tag ≠ tag := by
  simp [dispatch]

/-- with distinct tags the converse of `dispatch_by_tag` holds. -/
theorem dispatch_eq_some_iff (reg : List ClassSig) (hd : (reg.map (·.tag)).Nodup) (tag : String)
    (c : ClassSig) : dispatch reg tag = some c ↔ c ∈ reg ∧ c.tag = tag := by
  refine ⟨dispatch_by_tag reg tag c, ?_⟩
  rintro ⟨hm, ht⟩
  cases h : dispatch reg tag with
  | none => exact absurd ht ((dispatch_none_iff reg tag).mp h c hm)
  | some d =>
    obtain ⟨hdm, hdt⟩ := dispatch_by_tag reg tag d h
    -- `a = b ∨ a.tag ≠ b.tag` is reflexive, so it holds between ANY two members; `d`, `c` carry the same tag
    have hp := List.pairwise_map.mp hd
    exact congrArg some ((List.Pairwise.forall_of_forall_of_flip (R := fun a b => a = b ∨ a.tag ≠ b.tag)
      (fun _ _ => Or.inl rfl) (hp.imp Or.inr) (hp.imp fun h => Or.inr (Ne.symm h)) hdm hm).resolve_right
      fun h => h (hdt.trans ht.symm))

/-- the choice does not depend on declaration / import order (distinct tags). -/
theorem dispatch_perm_invariant (reg reg' : List ClassSig) (hp : reg.Perm reg')
    (hd : (reg.map (·.tag)).Nodup) (tag : String) : dispatch reg tag = dispatch reg' tag := by
  have hd' : (reg'.map (·.tag)).Nodup := (hp.map _).nodup_iff.mp hd
  cases h : dispatch reg tag with
  | none =>
    symm
    rw [dispatch_none_iff] at h ⊢
    exact fun c hc => h c (hp.mem_iff.mpr hc)
  | some c =>
    symm
    rw [dispatch_eq_some_iff _ hd] at h
    rw [dispatch_eq_some_iff _ hd']
    exact ⟨hp.mem_iff.mp h.1, h.2⟩

/-- … nor on the presence of a class with another tag, registered in front or behind, whatever its
fields. -/
theorem dispatch_ignores_others (reg : List ClassSig) (extra : ClassSig) (tag : String)
    (hne : extra.tag ≠ tag) :
    dispatch (extra :: reg) tag = dispatch reg tag ∧ dispatch (reg ++ [extra]) tag = dispatch reg tag := by
  have hb : (extra.tag == tag) = false := by simpa using hne
  constructor
  · simp [dispatch, hb]
  · simp only [dispatch, List.find?_append]
    cases List.find? (fun c => c.tag == tag) reg <;> simp [hb]

/-- a request that is served selects exactly the requested components. -/
theorem select_exact (available : List Comp) (req : List Comp) (sel : List Comp)
    (h : selectComponents available (some req) = some sel) (c : Comp) :
    c ∈ sel ↔ c ∈ req ∧ c ∈ available := by
  simp only [selectComponents] at h
  split at h
  · simp only [Option.some.injEq] at h
    subst h
    simp [List.mem_filter, and_comm]
  · simp at h

/-- a request is refused (`ValueError`) iff it names a component that is not available. -/
theorem select_unknown (available : List Comp) (req : List Comp) :
    selectComponents available (some req) = none ↔ ∃ c ∈ req, c ∉ available := by
  simp only [selectComponents]
  split
  · rename_i hall
    simp only [List.all_eq_true, decide_eq_true_eq] at hall
    simp only [reduceCtorEq, false_iff, not_exists, not_and, Decidable.not_not]
    exact hall
  · rename_i hall
    simp only [List.all_eq_true, decide_eq_true_eq] at hall
    simp only [true_iff]
    exact Classical.not_forall.mp hall |>.elim fun c hc => ⟨c, Classical.not_imp.mp hc⟩

/-- no request ⇒ all components. -/
theorem select_all (available : List Comp) : selectComponents available none = some available := by
  rfl

/-- a request made of available names is served, with exactly the requested components, in configuration order -/
theorem select_subset (available req : List Comp) (h : ∀ c ∈ req, c ∈ available) :
    selectComponents available (some req) = some (available.filter (· ∈ req)) := by
  simp only [selectComponents]
  have : (req.all fun x => decide (x ∈ available)) = true := by
    simp only [List.all_eq_true, decide_eq_true_eq]; exact h
  simp [this]

/-- the wiring handed to the scheduler contains exactly the connections declared under
`inputs` (component names unique). -/
theorem wiring_from_configs_exact (cfgs : List (Comp × List (Port × CPort))) (h : UniqueKeys cfgs)
    (a : Comp) (p : Port) (b : Comp) (q : Port) :
    (InvWiring.fromConfigs cfgs).Conn a p b q ↔ ∃ e ∈ cfgs, e.1 = b ∧ alookup e.2 q = some (a, p) := by
  simp only [InvWiring.Conn, alookup_fromConfigs]
  constructor
  · rintro ⟨ports, hl, hq⟩
    exact ⟨(b, ports), (lastWrite_eq_some_iff cfgs h b ports).mp hl, rfl, hq⟩
  · rintro ⟨⟨b', ports⟩, hm, hb, hq⟩
    simp only at hb hq
    subst hb
    exact ⟨ports, (lastWrite_eq_some_iff cfgs h b' ports).mpr hm, hq⟩

theorem keys_from_configs (cfgs : List (Comp × List (Port × CPort))) (c : Comp) :
    c ∈ akeys (InvWiring.fromConfigs cfgs) ↔ c ∈ akeys cfgs := by
  rw [← alookup_isSome_iff, alookup_fromConfigs, lastWrite_isSome_iff]
  rfl

example : dispatch [⟨"m.A", ["x"]⟩, ⟨"m.B", ["x"]⟩] "m.B" = some ⟨"m.B", ["x"]⟩ := by decide +kernel

end Tickit
