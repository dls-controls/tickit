/-
C02 — a tick updates exactly the roots and the components whose inputs changed;
an output port counts as changed exactly when it differs from the previous report.
Property theorems only; helper lemmas live in `Lemmas/TickEqLemmas.lean` (the equations of one
trace) and `Lemmas/TickUpd.lean` (uniqueness of their solution).  That `RouterOK` holds of every
well-formed one-source wiring (`routerOK_of_wf`) stands in `Lemmas/RouterOK.lean`, where lemma
files can use it.
-/
import TickitModel.Lemmas.RouterOK
import TickitModel.Lemmas.TickUpd
import TickitModel.Core.Device

namespace Tickit

variable {Val : Type}

/-- **who is updated, who is skipped.**  In every run of a tick, a component receives an
`Input` (its device is invoked) iff it is a root or at least one of its wired input ports was
reported changed earlier in this tick; otherwise it receives a `Skip`. -/
theorem input_iff_root_or_changed (w : Wiring) (hw : RouterOK w) (react : React Val) (hr : ReactWF react)
    (t : SimTime) (roots : List Comp) (s : TickSys Val) (hs : s.Reachable w react t roots)
    (pre post : List (Ev Val)) (d : Dispatch Val) (htr : s.trace = pre ++ Ev.dispatch d :: post) :
    (∃ ins, d = .input d.comp t ins) ↔
      (d.comp ∈ roots ∨ ∃ a chs p q v, Ev.answer a chs ∈ pre ∧ w.Conn a p d.comp q ∧ alookup chs p = some v) := by
  have hd := (hs.eqInv hw hr).dec pre d post htr
  rcases hd.spec with ⟨ins, hd', hrc, _⟩ | ⟨hd', hnr, hnc⟩
  · constructor
    · intro _
      rcases hrc with h | ⟨q, v, a, chs, p, h⟩
      · exact Or.inl h
      · exact Or.inr ⟨a, chs, p, q, v, h⟩
    · intro _
      exact ⟨ins, hd'⟩
  · constructor
    · rintro ⟨ins, hi⟩
      cases hi.symm.trans hd'
    · rintro (h | ⟨a, chs, p, q, v, h⟩)
      · exact absurd h hnr
      · exact absurd ⟨a, chs, p, h⟩ (hnc q v)

/-- **what it is given.**  The changes carried by an `Input` are exactly the values routed
from the answers already given in this tick: port `q` carries `v` iff the (unique) output
wired to `q` was reported with value `v`. -/
theorem input_changes_exact (w : Wiring) (hw : RouterOK w) (react : React Val) (hr : ReactWF react)
    (t : SimTime) (roots : List Comp) (s : TickSys Val) (hs : s.Reachable w react t roots)
    (pre post : List (Ev Val)) (c : Comp) (ins : List (Port × Val))
    (htr : s.trace = pre ++ Ev.dispatch (.input c t ins) :: post) (q : Port) (v : Val) :
    alookup ins q = some v ↔
      ∃ a chs p, Ev.answer a chs ∈ pre ∧ w.Conn a p c q ∧ alookup chs p = some v := by
  have hd := (hs.eqInv hw hr).dec pre _ post htr
  rcases hd.spec with ⟨ins', hd', _, hch⟩ | ⟨hd', _⟩
  · simp only [Dispatch.comp, Dispatch.input.injEq, true_and] at hd' hch
    subst hd'
    exact hch q v
  · cases hd'

/-- a skipped component answers with no changes, so skipping propagates. -/
theorem skip_answers_nothing (react : React Val) (c : Comp) (t : SimTime) :
    answerOf react (.skip c t : Dispatch Val) = [] := by
  rfl

/-- components that are not downstream of a root are not touched at all. -/
theorem untouched_outside_extent (w : Wiring) (react : React Val) (t : SimTime) (roots : List Comp)
    (s : TickSys Val) (hs : s.Reachable w react t roots) (c : Comp) (hc : c ∉ extent w roots) :
    dispatchOf s.trace c = none :=
  hs.inv.pre.dispatchOf_eq_none_of_not_mem hc

/-- **schedule independence of one tick**: two complete runs of the
same tick — any two answer orders — give every component the same dispatch (same kind, same
time, same changes as a mapping), hence invoke exactly the same devices with the same inputs.
The conclusion is `SameDispatch` (`Lemmas/TickEqLemmas.lean`) written out.  C08
(`tickRun_deterministic`) does not go through this theorem: it shares with it the two lemmas
underneath, `UpdEqs.of_complete` and `UpdEqs.unique_on` of `Lemmas/TickUpd.lean`, which it reaches
through `TickRun.elim` (two equivalent start states give two `react`s, and this theorem fixes one). -/
theorem tick_deterministic (w : Wiring) (hw : RouterOK w) (hacyc : w.Acyclic)
    (react : React Val) (hr : ReactWF react) (hext : ReactExt react)
    (t : SimTime) (roots : List Comp)
    (s1 s2 : TickSys Val) (h1 : s1.Reachable w react t roots) (h2 : s2.Reachable w react t roots)
    (hf1 : s1.tk.toUpdate = []) (hf2 : s2.tk.toUpdate = []) (c : Comp) :
    match dispatchOf s1.trace c, dispatchOf s2.trace c with
    | some d1, some d2 => Dispatch.Equiv d1 d2
    | none, none => True
    | _, _ => False := by
  exact sameDispatch_on (A := fun _ => True) hw hw hacyc (fun _ _ _ _ _ => Iff.rfl)
    (fun _ _ _ _ _ _ => trivial) hr hext.extN (fun _ _ => Iff.rfl) (fun _ _ => Iff.rfl)
    h1 h2 hf1 hf2 c trivial

variable [DecidableEq Val]

/-- **change detection**: a port is in the `Output` changes exactly when it is reported now
and was absent from, or different in, the previous report. -/
theorem changed_iff (last outs : List (Port × Val)) (p : Port) (v : Val) :
    (p, v) ∈ outChanges last outs ↔ (p, v) ∈ outs ∧ alookup last p ≠ some v := by
  simp only [outChanges, List.mem_filter]
  apply and_congr_right
  intro _
  cases h : alookup last p with
  | none => simp
  | some v' => simp

/-- the device is given its previous inputs overlaid with the changes. -/
theorem merge_lookup (dc : DevComp Val) (changes : List (Port × Val)) (q : Port) :
    alookup (dc.merge changes) q = (alookup (aupdate [] changes) q).orElse (fun _ => alookup dc.deviceInputs q) := by
  have _ : DecidableEq Val := inferInstance -- instance not needed: holds for every `Val`
  exact alookup_aupdate _ _ _

theorem onTick_state (dc : DevComp Val) (changes outs : List (Port × Val)) :
    (dc.onTick changes outs).1.deviceInputs = dc.merge changes ∧
    (dc.onTick changes outs).1.lastOutputs = outs ∧
    (dc.onTick changes outs).2 = outChanges dc.lastOutputs outs := by
  exact ⟨rfl, rfl, rfl⟩

end Tickit
