/-
C08 / C01 through nesting — FULLY CONCURRENT: the inner ticks of sibling system components
INTERLEAVE.

`Core/SimAny.lean` (`TickLevelAny`) treats the answer of a system component as one atomic step.
`Core/SimInter.lean` (`IStep`, `TickInter`) is the small-step semantics in which every scheduler level
that is inside a tick — the ticked level, the inner level of every system component whose `Input`
has been delivered and whose inner tick is not over, recursively — takes its steps (answer a
pending dispatch completely / deliver an `Input` to a system component / take in the `Output` of a
system component whose inner tick is over) in ANY interleaving with the steps of all other active
levels.  For every nesting depth, atomic executions are interleaved executions (1) and every
interleaved execution has an atomic counterpart (2); so what `Props/C08NestedAny.lean` proves of
atomic executions holds of interleaved ones (2', 2'', 3, agreement with the FIFO model, frame):
each is `tickInter_atomic` (`Lemmas/InterSim.lean`) followed by the any-order theorem.
-/
import TickitModel.Lemmas.InterSim
import TickitModel.Props.C08NestedAny

namespace Tickit

/-- **1. Atomic executions are interleaved executions**, with the same final state and the same
exposed output changes: the interleaving in which a system component, once its `Input` is
delivered, takes all the steps of its inner tick before anything else happens.  (No assumption on
the configuration.) -/
theorem atomic_is_interleaved (S : Static) (orc : Oracle) (lvl : Comp) (t : SimTime)
    (roots : List Comp) (inCh : List (Port × V)) (st : SimSt) (r : SimSt × List (Port × V))
    (h : TickLevelAny S orc lvl t roots inCh st r) : TickInter S orc lvl t roots inCh st r :=
  tickLevelAny_inter h

/-- the FIFO model is one of the interleaved executions -/
theorem fifo_is_interleaved (S : Static) (orc : Oracle) (fuel : Nat) (lvl : Comp) (t : SimTime)
    (roots : List Comp) (inCh : List (Port × V)) (st : SimSt) (r : SimSt × List (Port × V))
    (h : tickLevel S orc fuel lvl t roots inCh st = .ok r) : TickInter S orc lvl t roots inCh st r :=
  tickLevelAny_inter (tickLevel_any fuel lvl t roots inCh st r h)

/-- **2. Every interleaved execution has an atomic counterpart.**  On a valid configuration, every
complete interleaved execution of a tick has an execution with ATOMIC inner ticks from the same
start state that exposes the SAME output changes and whose final state holds under EVERY key `x`
exactly the same device-component state, update count, scheduler state (wakeups, queued interrupts,
initial-tick flag) and observation sequence.  (The two final states differ at most in the order of
the keys of their maps and in how the observations of different devices are interleaved in the
global list.)  For the code: running the inner ticks of system simulations concurrently cannot
produce an outcome that running them one at a time could not produce. -/
theorem interleaved_has_atomic (S : Static) (hS : S.Valid) (orc : Oracle) (lvl : Comp) (t : SimTime)
    (roots : List Comp) (inCh : List (Port × V)) (st : SimSt) (r : SimSt × List (Port × V))
    (h : TickInter S orc lvl t roots inCh st r) :
    ∃ st'', TickLevelAny S orc lvl t roots inCh st (st'', r.2) ∧
      ∀ x, agetD st''.devs x {} = agetD r.1.devs x {} ∧ agetD st''.count x 0 = agetD r.1.count x 0 ∧
        st''.sched x = r.1.sched x ∧ st''.obsOf x = r.1.obsOf x := by
  obtain ⟨st'', ha, hl⟩ := tickInter_atomic hS h
  exact ⟨st'', ha, fun x => (loc_eq_iff _ _ x).1 (hl x)⟩

/-- … in terms of state equivalence: the atomic counterpart ends in an equivalent state. -/
theorem interleaved_equiv_atomic (S : Static) (hS : S.Valid) (orc : Oracle) (lvl : Comp) (t : SimTime)
    (roots : List Comp) (inCh : List (Port × V)) (st : SimSt) (hwf : st.WakeWF)
    (r : SimSt × List (Port × V)) (h : TickInter S orc lvl t roots inCh st r) :
    ∃ st'', TickLevelAny S orc lvl t roots inCh st (st'', r.2) ∧ st''.Equiv r.1 := by
  obtain ⟨st'', ha, hl⟩ := tickInter_atomic hS h
  exact ⟨st'', ha, LocEq.equiv hl ((tickLevelAny_post1 hS ha).wf hwf)⟩

/-- **2'. Every interleaved execution agrees with EVERY atomic execution.**  On a valid
configuration, a complete interleaved execution of a tick and ANY any-order execution with atomic
inner ticks of the same tick (same time, roots equal as sets, input changes equal as mappings,
equivalent start states) end in equivalent states and expose the same output changes. -/
theorem interleaved_agrees_with_every_atomic (S : Static) (hS : S.Valid) (orc : Oracle) (lvl : Comp)
    (t : SimTime) (roots roots' : List Comp) (inCh inCh' : List (Port × V)) (st st' : SimSt)
    (r r' : SimSt × List (Port × V))
    (hroots : ∀ c, c ∈ roots ↔ c ∈ roots') (hin : MapEq inCh inCh')
    (hn : (akeys inCh).Nodup) (hn' : (akeys inCh').Nodup) (hst : st.Equiv st')
    (h1 : TickInter S orc lvl t roots inCh st r)
    (h2 : TickLevelAny S orc lvl t roots' inCh' st' r') :
    r.1.Equiv r'.1 ∧ MapEq r.2 r'.2 := by
  obtain ⟨st'', ha, he⟩ :=
    interleaved_equiv_atomic S hS orc lvl t roots inCh st (fun x => (hst x).sch.ua) r h1
  obtain ⟨d1, d2⟩ := nested_any_order_deterministic S hS orc lvl t roots roots' inCh inCh' st st'
    (st'', r.2) r' hroots hin hn hn' hst ha h2
  exact ⟨he.symm.trans d1, d2⟩

/-- **2''. Schedule independence, fully concurrent.**  Two complete interleaved executions of the
same tick (as in 2') end in equivalent states and expose the same output changes — whatever the
answer orders at every level AND however the steps of the active levels were interleaved. -/
theorem interleaved_deterministic (S : Static) (hS : S.Valid) (orc : Oracle) (lvl : Comp)
    (t : SimTime) (roots roots' : List Comp) (inCh inCh' : List (Port × V)) (st st' : SimSt)
    (r r' : SimSt × List (Port × V))
    (hroots : ∀ c, c ∈ roots ↔ c ∈ roots') (hin : MapEq inCh inCh')
    (hn : (akeys inCh).Nodup) (hn' : (akeys inCh').Nodup) (hst : st.Equiv st')
    (h1 : TickInter S orc lvl t roots inCh st r)
    (h2 : TickInter S orc lvl t roots' inCh' st' r') :
    r.1.Equiv r'.1 ∧ MapEq r.2 r'.2 := by
  obtain ⟨st2, ha2, he2⟩ :=
    interleaved_equiv_atomic S hS orc lvl t roots' inCh' st' (fun x => (hst x).sch.ub) r' h2
  obtain ⟨d1, d2⟩ := interleaved_agrees_with_every_atomic S hS orc lvl t roots roots' inCh inCh' st st'
    r (st2, r'.2) hroots hin hn hn' hst h1 ha2
  exact ⟨d1.trans he2, d2⟩

/-- every interleaved execution agrees with the FIFO model, when the model completes the tick -/
theorem interleaved_agrees_with_fifo (S : Static) (hS : S.Valid) (orc : Oracle) (fuel : Nat)
    (lvl : Comp) (t : SimTime) (roots : List Comp) (inCh : List (Port × V))
    (hn : (akeys inCh).Nodup) (st : SimSt) (hwf : st.WakeWF) (rf r : SimSt × List (Port × V))
    (hf : tickLevel S orc fuel lvl t roots inCh st = .ok rf)
    (h : TickInter S orc lvl t roots inCh st r) :
    r.1.Equiv rf.1 ∧ MapEq r.2 rf.2 :=
  interleaved_agrees_with_every_atomic S hS orc lvl t roots roots inCh inCh st st r rf
    (fun _ => Iff.rfl) (MapEq.refl _) hn hn (.refl hwf) h
    (fifo_is_any S orc fuel lvl t roots inCh st rf hf)

/-- **the FIFO model completes every tick that has an interleaved execution, and agrees with it**:
for every sufficiently large fuel `tickLevel` completes the same tick from the same state, in an
equivalent state with the same exposed output changes. -/
theorem interleaved_fifo_exists (S : Static) (hS : S.Valid) (orc : Oracle) (lvl : Comp) (t : SimTime)
    (roots : List Comp) (inCh : List (Port × V)) (hn : (akeys inCh).Nodup) (st : SimSt)
    (hwf : st.WakeWF) (r : SimSt × List (Port × V))
    (h : TickInter S orc lvl t roots inCh st r) :
    ∃ F, ∀ fuel, F ≤ fuel → ∃ rf, tickLevel S orc fuel lvl t roots inCh st = .ok rf ∧
      r.1.Equiv rf.1 ∧ MapEq r.2 rf.2 := by
  obtain ⟨st'', ha, _⟩ := tickInter_atomic hS h
  obtain ⟨F, hF⟩ := any_order_fifo_exists S hS orc lvl t roots inCh hn st hwf _ ha
  refine ⟨F, fun fuel hfu => ?_⟩
  obtain ⟨rf, hrf, _⟩ := hF fuel hfu
  exact ⟨rf, hrf, interleaved_agrees_with_fifo S hS orc fuel lvl t roots inCh hn st hwf rf r hrf h⟩

/-- **3. C08 through nesting, fully concurrent.**  The sequence of `(time, inputs)` observations
made by each device, at whatever depth it lives, is the same in ALL complete interleaved executions
of a tick: it depends neither on the answer orders at the levels nor on how the inner ticks of
sibling system components were interleaved. -/
theorem interleaved_same_observations (S : Static) (hS : S.Valid) (orc : Oracle) (lvl : Comp)
    (t : SimTime) (roots roots' : List Comp) (inCh inCh' : List (Port × V)) (st st' : SimSt)
    (r r' : SimSt × List (Port × V))
    (hroots : ∀ c, c ∈ roots ↔ c ∈ roots') (hin : MapEq inCh inCh')
    (hn : (akeys inCh).Nodup) (hn' : (akeys inCh').Nodup) (hst : st.Equiv st')
    (h1 : TickInter S orc lvl t roots inCh st r)
    (h2 : TickInter S orc lvl t roots' inCh' st' r') (d : Comp) :
    ObsEq (r.1.obsOf d) (r'.1.obsOf d) :=
  ((interleaved_deterministic S hS orc lvl t roots roots' inCh inCh' st st' r r' hroots hin hn hn' hst
    h1 h2).1 d).ob

/-- **frame, fully concurrent**: a complete interleaved execution of a tick of level `lvl` changes
nothing that is kept under a key which is neither `lvl` nor below it; wakeup maps stay dicts; the
exposed output changes form a dict. -/
theorem interleaved_frame (S : Static) (hS : S.Valid) (orc : Oracle) (lvl : Comp) (t : SimTime)
    (roots : List Comp) (inCh : List (Port × V)) (st : SimSt) (r : SimSt × List (Port × V))
    (h : TickInter S orc lvl t roots inCh st r) :
    (∀ x, x ≠ lvl → ¬ S.Below lvl x → r.1.loc x = st.loc x) ∧ (st.WakeWF → r.1.WakeWF) ∧
      (akeys r.2).Nodup := by
  obtain ⟨st'', ha, hl⟩ := tickInter_atomic hS h
  have p := tickLevelAny_post1 hS ha
  exact ⟨fun x h1 h2 => (hl x).symm.trans (p.frame x h1 h2), fun hwf => LocEq.wakeWF hl (p.wf hwf),
    p.nodup⟩

end Tickit
