/-
Non-vacuity of `Props/C08NestedInter.lean` / `Props/C08NestedInterRun.lean` /
`Props/C01NestedInter.lean`: the configuration of `Props/C08NestedAnyEx.lean` extended by a SECOND
sibling system simulation, and a complete interleaved execution of its initial tick that ALTERNATES
between the two inner ticks (`tickI`, `interEx`).

Master level: system simulations `s` and `s2` and device `z`, wired `s.y → z.i`, `s2.y → z.j`.
Inside `s`: devices `a`, `b`, `expose.y ← a.o`.  Inside `s2`: devices `c`, `d`, `expose.y ← c.o`.
The global observation list of `interEx` is `a, d, c, b, z`; an execution with atomic inner ticks
cannot produce it (there the observations of `a`, `b` are adjacent, and so are those of `c`, `d`: a
remark, proved nowhere — the `example` below compares with the one atomic execution `atomEx`), and
yet, by the theorems, the final state is equivalent to that of every atomic execution.
-/
import TickitModel.Lemmas.InterExec
import TickitModel.Props.C08NestedInter
import TickitModel.Props.C08NestedInterRun
import TickitModel.Props.C01NestedInter
import TickitModel.Props.C08NestedAnyEx

namespace Tickit.InterEx

open Tickit.AnyEx

def topInv1 : InvWiring := [("s", []), ("s2", []), ("z", [("i", ("s", "y")), ("j", ("s2", "y"))])]
def s2Inv : InvWiring := [("c", []), ("d", []), ("external", []), ("expose", [("y", ("c", "o"))])]
def topW1 : Wiring := Wiring.fromInverse topInv1
def s2W : Wiring := Wiring.fromInverse s2Inv

def S1 : Static :=
  { levels := [⟨"", topW1⟩, ⟨"s", sW⟩, ⟨"s2", s2W⟩]
    systems := ["s", "s2"]
    parent := [("s", ""), ("s2", ""), ("z", ""), ("a", "s"), ("b", "s"), ("c", "s2"), ("d", "s2")] }

/-- `b` asks to be called back at 5: the second tick of `interRun` -/
def orc1 : Oracle :=
  [("a", [⟨[("o", 7)], none, false⟩]),
   ("b", [⟨[("o", 1)], some 5, false⟩, ⟨[("o", 2)], none, false⟩]),
   ("c", [⟨[("o", 3)], none, false⟩]),
   ("d", [⟨[("o", 4)], none, false⟩]),
   ("z", [⟨[], none, false⟩])]

theorem S1_valid : S1.Valid :=
  Static.valid_of_checked (invs := [topInv1, sInv, s2Inv])
    (depth := fun c => if c ∈ ["a", "b", "c", "d"] then 1 else 0)
    (rank := fun c => if c = "z" ∨ c = "expose" then 1 else 0) (by decide +kernel) (by decide +kernel)

open Sched Move

/-- the state after the alternating execution of the initial tick -/
def stI : SimSt :=
  { devs := [("a", ⟨[], [("o", 7)]⟩), ("d", ⟨[], [("o", 4)]⟩), ("c", ⟨[], [("o", 3)]⟩),
      ("b", ⟨[], [("o", 1)]⟩), ("z", ⟨[("j", 3), ("i", 7)], []⟩)]
    count := [("a", 1), ("d", 1), ("c", 1), ("b", 1), ("z", 1)]
    scheds := [("s", ⟨[("b", 5)], [], true⟩), ("s2", ⟨[], [], true⟩), ("", ⟨[("s", 5)], [], false⟩)]
    obs := [⟨"a", 0, []⟩, ⟨"d", 0, []⟩, ⟨"c", 0, []⟩, ⟨"b", 0, []⟩, ⟨"z", 0, [("j", 3), ("i", 7)]⟩] }

/-- both `Input`s are delivered first, then `s` and `s2` answer in turn (`a` in `s`, `d` in `s2`,
`external` in `s`, `c` in `s2`, `b` in `s`, `external` in `s2`, `expose` in `s`, `expose` in `s2`),
`s2` returns before `s`, then `z` -/
theorem tickI : TickInter S1 orc1 "" 0 ["z", "s", "s2"] [] {} (stI, []) :=
  let ⟨_, h, e⟩ := execInter_sound (P := (· = (stI, [])))
    [opn 0, opn 1, inner 0 (answer 1), inner 1 (answer 2), inner 0 (answer 0), inner 1 (answer 1),
      inner 0 (answer 0), inner 1 (answer 0), inner 0 (answer 0), inner 1 (answer 0), close 1 1,
      close 0 0, answer 0]
    (by decide +kernel)
  e ▸ h

/-- **an interleaved execution that alternates between the inner ticks of the two sibling
systems** -/
theorem interEx : ∃ r, TickInter S1 orc1 "" 0 ["z", "s", "s2"] [] {} r ∧
    r.1.obs.map (·.comp) = ["a", "d", "c", "b", "z"] :=
  ⟨_, tickI, rfl⟩

/-- an execution of the same tick with ATOMIC inner ticks (first all of `s`, then all of `s2`): the
observations are made in the order `a, b, c, d, z` -/
theorem atomEx : ∃ r, TickLevelAny S1 orc1 "" 0 ["z", "s", "s2"] [] {} r ∧
    r.1.obs.map (·.comp) = ["a", "b", "c", "d", "z"] :=
  execAny_sound
    (step 0 (step 0 done <| step 0 done <| step 0 done <| step 0 done done) <|
      step 0 (step 0 done <| step 0 done <| step 0 done <| step 0 done done) <| step 0 done done)
    (by decide +kernel)

theorem wf_empty : ({} : SimSt).WakeWF := SimSt.wakeWF_empty

/-- theorem 1 applied: the atomic execution is an interleaved execution -/
example : ∃ r, TickInter S1 orc1 "" 0 ["z", "s", "s2"] [] {} r ∧
    r.1.obs.map (·.comp) = ["a", "b", "c", "d", "z"] := by
  obtain ⟨r, h, ho⟩ := atomEx
  exact ⟨r, atomic_is_interleaved S1 orc1 "" 0 _ [] {} r h, ho⟩

/-- theorem 2' applied to the alternating execution: it agrees with the atomic execution `atomEx`,
whose global observation order is a different one -/
example : ∃ r r', TickInter S1 orc1 "" 0 ["z", "s", "s2"] [] {} r ∧
    TickLevelAny S1 orc1 "" 0 ["z", "s", "s2"] [] {} r' ∧
    r.1.obs.map (·.comp) ≠ r'.1.obs.map (·.comp) ∧ r.1.Equiv r'.1 ∧ MapEq r.2 r'.2 := by
  obtain ⟨r, h1, ho1⟩ := interEx
  obtain ⟨r', h2, ho2⟩ := atomEx
  refine ⟨r, r', h1, h2, by rw [ho1, ho2]; decide, ?_⟩
  exact interleaved_agrees_with_every_atomic S1 S1_valid orc1 "" 0 _ _ [] [] {} {} r r'
    (fun _ => Iff.rfl) (MapEq.refl _) (by simp) (by simp) (.refl wf_empty) h1 h2

/-- theorem 2 applied: it has an atomic counterpart with the same view under every key -/
example : ∃ r, TickInter S1 orc1 "" 0 ["z", "s", "s2"] [] {} r ∧
    ∃ st'', TickLevelAny S1 orc1 "" 0 ["z", "s", "s2"] [] {} (st'', r.2) ∧
      ∀ x, agetD st''.devs x {} = agetD r.1.devs x {} ∧ agetD st''.count x 0 = agetD r.1.count x 0 ∧
        st''.sched x = r.1.sched x ∧ st''.obsOf x = r.1.obsOf x := by
  obtain ⟨r, h1, _⟩ := interEx
  exact ⟨r, h1, interleaved_has_atomic S1 S1_valid orc1 "" 0 _ [] {} r h1⟩

/-- theorem 3 applied: any other interleaved execution gives every device the same observations -/
example (r' : SimSt × List (Port × V)) (h' : TickInter S1 orc1 "" 0 ["z", "s", "s2"] [] {} r') :
    ∃ r, TickInter S1 orc1 "" 0 ["z", "s", "s2"] [] {} r ∧ ∀ d, ObsEq (r.1.obsOf d) (r'.1.obsOf d) := by
  obtain ⟨r, h1, _⟩ := interEx
  exact ⟨r, h1, interleaved_same_observations S1 S1_valid orc1 "" 0 _ _ [] [] {} {} r r'
    (fun _ => Iff.rfl) (MapEq.refl _) (by simp) (by simp) (.refl wf_empty) h1 h'⟩

/-- the FIFO model completes the tick and agrees with the alternating execution -/
example : ∃ r, TickInter S1 orc1 "" 0 ["z", "s", "s2"] [] {} r ∧
    ∃ F, ∀ fuel, F ≤ fuel → ∃ rf, tickLevel S1 orc1 fuel "" 0 ["z", "s", "s2"] [] {} = .ok rf ∧
      r.1.Equiv rf.1 ∧ MapEq r.2 rf.2 := by
  obtain ⟨r, h, _⟩ := interEx
  exact ⟨r, h, interleaved_fifo_exists S1 S1_valid orc1 "" 0 _ [] (by simp) {} wf_empty r h⟩

/-- C01 for the alternating execution: nobody was updated twice -/
example : ∃ r, TickInter S1 orc1 "" 0 ["z", "s", "s2"] [] {} r ∧
    ∀ x, (r.1.obsOf x).length ≤ (({} : SimSt).obsOf x).length + 1 := by
  obtain ⟨r, h, _⟩ := interEx
  exact ⟨r, h, interleaved_updates_le S1 S1_valid orc1 "" 0 _ [] (by simp) {} r h⟩

/-- … and, although the inner ticks of `s` and `s2` overlapped, `a` (which drives `z.i` through
`expose` of `s`) and `c` (which drives `z.j` through `expose` of `s2`) were updated before `z`:
the two resolved wires, and the order theorem -/
example : (Wiring.fromInverse (S1.flatInverse 7)).Conn "a" "o" "z" "i" ∧
    (Wiring.fromInverse (S1.flatInverse 7)).Conn "c" "o" "z" "j" := by decide +kernel

example : ∃ r, TickInter S1 orc1 "" 0 ["z", "s", "s2"] [] {} r ∧
    ∃ new, r.1.obs = ({} : SimSt).obs ++ new ∧
      ∀ pre oy post, new = pre ++ oy :: post → ∀ ox ∈ new, ∀ p q,
        (Wiring.fromInverse (S1.flatInverse 7)).Conn ox.comp p oy.comp q → ox ∈ pre := by
  obtain ⟨r, h, _⟩ := interEx
  exact ⟨r, h, interleaved_update_after_resolved_sources S1 S1_valid orc1 7 "" 0 _ [] {} r h⟩

/-- a whole run over interleaved ticks: the initial tick as in `interEx`, then the callback tick at
5 asked for by `b` -/
theorem interRun : ∃ r0 r, MasterInitialInter S1 orc1 0 0 r0 ∧
    MasterRunInter S1 orc1 10 ⟨1, 1⟩ 5 1 r0.1 [] [r0.2] r ∧ r.2.map (·.time) = [0, 5] ∧
    r.1.sim.obs.map (·.comp) = ["a", "d", "c", "b", "z", "b"] := by
  obtain ⟨r5, h5, p⟩ := execInter_sound (S := S1) (orc := orc1) (lvl := "") (t := 5) (roots := ["s"])
    (inCh := []) (st := tickStart stI ["s"])
    (P := fun r => r.1.obs.map (·.comp) = ["a", "d", "c", "b", "z", "b"])
    [opn 0, inner 0 (answer 1), inner 0 (answer 0), close 0 0, answer 0] (by decide +kernel)
  exact ⟨_, _, .mk (L := ⟨"", topW1⟩) rfl tickI, .tick (comps := ["s"]) (w := 5) rfl rfl h5 .ticksDone,
    rfl, p⟩

/-- the run-level theorems applied: the run over interleaved ticks has the observations of a
`Synced` flat run over the resolved wiring, and any other such run does the same ticks -/
example : ∃ r0 r, MasterInitialInter S1 orc1 0 0 r0 ∧
    MasterRunInter S1 orc1 10 ⟨1, 1⟩ 5 1 r0.1 [] [r0.2] r ∧
    ∃ (devs : DevSeq V) (st : FlatSt V) (times : List SimTime),
      FlatRun (Wiring.fromInverse (S1.flatInverse 20)) devs 0 (r.2.length - 1) st times ∧
      Synced (Wiring.fromInverse (S1.flatInverse 20)) st ∧ times = (r.2.map (·.time)).reverse ∧
      ∀ d, ObsEq (r.1.sim.obsOf d) (st.obsOf d) := by
  obtain ⟨r0, r, h1, h2, _, _⟩ := interRun
  exact ⟨r0, r, h1, h2, interleaved_run_refines_flatRun S1 S1_valid orc1 10 20 (by decide +kernel) 0 0 ⟨1, 1⟩ 5 1
    r0 r h1 h2⟩

example (r0' : MasterSt × TickRec) (r' : MasterSt × List TickRec)
    (h1' : MasterInitialInter S1 orc1 0 0 r0')
    (h2' : MasterRunInter S1 orc1 10 ⟨1, 1⟩ 5 1 r0'.1 [] [r0'.2] r') :
    r'.2.map (·.time) = [0, 5] := by
  obtain ⟨r0, r, h1, h2, ht, _⟩ := interRun
  have := (interleaved_run_deterministic S1 S1_valid orc1 10 0 0 ⟨1, 1⟩ 5 1 [] r0 r0' r r' h1 h1' h2 h2').2.1
  rw [← this.times.1, ht]

end Tickit.InterEx
