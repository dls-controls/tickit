/-
C02 for EVERY any-order execution, at every nesting level: who is handed an `Input`, who a `Skip`,
what the `Input` carries — and that all of this is the same in every execution.

`Props/C02.lean` states C02 for the closed tick system `TickSys` of ONE level whose components answer
by a function.  In the nested any-order semantics (`Core/SimAny.lean`) the answer of a system
component is a whole inner execution; `Lemmas/AnyDispatch.lean` threads the ghost trace of each
level's ticker through the relation (`LevelExec`: an execution with its trace and answer records)
and defines `Recv … c d`: "there is an execution of this tick in which component `c`, at whatever
depth below the level, is handed dispatch `d` by the ticker of its own level":

    # core/management/ticker.py, schedule_possible_updates
    if self.inputs[component] or component in self.roots:
        updating[component] = asyncio.create_task(self.update_component(Input(component, self.time, self.inputs[component])))
    else:
        updating[component] = asyncio.create_task(self.skip_component(Skip(component, self.time, Changes(Map()))))

The determinism statement is a consequence of `tickLevelAny_det` at trace level (`recv_det`), not of
the FIFO model; the observation-level statements follow from `nested_any_order_deterministic`.
-/
import TickitModel.Lemmas.AnyDispatch
import TickitModel.Props.C08NestedAny
import TickitModel.Props.C01NestedAny
import TickitModel.Lemmas.AnyTransferLemmas

namespace Tickit

/-- executions and traced executions (`LevelExec`: with ticker trace and answer records) are the same
thing. -/
theorem any_order_trace_exists (S : Static) (orc : Oracle) (lvl : Comp) (t : SimTime)
    (roots : List Comp) (inCh : List (Port × V)) (st : SimSt) (r : SimSt × List (Port × V)) :
    TickLevelAny S orc lvl t roots inCh st r ↔
      ∃ L tr recs, LevelExec S orc lvl t roots inCh st r L tr recs :=
  ⟨fun h => h.levelExec, fun ⟨_, _, _, h⟩ => h.toAny⟩

/-- **C02 at every level of every any-order execution: who is updated, who is skipped, what it is
given.**  Let `tr` be the ticker trace of an execution of a tick of level `lvl` (wiring `L.wiring`,
time `t`, roots `roots`) — the master's tick or the inner tick of a system simulation at any depth,
any answer order.  Then
 * a component gets no dispatch at all iff it is not downstream of a root;
 * otherwise it gets exactly one dispatch, carrying the tick's time: an `Input` iff it is a root or at
   least one of its wired input ports was reported changed by an answer of this tick, and then the
   `Input` carries EXACTLY the changed wired ports; a `Skip` otherwise;
 * the answers in the trace are those of the addressed components (device: its recorded response,
   system: an any-order execution of its inner level, to which this theorem applies again). -/
theorem any_order_input_iff_root_or_changed (S : Static) (hS : S.Valid) (orc : Oracle) (lvl : Comp)
    (t : SimTime) (roots : List Comp) (inCh : List (Port × V)) (hn : (akeys inCh).Nodup) (st : SimSt)
    (r : SimSt × List (Port × V)) (L : Level) (tr : List (Ev V)) (recs : List AnsRec)
    (h : LevelExec S orc lvl t roots inCh st r L tr recs) :
    (∀ c, dispatchOf tr c = none ↔ c ∉ extent L.wiring roots) ∧
    (∀ c d, dispatchOf tr c = some d →
      ((∃ ins, d = .input c t ins) ↔ (c ∈ roots ∨ ∃ q v, Changed L.wiring tr c q v)) ∧
      (∀ ins, d = .input c t ins → ∀ q v, alookup ins q = some v ↔ Changed L.wiring tr c q v) ∧
      (d = .skip c t ∨ ∃ ins, d = .input c t ins)) ∧
    (∀ a ch, Ev.answer a ch ∈ tr → ∃ d σ σ' ca, dispatchOf tr a = some d ∧
      AnsP S orc (TickLevelAny S orc) L inCh σ d (σ', ch, ca)) := by
  obtain ⟨h1, h2, h3, h4⟩ := h.dispatch_spec hS hn
  refine ⟨h1, fun c d hd => ?_, fun a ch hm => ?_⟩
  · rcases h2 c d hd with ⟨ins, rfl, hrc, hch⟩ | ⟨rfl, hnr, hnc⟩
    · refine ⟨⟨fun _ => hrc, fun _ => ⟨ins, rfl⟩⟩, ?_, Or.inr ⟨ins, rfl⟩⟩
      intro ins' he
      cases he
      exact hch
    · refine ⟨⟨?_, ?_⟩, ?_, Or.inl rfl⟩
      · rintro ⟨ins, he⟩
        cases he
      · rintro (hr | ⟨q, v, hc⟩)
        · exact absurd hr hnr
        · exact absurd hc (hnc q v)
      · intro ins he
        cases he
  · obtain ⟨rec, hrec, rfl, rfl⟩ := (h3 a ch).1 hm
    obtain ⟨hd, ha⟩ := h4 rec hrec
    exact ⟨rec.d, rec.pre, rec.post, rec.ca, hd, ha⟩

/-- **C02, schedule independence at every depth.**  On a valid configuration: if in SOME execution of
a tick (any answer order at every level) component `c` — a component of the level, or of a system
simulation at any depth below it — is handed the dispatch `d`, then in EVERY execution of the same
tick (same time, root sets equal as sets, input changes equal as mappings) from an equivalent state
`c` is handed an equivalent dispatch: an `Input` in both or a `Skip` in both, with the same time and,
for an `Input`, the same changes as a mapping.  For the code: which components' devices are invoked
in a tick, and with which changes, does not depend on the order in which the bus delivers messages —
also inside system simulations. -/
theorem any_order_same_dispatch (S : Static) (hS : S.Valid) (orc : Oracle) (lvl : Comp) (t : SimTime)
    (roots roots' : List Comp) (inCh inCh' : List (Port × V)) (st st' : SimSt)
    (r r' : SimSt × List (Port × V))
    (hroots : ∀ c, c ∈ roots ↔ c ∈ roots') (hin : MapEq inCh inCh')
    (hn : (akeys inCh).Nodup) (hn' : (akeys inCh').Nodup) (hst : st.Equiv st')
    (h2 : TickLevelAny S orc lvl t roots' inCh' st' r') (c : Comp) (d : Dispatch V)
    (h : Recv S orc lvl t roots inCh st r c d) :
    ∃ d', Recv S orc lvl t roots' inCh' st' r' c d' ∧ Dispatch.Equiv d d' :=
  recv_det hS h roots' inCh' st' r' hroots hin hn hn' (fun x _ => hst x) h2

/-- the same component set is dispatched in every execution, at every depth. -/
theorem any_order_dispatched_iff (S : Static) (hS : S.Valid) (orc : Oracle) (lvl : Comp) (t : SimTime)
    (roots roots' : List Comp) (inCh inCh' : List (Port × V)) (st st' : SimSt)
    (r r' : SimSt × List (Port × V))
    (hroots : ∀ c, c ∈ roots ↔ c ∈ roots') (hin : MapEq inCh inCh')
    (hn : (akeys inCh).Nodup) (hn' : (akeys inCh').Nodup) (hst : st.Equiv st')
    (h1 : TickLevelAny S orc lvl t roots inCh st r)
    (h2 : TickLevelAny S orc lvl t roots' inCh' st' r') (c : Comp) :
    (∃ d, Recv S orc lvl t roots inCh st r c d) ↔ (∃ d', Recv S orc lvl t roots' inCh' st' r' c d') := by
  constructor
  · rintro ⟨d, h⟩
    obtain ⟨d', h', _⟩ := any_order_same_dispatch S hS orc lvl t roots roots' inCh inCh' st st' r r'
      hroots hin hn hn' hst h2 c d h
    exact ⟨d', h'⟩
  · rintro ⟨d, h⟩
    obtain ⟨d', h', _⟩ := any_order_same_dispatch S hS orc lvl t roots' roots inCh' inCh st' st r' r
      (fun x => (hroots x).symm) hin.symm hn' hn hst.symm h1 c d h
    exact ⟨d', h'⟩

/-- every dispatch handed out in a tick, at whatever depth, is addressed to the component that
receives it and carries the tick's time; every component downstream of a root of the level gets one. -/
theorem any_order_dispatch_time (S : Static) (hS : S.Valid) (orc : Oracle) (lvl : Comp) (t : SimTime)
    (roots : List Comp) (inCh : List (Port × V)) (hn : (akeys inCh).Nodup) (st : SimSt)
    (r : SimSt × List (Port × V)) :
    (∀ c d, Recv S orc lvl t roots inCh st r c d → d.time = t ∧ d.comp = c) ∧
    (TickLevelAny S orc lvl t roots inCh st r → ∀ L, S.level lvl = some L →
      ∀ c ∈ extent L.wiring roots, ∃ d, Recv S orc lvl t roots inCh st r c d) :=
  ⟨fun _ _ h => h.time_eq hS hn, fun h _ hL _ hc => Recv.of_extent hS hn h hL hc⟩

/-- **C02 at observation level** (what the devices see): in two executions of the same tick from
equivalent states, a device — at whatever depth — is updated in one iff it is updated in the other,
at most once, at the tick's time, and with the same (merged) inputs as a mapping. -/
theorem any_order_same_updates (S : Static) (hS : S.Valid) (orc : Oracle) (lvl : Comp) (t : SimTime)
    (roots roots' : List Comp) (inCh inCh' : List (Port × V)) (st st' : SimSt)
    (r r' : SimSt × List (Port × V))
    (hroots : ∀ c, c ∈ roots ↔ c ∈ roots') (hin : MapEq inCh inCh')
    (hn : (akeys inCh).Nodup) (hn' : (akeys inCh').Nodup) (hst : st.Equiv st')
    (h1 : TickLevelAny S orc lvl t roots inCh st r)
    (h2 : TickLevelAny S orc lvl t roots' inCh' st' r') (x : Comp) :
    (r.1.obsOf x = st.obsOf x ∧ r'.1.obsOf x = st'.obsOf x) ∨
      ∃ m m', r.1.obsOf x = st.obsOf x ++ [(t, m)] ∧ r'.1.obsOf x = st'.obsOf x ++ [(t, m')] ∧
        MapEq m m' := by
  have hob := any_order_same_observations S hS orc lvl t roots roots' inCh inCh' st st' r r' hroots hin
    hn hn' hst h1 h2 x
  have hob0 : ObsEq (st.obsOf x) (st'.obsOf x) := (hst x).ob
  rcases any_order_update_at_most_once S hS orc lvl t roots inCh hn st r h1 x with e1 | ⟨m, e1⟩ <;>
    rcases any_order_update_at_most_once S hS orc lvl t roots' inCh' hn' st' r' h2 x with e2 | ⟨m', e2⟩
  · exact Or.inl ⟨e1, e2⟩
  · rw [e1, e2, ← List.append_nil (st.obsOf x)] at hob
    exact (obsEq_append_left_cancel hob0 hob).elim
  · rw [e1, e2, ← List.append_nil (st'.obsOf x)] at hob
    exact (obsEq_append_left_cancel hob0 hob).elim
  · rw [e1, e2] at hob
    exact Or.inr ⟨m, m', e1, e2, (obsEq_append_left_cancel hob0 hob).2.1⟩

end Tickit
