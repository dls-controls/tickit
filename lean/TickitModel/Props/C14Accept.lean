/-
C14 — what acceptance of a trace by the TCP resource model means.

The driver's `tcpres` op steps `TcpSt` STRICTLY through the observed events of real connections (every event
must be enabled).  `TcpSt.accept` below states that recursion; the driver does not call it: `opTcpRes.go`
(Driver.lean) is the same recursion over `TcpSt.step` written out once more with the JSON decoding around it, and
that the two agree is seen by reading them side by side, not proved.  A trace accepted by `TcpSt.accept` is a history in the
sense of `TcpSt.run` (which skips events that are not enabled - none is skipped here), so everything
`tcp_bounded` / `tcp_quiescent` prove for every history holds for the state the model is in after every accepted
prefix - and that state's `tasks` / `retained` are what the check compares with the live tasks / still-referenced
finished tasks measured on the real io.
-/
import TickitModel.Props.C14Race

namespace Tickit

def TcpSt.accept (fixed : Bool) : TcpSt → List TcpAct → Option TcpSt
  | s, [] => some s
  | s, a :: as => match s.step fixed a with
    | some s' => TcpSt.accept fixed s' as
    | none => none

theorem TcpSt.accept_is_run (fixed : Bool) (s s' : TcpSt) (acts : List TcpAct)
    (h : TcpSt.accept fixed s acts = some s') : s.run fixed acts = s' := by
  rw [TcpSt.run_eq_runOpt]
  induction acts generalizing s with
  | nil => exact Option.some.inj h
  | cons a as ih =>
    rw [TcpSt.accept] at h
    cases hs : s.step fixed a with
    | none => rw [hs] at h; cases h
    | some s1 => rw [hs] at h; exact runOpt_cons_some hs as ▸ ih s1 h

theorem TcpSt.accept_prefix (fixed : Bool) (s s' : TcpSt) (xs ys : List TcpAct)
    (h : TcpSt.accept fixed s (xs ++ ys) = some s') : ∃ m, TcpSt.accept fixed s xs = some m ∧ TcpSt.accept fixed m ys = some s' := by
  induction xs generalizing s with
  | nil => exact ⟨s, rfl, h⟩
  | cons a as ih =>
    simp only [List.cons_append, TcpSt.accept] at h ⊢
    cases hs : s.step fixed a with
    | none => simp [hs] at h
    | some s1 => simp only [hs] at h ⊢; exact ih s1 h

/-- **what the acceptor establishes**: after every accepted prefix of the observed events of the io (code as it is),
the model's live tasks are one handler per open connection plus the replies in flight on open connections, it
retains exactly the handles of those replies - no finished task - and nothing server-wide. -/
theorem accepted_trace_resources (xs ys : List TcpAct) (s' : TcpSt)
    (h : TcpSt.accept true {} (xs ++ ys) = some s') :
    ∃ m, TcpSt.accept true {} xs = some m ∧
      m.tasks = m.openConns + m.replyLiveOpen ∧ m.retained = m.replyLiveOpen ∧ m.legacyHeld = 0 ∧
      (m.replyLive = 0 → m.retained = 0) := by
  obtain ⟨m, hm, _⟩ := TcpSt.accept_prefix true {} s' xs ys h
  have hr := TcpSt.accept_is_run true {} m xs hm
  have hb := tcp_bounded xs
  have hq := tcp_quiescent xs
  simp only at hb hq
  rw [hr] at hb hq
  obtain ⟨-, hretained, htasks, hlegacy⟩ := hb
  exact ⟨m, hm, htasks, hretained, hlegacy, fun h0 => (hq h0).1⟩

/-- non-vacuity: two connections, interleaved -/
example : (TcpSt.accept true {} [.connect, .connect, .chunk 1, .replyDone 0, .eof 0, .finish 0, .replyDone 1, .replyDone 1]).map (fun s => (s.tasks, s.retained))
    = some (1, 0) := by decide +kernel

end Tickit
