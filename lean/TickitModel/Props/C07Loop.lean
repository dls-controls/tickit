/-
C07 (run loop) — the master scheduler's `_do_tick` loop and its `new_wakeup` event
(`Core/MasterLoop.lean`): for EVERY interleaving of `add_wakeup` calls, expiries of the sleep
and runs of the event-waiting task, the repaired loop never fails `assert when is not None`,
never waits on the event while a wakeup exists, never deadlocks while there is work, and
never deletes a missing entry, and every tick serves exactly the components that hold the
minimum entry at the moment the tick starts (the repair of defect F17: `get_first_wakeups` is
re-evaluated after the race).  The original loop fails on the history of defect F16 and
serves a stale set when a wakeup arrives while the sleep is expiring (F17).
-/
import TickitModel.Lemmas.MasterLoopLemmas

namespace Tickit

/-- the inductive invariant of the repaired loop, in every reachable state:
`self.wakeups` is a dict; the chosen components keep an entry until served; the task `new`
completes only after an uncleared `set()`; the assertion has not failed; and while the loop
waits on the event the flag says EXACTLY whether a wakeup exists. -/
theorem loop_invariant (acts : List MLoopAct) : MLoopInv (({} : MLoopSt).run true acts) :=
  MLoopInv.init.run acts

theorem loop_invariant_step (s s' : MLoopSt) (a : MLoopAct) (h : MLoopInv s)
    (hs : s.step true a = some s') : MLoopInv s' :=
  h.step hs

/-- the repaired loop never reaches the failed assertion. -/
theorem loop_never_dies (acts : List MLoopAct) : (({} : MLoopSt).run true acts).pc ≠ .dead :=
  (loop_invariant acts).alive

/-- the repaired loop never waits on the event while a wakeup exists: if it is inside
`await self.new_wakeup.wait()` and `self.wakeups` is not empty, the flag is set (so `step`
is enabled). -/
theorem loop_never_waits_with_work (acts : List MLoopAct) :
    let s := ({} : MLoopSt).run true acts
    s.pc = .waiting → s.wake ≠ [] → s.flag = true := by
  intro s hpc hne
  exact ((loop_invariant acts).waitIff hpc).mpr hne

/-- the converse: the repaired loop is woken only when there is a wakeup (no stale flag:
this is what the `clear()` inside the `while` buys). -/
theorem loop_woken_only_for_work (acts : List MLoopAct) :
    let s := ({} : MLoopSt).run true acts
    s.pc = .waiting → s.flag = true → s.wake ≠ [] := by
  intro s hpc hf
  exact ((loop_invariant acts).waitIff hpc).mp hf

/-- the only state of the repaired loop in which no scheduler/loop action is enabled is the
legitimate idle state: waiting on the event, no wakeup, flag clear. -/
theorem loop_quiescent_iff (acts : List MLoopAct) :
    let s := ({} : MLoopSt).run true acts
    (s.step true .step = none ∧ s.step true .sleepExpires = none ∧
        s.step true .newTaskRuns = none) ↔
      (s.pc = .waiting ∧ s.wake = [] ∧ s.flag = false) := by
  intro s
  have hinv : MLoopInv s := loop_invariant acts
  constructor
  · rintro ⟨h1, h2, -⟩
    -- everywhere else `step` or the expiry of the sleep is enabled
    cases hpc : s.pc <;> simp only [MLoopSt.step, hpc] at h1 h2
    · by_cases hw : s.wake = []
      · rw [if_pos hw] at h1; cases h1
      · rw [if_neg hw] at h1; cases h1
    · cases hf : s.flag
      · refine ⟨rfl, Classical.byContradiction fun hne => ?_, rfl⟩
        exact Bool.false_ne_true (hf.symm.trans ((hinv.waitIff hpc).mpr hne))
      · rw [if_pos hf] at h1; cases h1
    · cases h2
    · by_cases hd : s.flagTaskDone = true
      · rw [if_pos hd] at h1; cases h1
      · rw [if_neg hd] at h1; cases h1
    · cases h1
    · exact absurd hpc hinv.alive
  · rintro ⟨hpc, -, hf⟩
    simp only [MLoopSt.step, hpc, hf, MLoopPc.isRacing, Bool.false_and, Bool.false_eq_true,
      if_false, and_self]

/-- no deadlock while there is work: in every reachable state of the repaired loop
with a wakeup, the scheduler's own `step`, the expiry of the sleep or the run of the
event-waiting task is enabled; and at `top` `get_first_wakeups` returns a time. -/
theorem loop_progress (acts : List MLoopAct) :
    let s := ({} : MLoopSt).run true acts
    s.wake ≠ [] →
      ((s.step true .step).isSome = true ∨ (s.step true .sleepExpires).isSome = true ∨
        (s.step true .newTaskRuns).isSome = true) ∧
      (s.pc = .top → ∃ cs w, firstWakeups s.wake = (cs, some w) ∧
        s.step true .step = some { s with flag := false, flagTaskDone := false,
                                          pc := .sleeping cs w }) := by
  intro s hne
  constructor
  · have hq := (loop_quiescent_iff acts).mp
    cases h1 : s.step true .step with
    | some _ => simp
    | none =>
      cases h2 : s.step true .sleepExpires with
      | some _ => simp
      | none =>
        cases h3 : s.step true .newTaskRuns with
        | some _ => simp
        | none => exact absurd (hq ⟨h1, h2, h3⟩).2.1 hne
  · intro hpc
    obtain ⟨cs, w, hf⟩ := firstWakeups_some_of_ne_nil s.wake hne
    refine ⟨cs, w, hf, ?_⟩
    simp [MLoopSt.step, hpc, hne, MLoopSt.choose, hf]

/-- the re-evaluated `get_first_wakeups` of the repaired loop returns a time (its
`assert when is not None` cannot fail either): while the sleep races there is a wakeup. -/
theorem loop_reevaluation_some (acts : List MLoopAct) (cs : List Comp) (w : SimTime) :
    let s := ({} : MLoopSt).run true acts
    s.pc = .sleptNotResumed cs w → s.flagTaskDone = false →
      ∃ cs' w', firstWakeups s.wake = (cs', some w') ∧
        s.step true .step = some { s with wake := delWakeups s.wake cs', pc := .ticking cs' w' } := by
  intro s hpc hft
  have hb : LoopBase s := LoopBase.init.run acts
  obtain ⟨cs', w', hf, he⟩ :=
    serveFirst_of_ne_nil s (hb.racingWork (by simp [hpc, MLoopPc.isRacing]))
  exact ⟨cs', w', hf, by simp [MLoopSt.step, hpc, hft, he]⟩

/-- when the repaired loop starts a tick `ticking cs' w'` from a reachable state `s`, the served
set is EXACTLY the set of components holding the minimum entry of `s.wake`: every wakeup
registered before the tick starts with the minimum time is served by THIS tick, and nothing
else is.  In particular every served component has an entry (`del self.wakeups[c]` cannot raise
`KeyError`); after the step the served entries are gone and the others are untouched. -/
theorem tick_serves_all_first_wakeups (acts : List MLoopAct) (s' : MLoopSt) (cs' : List Comp)
    (w' : SimTime) :
    let s := ({} : MLoopSt).run true acts
    s.step true .step = some s' → s'.pc = .ticking cs' w' →
      (∀ c, c ∈ cs' ↔ alookup s.wake c = some w') ∧
      (∀ c t, alookup s.wake c = some t → w' ≤ t) ∧
      (∀ c, alookup s'.wake c = if c ∈ cs' then none else alookup s.wake c) := by
  intro s hs hpc'
  have hb : LoopBase s := LoopBase.init.run acts
  obtain ⟨_, hf, hw⟩ := step_into_ticking s s' cs' w' hs hpc'
  obtain ⟨h1, h2, _, _⟩ := firstWakeups_spec s.wake hb.uniq cs' w' hf
  exact ⟨h1, h2, fun c => by rw [hw, delWakeups_lookup _ hb.uniq]⟩

/-- (repaired AND original loop) whenever the sleep has expired, every component
chosen before the sleep still has an entry in `self.wakeups`.  (The entries existed when
chosen; in between they are only overwritten.)  For the original loop these are the
components it is going to delete: `del self.wakeups[c]` cannot raise `KeyError`. -/
theorem served_entries_exist (fixed : Bool) (acts : List MLoopAct) (cs : List Comp)
    (w : SimTime) :
    let s := ({} : MLoopSt).run fixed acts
    s.pc = .sleptNotResumed cs w → ∀ c ∈ cs, ∃ t, alookup s.wake c = some t := by
  intro s hpc c hc
  have hb : LoopBase s := LoopBase.init.run acts
  have := hb.served c (by simpa [hpc, MLoopPc.chosen] using hc)
  exact Option.isSome_iff_exists.mp this

/-- `served_entries_exist` at the very step, for the repaired AND the original loop: when
`sleptNotResumed` goes on to `ticking cs' w'`, every `c ∈ cs'` has an entry before the step (no `KeyError`)
and none after it, and the other entries are untouched. -/
theorem served_entries_deleted (fixed : Bool) (acts : List MLoopAct) (cs cs' : List Comp)
    (w w' : SimTime) (s' : MLoopSt) :
    let s := ({} : MLoopSt).run fixed acts
    s.pc = .sleptNotResumed cs w → s.step fixed .step = some s' → s'.pc = .ticking cs' w' →
      (∀ c ∈ cs', (∃ t, alookup s.wake c = some t) ∧ alookup s'.wake c = none) ∧
      (∀ c, c ∉ cs' → alookup s'.wake c = alookup s.wake c) := by
  intro s hpc hs hpc'
  have hb : LoopBase s := LoopBase.init.run acts
  cases fixed with
  | true =>
    obtain ⟨h1, _, h3⟩ := tick_serves_all_first_wakeups acts s' cs' w' hs hpc'
    exact ⟨fun c hc => ⟨⟨w', (h1 c).mp hc⟩, by rw [h3]; simp [hc]⟩,
      fun c hc => by rw [h3]; simp only [hc, if_false]; rfl⟩
  | false =>
    -- the original loop deletes the components chosen before the sleep: `cs' = cs`
    cases MLoopSt.Step.of_step hs with
    | idle h0 | choose h0 | woken h0 | preempted _ _ h0 | done _ _ h0 => cases hpc.symm.trans h0
    | both => cases hpc'
    | serve cs0 w0 hpc0 =>
      rw [if_neg Bool.false_ne_true] at hpc' ⊢
      cases hpc.symm.trans hpc0
      cases hpc'
      constructor
      · intro c hc
        refine ⟨served_entries_exist false acts cs w hpc c hc, ?_⟩
        show alookup (delWakeups s.wake cs) c = none
        rw [delWakeups_lookup _ hb.uniq, if_pos hc]
      · intro c hc
        show alookup (delWakeups s.wake cs) c = alookup s.wake c
        rw [delWakeups_lookup _ hb.uniq, if_neg hc]

/-- the ORIGINAL loop violates `tick_serves_all_first_wakeups`: a wakeup of Y for time 10
arrives while the sleep for X at 10 is expiring; the tick serves the stale set `[X]` although
Y also holds the minimum entry 10 — Y's wakeup is left for a later tick at a time that has
already passed. -/
theorem old_loop_serves_stale_set :
    let s := ({} : MLoopSt).run false staleSetHistory
    s.step false .step =
        some { wake := [("Y", 10)], flag := true, pc := .ticking ["X"] 10, flagTaskDone := false } ∧
      alookup s.wake "Y" = some 10 ∧ "Y" ∉ ["X"] := by decide +kernel

/-- the repaired loop serves both. -/
theorem new_loop_serves_fresh_set :
    (({} : MLoopSt).run true staleSetHistory).step true .step =
      some { wake := [], flag := true, pc := .ticking ["X", "Y"] 10, flagTaskDone := false } := by
  decide +kernel

/-- the ORIGINAL loop fails the assertion on the history of defect F16. -/
theorem old_loop_dies : (({} : MLoopSt).run false f16History).pc = .dead := by decide +kernel

/-- one step earlier the original loop waits with a stale flag: flag set, no wakeup —
exactly what the invariant of the repaired loop (`MLoopInv.waitIff`) excludes. -/
theorem old_loop_stale_flag :
    ({} : MLoopSt).run false f16History.dropLast =
      { wake := [], flag := true, pc := .waiting, flagTaskDone := false } := by decide +kernel

/-- the failure does not depend on the component or on the two times: ANY wakeup for the
component being served that arrives in the window kills the original loop when no other
wakeup is left. -/
theorem old_loop_dies_general (c : Comp) (t t' : SimTime) :
    (({} : MLoopSt).run false
      [.addWakeup c t, .step, .sleepExpires, .addWakeup c t', .step, .step, .step, .step]).pc
      = .dead := by
  -- run the eight actions symbolically; the states are those listed beside `f16History`
  simp [MLoopSt.run, MLoopSt.step, MLoopSt.choose, addWakeup, upsert, firstWakeups, minTime,
    delWakeups, aerase]

/-- the same general history leaves the repaired loop idle: waiting, no wakeup, flag clear. -/
theorem new_loop_survives_general (c : Comp) (t t' : SimTime) :
    ({} : MLoopSt).run true
      [.addWakeup c t, .step, .sleepExpires, .addWakeup c t', .step, .step, .step, .step]
      = { wake := [], flag := false, pc := .waiting, flagTaskDone := false } := by
  simp [MLoopSt.run, MLoopSt.step, MLoopSt.choose, MLoopSt.serveFirst, addWakeup, upsert, firstWakeups, minTime,
    delWakeups, aerase]

/-- the history of defect F16 (`f16History`, on which `old_loop_dies`) is harmless for the
repaired loop: it ends idle, flag clear. -/
theorem new_loop_survives_f16 :
    ({} : MLoopSt).run true f16History =
      { wake := [], flag := false, pc := .waiting, flagTaskDone := false } := by decide +kernel

end Tickit
