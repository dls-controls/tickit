/-
C12, run level — simulation time is paced against real time by the configured speed, over the
whole-simulation model (`masterInitial` / `masterRun`, nested schedulers at any depth, external
stimuli).  Speed = `sp.num / sp.den`; times are integer nanoseconds; processing cost is zero in
this model (a tick recorded at real time `d` ends at `d`).  One-step versions: `Props/C12.lean`.

"simulation time = t0 + speed × elapsed real time" reads, without division,
`(time - t0) * sp.den = (real - now0) * sp.num`.

* P1 `run_never_early` — any stimuli: between consecutive tick records real time does not go back
  and advances by at least `(b.time - a.time)/speed`; cumulatively simulation time never runs
  ahead of real time.
* P2 `run_linear_law` — callbacks only, no callback in the past: simulation time does not lag
  either, up to the rounding of each sleep UP to a whole nanosecond: the k-th tick is late by at
  most `k * (sp.num - 1)` in units of `1/sp.num` ns, i.e. by less than `k` ns.  The bound is
  attained (speed 3/2, period 2: below).  `run_linear_exact_of_dvd`, `run_linear_exact`: no lag
  at all when every wait is a whole number of nanoseconds, e.g. `sp.num = 1`.
* P3 `run_stamp_law` — every stimulus handled by the run is stamped with the simulation time that
  corresponds to the real time `now` at which it is handled, is never ahead of real time, and
  the next tick record is started at that very real time `now`, for a simulation time `≤` stamp:
  it is the tick of the wakeup written for the interrupt, unless an earlier wakeup is served first.
  The handled stimuli are given by the executable log `Pacing.runLog`.
-/
import TickitModel.Lemmas.CostRun
import TickitModel.Props.C12
import TickitModel.Props.C04Mono

namespace Tickit

open Pacing TimeMono CostRun

/-- **P1.**  Whole simulation, any stimuli, any positive `sp.num` (no hypothesis on the
configuration, the devices or `sp.den`).  The tick for `b.time` is not started before real time has
advanced by `(b.time - a.time)/speed` since the previous tick (which, at zero cost, ended when it
started); cumulatively, simulation time never runs ahead of real time. -/
theorem run_never_early (S : Static) (orc : Oracle) (fuel : Nat) (t0 : SimTime) (now0 : Int)
    (sp : Speed) (steps nTicks : Nat) (stims : List Stim) (m m2 : MasterSt) (tr : TickRec)
    (ticks : List TickRec)
    (h : masterInitial S orc fuel t0 now0 = .ok (m, tr))
    (h2 : masterRun S orc fuel sp steps nTicks m stims [tr] = .ok (m2, ticks))
    (hn : 0 < sp.num) :
    (∀ (i : Nat) (a b : TickRec), ticks[i]? = some a → ticks[i + 1]? = some b →
      a.real ≤ b.real ∧ (b.time - a.time) * sp.den ≤ (b.real - a.real) * sp.num) ∧
    (∀ x ∈ ticks, now0 ≤ x.real ∧ (x.time - t0) * sp.den ≤ (x.real - now0) * sp.num) := by
  obtain ⟨hl, h0, ht, hr⟩ := initial_links h h2 hn
  refine ⟨fun i a b ha hb => ?_, fun x hx => ?_⟩
  · have := (hl i a b ha hb).never_early hn
    simp only [Int.natCast_zero, Int.add_zero] at this
    exact this
  · obtain ⟨k, hk⟩ := List.mem_iff_getElem?.1 hx
    have := paced_never_ahead hn hl h0 k x hk
    rw [busy_zero, Int.natCast_zero, Int.add_zero, Int.sub_zero, ht, hr] at this
    exact this

/-- **P2, one tick.**  Callbacks only, tick times non-decreasing: each tick is started less than
one nanosecond after the ideal real time `a.real + (b.time - a.time)/speed` (and not before it:
P1) — the sleep is rounded up to a whole nanosecond. -/
theorem run_step_law (S : Static) (orc : Oracle) (fuel : Nat) (t0 : SimTime) (now0 : Int)
    (sp : Speed) (steps nTicks : Nat) (m m2 : MasterSt) (tr : TickRec) (ticks : List TickRec)
    (h : masterInitial S orc fuel t0 now0 = .ok (m, tr))
    (h2 : masterRun S orc fuel sp steps nTicks m [] [tr] = .ok (m2, ticks))
    (hn : 0 < sp.num)
    (hmono : (ticks.map (·.time)).Pairwise (· ≤ ·)) :
    ∀ (i : Nat) (a b : TickRec), ticks[i]? = some a → ticks[i + 1]? = some b →
      (b.time - a.time) * sp.den ≤ (b.real - a.real) * sp.num ∧
      (b.real - a.real) * sp.num < (b.time - a.time) * sp.den + sp.num := by
  obtain ⟨hl, _⟩ := initial_links h h2 hn
  intro i a b ha hb
  have h1 := ((hl i a b ha hb).never_early hn).2
  have h3 := (hl i a b ha hb).lag hn rfl (pairwise_consec ticks hmono i a b ha hb)
  simp only [Int.natCast_zero, Int.add_zero] at h1 h3
  exact ⟨h1, by omega⟩

/-- **P2.**  Callbacks only, no device asks to be called back in the past (`RunNoPast`): at the
k-th tick, simulation time is not ahead of `t0 + speed × elapsed real time` and lags behind it by
at most `k * (sp.num - 1)` in units of `1/sp.num` ns of real time — strictly less than one
nanosecond per tick.  For any positive speed. -/
theorem run_linear_law (S : Static) (orc : Oracle) (fuel : Nat) (t0 : SimTime) (now0 : Int)
    (sp : Speed) (steps nTicks : Nat) (m m2 : MasterSt) (tr : TickRec) (ticks : List TickRec)
    (h : masterInitial S orc fuel t0 now0 = .ok (m, tr))
    (h2 : masterRun S orc fuel sp steps nTicks m [] [tr] = .ok (m2, ticks))
    (hn : 0 < sp.num)
    (hnp : RunNoPast orc m2.sim) :
    ∀ (k : Nat) (x : TickRec), ticks[k]? = some x →
      (x.time - t0) * sp.den ≤ (x.real - now0) * sp.num ∧
      (x.real - now0) * sp.num ≤ (x.time - t0) * sp.den + k * (sp.num - 1) := by
  have hmono := sim_time_monotone S orc fuel t0 now0 sp steps nTicks [] m m2 tr ticks h h2 hnp
  obtain ⟨hl, h0, ht, hr⟩ := initial_links h h2 hn
  intro k x hk
  have h1 := (paced_never_ahead hn hl h0 k x hk).2
  have h3 := paced_lag (fun i a b ha hb =>
    (hl i a b ha hb).lag hn rfl (pairwise_consec ticks hmono i a b ha hb)) h0 k x hk
  rw [busy_zero, Int.natCast_zero, Int.sub_zero, ht, hr] at h1 h3
  exact ⟨h1, h3⟩

/-- **P2, exact.**  Callbacks only, no callback in the past, and every wait a whole number of
nanoseconds (`sp.num ∣ (b.time - a.time) * sp.den` for consecutive ticks): simulation time EQUALS
`t0 + speed × elapsed real time` at every tick. -/
theorem run_linear_exact_of_dvd (S : Static) (orc : Oracle) (fuel : Nat) (t0 : SimTime) (now0 : Int)
    (sp : Speed) (steps nTicks : Nat) (m m2 : MasterSt) (tr : TickRec) (ticks : List TickRec)
    (h : masterInitial S orc fuel t0 now0 = .ok (m, tr))
    (h2 : masterRun S orc fuel sp steps nTicks m [] [tr] = .ok (m2, ticks))
    (hn : 0 < sp.num)
    (hnp : RunNoPast orc m2.sim)
    (hdiv : ∀ (i : Nat) (a b : TickRec), ticks[i]? = some a → ticks[i + 1]? = some b →
      (sp.num : Int) ∣ (b.time - a.time) * sp.den) :
    ∀ x ∈ ticks, (x.time - t0) * sp.den = (x.real - now0) * sp.num := by
  have hmono := sim_time_monotone S orc fuel t0 now0 sp steps nTicks [] m m2 tr ticks h h2 hnp
  obtain ⟨hl, h0, ht, hr⟩ := initial_links h h2 hn
  intro x hx
  obtain ⟨k, hk⟩ := List.mem_iff_getElem?.1 hx
  have := paced_exact hn rfl hl hmono hdiv h0 k x hk
  rw [busy_zero, Int.natCast_zero, Int.sub_zero, ht, hr] at this
  exact this

/-- **P2, exact, speeds `1/den`.**  With `sp.num = 1` (speed `1/sp.den`: slower than or equal to
real time by a whole factor) every wait is a whole number of nanoseconds: the linear law is
exact at every tick, `x.time - t0 = speed × (x.real - now0)`. -/
theorem run_linear_exact (S : Static) (orc : Oracle) (fuel : Nat) (t0 : SimTime) (now0 : Int)
    (sp : Speed) (steps nTicks : Nat) (m m2 : MasterSt) (tr : TickRec) (ticks : List TickRec)
    (h : masterInitial S orc fuel t0 now0 = .ok (m, tr))
    (h2 : masterRun S orc fuel sp steps nTicks m [] [tr] = .ok (m2, ticks))
    (hn : sp.num = 1)
    (hnp : RunNoPast orc m2.sim) :
    ∀ x ∈ ticks, (x.time - t0) * sp.den = (x.real - now0) * sp.num :=
  run_linear_exact_of_dvd S orc fuel t0 now0 sp steps nTicks m m2 tr ticks h h2 (by omega) hnp
    (fun _ _ _ _ _ => by rw [hn]; exact Int.one_dvd _)

/-- what handling a stimulus writes: the interrupting top-level component `ev.top` (the component
itself or the outermost system component containing it) gets the wakeup `ev.when`, which is
`ev.stamp sp` unless an earlier wakeup of `top` is still pending, which is kept. -/
theorem stamp_written (S : Static) (fuel : Nat) (sp : Speed) (ev : StimEv) :
    ((stimStep S fuel sp ev.m ev.st).sim.sched "").wake =
      addWakeup (ev.m.sim.sched "").wake (ev.top S fuel) (ev.when S fuel sp) ∧
    ev.when S fuel sp = (match alookup (ev.m.sim.sched "").wake (ev.top S fuel) with
      | some w => if w < ev.stamp sp then w else ev.stamp sp
      | none => ev.stamp sp) ∧
    ev.when S fuel sp ≤ ev.stamp sp ∧
    (stimStep S fuel sp ev.m ev.st).now = ev.now ∧
    (stimStep S fuel sp ev.m ev.st).tickerTime = ev.m.tickerTime ∧
    (stimStep S fuel sp ev.m ev.st).lastReal = ev.m.lastReal :=
  ⟨stimStep_wake S fuel sp ev.m ev.st, rfl, stimWhen_le_stamp _ _ _, rfl, rfl, rfl⟩

/-- what P3 says about one handled stimulus `ev` (handled in master state `ev.m`, after `ev.k`
tick records), with `now = ev.now = max st.real m.now` the real time at which it is handled and
`stamp = ev.stamp sp = interruptStamp m.tickerTime now m.lastReal sp` the time stamped on it
(`stamp_written`). -/
structure Pacing.StimEv.Lawful (S : Static) (fuel : Nat) (sp : Speed) (t0 : SimTime) (now0 : Int)
    (ticks : List TickRec) (ev : StimEv) : Prop where
  /-- `(m.tickerTime, m.lastReal)` is the last tick record before the stimulus, `ticks[k-1]` -/
  last_tick : 1 ≤ ev.k ∧ ∃ z, ticks[ev.k - 1]? = some z ∧ z.time = ev.m.tickerTime ∧
    z.real = ev.m.lastReal
  /-- real time has not run backwards since that tick, and handling does not move it back -/
  real_mono : ev.m.lastReal ≤ ev.m.now ∧ ev.m.now ≤ ev.now
  /-- **stamp law**: `stamp - tickerTime = ⌊(now - lastReal) × speed⌋` -/
  stamp_law : (ev.stamp sp - ev.m.tickerTime) * sp.den ≤ (ev.now - ev.m.lastReal) * sp.num ∧
    (ev.now - ev.m.lastReal) * sp.num < (ev.stamp sp - ev.m.tickerTime + 1) * sp.den
  /-- the stamp is never ahead of real time: `(stamp - t0)/speed ≤ now - now0` -/
  not_ahead : (ev.stamp sp - t0) * sp.den ≤ (ev.now - now0) * sp.num
  /-- a tick for `stamp` is due at once -/
  due_now : dueReal { ev.m with now := ev.now } sp (ev.stamp sp) = ev.now
  /-- the wakeup written for the interrupting top-level component is not after the stamp -/
  when_le : ev.when S fuel sp ≤ ev.stamp sp
  /-- the next tick record `ticks[k]`, if there is one, is started at that very real time `now`,
  for a simulation time `≤ ev.when`; it is either the tick for `ev.when`, and then it serves the
  interrupt (`ev.top ∈ roots`), or the tick of an earlier wakeup that is served first. -/
  served : ∀ x, ticks[ev.k]? = some x → x.real = ev.now ∧ x.time ≤ ev.when S fuel sp ∧
    (x.time = ev.when S fuel sp → ev.top S fuel ∈ x.roots)

/-- **P3, for any decomposition of the run.**  `Pacing.Run` spells out the branches of `masterRun`
as a relation; its `log` lists the stimuli handled, in order.  They are an initial segment of
`stims`, and every one of them is `Lawful`. -/
theorem run_stamp_law_of_run (S : Static) (orc : Oracle) (fuel : Nat) (t0 : SimTime) (now0 : Int)
    (sp : Speed) (stims : List Stim) (m m2 : MasterSt) (tr : TickRec)
    (ticks : List TickRec) (log : List StimEv)
    (h : masterInitial S orc fuel t0 now0 = .ok (m, tr))
    (hrun : Run S orc fuel sp m stims [tr] m2 ticks log)
    (hn : 0 < sp.num) (hd : 0 < sp.den) :
    (∃ rest, stims = log.map (·.st) ++ rest) ∧
    ∀ ev ∈ log, ev.Lawful S fuel sp t0 now0 ticks := by
  obtain ⟨h3, h4, h5, ht, hr⟩ := masterInitial_clock h
  refine ⟨hrun.log_stims, fun ev hev => ?_⟩
  obtain ⟨e1, e2, e3, e4⟩ := hrun.events hn t0 now0 tr rfl (by rw [ht, h3]) (by rw [hr, h4])
    (by omega) (by rw [h3, h4]; simp) ev hev
  have hserved := hrun.served hd (by omega) ev hev
  have hnow := ev.le_now
  have hlast : ev.m.lastReal ≤ ev.now := Int.le_trans e1 hnow
  have hstamp := stamp_law ev.m.tickerTime ev.now ev.m.lastReal sp hd hlast
  refine ⟨⟨e3, e4⟩, ⟨e1, hnow⟩, hstamp, ?_, ?_, stimWhen_le_stamp _ _ _, hserved⟩
  · exact stamp_not_ahead _ _ _ _ _ _ sp hd hlast (Int.le_refl _) e2
  · exact interrupt_due_now { ev.m with now := ev.now } sp hd hn hlast

/-- **P3.**  Whole simulation with stimuli.  `Pacing.runLog … m stims 1` is the list of stimuli
that `masterRun … m stims [tr]` handles, in order, computed alongside it: each with the master
state `ev.m` in which it is handled and the number `ev.k` of tick records written before.  The run
is the `Pacing.Run` with this log; the handled stimuli are an initial segment of `stims`; and every
handled stimulus is `Lawful`. -/
theorem run_stamp_law (S : Static) (orc : Oracle) (fuel : Nat) (t0 : SimTime) (now0 : Int)
    (sp : Speed) (steps nTicks : Nat) (stims : List Stim) (m m2 : MasterSt) (tr : TickRec)
    (ticks : List TickRec)
    (h : masterInitial S orc fuel t0 now0 = .ok (m, tr))
    (h2 : masterRun S orc fuel sp steps nTicks m stims [tr] = .ok (m2, ticks))
    (hn : 0 < sp.num) (hd : 0 < sp.den) :
    Run S orc fuel sp m stims [tr] m2 ticks (runLog S orc fuel sp steps nTicks m stims 1) ∧
    (∃ rest, stims = (runLog S orc fuel sp steps nTicks m stims 1).map (·.st) ++ rest) ∧
    ∀ ev ∈ runLog S orc fuel sp steps nTicks m stims 1, ev.Lawful S fuel sp t0 now0 ticks := by
  have hrun := masterRun_runLog S orc fuel sp steps nTicks m stims [tr] m2 ticks h2
  exact ⟨hrun, run_stamp_law_of_run S orc fuel t0 now0 sp stims m m2 tr ticks _ h hrun hn hd⟩

/-! ## non-vacuity and tightness (evaluated at build time)

Master level with two devices: `d` asks to be called back periodically, `e` never does. -/

namespace C12RunEx

def S : Static :=
  { levels := [⟨"", Wiring.fromInverse [("d", []), ("e", [])]⟩], systems := [],
    parent := [("d", ""), ("e", "")] }

def per (period : Int) (k : Nat) : List DevResp :=
  (List.range k).map (fun (i : Nat) => (⟨[], some (period * ((i : Int) + 1)), false⟩ : DevResp))

def quiet (k : Nat) : List DevResp := List.replicate k ⟨[], none, false⟩

/-- the tick records `(time, real, roots)` of a run from `t0 = 0`, `now0 = 0`, whether
`RunNoPast` holds in the final state, and the lag `real * num - time * den` of every tick
(in units of `1/num` ns of real time) -/
def run (orc : Oracle) (sp : Speed) (stims : List Stim) (k : Nat) :
    Option (List (Int × Int × List Comp) × Bool × List Int) :=
  match masterInitial S orc 10 0 0 with
  | .ok (m, tr) =>
    match masterRun S orc 10 sp 200 k m stims [tr] with
    | .ok (m2, ticks) =>
      some (ticks.map (fun x => (x.time, x.real, x.roots)), runNoPastB orc m2.sim,
        ticks.map (fun x => x.real * sp.num - x.time * sp.den))
    | .error _ => none
  | .error _ => none

/-- the handled stimuli: `(st.real, st.comp, k, now, stamp, top, when)` -/
def log (orc : Oracle) (sp : Speed) (stims : List Stim) (k : Nat) :
    Option (List (Int × Comp × Nat × Int × SimTime × Comp × SimTime)) :=
  match masterInitial S orc 10 0 0 with
  | .ok (m, _) =>
    some ((runLog S orc 10 sp 200 k m stims 1).map
      (fun ev => (ev.st.real, ev.st.comp, ev.k, ev.now, ev.stamp sp, ev.top S 10, ev.when S 10 sp)))
  | .error _ => none

-- speed 3/2, period 2: each wait is 4/3 ns, slept as 2 ns; the k-th tick lags by exactly
-- `k * (num - 1) = 2k` thirds of a nanosecond: the bound of `run_linear_law` is attained
#guard run [("d", per 2 30), ("e", quiet 30)] ⟨3, 2⟩ [] 5 ==
  some ([(0, 0, ["d", "e"]), (2, 2, ["d"]), (4, 4, ["d"]), (6, 6, ["d"]), (8, 8, ["d"]), (10, 10, ["d"])],
    true, [0, 2, 4, 6, 8, 10])
-- speed 2/3, period 1: each wait is 3/2 ns, slept as 2 ns; the bound `k * (num - 1) = k` is attained
#guard run [("d", per 1 30), ("e", quiet 30)] ⟨2, 3⟩ [] 5 ==
  some ([(0, 0, ["d", "e"]), (1, 2, ["d"]), (2, 4, ["d"]), (3, 6, ["d"]), (4, 8, ["d"]), (5, 10, ["d"])],
    true, [0, 1, 2, 3, 4, 5])
-- speed 3/2, period 3: every wait is a whole number of nanoseconds (2): no lag
-- (`run_linear_exact_of_dvd`)
#guard run [("d", per 3 30), ("e", quiet 30)] ⟨3, 2⟩ [] 5 ==
  some ([(0, 0, ["d", "e"]), (3, 2, ["d"]), (6, 4, ["d"]), (9, 6, ["d"]), (12, 8, ["d"]), (15, 10, ["d"])],
    true, [0, 0, 0, 0, 0, 0])
-- speed 1/3 (`num = 1`), period 7: exact (`run_linear_exact`)
#guard run [("d", per 7 30), ("e", quiet 30)] ⟨1, 3⟩ [] 5 ==
  some ([(0, 0, ["d", "e"]), (7, 21, ["d"]), (14, 42, ["d"]), (21, 63, ["d"]), (28, 84, ["d"]), (35, 105, ["d"])],
    true, [0, 0, 0, 0, 0, 0])
-- the hypothesis "no callback in the past" of P2 is needed, even at speed 1: at time 6 `d` asks
-- for time 5; real time does not go back, so the tick for 5 is 1 ns late (P1 still holds)
#guard run [("d", [⟨[], some 6, false⟩, ⟨[], some 5, false⟩, ⟨[], none, false⟩]), ("e", quiet 30)] ⟨1, 1⟩ [] 5 ==
  some ([(0, 0, ["d", "e"]), (6, 6, ["d"]), (5, 6, ["d"])], false, [0, 0, 1])
-- P3, speed 3/2, `d` waits for 10.  At real time 3 `e` and `d` are interrupted: stamp
-- `0 + ⌊3 * 3/2⌋ = 4` (for `d`: `min 10 4`), served at once, at real time 3.  At real time 5 `e`
-- again: stamp `4 + ⌊2 * 3/2⌋ = 7`, served at real time 5.  (`d` then asks for 20, 30, …)
#guard run [("d", per 10 30), ("e", quiet 30)] ⟨3, 2⟩ [⟨3, "e"⟩, ⟨3, "d"⟩, ⟨5, "e"⟩] 5 ==
  some ([(0, 0, ["d", "e"]), (4, 3, ["d", "e"]), (7, 5, ["e"]), (20, 14, ["d"]), (30, 21, ["d"]), (40, 28, ["d"])],
    true, [0, 1, 1, 2, 3, 4])
#guard log [("d", per 10 30), ("e", quiet 30)] ⟨3, 2⟩ [⟨3, "e"⟩, ⟨3, "d"⟩, ⟨5, "e"⟩] 5 ==
  some [(3, "e", 1, 3, 4, "e", 4), (3, "d", 1, 3, 4, "d", 4), (5, "e", 2, 5, 7, "e", 7)]
-- P3, "unless an earlier wakeup is served first": speed 3/2, `d` has period 2 (its tick for 2 is
-- due at real time ⌈4/3⌉ = 2).  `e` is interrupted at real time 2: stamp `⌊2 * 3/2⌋ = 3 > 2`.
-- The next tick record is started at real time 2 as `run_stamp_law` says, but it is `d`'s (time
-- 2 < 3); `e`'s own tick (time 3) is paced from that one and starts at real time 2 + ⌈2/3⌉ = 3.
#guard run [("d", per 2 30), ("e", quiet 30)] ⟨3, 2⟩ [⟨2, "e"⟩] 4 ==
  some ([(0, 0, ["d", "e"]), (2, 2, ["d"]), (3, 3, ["e"]), (4, 4, ["d"]), (6, 6, ["d"])],
    true, [0, 2, 3, 4, 6])
#guard log [("d", per 2 30), ("e", quiet 30)] ⟨3, 2⟩ [⟨2, "e"⟩] 4 == some [(2, "e", 1, 2, 3, "e", 3)]

end C12RunEx

/-
Not covered here:
* an upper bound on the lag (the converse of P1's cumulative bound) for runs WITH stimuli: each
  interrupt tick rounds the stamp DOWN to a whole simulated nanosecond (`truncDiv`), and an
  interrupt whose stamp lies after a wakeup that is due at the same real instant is served only
  after that wakeup's tick and paced from it (last example above: arrival at real time 2, own
  tick at real time 3), so the callbacks-only bound `k * (sp.num - 1)` does not carry over as it
  stands;
* `run_stamp_law` says at which real time the NEXT tick record after a stimulus is started and
  when that tick is the interrupt's own; when an earlier wakeup goes first, the real time of the
  interrupt's own later tick is only bounded below (P1).
-/

end Tickit
