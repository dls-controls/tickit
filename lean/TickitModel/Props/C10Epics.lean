/-
C10, EPICS adapters — every adapter is notified exactly once per update of its own device and
never for another device's update; with per-instance record tables (the code since 1b72c96) the
records an adapter sets are its own, carry its own device's value, and the whole sequence of events
of a component's adapters depends only on the updates of that component — whatever other components,
adapters and updates there are.  With the class-level table of the code before the repair this
fails, in general and on an explicit two-adapter witness.  (Model: Core/Epics.lean.)
-/
import TickitModel.Lemmas.EpicsLemmas

namespace Tickit
namespace Epics

variable {St Val : Type}

/-- **exactly once per own update.**  The number of times `after_update` of adapter `i` of the
component named `c` is called during a history equals the number of updates of `c` in it (0 if there
is no such adapter), for both variants of the record table. -/
theorem notified_once_per_own_update (shared : Bool) (cfg : Config St Val) (σ : Comp → St)
    (h : List (Comp × St)) (c : Comp) (i : Nat) :
    ((run shared cfg σ h).filter (Ev.isNotify (c, i))).length =
      match cfg.lookup c with
      | some d => if i < d.adapters.length then (h.filter (fun u => u.1 == c)).length else 0
      | none => 0 := by
  have hG : ∀ σ c1, (updateOf shared cfg σ c1).filter (Ev.isNotify (c, i)) =
      if c1 = c then
        (match (cfg.lookup c).bind (fun d => d.adapters[i]?) with
         | some _ => [.notify (c, i)]
         | none => [])
      else [] := by
    intro σ c1
    rw [filter_isNotify_eq, filter_byAdapter_updateOf]
    split
    · cases (cfg.lookup c).bind (fun d => d.adapters[i]?) with
      | none => rfl
      | some a => exact filter_isNotify_afterUpdate ..
    · rfl
  rw [filter_run_own shared cfg _ c (fun _ => _) hG]
  cases cfg.lookup c with
  | none => exact congrArg List.length (List.flatMap_eq_nil_iff.mpr fun _ _ => rfl)
  | some d =>
    by_cases hi : i < d.adapters.length
    · simp only [Option.bind_some, List.getElem?_eq_getElem hi, ← List.map_eq_flatMap,
        List.length_map, if_pos hi]
    · simp only [Option.bind_some, List.getElem?_eq_none (Nat.le_of_not_lt hi), if_neg hi]
      exact congrArg List.length (List.flatMap_eq_nil_iff.mpr fun _ _ => rfl)

/-- **never for another device's update.**  Every `after_update` call made during the tick of
component `c` is on an adapter of `c`. -/
theorem notified_only_by_own_device (shared : Bool) (cfg : Config St Val) (σ : Comp → St)
    (c : Comp) (a : AdapterRef) (h : Ev.notify a ∈ updateOf shared cfg σ c) : a.1 = c := by
  -- `notify a` survives the filter for the actions of `a`, which keeps nothing of a tick of `c`
  -- unless `c = a.1`; the filter is taken at `(a.1, a.2)`, the form `filter_byAdapter_updateOf`
  -- wants (it is `a` by eta, which is why `beq_self_eq_true a` fits)
  have hm : Ev.notify a ∈ (updateOf shared cfg σ c).filter (Ev.byAdapter (a.1, a.2)) :=
    List.mem_filter.mpr ⟨h, beq_self_eq_true a⟩
  refine Decidable.byContradiction fun hc => ?_
  rw [filter_byAdapter_updateOf, if_neg fun h => hc h.symm] at hm
  cases hm

example :
    let cfg : Config Nat Nat := [⟨"a", [⟨[("A:V", id)]⟩, ⟨[]⟩]⟩, ⟨"b", [⟨[("B:V", id)]⟩]⟩]
    let h := [("a", 1), ("b", 2), ("a", 3), ("zz", 9)]
    ((runFixed cfg (fun _ => 0) h).filter (Ev.isNotify ("a", 1))).length = 2 ∧
    ((runFixed cfg (fun _ => 0) h).filter (Ev.isNotify ("b", 0))).length = 1 ∧
    ((runFixed cfg (fun _ => 0) h).filter (Ev.isNotify ("b", 1))).length = 0 := by decide +kernel

/-- **noninterference.**  For two configurations that agree on the component named `c` (they may
differ in every other component, adapter and record) and any initial device states: the events of
`c` — its device updates, the notifications of its adapters, every record set by or belonging to one
of its adapters, with the values written, and its outputs — during `h` in `cfg` are exactly the
events of running, in `cfg'`, only the updates of `c`. -/
theorem records_noninterference (cfg cfg' : Config St Val) (c : Comp)
    (hsame : cfg.lookup c = cfg'.lookup c) (σ σ' : Comp → St) (h : List (Comp × St)) :
    (runFixed cfg σ h).filter (Ev.concerns c) =
      runFixed cfg' σ' (h.filter (fun u => u.1 == c)) := by
  unfold runFixed
  rw [filter_run_own false cfg _ c (fun s => updateOf false cfg (fun _ => s) c), run_fixed_eq,
    List.flatMap_def, List.flatMap_def]
  · congr 1
    refine List.map_congr_left fun u hu => ?_
    rw [beq_iff_eq.mp (List.mem_filter.mp hu).2, updateOf_fixed, updateOf_fixed, hsame]
  · intro σ c1
    rw [filter_eq_of_forall fun _ => concerns_of_mem_updateOf_fixed]
    exact ite_congr rfl (fun hc => hc ▸ updateOf_fixed_congr cfg rfl) fun _ => rfl

/-- ONE other component `x` added or removed anywhere in the configuration (`Config.lookup_insert`
gives the hypothesis of `records_noninterference`). -/
theorem records_unchanged_by_other_component (pre post : Config St Val) (x : DevComp St Val)
    (c : Comp) (hx : x.name ≠ c) (σ : Comp → St) (h : List (Comp × St)) :
    (runFixed (pre ++ x :: post) σ h).filter (Ev.concerns c) =
      (runFixed (pre ++ post) σ h).filter (Ev.concerns c) := by
  rw [records_noninterference _ (pre ++ post) c (Config.lookup_insert pre post x c hx) σ σ,
    records_noninterference (pre ++ post) (pre ++ post) c rfl σ σ]

/-- **closed form per adapter (adapter-level noninterference).**  Everything adapter number `i`
of component `c` does during a history — its notifications and the records it sets, with values —
is: for each update `(c, s)` of its OWN component in the history, in order, one notification
followed by one `set` of every record of its own table with its getter applied to `s`.  Nothing
else enters: not the other components, not the other adapters of the same component, not the other
updates, not the initial states. -/
theorem adapter_events_closed_form (cfg : Config St Val) (σ : Comp → St) (h : List (Comp × St))
    (c : Comp) (i : Nat) :
    (runFixed cfg σ h).filter (Ev.byAdapter (c, i)) =
      match (cfg.lookup c).bind (fun d => d.adapters[i]?) with
      | some a => (h.filter (fun u => u.1 == c)).flatMap (fun u => adapterEvents (c, i) a u.2)
      | none => [] := by
  unfold runFixed
  rw [filter_run_own false cfg _ c (fun s =>
    match (cfg.lookup c).bind (fun d => d.adapters[i]?) with
    | some a => adapterEvents (c, i) a s
    | none => [])]
  · cases (cfg.lookup c).bind (fun d => d.adapters[i]?) with
    | none => exact List.flatMap_eq_nil_iff.mpr fun _ _ => rfl
    | some a => rfl
  · intro σ c1
    rw [filter_byAdapter_updateOf]
    simp only [afterUpdate_fixed]
    rfl

example :
    let cfg : Config Nat Nat :=
      [⟨"a", [⟨[("A:V", id), ("A:W", fun s => 2 * s), ("A:V", fun s => s + 1)]⟩, ⟨[("A2:V", id)]⟩]⟩,
       ⟨"b", [⟨[("B:V", id)]⟩]⟩]
    (runFixed cfg (fun _ => 0) [("a", 1), ("b", 2), ("a", 3)]).filter (Ev.byAdapter ("a", 0)) =
      [.notify ("a", 0), .recordSet ("a", 0) ("a", 0) "A:V" 2, .recordSet ("a", 0) ("a", 0) "A:W" 2,
       .notify ("a", 0), .recordSet ("a", 0) ("a", 0) "A:V" 4, .recordSet ("a", 0) ("a", 0) "A:W" 6] := by
  decide +kernel

/-- **own table, own device's value.**  With per-instance tables every `record.set` that happens
during any history is executed by the adapter that linked the record (`owner = by`), the record is
an entry of THAT adapter's table (and stems from one of its `link_input_on_interrupt` calls), and
the value written is that entry's getter applied to the state its own device was left in by an update
of its own component that is part of the history. -/
theorem record_set_own (cfg : Config St Val) (σ : Comp → St) (h : List (Comp × St))
    (b o : AdapterRef) (r : RecName) (v : Val)
    (hev : Ev.recordSet b o r v ∈ runFixed cfg σ h) :
    o = b ∧ ∃ d a g s, cfg.lookup b.1 = some d ∧ d.adapters[b.2]? = some a ∧
      (r, g) ∈ a.table ∧ (r, g) ∈ a.links ∧ (b.1, s) ∈ h ∧ v = g s := by
  unfold runFixed at hev
  rw [run_fixed_eq] at hev
  obtain ⟨⟨c, s⟩, hu, hm⟩ := List.mem_flatMap.mp hev
  obtain ⟨d, hl, hm | hm | ⟨i, a, ha, hm⟩⟩ := mem_updateOf_fixed hm
  · cases hm
  · cases hm
  · rcases List.mem_cons.mp hm with hm | hm
    · cases hm
    · obtain ⟨⟨r', g⟩, hg, heq⟩ := List.mem_map.mp hm
      cases heq
      exact ⟨rfl, d, a, g, s, hl, ha, hg, Adapter.mem_table hg, hu, rfl⟩

/-- a table is a dict: each record occurs once, so one notification sets each record of the
adapter at most once. -/
theorem table_is_dict (a : Adapter St Val) : (akeys a.table).Nodup :=
  nodup_akeys_aupdate (m := []) List.nodup_nil a.links

/-- two devices with one EPICS adapter and one record each (`examples/devices/isolated_device.py`
twice), and a third component with an adapter that links nothing. -/
def exTwo : Config Nat Nat :=
  [⟨"a", [⟨[("A:VALUE_RBV", id)]⟩]⟩, ⟨"b", [⟨[("B:VALUE_RBV", fun s => s + 100)]⟩]⟩, ⟨"c", [⟨[]⟩]⟩]

example :
    runFixed exTwo (fun _ => 0) [("a", 5), ("b", 7), ("c", 1)] =
      [.deviceUpdate "a", .notify ("a", 0), .recordSet ("a", 0) ("a", 0) "A:VALUE_RBV" 5, .output "a",
       .deviceUpdate "b", .notify ("b", 0), .recordSet ("b", 0) ("b", 0) "B:VALUE_RBV" 107, .output "b",
       .deviceUpdate "c", .notify ("c", 0), .output "c"] := by decide +kernel

/-- instance of `records_noninterference`: dropping `b`, `c` and their updates leaves `a`'s events. -/
example :
    (runFixed exTwo (fun _ => 0) [("a", 5), ("b", 7), ("a", 6), ("c", 1)]).filter (Ev.concerns "a") =
      runFixed [⟨"a", [⟨[("A:VALUE_RBV", id)]⟩]⟩] (fun _ => 0) [("a", 5), ("a", 6)] := by decide +kernel

/-- **with the shared table the property fails, in general.**  Every record in the class-level
table — whichever adapter linked it — is set during EVERY update of EVERY component that has an
adapter, with the value of the record owner's device at that moment. -/
theorem shared_sets_foreign_records (cfg : Config St Val) (σ : Comp → St) (b : Comp)
    (d : DevComp St Val) (a0 : Adapter St Val) (rest : List (Adapter St Val))
    (hl : cfg.lookup b = some d) (ha : d.adapters = a0 :: rest)
    (o : AdapterRef) (r : RecName) (g : St → Val) (hmem : ((o, r), g) ∈ sharedTable cfg) :
    Ev.recordSet (b, 0) o r (g (σ o.1)) ∈ updateOf true cfg σ b := by
  unfold updateOf
  rw [hl]
  simp only [onTick, List.mem_append, List.mem_singleton, List.mem_flatMap]
  left; right
  refine ⟨(a0, 0), ?_, ?_⟩
  · rw [ha, List.zipIdx_cons]; exact List.mem_cons_self
  · unfold afterUpdate
    apply List.mem_cons_of_mem
    rw [Config.lookup_name hl]
    exact List.mem_map.mpr ⟨((o, r), g), by simpa [tableSeenBy] using hmem, rfl⟩

/-- **two-adapter witness.**  Devices `a` and `b`, one adapter and one record each.  A single
update of `b`: with the class-level table the record of `a` is set (by `b`'s adapter, with `a`'s
stale value); with per-instance tables it is not. -/
example :
    Ev.recordSet ("b", 0) ("a", 0) "A:VALUE_RBV" 0 ∈ runShared exTwo (fun _ => 0) [("b", 7)] ∧
    runShared exTwo (fun _ => 0) [("b", 7)] =
      [.deviceUpdate "b", .notify ("b", 0),
       .recordSet ("b", 0) ("a", 0) "A:VALUE_RBV" 0,
       .recordSet ("b", 0) ("b", 0) "B:VALUE_RBV" 107, .output "b"] ∧
    runFixed exTwo (fun _ => 0) [("b", 7)] =
      [.deviceUpdate "b", .notify ("b", 0),
       .recordSet ("b", 0) ("b", 0) "B:VALUE_RBV" 107, .output "b"] := by decide +kernel

def Ev.setsRecord (r : RecName) : Ev Nat → Bool
  | .recordSet _ _ r' _ => r' == r
  | _ => false

/-- the figures of the defect report F8: 6 updates of `a` and 6 of `b`; `a`'s record is set 12 times
with the class-level table, 6 times with per-instance tables; noninterference fails for the former
(the events concerning `a` are not those of `a`'s own updates). -/
example :
    let h := [("a", 1), ("b", 1), ("a", 2), ("b", 2), ("a", 3), ("b", 3),
              ("a", 4), ("b", 4), ("a", 5), ("b", 5), ("a", 6), ("b", 6)]
    ((runShared exTwo (fun _ => 0) h).filter (Ev.setsRecord "A:VALUE_RBV")).length = 12 ∧
    ((runFixed exTwo (fun _ => 0) h).filter (Ev.setsRecord "A:VALUE_RBV")).length = 6 ∧
    (runShared exTwo (fun _ => 0) h).filter (Ev.concerns "a") ≠
      runShared exTwo (fun _ => 0) (h.filter (fun u => u.1 == "a")) := by decide +kernel

end Epics
end Tickit
