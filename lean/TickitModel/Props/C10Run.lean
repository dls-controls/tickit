/-
C10 over many ticks — an unconnected part of a flat simulation is never influenced by the rest:
in EVERY run of the whole (any answer orders, devices that may change from tick to tick) every
component of the part makes exactly the observations it makes in a run of the part alone; the
rest only adds ticks in which nothing of the part is updated.

Helper lemmas: `Lemmas/PartLemmas.lean`.  One tick: `Props/C10.lean`.
-/
import TickitModel.Lemmas.PartLemmas
import TickitModel.Props.C06Run

namespace Tickit

variable {Val : Type} [DecidableEq Val]

/-- **multi-tick noninterference of a disconnected part.**  For ANY run of the whole flat system
over `w` (any answer orders, device behaviours `devs k` possibly different at every tick `k`) there
is a run of the part alone over `wa` — its `j`-th tick uses the device behaviours `devs (idx j)` of
the corresponding tick of the whole — whose ticks are ticks of the whole (`timesA.Sublist times`),
in which every component of `A` has THE SAME OBSERVATION SEQUENCE as in the whole run.  Adding the
rest never changes, adds, removes or reorders an observation of `A`.

`wa.Acyclic` is assumed, not `w.Acyclic`: the run of the whole is given.  `hA` is needed because
`IsPart` alone does not tie `A` to `wa.components`, and the initial tick of the part has roots
`wa.components`: for `w = [("a", [])]`, `wa = [("a", []), ("x", [])]`, `A = (· = "a")` one has
`IsPart w wa A`, but a run of `wa` also ticks for the callbacks of `x`, at times that are no tick
times of `w`. -/
theorem part_run_same (w wa : Wiring) (A : Comp → Prop) (hp : IsPart w wa A)
    (hw : RouterOK w) (hwa : RouterOK wa) (hwf : w.WF) (hwfa : wa.WF) (hacyca : wa.Acyclic)
    (hA : ∀ c, A c ↔ c ∈ wa.components)
    (devs : DevSeq Val) (hext : ∀ k, DevExt (devs k)) (t0 : SimTime) (n : Nat) (st : FlatSt Val)
    (times : List SimTime) (h : FlatRun w devs t0 n st times) :
    ∃ (idx : Nat → Nat) (m : Nat) (sa : FlatSt Val) (timesA : List SimTime),
      idx 0 = 0 ∧ (∀ j, j < m → idx j < idx (j + 1)) ∧ idx m ≤ n ∧
      FlatRun wa (fun j => devs (idx j)) t0 m sa timesA ∧
      timesA.Sublist times ∧
      ∀ c, A c → ObsEq (st.obsOf c) (sa.obsOf c) := by
  obtain ⟨idx, m, sa, timesA, h0, hmono, hle, hrun, hsub, hloc, _⟩ :=
    PartRun.run_inv_components hp hw hwa hwf hwfa hacyca hA hext h
  exact ⟨idx, m, sa, timesA, h0, hmono, hle, hrun, hsub, fun c hc => (hloc c hc).ob⟩

/-- the run of the part that `part_run_same` yields is THE run of the part: by schedule
independence (C08) every other run of `wa` with the same device behaviours and the same number of
ticks has the same tick times and the same observations.  So whatever the rest does, `A` observes
what it observes alone. -/
theorem part_run_same_any (w wa : Wiring) (A : Comp → Prop) (hp : IsPart w wa A)
    (hw : RouterOK w) (hwa : RouterOK wa) (hwf : w.WF) (hwfa : wa.WF) (hacyca : wa.Acyclic)
    (hA : ∀ c, A c ↔ c ∈ wa.components)
    (devs : DevSeq Val) (hext : ∀ k, DevExt (devs k)) (t0 : SimTime) (n : Nat) (st : FlatSt Val)
    (times : List SimTime) (h : FlatRun w devs t0 n st times) :
    ∃ (idx : Nat → Nat) (m : Nat) (timesA : List SimTime),
      idx 0 = 0 ∧ (∀ j, j < m → idx j < idx (j + 1)) ∧ idx m ≤ n ∧ timesA.Sublist times ∧
      (∃ sa, FlatRun wa (fun j => devs (idx j)) t0 m sa timesA) ∧
      ∀ sa timesA', FlatRun wa (fun j => devs (idx j)) t0 m sa timesA' →
        timesA' = timesA ∧ ∀ c, A c → ObsEq (st.obsOf c) (sa.obsOf c) := by
  obtain ⟨idx, m, sa, timesA, h0, hmono, hle, hrun, hsub, hloc, _⟩ :=
    PartRun.run_inv_components hp hw hwa hwf hwfa hacyca hA hext h
  refine ⟨idx, m, timesA, h0, hmono, hle, hsub, ⟨sa, hrun⟩, fun sa' timesA' hrun' => ?_⟩
  obtain ⟨_, ht, hl⟩ := Det.flatRunI_loc_equiv hwa hacyca (fun j => hext (idx j))
    (FlatInt.of_flatRun hrun) (FlatInt.of_flatRun hrun')
  exact ⟨ht.symm, fun c hc => Det.obsEq_trans (hloc c hc).ob (hl c).ob⟩

/-- **a configuration extended by a disconnected part.**  `wa` and `wb` are well-formed wirings
(Python dicts of dicts of sets, one source per input port) over disjoint component sets, `wa`
acyclic.  In every run of the union `wa ++ wb` the components of `wa` observe exactly what they
observe in a run of `wa` alone; the hypotheses speak about `wa` and `wb` only (nothing is
required of `wb` beyond well-formedness: it may even be cyclic — then the whole has fewer runs). -/
theorem part_run_same_append (wa wb : Wiring) (hwfa : wa.WF) (hwfb : wb.WF)
    (h1a : wa.OneSource) (h1b : wb.OneSource) (hacyca : wa.Acyclic)
    (hdisj : ∀ c, c ∈ wa.components → c ∉ wb.components)
    (devs : DevSeq Val) (hext : ∀ k, DevExt (devs k)) (t0 : SimTime) (n : Nat) (st : FlatSt Val)
    (times : List SimTime) (h : FlatRun (wa ++ wb) devs t0 n st times) :
    ∃ (idx : Nat → Nat) (m : Nat) (sa : FlatSt Val) (timesA : List SimTime),
      idx 0 = 0 ∧ (∀ j, j < m → idx j < idx (j + 1)) ∧ idx m ≤ n ∧
      FlatRun wa (fun j => devs (idx j)) t0 m sa timesA ∧
      timesA.Sublist times ∧
      ∀ c, c ∈ wa.components → ObsEq (st.obsOf c) (sa.obsOf c) := by
  have hkeys : ∀ c, c ∈ akeys wa → c ∉ akeys wb := fun c hc hc' =>
    hdisj c (Wiring.mem_components_of_mem_akeys hc) (Wiring.mem_components_of_mem_akeys hc')
  have hwf : (wa ++ wb).WF := Wiring.WF_append hwfa hwfb hkeys
  exact part_run_same (wa ++ wb) wa (fun c => c ∈ wa.components)
    (IsPart.append wa wb hwfa hwfb hdisj)
    (routerOK_of_wf _ hwf (Wiring.oneSource_append hwfb hwfa hdisj h1a h1b))
    (routerOK_of_wf _ hwfa h1a) hwf hwfa hacyca (fun _ => Iff.rfl) devs hext t0 n st times h

/-! ### non-vacuity: a concrete instance

The part `exPa`: device `a` (reports its update time on port `o`, asks to be called back every
2 ns) wired to device `a2`.  The rest `exPb`: device `b` with a callback every 3 ns.  All
hypotheses of `part_run_same_append` hold, a run of the whole with two callback ticks exists (the
tick at time 3 is caused by `b` alone: the part does not tick), and the theorem applies to it. -/

def exPa : Wiring := [("a", [("o", [("a2", "i")])]), ("a2", [])]
def exPb : Wiring := [("b", [])]

/-- `exPa`, `exPb` as the code builds them: from the inverse wiring given by the configuration. -/
def exPaInv : InvWiring := [("a", []), ("a2", [("i", ("a", "o"))])]
def exPbInv : InvWiring := [("b", [])]

def exPDev : DevFn Int := fun c t _ =>
  if c = "a" then ⟨[("o", t)], some (t + 2)⟩
  else if c = "b" then ⟨[], some (t + 3)⟩
  else ⟨[], none⟩

theorem exPa_wf : exPa.WF := by unfold Wiring.WF DictWF akeys; decide +kernel
theorem exPb_wf : exPb.WF := by unfold Wiring.WF DictWF akeys; decide +kernel

theorem exPa_oneSource : exPa.OneSource :=
  (by decide +kernel : exPa = Wiring.fromInverse exPaInv) ▸
    Wiring.oneSource_fromInverse _ (by unfold InvWiring.WF DictWF akeys; decide +kernel)

theorem exPb_oneSource : exPb.OneSource :=
  (by decide +kernel : exPb = Wiring.fromInverse exPbInv) ▸
    Wiring.oneSource_fromInverse _ (by unfold InvWiring.WF DictWF akeys; decide +kernel)

theorem exPa_acyclic : exPa.Acyclic := by
  exact Wiring.acyclic_of_rank (fun c => if c = "a2" then 1 else 0) (by decide +kernel)

theorem exP_disjoint : ∀ c, c ∈ exPa.components → c ∉ exPb.components := by decide +kernel

theorem exPDev_ext : ∀ k : Nat, DevExt ((fun _ => exPDev : DevSeq Int) k) :=
  fun _ _ _ _ _ _ => rfl

/-- a run of the whole: initial tick at 0 (roots `a2`, `a`, `b`), callback tick at 2 (root `a`,
`a2` is updated because its input changed), callback tick at 3 (root `b` only). -/
theorem exP_run : ∃ st times, FlatRun (exPa ++ exPb) (fun _ => exPDev) 0 2 st times ∧
    times = [3, 2, 0] ∧ st.obsOf "a" = [(0, []), (2, [])] ∧
    st.obsOf "a2" = [(0, [("i", 0)]), (2, [("i", 2)])] ∧ st.obsOf "b" = [(0, []), (3, [])] ∧
    st.wake = [("a", 4), ("b", 6)] := by
  -- `exPa ++ exPb` is the wiring `exCW` and `exPDev` the device `exCDev` of `Props/C06Run.lean`
  obtain ⟨st, hrun, h⟩ := exC_run
  exact ⟨st, _, hrun, rfl, h⟩

/-- the statement is not vacuous: for the run above (and every other run of `exPa ++ exPb`) the
hypotheses hold and the part `exPa` has a run of its own with the same observations. -/
example : ∃ st times, FlatRun (exPa ++ exPb) (fun _ => exPDev) 0 2 st times ∧
    ∃ (idx : Nat → Nat) (m : Nat) (sa : FlatSt Int) (timesA : List SimTime),
      idx 0 = 0 ∧ (∀ j, j < m → idx j < idx (j + 1)) ∧ idx m ≤ 2 ∧
      FlatRun exPa (fun j => (fun _ => exPDev : DevSeq Int) (idx j)) 0 m sa timesA ∧
      timesA.Sublist times ∧
      ∀ c, c ∈ exPa.components → ObsEq (st.obsOf c) (sa.obsOf c) := by
  obtain ⟨st, times, hrun, _⟩ := exP_run
  exact ⟨st, times, hrun, part_run_same_append exPa exPb exPa_wf exPb_wf exPa_oneSource
    exPb_oneSource exPa_acyclic exP_disjoint _ exPDev_ext 0 2 st times hrun⟩

end Tickit
