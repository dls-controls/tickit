/-
C01 through nesting, for ANY answer order at every depth (`Core/SimAny.lean`): at most once
(`any_order_update_at_most_once`), C01 of the ticker of every scheduler level that takes part
(`any_order_level_c01`), and the order of updates in the global observation list
(`any_order_update_order` for the relation `S.Feeds`, `any_order_update_after_resolved_sources` for
the wires of the resolved = flattened device-level wiring, each of which is a `Feeds` pair).
None goes via the FIFO model.  The first two are proved for the relation `TickLevelAny` itself; the
order of updates is the theorem of the interleaved semantics (`tickInter_ordered`) applied to the
execution as the interleaving in which every inner tick, once opened, runs to its end
(`tickLevelAny_ordered`, `Lemmas/InterOrder.lean`) — hence the import of that file.

Every theorem here has the hypothesis `hn : (akeys inCh).Nodup`; only the proof of
`any_order_level_c01` uses it (the lemmas behind the others, `tickLevelAny_post` and
`tickLevelAny_ordered`, are stated without it).
-/
import TickitModel.Lemmas.FlattenFlat
import TickitModel.Lemmas.InterOrder

namespace Tickit

/-- **C01 through nesting, at most once.**  In every execution of a tick — any answer order at the
level of the tick and inside every system component at every depth — every component's observation
sequence grows by at most one entry, stamped with the tick's time: no device is updated twice in a
tick. -/
theorem any_order_update_at_most_once (S : Static) (hS : S.Valid) (orc : Oracle) (lvl : Comp)
    (t : SimTime) (roots : List Comp) (inCh : List (Port × V)) (hn : (akeys inCh).Nodup) (st : SimSt)
    (r : SimSt × List (Port × V)) (h : TickLevelAny S orc lvl t roots inCh st r) (x : Comp) :
    r.1.obsOf x = st.obsOf x ∨ ∃ m, r.1.obsOf x = st.obsOf x ++ [(t, m)] :=
  (tickLevelAny_post hS.toWF h).once x

/-- the same as a bound on the number of observations `SimSt.obsOf` (not on the update counter
`SimSt.count`) -/
theorem any_order_updates_le (S : Static) (hS : S.Valid) (orc : Oracle) (lvl : Comp)
    (t : SimTime) (roots : List Comp) (inCh : List (Port × V)) (hn : (akeys inCh).Nodup) (st : SimSt)
    (r : SimSt × List (Port × V)) (h : TickLevelAny S orc lvl t roots inCh st r) (x : Comp) :
    (r.1.obsOf x).length ≤ (st.obsOf x).length + 1 := by
  rcases (tickLevelAny_post hS.toWF h).once x with h | ⟨m, h⟩
  · rw [h]; omega
  · rw [h]; simp

/-- **C01 at every level of an any-order execution.**  Every execution of a tick of level `lvl` has
a trace `tr` of its ticker's dispatches and the answers it took in such that
 * every component is dispatched at most once and answers at most as often as it was dispatched;
 * when a component is dispatched, every first-order upstream of it that takes part in the tick
   has already answered;
 * the tick is complete: every participant has answered; every dispatch is for a participant and
   carries the tick's time;
 * the trace is the execution's own: every answer in it was produced by the addressed component
   (`AnsP`: the device's oracle response, or — for a system component — a `TickLevelAny` execution
   of its inner level, to which this theorem applies again).  -/
theorem any_order_level_c01 (S : Static) (hS : S.Valid) (orc : Oracle) (lvl : Comp) (t : SimTime)
    (roots : List Comp) (inCh : List (Port × V)) (hn : (akeys inCh).Nodup) (st : SimSt)
    (r : SimSt × List (Port × V)) (h : TickLevelAny S orc lvl t roots inCh st r) :
    ∃ (L : Level) (tr : List (Ev V)), S.level lvl = some L ∧
      (∀ c, (tr.filter (Ev.isDispatchOf c)).length ≤ 1 ∧
        (tr.filter (Ev.isAnswerOf c)).length ≤ (tr.filter (Ev.isDispatchOf c)).length) ∧
      (∀ pre d post, tr = pre ++ Ev.dispatch d :: post → ∀ us, L.wiring.ups d.comp = some us →
        ∀ u ∈ us, u ∈ extent L.wiring roots → ∃ ch, Ev.answer u ch ∈ pre) ∧
      (∀ c ∈ extent L.wiring roots, ∃ ch, Ev.answer c ch ∈ tr) ∧
      (∀ d, Ev.dispatch d ∈ tr → d.comp ∈ extent L.wiring roots ∧ d.time = t) ∧
      (∀ a ch, Ev.answer a ch ∈ tr → ∃ d σ σ' ca, Ev.dispatch d ∈ tr ∧ d.comp = a ∧
        AnsP S orc (TickLevelAny S orc) L inCh σ d (σ', ch, ca)) := by
  obtain ⟨L, ls1, tr1, recs1, hLv, _, _, inv1, hf, _⟩ :=
    (tickLevelAny_iff.1 h).fin_inv2 hS (fun _ _ _ _ _ _ h => tickLevelAny_post1 hS h) hn
  refine ⟨L, tr1, hLv, inv1.pre.count, inv1.pre.order, ?_, inv1.pre.disp_ext, ?_⟩
  · intro c hc
    exact (inv1.pre.resolved c hc).1 (by rw [hf]; rfl)
  · intro a ch hm
    obtain ⟨r, hr, h1, h2⟩ := (inv1.recs_tr a ch).1 hm
    obtain ⟨hd, ha, _⟩ := inv1.recs_ok r hr
    exact ⟨r.d, r.pre, r.post, r.ca, hd, h1, h2 ▸ ha⟩

/-- **C01 through nesting, order (structural form).**  In every execution of a tick, any answer
order at every depth: the new observations are made by components below the level, and whenever
`x` feeds `y` (`S.Feeds x y`: `x` belongs to a component that is wired — directly or through other
components — into the component `y` belongs to, at the level where their places in the nesting tree
separate) and both are updated in the tick, the update of `x` comes before the update of `y` in the
observation list. -/
theorem any_order_update_order (S : Static) (hS : S.Valid) (orc : Oracle) (lvl : Comp)
    (t : SimTime) (roots : List Comp) (inCh : List (Port × V)) (hn : (akeys inCh).Nodup) (st : SimSt)
    (r : SimSt × List (Port × V)) (h : TickLevelAny S orc lvl t roots inCh st r) :
    ∃ new, r.1.obs = st.obs ++ new ∧ (∀ o ∈ new, S.Below lvl o.comp) ∧
      ∀ pre oy post, new = pre ++ oy :: post → ∀ ox ∈ new, S.Feeds ox.comp oy.comp → ox ∈ pre :=
  tickLevelAny_ordered hS h

/-- every wire of the resolved (flattened) device-level wiring is a `Feeds` pair -/
theorem resolved_wire_feeds (S : Static) (hS : S.Valid) (rfuel : Nat) (x : Comp) (p : Port) (y : Comp)
    (q : Port) (h : (Wiring.fromInverse (S.flatInverse rfuel)).Conn x p y q) : S.Feeds x y :=
  flat_wire_feeds hS rfuel h

/-- **C01 through nesting, order (resolved wiring).**  In every execution of a tick — any answer
order at every level — a device is updated only AFTER every device that feeds it through the
resolved (flattened: `expose` / `external` resolved) wiring and is updated in the same tick, at
whatever depths the two devices live. -/
theorem any_order_update_after_resolved_sources (S : Static) (hS : S.Valid) (orc : Oracle)
    (rfuel : Nat) (lvl : Comp) (t : SimTime) (roots : List Comp) (inCh : List (Port × V))
    (hn : (akeys inCh).Nodup) (st : SimSt) (r : SimSt × List (Port × V))
    (h : TickLevelAny S orc lvl t roots inCh st r) :
    ∃ new, r.1.obs = st.obs ++ new ∧
      ∀ pre oy post, new = pre ++ oy :: post → ∀ ox ∈ new, ∀ p q,
        (Wiring.fromInverse (S.flatInverse rfuel)).Conn ox.comp p oy.comp q → ox ∈ pre := by
  obtain ⟨new, h1, _, h3⟩ := tickLevelAny_ordered hS h
  exact ⟨new, h1, fun pre oy post hsp ox hox p q hc =>
    h3 pre oy post hsp ox hox (flat_wire_feeds hS rfuel hc)⟩

end Tickit
