/-
C08 / C13 at MESSAGE level over MANY ticks (`Core/MsgFlatRun.lean`): a flat simulation whose
messages are in flight on the contract bus, whose components carry their own state and start
late by any number of steps, whose scheduler begins the next tick from its wakeups — refines
`FlatRun`, the multi-tick model with atomic answers on which C01–C08 are proved.
-/
import TickitModel.Lemmas.MsgRunMain
import TickitModel.Props.C08Msg
import TickitModel.Props.C08

set_option autoImplicit false

namespace Tickit

open Tickit.Det

-- `[DecidableEq Val]` is a section variable that few statements need
set_option linter.unusedSectionVars false

variable {Val : Type} [DecidableEq Val]

/-- **Refinement of `FlatRun`.**  Whenever a tick of the message-level run has completed — after
ANY interleaving of component starts, `Input` deliveries, `Output`/`Skip` deliveries and tick
starts, with ANY set of components started before the scheduler and the others starting any
number of steps late — the state of the simulation (each component's `device_inputs` and
`last_outputs`, the scheduler's `wakeups`, every device's sequence of `(time, inputs)`
observations) is equivalent to the state of a `FlatRun` with the same number of ticks, and the
tick times are the same. -/
theorem msg_run_refines_flatRun (w : Wiring) (hw : RouterOK w) (hacyc : w.Acyclic)
    (devs : DevSeq Val) (hdev : ∀ k, DevExt (devs k)) (t0 : SimTime) (M : MsgRunSt Val)
    (h : MsgRunSt.Reach w devs t0 M) (hc : M.bus.Complete) :
    ∃ n st, M.ticks = n + 1 ∧ FlatRun w devs t0 n st M.times ∧ M.flat.Equiv st := by
  rcases h.inv hw hacyc hdev with ⟨S, rfl⟩ | ⟨n, F, t, roots, b0, hticks, hb0, hwake, huniq, htr, hlink⟩
  · obtain ⟨tk, htk, _⟩ := hc; cases htk
  · obtain ⟨st, hrun, heq, _⟩ := tick_boundary hw hacyc hdev hb0 hwake huniq htr hlink hc
    exact ⟨n, st, hticks, hrun, ⟨fun c => ⟨(heq c).ins, (heq c).outs⟩, fun c => (heq c).wk,
      fun c => (heq c).ob⟩⟩

/-- **C08 / C13 over many ticks.**  Two message-level runs of the same simulation (same wiring,
same deterministic devices, same initial time) that have both completed the same number of
ticks have the same tick times, and every device has made the same sequence of
`(time, inputs)` observations — whatever the delivery orders and latencies were, whichever
components had started before the scheduler, however late the others started. -/
theorem msg_run_schedule_independent (w : Wiring) (hw : RouterOK w) (hacyc : w.Acyclic)
    (devs : DevSeq Val) (hdev : ∀ k, DevExt (devs k)) (t0 : SimTime) (M1 M2 : MsgRunSt Val)
    (h1 : MsgRunSt.Reach w devs t0 M1) (h2 : MsgRunSt.Reach w devs t0 M2)
    (hc1 : M1.bus.Complete) (hc2 : M2.bus.Complete) (hn : M1.ticks = M2.ticks) :
    M1.times = M2.times ∧ ∀ c, ObsEq (M1.flat.obsOf c) (M2.flat.obsOf c) := by
  obtain ⟨n1, st1, ht1, hr1, he1⟩ := msg_run_refines_flatRun w hw hacyc devs hdev t0 M1 h1 hc1
  obtain ⟨n2, st2, ht2, hr2, he2⟩ := msg_run_refines_flatRun w hw hacyc devs hdev t0 M2 h2 hc2
  have : n1 = n2 := by omega
  subst this
  obtain ⟨htimes, hobs⟩ := schedule_independent w hw hacyc devs hdev t0 n1 st1 st2 _ _ hr1 hr2
  exact ⟨htimes, fun c => obsEq_trans (he1.obs c) (obsEq_trans (hobs c) (obsEq_symm (he2.obs c)))⟩

/-- **Inside a tick the run IS the single-tick model.**  In every reachable state in which
the scheduler has started, the bus is a reachable state of the message-level tick model
(`MsgSt.Reach`) for the current tick's time and roots, begun from an idle bus, with the reaction
function of the components' PRE-TICK state (each component reacts at most once per tick, so it
is still in its pre-tick state when its `Input` arrives).  Hence every theorem of
`Props/C08Msg.lean` (refinement to `TickSys`, at most one reaction, reaction after upstreams,
no failed assertion, exactly-once delivery to late starters) holds for every tick of the run. -/
theorem msg_run_tick_is_msg_tick (w : Wiring) (hw : RouterOK w) (hacyc : w.Acyclic)
    (devs : DevSeq Val) (hdev : ∀ k, DevExt (devs k)) (t0 : SimTime) (M : MsgRunSt Val)
    (h : MsgRunSt.Reach w devs t0 M) (hst : M.ticks ≠ 0) :
    ∃ (n : Nat) (F : FlatSt Val) (b0 : MsgSt Val), M.ticks = n + 1 ∧ b0.Idle ∧
      MsgSt.Reach w (rxOf F.comps (devs n)) M.tickTime M.tickRoots b0 M.bus ∧
      (∀ r ∈ M.tickRoots, r ∈ w.components) ∧
      ∀ c, reactsOf c M.bus.hist = [] → M.flat.comp c = F.comp c := by
  rcases h.inv hw hacyc hdev with ⟨S, rfl⟩ | ⟨n, F, t, roots, b0, hticks, hb0, _, _, htr, hlink⟩
  · exact absurd rfl hst
  · refine ⟨n, F, b0, hticks, hb0, ?_, ?_, fun c hc => ?_⟩
    · rw [htr.time, htr.roots]; exact htr.reach
    · rw [htr.roots]; exact hlink.roots_components
    · have := htr.comp c
      rw [hc] at this
      exact (Prod.ext_iff.1 this).1

/-- **No start pattern blocks a tick** (C13): from every reachable state of the run — in
particular with any subset of the components not started yet, and messages for them waiting in
their logs — some continuation (start the scheduler, start components, deliver) completes the
tick in progress. -/
theorem msg_run_can_complete_tick (w : Wiring) (hw : RouterOK w) (hacyc : w.Acyclic)
    (devs : DevSeq Val) (hdev : ∀ k, DevExt (devs k)) (t0 : SimTime) (M : MsgRunSt Val)
    (h : MsgRunSt.Reach w devs t0 M) :
    ∃ acts M', MsgRunSt.run w devs t0 M acts = some M' ∧ M'.bus.Complete ∧
      MsgRunSt.Reach w devs t0 M' := by
  obtain ⟨acts, M', hrun, hc⟩ := h.can_complete_tick hw hacyc hdev
  exact ⟨acts, M', hrun, hc, h.run hrun⟩

/-- **The run proceeds**: when a tick has completed and some wakeup is pending, the scheduler
can begin the next tick, and it does not fail. -/
theorem msg_run_next_tick_enabled (w : Wiring) (hw : RouterOK w) (hacyc : w.Acyclic)
    (devs : DevSeq Val) (hdev : ∀ k, DevExt (devs k)) (t0 : SimTime) (M : MsgRunSt Val)
    (h : MsgRunSt.Reach w devs t0 M) (hc : M.bus.Complete) (hne : M.bus.wake ≠ []) :
    ∃ M', M.step w devs t0 .nextTick = some (.ok M') ∧ M'.ticks = M.ticks + 1 := by
  rcases h.inv hw hacyc hdev with ⟨S, rfl⟩ | ⟨n, F, t, roots, b0, hticks, hb0, hwake, huniq, htr, hlink⟩
  · obtain ⟨tk, htk, _⟩ := hc; cases htk
  · obtain ⟨st, hrun, heq, hu⟩ := tick_boundary hw hacyc hdev hb0 hwake huniq htr hlink hc
    obtain ⟨tk, htk, hnil⟩ := hc
    obtain ⟨cs, when, hf⟩ := firstWakeups_some_of_ne_nil M.bus.wake hne
    have hroots := Det.extent_ups_isSome (flatRun_roots_components hrun heq hf)
    obtain ⟨b, hb⟩ := MsgSt.startSched_enabled (m := M.resetBus cs) (rxOf M.comps (devs M.ticks))
      when hroots rfl
    exact ⟨_, by simp only [MsgRunSt.step, htk, hnil, List.isEmpty_nil, if_true, hf]
                 exact congrArg _ hb, rfl⟩

/-! ## non-vacuity: `a` feeds `b` and `c`; `a` asks to be called back every 100 ns until 200 -/

/-- `a` reports its update time and asks for a callback 100 ns later (until 200); `b` and `c`
report their input plus one. -/
def msgDev3 : DevFn Int := fun c t ins =>
  if c = "a" then ⟨[("o", t)], if t < 200 then some (t + 100) else none⟩
  else ⟨[("o", agetD ins "i" 0 + 1)], none⟩

theorem msgW3_routerOK : RouterOK msgW3 := by
  refine routerOK_of_wf msgW3 (by unfold Wiring.WF DictWF akeys; decide +kernel) ?_
  have h : msgW3 = Wiring.fromInverse
      [("a", []), ("b", [("i", ("a", "o"))]), ("c", [("i", ("a", "o"))])] := by decide +kernel
  rw [h]
  exact Wiring.oneSource_fromInverse _ (by unfold InvWiring.WF DictWF akeys; decide +kernel)

theorem msgDev3_ext : ∀ k : Nat, DevExt ((fun _ => msgDev3 : DevSeq Int) k) := by
  intro _ c t i1 i2 h
  simp only [msgDev3, agetD, h "i"]

/-- three ticks (0, 100, 200): `b` starts before the scheduler, `a` after it, `c` LATE — after
its first `Input` has been produced and `b` has already reacted; in the later ticks the answers
of `b` and `c` arrive in different orders. -/
def msgRunActs : List MsgRunAct :=
  [.bus (.startComp "b"), .bus .startSched, .bus (.startComp "a"), .bus (.deliverIn "a"),
   .bus (.deliverOut "a"), .bus (.deliverIn "b"), .bus (.startComp "c"), .bus (.deliverIn "c"),
   .bus (.deliverOut "c"), .bus (.deliverOut "b"),
   .nextTick, .bus (.deliverIn "a"), .bus (.deliverOut "a"), .bus (.deliverIn "c"),
   .bus (.deliverIn "b"), .bus (.deliverOut "b"), .bus (.deliverOut "c"),
   .nextTick, .bus (.deliverIn "a"), .bus (.deliverOut "a"), .bus (.deliverIn "b"),
   .bus (.deliverOut "b"), .bus (.deliverIn "c"), .bus (.deliverOut "c")]

/-- the run is an execution of the message-level model; it ends at a tick boundary after three
ticks, with these observations. -/
theorem msgRun_example : ∃ M, MsgRunSt.run msgW3 (fun _ => msgDev3) 0 (MsgRunSt.initial [])
      msgRunActs = some M ∧ M.bus.Complete ∧ M.ticks = 3 ∧ M.times = [200, 100, 0] ∧
    M.flat.obsOf "a" = [(0, []), (100, []), (200, [])] ∧
    M.flat.obsOf "c" = [(0, [("i", 0)]), (100, [("i", 100)]), (200, [("i", 200)])] := by
  decide +kernel

/-- … and so (by `msg_run_refines_flatRun`) there is a `FlatRun` with two callback ticks, the
same times and the same observations. -/
example : ∃ st, FlatRun msgW3 (fun _ => msgDev3) 0 2 st [200, 100, 0] ∧
    ObsEq [(0, [("i", 0)]), (100, [("i", 100)]), (200, [("i", 200)])] (st.obsOf "c") := by
  obtain ⟨M, hrun, hc, hticks, htimes, _, hobs⟩ := msgRun_example
  have hreach := MsgRunSt.Reach.run (MsgRunSt.Reach.init []) hrun
  obtain ⟨n, st, hn, hfr, heq⟩ :=
    msg_run_refines_flatRun msgW3 msgW3_routerOK msgW3_acyclic _ msgDev3_ext 0 M hreach hc
  have : n = 2 := by omega
  subst this
  exact ⟨st, htimes ▸ hfr, hobs ▸ heq.obs "c"⟩

end Tickit
