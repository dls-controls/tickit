/-
C04 for EVERY any-order run WITH external stimuli (interrupts raised on any component at any real
time between ticks), nested schedulers at any depth.

Like `sim_time_monotone` of `Props/C04Mono.lean`, the proof needs nothing of the configuration, the
fuel or the stimuli: the run invariant `MonoP` is carried over a handled stimulus as over a tick
(`masterRunAny_wake_not_before`, `Lemmas/AnyTransferLemmas.lean`, which has no such hypothesis).  The
two C04 statements below take `hS : S.Valid` and `hd : S.DepthLe fuel0` all the same and do not use
them.

What does need a hypothesis is the existence of a FIFO counterpart of a run WITH stimuli
(`any_order_run_has_fifo_stims`): the run's interrupt-propagation fuel must cover the nesting depth
(`S.DepthLe fuel0`: every component lies at most `fuel0` scheduler levels below the master), since
with less the any-order run and a FIFO run with more fuel queue the interrupt at different levels.
The code has no such bound:

    # core/components/system_component.py / device_component.py
    async def raise_interrupt(self) -> None:
        await self.state_producer.produce(self.get_topic(), Interrupt(self.name))   # goes to the enclosing scheduler
    # core/management/schedulers/nested.py
    async def schedule_interrupt(self, source):
        self.interrupts.add(source)
        await self.raise_interrupt()                                                   # … and on, to the top

so a fuel below the depth describes no behaviour of the code.
-/
import TickitModel.Lemmas.AnyTransferLemmas

namespace Tickit

/-- **every any-order run WITH stimuli has a FIFO counterpart** (the run's interrupt fuel covering the
nesting depth): for every sufficiently large fuel the FIFO model completes the run on the same
stimuli, does the same ticks (`TicksEquiv`: times, real times, root sets) and ends in an equivalent
state.  This is the C08 statement `any_order_run_has_fifo` of `Props/C08NestedAnyRun.lean` for runs
with stimuli.  The C04 theorems below do not use it. -/
theorem any_order_run_has_fifo_stims (S : Static) (hS : S.Valid) (orc : Oracle) (fuel0 : Nat)
    (hd : S.DepthLe fuel0) (t0 : SimTime) (now : Int) (sp : Speed) (steps nTicks : Nat)
    (stims : List Stim) (r0 : MasterSt × TickRec) (r : MasterSt × List TickRec)
    (h1 : MasterInitialAny S orc t0 now r0)
    (h2 : MasterRunAny S orc fuel0 sp steps nTicks r0.1 stims [r0.2] r) :
    ∃ F, ∀ fuel, F ≤ fuel → ∃ m tr m2 ticks, masterInitial S orc fuel t0 now = .ok (m, tr) ∧
      masterRun S orc fuel sp steps nTicks m stims [tr] = .ok (m2, ticks) ∧
      r.1.Equiv m2 ∧ TicksEquiv r.2 ticks := by
  obtain ⟨F, hF⟩ := masterRunAny_fifo_of_stable hS h1 h2
  refine ⟨max F fuel0, fun fuel hfu => hF fuel (Nat.le_trans (Nat.le_max_left _ _) hfu) ?_⟩
  intro st _ m
  unfold stimStep
  rw [raiseInterrupt_stable_ge hS hd (Nat.le_trans (Nat.le_max_right _ _) hfu)]

/-- with stimuli: every reached state is well-formed, no master wakeup (callback or interrupt stamp)
lies before the ticker time, no recorded tick after it.  (`hS`, `hd` are not used.) -/
theorem any_order_wake_not_before_stims (S : Static) (hS : S.Valid) (orc : Oracle) (fuel0 : Nat)
    (hd : S.DepthLe fuel0) (t0 : SimTime) (now : Int) (sp : Speed) (steps nTicks : Nat)
    (stims : List Stim) (r0 : MasterSt × TickRec) (r : MasterSt × List TickRec)
    (h1 : MasterInitialAny S orc t0 now r0)
    (h2 : MasterRunAny S orc fuel0 sp steps nTicks r0.1 stims [r0.2] r)
    (hnp : RunNoPast orc r.1.sim) :
    r.1.sim.Good ∧ (∀ e ∈ (r.1.sim.sched "").wake, r.1.tickerTime ≤ e.2) ∧
    (∀ x ∈ r.2, x.time ≤ r.1.tickerTime) ∧ (r.2.map (·.time)).Pairwise (· ≤ ·) :=
  masterRunAny_wake_not_before h1 h2 hnp

/-- **C04 (`sim_time_monotone`) for every answer order, with external stimuli.**  Whole simulation,
nested schedulers at any depth, any history of callbacks and of interrupts raised on any component
at any real time, every tick ANY execution (any answer order at every level): provided no device
asks to be called back in the past, successive tick times never decrease.  No assumption on the
FIFO model; no hypothesis on the stimuli or on the speed; `hS` and `hd` are not used. -/
theorem any_order_time_monotone_stims (S : Static) (hS : S.Valid) (orc : Oracle) (fuel0 : Nat)
    (hd : S.DepthLe fuel0) (t0 : SimTime) (now : Int) (sp : Speed) (steps nTicks : Nat)
    (stims : List Stim) (r0 : MasterSt × TickRec) (r : MasterSt × List TickRec)
    (h1 : MasterInitialAny S orc t0 now r0)
    (h2 : MasterRunAny S orc fuel0 sp steps nTicks r0.1 stims [r0.2] r)
    (hnp : RunNoPast orc r.1.sim) :
    (r.2.map (·.time)).Pairwise (· ≤ ·) :=
  have ⟨_, _, _, hsorted⟩ :=
    any_order_wake_not_before_stims S hS orc fuel0 hd t0 now sp steps nTicks stims r0 r h1 h2 hnp
  hsorted

end Tickit
