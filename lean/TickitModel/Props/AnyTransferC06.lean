/-
C06 at RUN level for EVERY any-order run, through nesting.

`Props/C06Run.lean` proves callback exactness for `FlatRun` (one scheduler, devices as functions);
`Props/C08NestedAnyRun.lean` (`any_order_run_refines_flatRun`) shows that every any-order nested run
has the observations of a `FlatRun` over the resolved wiring — but exposes neither the wakeups of
that `FlatRun` nor where its device functions come from, which is what C06 talks about.  The four
theorems here (numbered in their doc comments) are obtained from the FIFO theorems through existence
of the FIFO counterpart and invariance under `SimSt.Equiv` (`masterRunAny_corr_flat` of
`Lemmas/AnyTransferLemmas.lean`, from which 1–3 are read off); nothing is assumed about the FIFO model.

NOT transferred: `callback_exact` / `callback_never_overtaken` / `callback_eventually_served` quantify
over CONTINUATIONS (`FlatExt`) of a flat run; nothing here relates the `FlatRun` obtained for an
any-order run to the one obtained for a longer run.
-/
import TickitModel.Lemmas.AnyTransferLemmas
import TickitModel.Props.C03Nested
import TickitModel.Props.C06Run

namespace Tickit

open Callback

/-- **1. C06 through nesting, the bookkeeping between ticks.**  After EVERY any-order run (initial
tick + callback ticks; every tick any execution) of a valid configuration: every system
simulation's scheduler, at every depth, is past its initial tick and has no queued interrupt; the
callback a system component has pending at its parent's scheduler is exactly the minimum of the
wakeups of its own scheduler (`SystemComponent.on_tick` returns `get_first_wakeups()[1]`, the parent
stores it with `add_wakeup`), and none if it has none; every scheduler keeps wakeups only for its
own components, one entry per component. -/
theorem any_order_run_schedOK (S : Static) (hS : S.Valid) (orc : Oracle) (fuel0 : Nat) (t0 : SimTime)
    (now : Int) (sp : Speed) (steps nTicks : Nat) (r0 : MasterSt × TickRec)
    (r : MasterSt × List TickRec) (h1 : MasterInitialAny S orc t0 now r0)
    (h2 : MasterRunAny S orc fuel0 sp steps nTicks r0.1 [] [r0.2] r) : SchedOK S r.1.sim := by
  obtain ⟨σ, σ', _, _, heq, hc, _⟩ :=
    masterRunAny_corr_flat hS (hS.resolveStable (Nat.le_refl S.resolveFuel)) h1 h2
  exact SchedOK.of_equiv heq hc.schedOK

/-- **2. C06 through nesting: the next tick is the earliest pending device callback.**  In the final
state of every any-order run, let `W` be the master's next tick time (`get_first_wakeups()[1]` of the
master scheduler).  If `W = some w`: some device, at some depth, has a callback pending for exactly
`w` in its own scheduler (the tick is not invented), and no device at any depth has one pending for
an earlier time (no callback is overtaken or lost on the way up through the system simulations).
If `W = none`, no device has a pending callback. -/
theorem any_order_next_tick_is_min_device_callback (S : Static) (hS : S.Valid) (orc : Oracle)
    (fuel0 : Nat) (t0 : SimTime) (now : Int) (sp : Speed) (steps nTicks : Nat)
    (r0 : MasterSt × TickRec) (r : MasterSt × List TickRec) (h1 : MasterInitialAny S orc t0 now r0)
    (h2 : MasterRunAny S orc fuel0 sp steps nTicks r0.1 [] [r0.2] r) :
    (∀ w, (firstWakeups (r.1.sim.sched "").wake).2 = some w →
      (∃ d P, S.isDevice d ∧ alookup S.parent d = some P ∧
        alookup (r.1.sim.sched P).wake d = some w) ∧
      ∀ d P w', S.isDevice d → alookup S.parent d = some P →
        alookup (r.1.sim.sched P).wake d = some w' → w ≤ w') ∧
    ((firstWakeups (r.1.sim.sched "").wake).2 = none →
      ∀ d P, S.isDevice d → alookup S.parent d = some P → alookup (r.1.sim.sched P).wake d = none) := by
  obtain ⟨σ, σ', _, _, heq, hc, _⟩ :=
    masterRunAny_corr_flat hS (hS.resolveStable (Nat.le_refl S.resolveFuel)) h1 h2
  have h0 := heq.sched ""
  have hW : (firstWakeups (r.1.sim.sched "").wake).2 = (firstWakeups (σ'.sched "").wake).2 := by
    rw [firstWakeups_snd_congr h0.ua h0.ub h0.wake]
    exact hc.firstWakeups_eq hS
  have hdev : ∀ d P, S.isDevice d → alookup S.parent d = some P →
      alookup (r.1.sim.sched P).wake d = alookup (σ'.sched "").wake d := by
    intro d P hd hP
    rw [(heq.sched P).wake d, hc.wake_dev d P hd hP]
  refine ⟨fun w hw => ?_, fun hn d P hd hP => ?_⟩
  · rw [hW] at hw
    obtain ⟨⟨d, hd⟩, hle⟩ := system_callback_is_min _ (hc.flat_sched.wake_unique "") w hw
    have hdd := hc.flat_sched.flat_keys (mem_akeys_of_alookup_eq_some hd)
    obtain ⟨P, hP⟩ := Option.isSome_iff_exists.1 hdd.1
    refine ⟨⟨d, P, hdd, hP, by rw [hdev d P hdd hP]; exact hd⟩, fun d' P' w' hd' hP' hw' => ?_⟩
    rw [hdev d' P' hd' hP'] at hw'
    exact hle d' w' hw'
  · rw [hW, firstWakeups_none] at hn
    rw [hdev d P hd hP, hn]
    rfl

/-- **3. the refinement with the bookkeeping kept.**  Every any-order run of a valid nested
configuration has, device by device, the observations of a `Synced` `FlatRun` over the resolved
wiring with the run's tick times (`any_order_run_refines_flatRun`) — and that `FlatRun` can be chosen
such that
 * its pending wakeups are the devices' pending callbacks in their own schedulers in the any-order
   run's final state (so "`c` has a pending request for `t`", the hypothesis of the C06Run theorems,
   can be read off the nested run), only devices have entries, one entry per device;
 * its device functions are extensional and every `call_at` they return is the `call_at` of a
   recorded response of that component. -/
theorem any_order_run_refines_flatRun_wake (S : Static) (hS : S.Valid) (orc : Oracle)
    (fuel0 rfuel : Nat) (hr : S.ResolveStable rfuel) (t0 : SimTime) (now : Int) (sp : Speed)
    (steps nTicks : Nat) (r0 : MasterSt × TickRec) (r : MasterSt × List TickRec)
    (h1 : MasterInitialAny S orc t0 now r0)
    (h2 : MasterRunAny S orc fuel0 sp steps nTicks r0.1 [] [r0.2] r) :
    ∃ (devs : DevSeq V) (st : FlatSt V) (times : List SimTime),
      FlatRun (Wiring.fromInverse (S.flatInverse rfuel)) devs t0 (r.2.length - 1) st times ∧
      Synced (Wiring.fromInverse (S.flatInverse rfuel)) st ∧
      RouterOK (Wiring.fromInverse (S.flatInverse rfuel)) ∧
      times = (r.2.map (·.time)).reverse ∧
      (∀ d, ObsEq (r.1.sim.obsOf d) (st.obsOf d)) ∧
      (∀ d P, S.isDevice d → alookup S.parent d = some P →
        alookup st.wake d = alookup (r.1.sim.sched P).wake d) ∧
      (∀ c, c ∈ akeys st.wake → S.isDevice c) ∧ UniqueKeys st.wake ∧
      (∀ k, DevExt (devs k)) ∧ (∀ k, OrcResp orc (devs k)) := by
  obtain ⟨σ, σ', devs, fl, heq, hc, hR, hfr, hext, horc⟩ := masterRunAny_corr_flat hS hr h1 h2
  obtain ⟨hS', _, hL, hw, hac⟩ := flatten_facts S hS rfuel
  have hsy := synced_run _ hw hac devs (hS'.ups_defined ⟨"", _⟩ (Static.level_some hL).1) t0 _ fl _ hfr
  refine ⟨devs, fl, _, hfr, hsy, hw, rfl, ?_, ?_, ?_, ?_, hext, horc⟩
  · intro d
    have hfl : fl.obsOf d = σ'.obsOf d := obsOf_of_obs_eq hR.obs d
    rw [hfl]
    exact Det.obsEq_trans (heq d).ob (hc.obs d)
  · intro d P hd hP
    rw [hR.wake, hc.wake_dev d P hd hP, (heq.sched P).wake d]
  · intro c hcm
    rw [hR.wake] at hcm
    exact hc.flat_sched.flat_keys hcm
  · rw [hR.wake]; exact hc.flat_sched.wake_unique ""

/-- **4. C06Run R4 for the observations of an any-order run: the latest tick was asked for.**
Let an any-order run (any answer order at every level in every tick) have done at least one callback
tick; `last` is its latest tick, `pre` the ticks before.  Then there is a component `c` such that
 * `last.time` is the `call_at` of one of the recorded responses of `c` (no tick at a time nobody
   asked for),
 * `c` was updated at an earlier tick of the run (time `t_req ∈ pre`), and
 * `c` is updated by this tick: its latest observation is stamped `last.time` (the requester is
   served by the tick at exactly the requested time). -/
theorem any_order_last_tick_requested (S : Static) (hS : S.Valid) (orc : Oracle) (fuel0 : Nat)
    (t0 : SimTime) (now : Int) (sp : Speed) (steps nTicks : Nat) (r0 : MasterSt × TickRec)
    (r : MasterSt × List TickRec) (h1 : MasterInitialAny S orc t0 now r0)
    (h2 : MasterRunAny S orc fuel0 sp steps nTicks r0.1 [] [r0.2] r)
    (pre : List TickRec) (last : TickRec) (hsplit : r.2 = pre ++ [last]) (hpre : pre ≠ []) :
    ∃ (c : Comp) (j : Nat) (resp : DevResp),
      (agetD orc c [])[j]? = some resp ∧ resp.callAt = some last.time ∧
      (∃ t_req ins, (t_req, ins) ∈ r.1.sim.obsOf c ∧ t_req ∈ pre.map (·.time)) ∧
      ∃ init g, r.1.sim.obsOf c = init ++ [(last.time, g)] := by
  obtain ⟨devs, st, times, hfr, _, hw, htimes, hobs, _, _, _, _, horc⟩ :=
    any_order_run_refines_flatRun_wake S hS orc fuel0 S.resolveFuel
      (hS.resolveStable (Nat.le_refl _)) t0 now sp steps nTicks r0 r h1 h2
  obtain ⟨n, hn⟩ : ∃ n, pre.length = n + 1 := by
    cases pre with
    | nil => exact absurd rfl hpre
    | cons x xs => exact ⟨xs.length, rfl⟩
  have hlen : r.2.length - 1 = n + 1 := by rw [hsplit]; simp [hn]
  have htm : times = last.time :: (pre.map (·.time)).reverse := by
    rw [htimes, hsplit]; simp
  rw [hlen, htm] at hfr
  obtain ⟨st0, cs, c, hfr0, hfw, htick, hcm, _, k, t_req, ins, hk, htk, hob, hca⟩ :=
    no_invented_tick _ devs t0 n st last.time _ hfr
  obtain ⟨given, hgiven, _⟩ := Det.tickRun_root hw htick hcm
  have hoe := hobs c
  rw [hgiven] at hoe
  obtain ⟨init, g, hinit, hie, _⟩ := obsEq_append_singleton hoe
  rcases horc k c t_req ins with hnone | ⟨j, resp, hj, hresp⟩
  · rw [hnone] at hca; cases hca
  · refine ⟨c, j, resp, hj, by rw [← hresp]; exact hca, ?_, init, g, hinit⟩
    have hm0 : (t_req, ins) ∈ st0.obsOf c := FlatSt.mem_obsOf.2 hob
    obtain ⟨y, hy, h1', _⟩ := obsEq_mem (Det.obsEq_symm hie) hm0
    refine ⟨t_req, y.2, ?_, ?_⟩
    · rw [hinit]
      simp only at h1'
      rw [h1']
      exact List.mem_append_left _ hy
    · exact List.mem_reverse.1 (List.mem_of_getElem? htk)

end Tickit
