/-
Non-vacuity of `Props/C08NestedInter.lean` at nesting depth 2: a system simulation INSIDE a system
simulation, ticking concurrently with a sibling of its parent.

Master level: system simulations `s`, `s2` and device `z` (`s.y → z.i`, `s2.y → z.j`).  Inside `s`:
devices `a`, `b`, `expose.y ← a.o`.  Inside `s2`: device `c` and the system simulation `u`,
`expose.y ← u.w`.  Inside `u`: device `e`, `expose.w ← e.o`.  In the execution `interEx2` three inner
ticks are open at the same time (`s`; `s2`; `u` inside `s2`) and take their steps in turn; `u`
returns into `s2` while `s` is still ticking, `s` returns before `s2`.  The observations are made in
the order `a, e, c, b, z`.
-/
import TickitModel.Props.C08NestedInterEx

namespace Tickit.InterEx2

open Tickit.AnyEx Tickit.InterEx Move

def s2Inv' : InvWiring := [("c", []), ("u", []), ("external", []), ("expose", [("y", ("u", "w"))])]
def uInv : InvWiring := [("e", []), ("external", []), ("expose", [("w", ("e", "o"))])]
def s2W' : Wiring := Wiring.fromInverse s2Inv'
def uW : Wiring := Wiring.fromInverse uInv

def S2 : Static :=
  { levels := [⟨"", topW1⟩, ⟨"s", sW⟩, ⟨"s2", s2W'⟩, ⟨"u", uW⟩]
    systems := ["s", "s2", "u"]
    parent := [("s", ""), ("s2", ""), ("z", ""), ("a", "s"), ("b", "s"), ("c", "s2"), ("u", "s2"),
      ("e", "u")] }

def orc2 : Oracle :=
  [("a", [⟨[("o", 7)], none, false⟩]),
   ("b", [⟨[("o", 1)], some 5, false⟩]),
   ("c", [⟨[("o", 3)], none, false⟩]),
   ("e", [⟨[("o", 9)], none, false⟩]),
   ("z", [⟨[], none, false⟩])]

theorem S2_valid : S2.Valid :=
  Static.valid_of_checked (invs := [topInv1, sInv, s2Inv', uInv])
    (depth := fun c => if c = "e" then 2 else if c ∈ ["a", "b", "c", "u"] then 1 else 0)
    (rank := fun c => if c = "z" ∨ c = "expose" then 1 else 0) (by decide +kernel) (by decide +kernel)

/-- **three inner ticks open at once, at depths 1 and 2** -/
theorem interEx2 : ∃ r, TickInter S2 orc2 "" 0 ["z", "s", "s2"] [] {} r ∧
    r.1.obs.map (·.comp) = ["a", "e", "c", "b", "z"] :=
  execInter_sound
    [ -- deliver the Inputs of `s`, of `s2`, and inside `s2` of `u`
      opn 0, opn 1, inner 1 (opn 1),
      -- `a` in `s`, `e` in `u` (depth 2), `c` in `s2`
      inner 0 (answer 1), inner 1 (inner 0 (answer 1)), inner 1 (answer 2),
      -- `external` in `s`, `external` in `u`, `b` in `s`
      inner 0 (answer 0), inner 1 (inner 0 (answer 0)), inner 0 (answer 0),
      -- `expose` in `u`; `u` returns into `s2`
      inner 1 (inner 0 (answer 0)), inner 1 (close 0 1),
      -- `expose` in `s`, `external` in `s2`; `s` returns
      inner 0 (answer 0), inner 1 (answer 0), close 0 0,
      -- `expose` in `s2` (now the only open inner level); `s2` returns; `z`
      inner 0 (answer 0), close 0 0, answer 0]
    (by decide +kernel)

/-- the theorems applied at depth 2; by the two `example`s after this one, `e` (two levels down,
driving `z.j` through `expose` of `u` and `expose` of `s2`) was updated before `z` -/
example : ∃ r, TickInter S2 orc2 "" 0 ["z", "s", "s2"] [] {} r ∧
    (∃ st'', TickLevelAny S2 orc2 "" 0 ["z", "s", "s2"] [] {} (st'', r.2) ∧ st''.Equiv r.1) ∧
    (∀ r', TickInter S2 orc2 "" 0 ["z", "s", "s2"] [] {} r' → ∀ d, ObsEq (r.1.obsOf d) (r'.1.obsOf d)) ∧
    (∃ F, ∀ fuel, F ≤ fuel → ∃ rf, tickLevel S2 orc2 fuel "" 0 ["z", "s", "s2"] [] {} = .ok rf ∧
      r.1.Equiv rf.1 ∧ MapEq r.2 rf.2) := by
  obtain ⟨r, h, _⟩ := interEx2
  refine ⟨r, h, interleaved_equiv_atomic S2 S2_valid orc2 "" 0 _ [] {} wf_empty r h, ?_,
    interleaved_fifo_exists S2 S2_valid orc2 "" 0 _ [] (by simp) {} wf_empty r h⟩
  intro r' h' d
  exact interleaved_same_observations S2 S2_valid orc2 "" 0 _ _ [] [] {} {} r r' (fun _ => Iff.rfl)
    (MapEq.refl _) (by simp) (by simp) (.refl wf_empty) h h' d

example : (Wiring.fromInverse (S2.flatInverse 9)).Conn "e" "o" "z" "j" := by decide +kernel

example : ∃ r, TickInter S2 orc2 "" 0 ["z", "s", "s2"] [] {} r ∧
    ∃ new, r.1.obs = ({} : SimSt).obs ++ new ∧
      ∀ pre oy post, new = pre ++ oy :: post → ∀ ox ∈ new, ∀ p q,
        (Wiring.fromInverse (S2.flatInverse 9)).Conn ox.comp p oy.comp q → ox ∈ pre := by
  obtain ⟨r, h, _⟩ := interEx2
  exact ⟨r, h, interleaved_update_after_resolved_sources S2 S2_valid orc2 9 "" 0 _ [] {} r h⟩

end Tickit.InterEx2
