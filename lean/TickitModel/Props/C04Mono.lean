/-
C04 — time never runs backwards, for all histories of callbacks and interrupts
(several due at the same instant, interrupts arriving while a tick is running), provided no
device asks to be called back in the past.

First the master scheduler's bookkeeping `MSt` as a transition system in which interrupts,
answers, tick starts, update beginnings and tick ends come in any order; then the whole-simulation
model (`tickLevel`, `masterRun`) with nested schedulers at any depth and external stimuli.

(The flat multi-tick system with callbacks only is `time_monotone` in `Props/C04.lean`.)
-/
import TickitModel.Lemmas.TimeMonoLemmas

namespace Tickit

open TimeMono

/-! ## the master's bookkeeping, interrupts at any point

`MSt.Timely s acts` (`Lemmas/TimeMonoLemmas.lean`): walking along `acts` from `s`, every action is
`MSt.TimelyAct` in the state in which it happens (stamps by the pacing law C12; no device asks to be
called back in the past). -/

/-- After every timely history, no wakeup entry and no pending-interrupt stamp lies
before the ticker time. -/
theorem master_wake_not_before (acts : List MAct) (h : ({} : MSt).Timely acts) :
    (∀ e ∈ (({} : MSt).run acts).wake, (({} : MSt).run acts).tickerTime ≤ e.2) ∧
    (∀ e ∈ (({} : MSt).run acts).pend, (({} : MSt).run acts).tickerTime ≤ e.2) := by
  obtain ⟨hT, _⟩ := TInv.init.run acts h
  refine ⟨fun e he => ?_, fun e he => ?_⟩
  · exact hT.wake_ge e.1 e.2 (alookup_eq_some_of_mem hT.inv.wakeU he)
  · exact hT.pend_ge e.1 e.2 (alookup_eq_some_of_mem hT.inv.pendU he)

/-- Along every timely history the ticker time never decreases: whatever was done
(`pre`), whatever follows (`post`). -/
theorem master_time_monotone (pre post : List MAct) (h : ({} : MSt).Timely (pre ++ post)) :
    (({} : MSt).run pre).tickerTime ≤ (({} : MSt).run (pre ++ post)).tickerTime := by
  obtain ⟨h1, h2⟩ := (timely_append _ pre post).1 h
  obtain ⟨hT, _⟩ := TInv.init.run pre h1
  rw [MSt.run_append]
  exact (hT.run post h2).2

/-- `master_time_monotone`, step form: in a state reached by a timely history every enabled `startTick` goes to a
time not before the previous tick's. -/
theorem master_startTick_monotone (acts : List MAct) (h : ({} : MSt).Timely acts) (s' : MSt)
    (hs : (({} : MSt).run acts).step .startTick = some s') :
    (({} : MSt).run acts).tickerTime ≤ s'.tickerTime := by
  obtain ⟨hT, _⟩ := TInv.init.run acts h
  exact (hT.step .startTick trivial hs).2

/-- `master_time_monotone`, list form: the ticker times visited along a timely history are non-decreasing. -/
theorem master_times_sorted (acts : List MAct) (h : ({} : MSt).Timely acts) :
    ((({} : MSt).times acts)).Pairwise (· ≤ ·) :=
  (TInv.init.times_sorted acts h).1

/-- The hypothesis on outputs is needed: `a` is interrupted (stamp 10), the tick at 10
runs, `a` answers with a callback request in the past (3): the history is not timely, and the
next `startTick` takes the time back from 10 to 3. -/
theorem master_past_callback_decreases :
    let pre : List MAct := [.interrupt "a" 10, .startTick, .beginUpdate "a", .output "a" (some 3), .endTick]
    ¬ ({} : MSt).Timely (pre ++ [.startTick]) ∧
    (({} : MSt).run pre).tickerTime = 10 ∧ (({} : MSt).run (pre ++ [.startTick])).tickerTime = 3 := by
  decide

/-- Non-vacuity: a timely history with two interrupts and a callback: `a` is interrupted
(5); while the tick at 5 is running (`ticking = some ["a"]`) `b` is interrupted (7); `a` asks to
be called back at 20; the ticks are at 5, 7, 20. -/
example :
    let acts : List MAct :=
      [.interrupt "a" 5, .startTick, .interrupt "b" 7, .beginUpdate "a", .output "a" (some 20), .endTick,
       .startTick, .beginUpdate "b", .output "b" none, .endTick, .startTick]
    ({} : MSt).Timely acts ∧
    (({} : MSt).run (acts.take 2)).ticking = some ["a"] ∧
    ({} : MSt).times acts = [0, 0, 5, 5, 5, 5, 5, 7, 7, 7, 7, 20] ∧
    (({} : MSt).run acts).ticking = some ["a"] := by
  decide

/-- two wakeups due at the same instant are served by one tick; the time does not move back. -/
example :
    let acts : List MAct :=
      [.interrupt "a" 5, .interrupt "b" 5, .startTick, .beginUpdate "a", .beginUpdate "b",
       .output "a" (some 9), .output "b" (some 9), .endTick, .startTick]
    ({} : MSt).Timely acts ∧ ({} : MSt).times acts = [0, 0, 0, 5, 5, 5, 5, 5, 5, 9] ∧
    (({} : MSt).run acts).ticking = some ["a", "b"] := by
  decide

/-! ## the whole simulation, nested schedulers at any depth

`RunNoPast orc st` — "no device asks to be called back in the past", for oracle devices, on a
final state: the k-th observation of `c` has a time `≤` the `callAt` of the k-th recorded
response of `c`.
`SimSt.Good st` — the bookkeeping invariant of every reachable state (update counter = number of
observations; every scheduler's wakeups have unique keys); it holds in the empty state and is
kept by every tick and every run (`system_callAt_not_past`, `sim_wake_not_before`).  No hypothesis
on `S` (`S.WF`) is needed. -/

/-- One tick of scheduler level `lvl` at time `t`, at any depth, started in a well-formed state; no
device (at any depth below) asks to be called back in the past.  Then the state stays well-formed, every
wakeup entry added during this tick (to any level) is `≥ t`, and if no entry of level `lvl` was before
`t` when the tick began, none is afterwards.  What this means for the `callAt` with which a system
component answers is `nested_tick_callAt_not_past`. -/
theorem system_callAt_not_past (S : Static) (orc : Oracle) (fuel : Nat) (lvl : Comp) (t : SimTime)
    (roots : List Comp) (inCh : List (Port × V)) (st st' : SimSt) (out : List (Port × V))
    (h : tickLevel S orc fuel lvl t roots inCh st = .ok (st', out))
    (hg : st.Good) (hnp : RunNoPast orc st') :
    st'.Good ∧
    (∀ l e, e ∈ (st'.sched l).wake → e ∈ (st.sched l).wake ∨ t ≤ e.2) ∧
    ((∀ e ∈ (st.sched lvl).wake, t ≤ e.2) → ∀ e ∈ (st'.sched lvl).wake, t ≤ e.2) :=
  (tickLevel_ok S orc _ _ _ _ _ _ _ _ h).not_past hg hnp lvl

/-- `system_callAt_not_past` for a system component.  `nestedPrep st c t` (the same function as
`sysPre`) is what the system branch of `tickLoop` does before the inner tick of system `c` at time `t`
(due wakeups `≤ t` removed via `nestedDue`/`delWakeups`, queued interrupts taken); the `callAt` in the
statement is `sysCallAt st2 c t` written out.  After the inner tick no wakeup of the nested
level lies before `t`, hence the `callAt` with which the system component answers its enclosing
level is never before `t`. -/
theorem nested_tick_callAt_not_past (S : Static) (orc : Oracle) (fuel : Nat) (c : Comp) (t : SimTime)
    (roots : List Comp) (ins : List (Port × V)) (st st2 : SimSt) (out : List (Port × V))
    (hg : st.Good)
    (h : tickLevel S orc fuel c t roots ins (nestedPrep st c t) = .ok (st2, out))
    (hnp : RunNoPast orc st2) :
    (∀ e ∈ (st2.sched c).wake, t ≤ e.2) ∧
    ∀ w, (if (st2.sched c).interrupts.isEmpty then (firstWakeups (st2.sched c).wake).2 else some t)
        = some w → t ≤ w :=
  (tickLevel_ok S orc _ _ _ _ _ _ _ _ h).nested_not_past hg hnp

/-- `system_callAt_not_past` as `tickLoop` uses it (`tickLoop_cons`: the answer to a dispatch is `simAnswer`): the
`callAt` that ANY component — device or system simulation, at any depth — returns to its
enclosing level in a tick at time `t` is `≥ t`. -/
theorem answer_callAt_not_past (S : Static) (orc : Oracle) (fuel : Nat) (L : Level)
    (inCh : List (Port × V)) (st : SimSt) (out0 : List (Port × V)) (d : Dispatch V)
    (st' : SimSt) (outCh' changes : List (Port × V)) (w : SimTime)
    (h : simAnswer S orc fuel L inCh st out0 d = .ok (st', outCh', changes, some w))
    (hg : st.Good) (hnp : RunNoPast orc st') : d.time ≤ w :=
  ((((simAnswer_fifo h).1.ok fun c t ro i s r h' => tickLevel_ok S orc fuel c t ro i s r.1 r.2 h').2 hg).2
    hnp).2 w rfl

/-- every state reached by the initial tick and a run is well-formed, no master wakeup lies
before the ticker time, and the recorded ticks are not after the ticker time. -/
theorem sim_wake_not_before (S : Static) (orc : Oracle) (fuel : Nat) (t0 : SimTime) (now : Int)
    (sp : Speed) (steps nTicks : Nat) (stims : List Stim) (m m2 : MasterSt) (tr : TickRec)
    (ticks : List TickRec)
    (h : masterInitial S orc fuel t0 now = .ok (m, tr))
    (h2 : masterRun S orc fuel sp steps nTicks m stims [tr] = .ok (m2, ticks))
    (hnp : RunNoPast orc m2.sim) :
    m2.sim.Good ∧ (∀ e ∈ (m2.sim.sched "").wake, m2.tickerTime ≤ e.2) ∧
    (∀ x ∈ ticks, x.time ≤ m2.tickerTime) ∧ (ticks.map (·.time)).Pairwise (· ≤ ·) := by
  obtain ⟨hx, hrun⟩ := masterRun_mono S orc fuel sp steps nTicks m stims [tr] m2 ticks h2
  obtain ⟨hok, htr⟩ := masterInitial_ok S orc fuel t0 now m tr h (RunNoPast.of_ext hx hnp)
  obtain ⟨h1, h2', h3⟩ := hrun hok hnp (by simp)
    (by intro x hx'; simp only [List.mem_singleton] at hx'; subst hx'; exact Int.le_of_eq htr)
  exact ⟨h3.good, h3.wake_ge, h2', h1⟩

/-- Whole simulation, nested schedulers at any depth, any history of callbacks and of
external stimuli (interrupts raised on any component at any real time, in any order): provided no
device asks to be called back in the past, successive tick times never decrease.

No hypothesis on the configuration, on the stimuli or on the speed is needed: `masterRun` never
lets real time run backwards (`now := max now st.real`), so the pacing law stamps every interrupt
at or after the ticker time. -/
theorem sim_time_monotone (S : Static) (orc : Oracle) (fuel : Nat) (t0 : SimTime) (now : Int)
    (sp : Speed) (steps nTicks : Nat) (stims : List Stim) (m m2 : MasterSt) (tr : TickRec)
    (ticks : List TickRec)
    (h : masterInitial S orc fuel t0 now = .ok (m, tr))
    (h2 : masterRun S orc fuel sp steps nTicks m stims [tr] = .ok (m2, ticks))
    (hnp : RunNoPast orc m2.sim) :
    (ticks.map (·.time)).Pairwise (· ≤ ·) :=
  (sim_wake_not_before S orc fuel t0 now sp steps nTicks stims m m2 tr ticks h h2 hnp).2.2.2

/-- `sim_time_monotone` without stimuli (callbacks only). -/
theorem sim_time_monotone_callbacks (S : Static) (orc : Oracle) (fuel : Nat) (t0 : SimTime) (now : Int)
    (sp : Speed) (steps nTicks : Nat) (m m2 : MasterSt) (tr : TickRec) (ticks : List TickRec)
    (h : masterInitial S orc fuel t0 now = .ok (m, tr))
    (h2 : masterRun S orc fuel sp steps nTicks m [] [tr] = .ok (m2, ticks))
    (hnp : RunNoPast orc m2.sim) :
    (ticks.map (·.time)).Pairwise (· ≤ ·) :=
  sim_time_monotone S orc fuel t0 now sp steps nTicks [] m m2 tr ticks h h2 hnp

/-- the executable check used below is sound -/
theorem runNoPastB_implies (orc : Oracle) (st : SimSt) (h : runNoPastB orc st = true) :
    RunNoPast orc st := by
  intro c k w ⟨r, hr, hrw⟩ o ho
  obtain ⟨hk, _⟩ := List.getElem?_eq_some_iff.1 ho
  obtain ⟨hom1, hom2⟩ := List.mem_filter.1 (List.mem_of_getElem? ho)
  have h2 := List.all_eq_true.1
    (List.all_eq_true.1 h c (List.mem_map.2 ⟨o, hom1, by simpa using hom2⟩)) k (List.mem_range.2 hk)
  rw [hr, ho] at h2
  simpa only [hrw, decide_eq_true_eq] using h2

/-! ### non-vacuity (evaluated at build time)

Master {d, sys}; system `sys` {a, b}; `d` feeds `sys`, whose input goes to `a`.
`d` asks for multiples of 10, `a` (inside) for multiples of 4, `b` (inside) for multiples of 6. -/

namespace C04Ex

def wM : Wiring := Wiring.fromInverse [("d", []), ("sys", [("in", ("d", "o"))])]
def wS : Wiring := Wiring.fromInverse [("external", []), ("a", [("i", ("external", "in"))]), ("b", []),
  ("expose", [("out", ("a", "o"))])]
def S : Static :=
  { levels := [⟨"", wM⟩, ⟨"sys", wS⟩]
    systems := ["sys"]
    parent := [("d", ""), ("sys", ""), ("a", "sys"), ("b", "sys")] }

def per (period : Int) (k : Nat) : List DevResp :=
  (List.range k).map (fun (i : Nat) => (⟨[("o", (i : Int))], some (period * ((i : Int) + 1)), false⟩ : DevResp))

def orc : Oracle := [("d", per 10 20), ("a", per 4 30), ("b", per 6 30)]

/-- tick times, whether `RunNoPast` holds in the final state (checked by `runNoPastB`), and
whether the times are non-decreasing -/
def run (orc : Oracle) (stims : List Stim) (k : Nat) : Option (List SimTime × Bool × Bool) :=
  match masterInitial S orc 10 0 0 with
  | .ok (m, tr) =>
    match masterRun S orc 10 ⟨1, 1⟩ 200 k m stims [tr] with
    | .ok (m2, ticks) =>
      let ts := ticks.map (·.time)
      some (ts, runNoPastB orc m2.sim, (ts.zip ts.tail).all (fun p => decide (p.1 ≤ p.2)))
    | .error _ => none
  | .error _ => none

-- callbacks only: inner periods 4 and 6, outer period 10; 12 and 20 are shared instants
#guard run orc [] 10 == some ([0, 4, 6, 8, 10, 12, 16, 18, 20, 24, 28], true, true)
-- with interrupts raised on the inner devices between ticks (real time 3 on `b`, 9 on `a`)
#guard run orc [⟨3, "b"⟩, ⟨9, "a"⟩] 10 == some ([0, 3, 4, 8, 9, 10, 12, 18, 20, 24, 28], true, true)
-- the hypothesis is needed: `b` (inside the system) asks at its 2nd update (time 6) to be called
-- back at 5: `RunNoPast` fails and the time goes back from 6 to 5
def orcPast : Oracle :=
  [("d", per 10 20), ("a", per 4 30), ("b", [⟨[], some 6, false⟩, ⟨[], some 5, false⟩, ⟨[], none, false⟩])]
#guard run orcPast [] 4 == some ([0, 4, 6, 5, 8], false, false)

end C04Ex

end Tickit
